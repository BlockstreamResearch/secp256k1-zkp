import SecpZkp.Gen.Guards
/-
  Property C16 (part "loops", translator mode G): loop facts regenerated from clang's AST of the current sources.
  Whitelist signing derives nonce and forged scalars until all are usable.  What such a fact ties, and `retryOnly`:
  `Props/C01_loops.lean`.
-/
namespace SecpZkp.Props.C16_loops
open SecpZkp.Gen

def retryOnly (l : List LoopFact) : Prop := (∀ f ∈ l, f.kind = LoopKind.while → f.unconditional = true) ∧ (∃ f ∈ l, f.kind = LoopKind.while)

instance (l : List LoopFact) : Decidable (retryOnly l) := by unfold retryOnly; infer_instance

/-- `secp256k1_whitelist_sign`: the nonce / forged-scalar derivation loop (counter incremented whenever a derived scalar is zero or
    overflows) has no bound in its condition; it is left by a complete set of usable scalars or by a failing nonce function
    (the model runs it with fuel: `nonceLoop 128`) -/
theorem whitelist_sign_retry : retryOnly Loops.whitelist_sign := by decide

example : ¬ retryOnly [⟨.while, false⟩, ⟨.for, false⟩] := by decide

end SecpZkp.Props.C16_loops
