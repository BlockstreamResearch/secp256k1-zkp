import SecpZkp.Proofs.FieldKernel10x26
import SecpZkp.Props.C05_field
import SecpZkp.Gen.K_field10x26
/-
  C05 (field part, 32-bit configuration): the 10×26-limb field multiplication and squaring of the C library
  are exact for ALL limb values within the input contract that the C functions VERIFY-check.

  Object of the theorems: `Gen.field10x26.fe_mul_inner` / `fe_sqr_inner`, the MiniC IR that
  `tools/c2lean_k.py` generates from `secp256k1_fe_mul_inner` / `secp256k1_fe_sqr_inner`
  (src/field_10x26_impl.h: `uint32_t` limbs `r[10]`, `a[10]`, `b[10]`, 64-bit accumulators `c`, `d`).
  Nothing in this file re-types the algorithm: the proofs EVALUATE the generated term.

  Contract (the `VERIFY_BITS` lines of the C source): input `a[0..8], b[0..8] < 2^30`, `a[9], b[9] < 2^26`; output
  `r[0], r[1], r[3..8] < 2^26`, `r[2] < 2^27`, `r[9] < 2^22` (`r[2]` is one bit wider than the other limbs: the C code
  ends with `d += t2; VERIFY_BITS(d, 27); r[2] = d`).

  The route is that of `Props/C05_field.lean`.  Here the interval analysis sees that no 64-bit accumulation (ten
  products of 30-bit limbs: up to `2^63 + 2^57`; `c` goes up to `0x9000016FBFFFC2F8` in the `VERIFY_CHECK`s of the C
  source), no 32-bit doubling `a[i]*2` and no shift wraps, and that the final `d` is below `2^27`, which makes the
  `uint32_t` conversion `r[2] = d` void.  The reduction constants: `2^260 - (R1·2^26 + R0) = 2^260 - 0x1000003D10 = 16 p`,
  `2^256 - 0x1000003D1 = p`.
-/

namespace SecpZkp
namespace C05x26
open MiniC MiniC.Bounds FieldKernel10x26
open FieldKernel (checkOut checkOut_sound checkOut_isSome respects_of_all checkRun checkRun_sound)
open FieldKernelStruct Rename LimbPolyI
open C05struct (nmr_a nmr_b nmr_r)

def mulI : List IStmt := intern_body% Gen.field10x26.fe_mul_inner
def sqrI : List IStmt := intern_body% Gen.field10x26.fe_sqr_inner

theorem mulI_dec : decode nmr mulI = Gen.field10x26.fe_mul_inner.body := by kernel_rfl

theorem sqrI_dec : decode nmr sqrI = Gen.field10x26.fe_sqr_inner.body := by kernel_rfl

theorem valN10 (env : Env) (x : Nat) :
    valN nmr env x (2 ^ 26) 10 = val10 (cell nmr env (x, 0)) (cell nmr env (x, 1)) (cell nmr env (x, 2))
      (cell nmr env (x, 3)) (cell nmr env (x, 4)) (cell nmr env (x, 5)) (cell nmr env (x, 6)) (cell nmr env (x, 7))
      (cell nmr env (x, 8)) (cell nmr env (x, 9)) := by
  simp only [valN, val10]; omega

theorem mulB_dec : decB nmr (internB mulB) = mulB := by kernel_rfl

theorem sqrB_dec : decB nmr (internB sqrB) = sqrB := by kernel_rfl

theorem outB_dec : decB nmr (internB outB) = outB := by kernel_rfl

/-- No arithmetic node of the 10×26 `secp256k1_fe_mul_inner` wraps for inputs within the contract, and the output is
    within the contract (and `d ≤ 2^27-1` at the end). -/
theorem fe_mul_inner_no_wrap_out :
    checkOut mulB Gen.field10x26.fe_mul_inner.body outB = true := by
  rw [← mulB_dec, ← outB_dec, ← mulI_dec]
  exact icheckOut_sound nmr_injective (by decide +kernel)

theorem fe_mul_inner_no_wrap : (checkL mulB Gen.field10x26.fe_mul_inner.body).isSome = true :=
  checkOut_isSome fe_mul_inner_no_wrap_out

/-- the carry chain of the 10×26 `secp256k1_fe_mul_inner` telescopes to the school-book product modulo `P` -/
theorem fe_mul_inner_poly : mulCheck (internB mulB) mulI 114 97 98 (2 ^ 26) 10 P = true := by decide +kernel

def MulPost (env out : Env) : Prop :=
  val10 (out.get "r" 0) (out.get "r" 1) (out.get "r" 2) (out.get "r" 3) (out.get "r" 4)
        (out.get "r" 5) (out.get "r" 6) (out.get "r" 7) (out.get "r" 8) (out.get "r" 9) % P =
    (val10 (env.get "a" 0) (env.get "a" 1) (env.get "a" 2) (env.get "a" 3) (env.get "a" 4)
           (env.get "a" 5) (env.get "a" 6) (env.get "a" 7) (env.get "a" 8) (env.get "a" 9) *
     val10 (env.get "b" 0) (env.get "b" 1) (env.get "b" 2) (env.get "b" 3) (env.get "b" 4)
           (env.get "b" 5) (env.get "b" 6) (env.get "b" 7) (env.get "b" 8) (env.get "b" 9)) % P ∧
  out.get "r" 0 < 2 ^ 26 ∧ out.get "r" 1 < 2 ^ 26 ∧ out.get "r" 2 < 2 ^ 27 ∧ out.get "r" 3 < 2 ^ 26 ∧
  out.get "r" 4 < 2 ^ 26 ∧ out.get "r" 5 < 2 ^ 26 ∧ out.get "r" 6 < 2 ^ 26 ∧ out.get "r" 7 < 2 ^ 26 ∧
  out.get "r" 8 < 2 ^ 26 ∧ out.get "r" 9 < 2 ^ 22

instance (env out : Env) : Decidable (MulPost env out) := inferInstanceAs (Decidable (_ ∧ _))

/-- The 10×26 `secp256k1_fe_mul_inner` is exact under C's wrap-around semantics (every conversion to `uint32_t`
    applied), for EVERY memory within the input contract. -/
theorem fe_mul_inner_correct (env : Env) (hr : Respects env mulB) :
    MulPost env (execL env Gen.field10x26.fe_mul_inner.body).env := by
  obtain ⟨heq, hb⟩ := checkOut_sound hr fe_mul_inner_no_wrap_out
  simp only [outB, List.forall_mem_cons, List.not_mem_nil, false_imp_iff, implies_true, and_true] at hb
  obtain ⟨b0, b1, b2, b3, b4, b5, b6, b7, b8, b9, -⟩ := hb
  refine ⟨?_, by omega, by omega, by omega, by omega, by omega, by omega, by omega, by omega, by omega, by omega⟩
  rw [heq]
  simpa only [valN10, mulI_dec, cell, nmr_a, nmr_b, nmr_r] using
    mulCheck_sound nmr_injective (mulB_dec ▸ hr) fe_mul_inner_poly

def onesEnv : Env :=
  [(("a", 0), 2 ^ 30 - 1), (("a", 1), 2 ^ 30 - 1), (("a", 2), 2 ^ 30 - 1), (("a", 3), 2 ^ 30 - 1), (("a", 4), 2 ^ 30 - 1),
   (("a", 5), 2 ^ 30 - 1), (("a", 6), 2 ^ 30 - 1), (("a", 7), 2 ^ 30 - 1), (("a", 8), 2 ^ 30 - 1), (("a", 9), 2 ^ 26 - 1),
   (("b", 0), 2 ^ 30 - 1), (("b", 1), 2 ^ 30 - 1), (("b", 2), 2 ^ 30 - 1), (("b", 3), 2 ^ 30 - 1), (("b", 4), 2 ^ 30 - 1),
   (("b", 5), 2 ^ 30 - 1), (("b", 6), 2 ^ 30 - 1), (("b", 7), 2 ^ 30 - 1), (("b", 8), 2 ^ 30 - 1), (("b", 9), 2 ^ 26 - 1)]

example : Respects onesEnv mulB ∧ MulPost onesEnv (execL onesEnv Gen.field10x26.fe_mul_inner.body).env :=
  ⟨respects_of_all (by decide +kernel), fe_mul_inner_correct _ (respects_of_all (by decide +kernel))⟩

def wideEnv : Env :=
  [(("a", 0), 779189894), (("a", 1), 185501983), (("a", 2), 332784465), (("a", 3), 549752297), (("a", 4), 942286676),
   (("a", 5), 283497843), (("a", 6), 220488405), (("a", 7), 106178769), (("a", 8), 1069290948), (("a", 9), 58891748),
   (("b", 0), 560297412), (("b", 1), 488472101), (("b", 2), 654837902), (("b", 3), 608366106), (("b", 4), 706118319),
   (("b", 5), 933049787), (("b", 6), 229638454), (("b", 7), 1571960), (("b", 8), 12939304), (("b", 9), 54856485)]

/-- The bound `r[2] < 2^27` of the contract cannot be replaced by `r[2] < 2^26`: on `wideEnv`, within the input
    contract, the C function leaves `r[2] = 67800442 ≥ 2^26`.  This is why the C source checks `VERIFY_BITS(r[2], 27)`. -/
example : Respects wideEnv mulB ∧ MulPost wideEnv (execL wideEnv Gen.field10x26.fe_mul_inner.body).env ∧
    2 ^ 26 ≤ (execL wideEnv Gen.field10x26.fe_mul_inner.body).env.get "r" 2 :=
  ⟨respects_of_all (by decide +kernel),
   of_decide_eq_true (checkRun_sound
     (post := fun out => decide (MulPost wideEnv out ∧ 2 ^ 26 ≤ out.get "r" 2)) (by decide +kernel))⟩

/-- As `fe_mul_inner_no_wrap_out`; the nodes include the 32-bit doublings `a[i]*2` of 30-bit limbs. -/
theorem fe_sqr_inner_no_wrap_out :
    checkOut sqrB Gen.field10x26.fe_sqr_inner.body outB = true := by
  rw [← sqrB_dec, ← outB_dec, ← sqrI_dec]
  exact icheckOut_sound nmr_injective (by decide +kernel)

theorem fe_sqr_inner_no_wrap : (checkL sqrB Gen.field10x26.fe_sqr_inner.body).isSome = true :=
  checkOut_isSome fe_sqr_inner_no_wrap_out

theorem fe_sqr_inner_poly : mulCheck (internB sqrB) sqrI 114 97 97 (2 ^ 26) 10 P = true := by decide +kernel

def SqrPost (env out : Env) : Prop :=
  val10 (out.get "r" 0) (out.get "r" 1) (out.get "r" 2) (out.get "r" 3) (out.get "r" 4)
        (out.get "r" 5) (out.get "r" 6) (out.get "r" 7) (out.get "r" 8) (out.get "r" 9) % P =
    (val10 (env.get "a" 0) (env.get "a" 1) (env.get "a" 2) (env.get "a" 3) (env.get "a" 4)
           (env.get "a" 5) (env.get "a" 6) (env.get "a" 7) (env.get "a" 8) (env.get "a" 9) ^ 2) % P ∧
  out.get "r" 0 < 2 ^ 26 ∧ out.get "r" 1 < 2 ^ 26 ∧ out.get "r" 2 < 2 ^ 27 ∧ out.get "r" 3 < 2 ^ 26 ∧
  out.get "r" 4 < 2 ^ 26 ∧ out.get "r" 5 < 2 ^ 26 ∧ out.get "r" 6 < 2 ^ 26 ∧ out.get "r" 7 < 2 ^ 26 ∧
  out.get "r" 8 < 2 ^ 26 ∧ out.get "r" 9 < 2 ^ 22

instance (env out : Env) : Decidable (SqrPost env out) := inferInstanceAs (Decidable (_ ∧ _))

theorem fe_sqr_inner_correct (env : Env) (hr : Respects env sqrB) :
    SqrPost env (execL env Gen.field10x26.fe_sqr_inner.body).env := by
  obtain ⟨heq, hb⟩ := checkOut_sound hr fe_sqr_inner_no_wrap_out
  simp only [outB, List.forall_mem_cons, List.not_mem_nil, false_imp_iff, implies_true, and_true] at hb
  obtain ⟨b0, b1, b2, b3, b4, b5, b6, b7, b8, b9, -⟩ := hb
  refine ⟨?_, by omega, by omega, by omega, by omega, by omega, by omega, by omega, by omega, by omega, by omega⟩
  rw [heq]
  simpa only [valN10, sqrI_dec, cell, nmr_a, nmr_r, ← Nat.pow_two] using
    mulCheck_sound nmr_injective (sqrB_dec ▸ hr) fe_sqr_inner_poly

example : Respects onesEnv sqrB ∧ SqrPost onesEnv (execL onesEnv Gen.field10x26.fe_sqr_inner.body).env :=
  ⟨respects_of_all (by decide +kernel), fe_sqr_inner_correct _ (respects_of_all (by decide +kernel))⟩

end C05x26
end SecpZkp
