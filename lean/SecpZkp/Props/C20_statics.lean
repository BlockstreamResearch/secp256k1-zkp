import SecpZkp.Gen.Statics
/-
  C20, clause "the library keeps no mutable global state".

  `Gen.writableStatics` is regenerated on every run by `tools/c2lean.py` (mode A) from the object code
  of the library compiled from /repo's current working tree with all modules: it lists every object
  that the compiler placed in a writable section (`.data*`, `.bss*`, excluding `.data.rel.ro`), with the
  functions whose machine code references it.  The theorem below is re-checked against that list.

  On the tree /repo is held at, the only writable object is the exported pointer variable
  `secp256k1_generator_h`, which no library function reads or writes.
-/
namespace SecpZkp
namespace C20

/-- No function of the library references an object with static storage duration that lives in
    writable memory: results cannot depend on, and calls cannot race on, hidden global state. -/
theorem no_mutable_global_state : ∀ o ∈ Gen.writableStatics, o.referencedBy = [] := by decide

/-- non-vacuity: the audit sees the one writable object of that tree -/
example : Gen.writableStatics.map (·.name) = ["secp256k1_generator_h"] := by decide

end C20
end SecpZkp
