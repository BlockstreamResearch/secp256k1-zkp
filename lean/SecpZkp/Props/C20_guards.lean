import SecpZkp.Gen.Guards
/-! # C20 — the argument checks the model assumes are present at the C call sites (translator mode G)

How to read a fact, and what a mismatch means: `Props/C01_guards.lean`. -/
namespace SecpZkp.Props.C20_guards
open SecpZkp.Gen

theorem ecmult_gen_blind_sites : Facts.ecmult_gen_blind = [
    ⟨.scalar_set_b32, 1, false, none⟩,
    ⟨.scalar_is_zero, 1, false, none⟩
  ] := by decide

def all : List CallFact := Facts.ecmult_gen_blind

/-- No overflow flag written by a scalar decoding in these functions is ignored (overwritten or never read). -/
theorem no_flag_dropped : ∀ f ∈ all, f.flag ≠ some false := by decide

/-- non-vacuity: the regenerated fact lists are not empty -/
example : all.length = 2 := by decide

end SecpZkp.Props.C20_guards
