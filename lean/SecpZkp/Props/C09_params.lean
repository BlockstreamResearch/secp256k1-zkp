/-
  C09 (part "params"): the pure-arithmetic layer of range-proof creation.

  `Rangeproof.proveParams` is a line-by-line model of `secp256k1_range_proveparams`
  (src/modules/rangeproof/rangeproof_impl.h:114-189), `Rangeproof.headerBytes` of the header writing part of
  `secp256k1_rangeproof_sign_impl`, `Rangeproof.getHeader` of `secp256k1_rangeproof_getheader_impl`,
  `Rangeproof.maxSize` of `secp256k1_rangeproof_max_size`.  All theorems are for ALL inputs in the stated
  ranges; the helper lemmas are in `SecpZkp/Proofs/Rangeproof.lean`.
-/
import SecpZkp.Proofs.Rangeproof

namespace SecpZkp
namespace C09

open Rangeproof

/-- What `secp256k1_rangeproof_sign_impl` has established when it calls `secp256k1_range_proveparams`
(`if (*plen < 65 || min_value > value || min_bits > 64 || min_bits < 0 || exp < -1 || exp > 18) return 0;`),
together with `value` being a `uint64_t`. -/
structure SignPre (minValue value : Nat) (exp minBits : Int) : Prop where
  min_le : minValue ≤ value
  value_lt : value < 2 ^ 64
  exp_ge : -1 ≤ exp
  exp_le : exp ≤ 18
  bits_ge : 0 ≤ minBits
  bits_le : minBits ≤ 64

/-- The parameter set `signImpl` computes: `proveParams` called with `v` uninitialised (0). -/
def signParams (minValue value : Nat) (exp minBits : Int) : ProveParams := proveParams 0 minValue exp minBits value

def signHeader (pp : ProveParams) : Bytes := headerBytes (pp.rsizes.headD 1) pp.exp pp.mantissa pp.minValue

/-- The buffer size `signImpl` requires for a parameter set (`len` after the header plus
`32 * (npub + rings - 1) + 32 + ((rings+6) >> 3)`); the proof written has this length, except for the
exact-value proof, which is 32 bytes shorter (`npub` is set to 2 there but the single ring has one member). -/
def requiredLen (pp : ProveParams) : Nat :=
  (signHeader pp).length + (32 * (pp.npub + pp.rings - 1) + 32 + ((pp.rings + 6) >>> 3))

/-- The properties of a successfully derived parameter set (the `VERIFY_CHECK`s at the end of
`secp256k1_range_proveparams` and the facts the rest of `sign_impl` relies on). -/
structure ParamsOK (minValue0 value : Nat) (exp0 minBits0 : Int) (pp : ProveParams) : Prop where
  /-- `VERIFY_CHECK(*v * *scale + *min_value == value)`, in ℕ: no 64-bit wrap-around is involved. -/
  value_eq : pp.v * pp.scale + pp.minValue = value
  /-- `VERIFY_CHECK(*rings > 0)` -/
  rings_pos : 1 ≤ pp.rings
  /-- `VERIFY_CHECK(*rings <= 32)` -/
  rings_le : pp.rings ≤ 32
  /-- `VERIFY_CHECK(*npub <= 128)` -/
  npub_le : pp.npub ≤ 128
  mantissa_le : pp.mantissa ≤ 64
  rings_eq : pp.rings = if pp.mantissa = 0 then 1 else (pp.mantissa + 1) / 2
  rsizes_len : pp.rsizes.length = pp.rings
  secidx_len : pp.secidx.length = pp.rings
  digit_lt : ∀ p ∈ List.zip pp.secidx pp.rsizes, p.1 < p.2
  rsizes_mem : ∀ r ∈ pp.rsizes, r = 1 ∨ r = 2 ∨ r = 4
  /-- `npub = Σ rsizes`, except in the exact-value branch where the code sets `npub = 2` for the single
  ring of size 1 -/
  npub_eq : pp.npub = pp.rsizes.sum ∨ (pp.mantissa = 0 ∧ pp.rsizes = [1] ∧ pp.npub = 2)
  exp_ge : 0 ≤ pp.exp
  exp_le : pp.exp ≤ 18
  scale_eq : pp.scale = 10 ^ pp.exp.toNat
  digits : digitsValue pp.secidx = pp.v
  /-- `VERIFY_CHECK((*v & ~(UINT64_MAX>>(64-*mantissa))) == 0)`: the mantissa covers all bits of `v` -/
  v_lt : pp.v < 2 ^ pp.mantissa
  min_ge : minValue0 ≤ pp.minValue
  exp_le_req : 0 ≤ exp0 → pp.exp ≤ exp0
  bits_le_req : pp.minBits ≤ minBits0
  bits_le_mantissa : pp.mantissa ≠ 0 → pp.minBits ≤ pp.mantissa
  /-- the proven range ends below `2^64`: what the verifier's header check demands -/
  max_lt : pp.minValue + (2 ^ pp.mantissa - 1) * pp.scale < 2 ^ 64
  exact_iff : pp.mantissa = 0 ↔ (minValue0 = u64Max ∨ exp0 < 0)
  npub_closed : pp.npub = if pp.mantissa = 0 then 2 else 2 * pp.mantissa
  /-- the mantissa is no larger than needed: it is `min_bits'`, or the bit length of `v`, or at most 1 -/
  mantissa_tight : (pp.mantissa : Int) = pp.minBits ∨ 2 ^ pp.mantissa ≤ 2 * pp.v ∨ pp.mantissa ≤ 1

/-- C09, parameter layer: under the guards of `sign_impl` (and for any initial `*v`), whenever
`secp256k1_range_proveparams` returns 1 its outputs satisfy `ParamsOK`, its own `VERIFY_CHECK`s among them. -/
theorem proveparams_ok (v0 minValue value : Nat) (exp minBits : Int) (pre : SignPre minValue value exp minBits)
    (hret : (proveParams v0 minValue exp minBits value).ret = true) :
    ParamsOK minValue value exp minBits (proveParams v0 minValue exp minBits value) := by
  obtain ⟨hmin, hval, he1, he2, hb1, hb2⟩ := pre
  by_cases hex : minValue = u64Max ∨ exp < 0
  · rw [proveParams_exact v0 minValue value exp minBits hex]
    refine { value_eq := by simp, rings_pos := by simp, rings_le := by simp, npub_le := by simp,
             mantissa_le := by simp, rings_eq := by simp, rsizes_len := by simp, secidx_len := by simp,
             digit_lt := by simp, rsizes_mem := by simp, npub_eq := Or.inr (by simp), exp_ge := by simp,
             exp_le := by simp, scale_eq := by simp, digits := by simp [digitsValue], v_lt := by simp,
             min_ge := hmin, exp_le_req := fun h => by simp; exact h, bits_le_req := by simp,
             bits_le_mantissa := by simp, max_lt := by simpa using hval, exact_iff := by simp [hex],
             npub_closed := by simp, mantissa_tight := by simp }
  · have h1 : minValue ≠ u64Max := fun h => hex (Or.inl h)
    have h2 : exp ≥ 0 := by omega
    by_cases hg : (minValue ≠ 0 ∧ value > i64Max) ∨ (value ≠ 0 ∧ minValue ≥ i64Max)
    · rw [proveParams_fail v0 minValue value exp minBits h1 h2 hg] at hret
      exact absurd hret (by simp)
    · obtain ⟨k, v, m, mb, hpp, hk, hke, hvS, hm1, hm2, hvm, hmb0, hmb1, hmb2, hmax, htight⟩ :=
        proveParams_general v0 minValue value exp minBits hmin hval he2 hb1 hb2 h1 h2 hg
      rw [hpp]
      have hm0 : m ≠ 0 := by omega
      obtain ⟨l1, l2, l3, l4, l5⟩ := layout_spec m
      obtain ⟨b1, b2, -, b4⟩ := layout_bounds m hm2
      obtain ⟨r1, r2, -⟩ := ringsOf_layout m v hm0
      rw [if_neg hm0] at l1 l2
      refine { value_eq := by simp only; omega, rings_pos := b1, rings_le := b2, npub_le := b4, mantissa_le := hm2,
               rings_eq := by simp only [hm0, if_false]; exact l1, rsizes_len := l3,
               secidx_len := r1 ▸ (ringsOf_length _ _ _ _ _).2,
               digit_lt := r2 ▸ ringsOf_digit_lt _ _ _ _ _ rfl hvm (by omega),
               rsizes_mem := l5, npub_eq := Or.inl l4.symm, exp_ge := by simp only; omega,
               exp_le := by simp only; omega, scale_eq := by simp, digits := ?_, v_lt := hvm,
               min_ge := by simp only; omega, exp_le_req := fun _ => hke, bits_le_req := hmb1,
               bits_le_mantissa := fun _ => hmb2, max_lt := hmax, exact_iff := by simp [hm0, hex],
               npub_closed := by simp only [hm0, if_false]; exact l2, mantissa_tight := by simp only; omega }
      simp only
      rw [ringsOf_digits, Nat.zero_mul, Nat.shiftRight_zero]
      apply Nat.mod_eq_of_lt
      have : (4 : Nat) ^ ((m + 1) / 2) = 2 ^ (2 * ((m + 1) / 2)) := by
        rw [Nat.pow_mul]
      rw [this]
      exact Nat.lt_of_lt_of_le hvm (Nat.pow_le_pow_right (by omega) (by omega))

/-- The rings chosen by `proveparams` are the layout the verifier derives from the mantissa. -/
theorem proveparams_layout (v0 minValue value : Nat) (exp minBits : Int) (pre : SignPre minValue value exp minBits)
    (hret : (proveParams v0 minValue exp minBits value).ret = true) :
    (layout (proveParams v0 minValue exp minBits value).mantissa).1 = (proveParams v0 minValue exp minBits value).rings ∧
    (layout (proveParams v0 minValue exp minBits value).mantissa).2.1 = (proveParams v0 minValue exp minBits value).rsizes ∧
    ((proveParams v0 minValue exp minBits value).mantissa = 0 → (proveParams v0 minValue exp minBits value).exp = 0) := by
  obtain ⟨hmin, hval, he1, he2, hb1, hb2⟩ := pre
  by_cases hex : minValue = u64Max ∨ exp < 0
  · rw [proveParams_exact v0 minValue value exp minBits hex]
    exact ⟨rfl, rfl, fun _ => rfl⟩
  · have h1 : minValue ≠ u64Max := fun h => hex (Or.inl h)
    have h2 : exp ≥ 0 := by omega
    by_cases hg : (minValue ≠ 0 ∧ value > i64Max) ∨ (value ≠ 0 ∧ minValue ≥ i64Max)
    · rw [proveParams_fail v0 minValue value exp minBits h1 h2 hg] at hret
      exact absurd hret (by simp)
    · obtain ⟨k, v, m, mb, hpp, -, -, -, hm1, -⟩ :=
        proveParams_general v0 minValue value exp minBits hmin hval he2 hb1 hb2 h1 h2 hg
      rw [hpp]
      exact ⟨rfl, rfl, fun h => absurd h (by simp only; omega)⟩

/-- Non-vacuity: `value = 123456`, `min_value = 5`, `exp = 3`, `min_bits = 10` satisfy the preconditions and
`proveparams` succeeds with `v = 123`, scale `1000`, new minimum `456`, five rings of size 4 and digits
`123 = 3 + 2·4 + 3·16 + 1·64 + 0·256`. -/
example : SignPre 5 123456 3 10 := ⟨by decide, by decide, by decide, by decide, by decide, by decide⟩
example : let pp := proveParams 0 5 3 10 123456
    pp.ret = true ∧ pp.v = 123 ∧ pp.scale = 1000 ∧ pp.minValue = 456 ∧ pp.mantissa = 10 ∧ pp.exp = 3 ∧
    pp.rings = 5 ∧ pp.rsizes = [4, 4, 4, 4, 4] ∧ pp.secidx = [3, 2, 3, 1, 0] ∧ pp.npub = 20 := by
  decide +kernel
/-- an odd mantissa (last ring of size 2) and the exact-value proof -/
example : let pp := proveParams 0 0 0 0 21
    pp.ret = true ∧ pp.mantissa = 5 ∧ pp.rsizes = [4, 4, 2] ∧ pp.secidx = [1, 1, 1] ∧ pp.npub = 10 := by
  decide +kernel
example : let pp := proveParams 0 7 (-1) 0 7
    pp.ret = true ∧ pp.mantissa = 0 ∧ pp.rsizes = [1] ∧ pp.secidx = [0] ∧ pp.npub = 2 ∧ pp.minValue = 7 := by
  decide +kernel

/-- C09.  For ALL inputs (no range restriction at all), `secp256k1_range_proveparams` returns 0 exactly when a range is
to be coded and one of its two `2^63` guards fires. -/
theorem proveparams_fails_iff (v0 minValue value : Nat) (exp minBits : Int) :
    (proveParams v0 minValue exp minBits value).ret = false ↔
      (minValue ≠ u64Max ∧ exp ≥ 0 ∧
        ((minValue ≠ 0 ∧ value > i64Max) ∨ (value ≠ 0 ∧ minValue ≥ i64Max))) := by
  constructor
  · intro h
    by_cases hex : minValue = u64Max ∨ exp < 0
    · rw [proveParams_exact v0 minValue value exp minBits hex] at h
      exact absurd h (by simp)
    · have h1 : minValue ≠ u64Max := fun h => hex (Or.inl h)
      have h2 : exp ≥ 0 := by omega
      refine ⟨h1, h2, ?_⟩
      apply Classical.byContradiction
      intro hg
      unfold proveParams at h
      simp only [h1, if_false, h2, if_true, hg] at h
      exact absurd h (by simp)
  · rintro ⟨h1, h2, hg⟩
    rw [proveParams_fail v0 minValue value exp minBits h1 h2 hg]

/-- When it fails, every output keeps the value written at the top of the function and `*v` is untouched. -/
theorem proveparams_fail_outputs (v0 minValue value : Nat) (exp minBits : Int)
    (h : (proveParams v0 minValue exp minBits value).ret = false) :
    proveParams v0 minValue exp minBits value = ⟨false, v0, 1, [1], 0, [0], minValue, 0, 1, exp, minBits⟩ := by
  obtain ⟨h1, h2, hg⟩ := (proveparams_fails_iff v0 minValue value exp minBits).1 h
  exact proveParams_fail v0 minValue value exp minBits h1 h2 hg

/-- Non-vacuity: both guards are reachable from `signImpl`'s preconditions
(`min_value = 1, value = 2^63`; `min_value = 2^63 - 1 = value`), and a documented-valid set next to them
(`min_value = 0, value = 2^64 - 1`) succeeds. -/
example : SignPre 1 (2 ^ 63) 0 0 ∧ (proveParams 0 1 0 0 (2 ^ 63)).ret = false :=
  ⟨⟨by decide, by decide, by decide, by decide, by decide, by decide⟩, by decide +kernel⟩
example : SignPre (2 ^ 63 - 1) (2 ^ 63 - 1) 0 0 ∧ (proveParams 0 (2 ^ 63 - 1) 0 0 (2 ^ 63 - 1)).ret = false :=
  ⟨⟨by decide, by decide, by decide, by decide, by decide, by decide⟩, by decide +kernel⟩
example : (proveParams 0 0 18 64 (2 ^ 64 - 1)).ret = true ∧ (proveParams 0 0 18 64 (2 ^ 64 - 1)).mantissa = 64 ∧
    (proveParams 0 0 18 64 (2 ^ 64 - 1)).exp = 0 := by decide +kernel

/-- C09, header round trip.  The header bytes `signImpl` writes for a successful parameter set `pp`, followed by ANY
`rest` (total length ≥ 65, which `signImpl` guarantees), decode under `secp256k1_rangeproof_getheader_impl` to the fields
of `pp` — the exponent reported as `-1` for the exact-value proof, where it is not encoded — and the reported range
contains the value. -/
theorem header_roundtrip (v0 minValue value : Nat) (exp minBits : Int) (pre : SignPre minValue value exp minBits)
    (pp : ProveParams) (hpp : pp = proveParams v0 minValue exp minBits value) (hret : pp.ret = true)
    (rest : Bytes) (init : Header) (hoff : init.offset = 0) (hlen : 65 ≤ (signHeader pp ++ rest).length) :
    getHeader init (signHeader pp ++ rest) =
      ⟨true, (signHeader pp).length, if pp.mantissa = 0 then -1 else pp.exp, pp.mantissa, pp.scale, pp.minValue,
        pp.minValue + (2 ^ pp.mantissa - 1) * pp.scale⟩ ∧
    pp.minValue ≤ value ∧ value ≤ pp.minValue + (2 ^ pp.mantissa - 1) * pp.scale ∧
    pp.minValue + (2 ^ pp.mantissa - 1) * pp.scale < 2 ^ 64 := by
  have ok : ParamsOK minValue value exp minBits pp := by
    rw [hpp]; exact proveparams_ok v0 minValue value exp minBits pre (hpp ▸ hret)
  have hrange : pp.minValue ≤ value ∧ value ≤ pp.minValue + (2 ^ pp.mantissa - 1) * pp.scale := by
    have h1 := ok.value_eq
    have h2 : pp.v * pp.scale ≤ (2 ^ pp.mantissa - 1) * pp.scale :=
      Nat.mul_le_mul_right _ (by have := ok.v_lt; omega)
    omega
  refine ⟨?_, hrange.1, hrange.2, ok.max_lt⟩
  obtain ⟨k, hk⟩ : ∃ k : Nat, pp.exp = (k : Int) := ⟨pp.exp.toNat, by have := ok.exp_ge; omega⟩
  have hscale : pp.scale = 10 ^ k := by rw [ok.scale_eq, hk]; simp
  obtain ⟨-, hlay, hexp0⟩ := proveparams_layout v0 minValue value exp minBits pre (hpp ▸ hret)
  rw [← hpp] at hlay hexp0
  have hsh : signHeader pp = headerBytes (pp.rsizes.headD 1) (k : Int) pp.mantissa pp.minValue := by
    unfold signHeader; rw [hk]
  rw [hsh] at hlen ⊢
  rw [hscale, hk]
  exact getHeader_headerBytes init hoff _ k _ _ rest (by have := ok.exp_le; omega) (hlay ▸ layout_headD _)
    (fun h => by have := hexp0 h; omega) ok.mantissa_le (hscale ▸ ok.max_lt) hlen

/-- Non-vacuity: for `value = 123456, min_value = 5, exp = 3, min_bits = 10` the header is `63 09 00..01c8`, and
`getHeader` on it (followed by 70 arbitrary bytes) reports the range `[456, 1023456]`. -/
example : signHeader (proveParams 0 5 3 10 123456) = [0x63, 0x09, 0, 0, 0, 0, 0, 0, 0x01, 0xc8] := by
  decide +kernel
example : let h := getHeader ⟨false, 0, 0, 0, 0, 0, 0⟩ (signHeader (proveParams 0 5 3 10 123456) ++ List.replicate 70 7)
    h.ret = true ∧ h.offset = 10 ∧ h.exp = 3 ∧ h.mantissa = 10 ∧ h.scale = 1000 ∧ h.minValue = 456 ∧
    h.maxValue = 1023456 := by
  decide +kernel

theorem signHeader_length_le (pp : ProveParams) : 1 ≤ (signHeader pp).length ∧ (signHeader pp).length ≤ 10 := by
  unfold signHeader headerBytes
  have h8 : (Bytes.be8 pp.minValue).length = 8 := Bytes.ofNat_length 8 _
  simp only [List.length_append, List.length_cons, List.length_nil]
  split <;> split <;> simp [h8]

private theorem size_arith (a m mm : Nat) (ha : a ≤ 10) (h1 : 1 ≤ m) (h2 : m ≤ mm) :
    a + (32 * (2 * m + (m + 1) / 2 - 1) + 32 + ((m + 1) / 2 + 6) / 8) ≤
      10 + 32 * ((mm + 1) / 2 * 4 - 2 * (mm % 2) + (mm + 1) / 2 - 1) + 32 + ((mm + 1) / 2 - 1 + 7) / 8 := by
  have e1 : (mm + 1) / 2 * 4 - 2 * (mm % 2) = 2 * mm := by omega
  have e2 : (m + 1) / 2 ≤ (mm + 1) / 2 := by omega
  have e3 : ((m + 1) / 2 + 6) / 8 ≤ ((mm + 1) / 2 - 1 + 7) / 8 := by omega
  rw [e1]
  generalize (m + 1) / 2 = r at *
  generalize (mm + 1) / 2 = R at *
  generalize (r + 6) / 8 = x at *
  generalize (R - 1 + 7) / 8 = y at *
  omega

/-- C09.  `secp256k1_rangeproof_max_size(max_value, min_bits)` is documented as an upper bound on the size of a proof
for any `value ≤ max_value` created with this `min_bits` (and any `exp`, `min_value`).  Here: for EVERY `M` with
`value ≤ M < 2^64` the buffer size `signImpl` asks for (`requiredLen`) is at most `maxSize M min_bits`, so a buffer of
`max_size` bytes is never rejected as too small. -/
theorem len_le_max_size (v0 minValue value : Nat) (exp minBits : Int) (pre : SignPre minValue value exp minBits)
    (pp : ProveParams) (hpp : pp = proveParams v0 minValue exp minBits value) (hret : pp.ret = true)
    (M : Nat) (hM : value ≤ M) (hM64 : M < 2 ^ 64) :
    requiredLen pp ≤ maxSize M minBits := by
  have ok : ParamsOK minValue value exp minBits pp := by
    rw [hpp]; exact proveparams_ok v0 minValue value exp minBits pre (hpp ▸ hret)
  obtain ⟨hl1, hl2⟩ := signHeader_length_le pp
  unfold requiredLen maxSize
  simp only []
  rw [Nat.shiftRight_eq_div_pow]
  -- the mantissa `max_size` uses
  generalize hvm : (if M > 0 then ((64 : Int) - (clz64 M : Int)) else 1) = valMantissa
  have hvm1 : 1 ≤ valMantissa ∧ valMantissa ≤ 64 ∧ (M ≠ 0 → M < 2 ^ valMantissa.toNat) := by
    by_cases h0 : M = 0
    · subst h0; simp at hvm; subst hvm; simp
    · have : M > 0 := by omega
      simp only [this, if_true] at hvm
      obtain ⟨m, hm, h1, h2, h3, h4⟩ := clz64_spec h0 hM64
      rw [hm] at hvm
      have : valMantissa = (m : Int) := by omega
      subst this
      exact ⟨by omega, by omega, fun _ => by simpa using h4⟩
  generalize hmm : (if minBits > valMantissa then minBits else valMantissa).toNat = mm
  have hmm1 : 1 ≤ mm ∧ valMantissa.toNat ≤ mm ∧ minBits ≤ mm := by
    subst hmm; split <;> omega
  -- the mantissa used by the prover is at most that
  have hle : pp.mantissa ≤ mm := by
    rcases ok.mantissa_tight with h | h | h
    · have := ok.bits_le_req; omega
    · have hv : pp.v ≤ M := by
        have := ok.value_eq
        have hs : 1 ≤ pp.scale := by rw [ok.scale_eq]; exact Nat.pow_pos (by omega)
        have : pp.v ≤ pp.v * pp.scale := Nat.le_mul_of_pos_right _ hs
        omega
      have hM0 : M ≠ 0 := by
        intro h0; subst h0
        have : pp.v = 0 := by omega
        rw [this] at h
        have := Nat.pow_pos (n := pp.mantissa) (show 0 < 2 by omega)
        omega
      have h1 := hvm1.2.2 hM0
      have h2 : 2 ^ pp.mantissa < 2 ^ (valMantissa.toNat + 1) := by rw [Nat.pow_succ]; omega
      have := (Nat.pow_lt_pow_iff_right (by omega : 1 < 2)).1 h2
      omega
    · omega
  have hr := ok.rings_eq
  have hn := ok.npub_closed
  simp only [Nat.pow_succ, Nat.pow_zero, Nat.one_mul]
  by_cases hm0 : pp.mantissa = 0
  · simp only [hm0, if_true] at hr hn
    rw [hr, hn]; exact size_arith _ 1 mm hl2 (Nat.le_refl 1) hmm1.1
  · simp only [hm0, if_false] at hr hn
    rw [hr, hn]; exact size_arith _ _ mm hl2 (by omega) hle

/-- The bound on `secp256k1_rangeproof_max_size` is attained (the two examples below). -/
theorem maxSize_le (M : Nat) (minBits : Int) (hb : minBits ≤ 64) : maxSize M minBits ≤ 5134 := by
  unfold maxSize
  simp only []
  generalize hvm : (if M > 0 then ((64 : Int) - (clz64 M : Int)) else 1) = valMantissa
  have hvm1 : valMantissa ≤ 64 := by
    subst hvm; split <;> omega
  generalize hmm : (if minBits > valMantissa then minBits else valMantissa).toNat = mm
  have : mm ≤ 64 := by subst hmm; split <;> omega
  omega

example : maxSize (2 ^ 64 - 1) 0 = 5134 := by decide +kernel
example : maxSize 0 64 = 5134 := by decide +kernel
/-- the C09 example: required length 10 + 32·(20+5−1) + 32 + 1 = 811 ≤ max_size(123456, 10) = 1387 -/
example : requiredLen (proveParams 0 5 3 10 123456) = 811 ∧ maxSize 123456 10 = 1387 := by decide +kernel

/-- C09.  `secp256k1_rangeproof_info` is the header decoder started at offset 0 (and reports what `verify` decodes:
`C10.verify_reports_info_range`). -/
theorem info_eq_getHeader (init : Header) (proof : Bytes) :
    info init proof = getHeader { init with offset := 0 } proof := rfl

/-- `info` succeeds exactly on the accepted headers, and what it then reports does not depend on what its outputs held
before (`init`). -/
theorem info_spec (init : Header) (proof : Bytes) :
    ((info init proof).ret = true ↔ HeaderAccepts proof) ∧
    (HeaderAccepts proof → info init proof =
      ⟨true, hdrLen proof, hdrExp proof, hdrMantissa proof, hdrScale proof, hdrMin proof,
        hdrMin proof + hdrSpan proof⟩) := by
  exact ⟨⟨getHeader_accepts_imp _ proof, fun h => by rw [info_eq_getHeader, getHeader_accept _ proof rfl h]⟩,
    fun h => getHeader_accept _ proof rfl h⟩

/-- For a proof with the header `signImpl` writes, `info` reports a range containing the value. -/
theorem info_range_contains_value (v0 minValue value : Nat) (exp minBits : Int)
    (pre : SignPre minValue value exp minBits)
    (pp : ProveParams) (hpp : pp = proveParams v0 minValue exp minBits value) (hret : pp.ret = true)
    (rest : Bytes) (init : Header) (hlen : 65 ≤ (signHeader pp ++ rest).length) :
    (info init (signHeader pp ++ rest)).ret = true ∧
    (info init (signHeader pp ++ rest)).minValue ≤ value ∧ value ≤ (info init (signHeader pp ++ rest)).maxValue ∧
    (info init (signHeader pp ++ rest)).maxValue < 2 ^ 64 := by
  obtain ⟨h1, h2, h3, h4⟩ :=
    header_roundtrip v0 minValue value exp minBits pre pp hpp hret rest { init with offset := 0 } rfl hlen
  rw [info_eq_getHeader, h1]
  exact ⟨rfl, h2, h3, h4⟩

example : (info ⟨false, 9, 9, 9, 9, 9, 9⟩ (signHeader (proveParams 0 5 3 10 123456) ++ List.replicate 70 7)).maxValue
    = 1023456 := by decide +kernel

end C09
end SecpZkp
