import SecpZkp.Proofs.FieldLinear
/-
  C05 (field part, "linear" kernels): `normalize`, `normalize_weak`, `add`, `mul_int`, `half`, `negate` of BOTH
  limb layouts of the C library (5×52: `src/field_5x52_impl.h`, 10×26: `src/field_10x26_impl.h`) meet their
  documented contracts (`src/field.h`) for ALL limb values within the documented magnitude bounds (`Mag5`, `Mag10`: what
  `secp256k1_fe_impl_verify` checks), with the one exception below.

  Object of the theorems: the MiniC IR that the translator regenerates from the C sources
  (`Gen.field5x52.*`, `Gen.field10x26.*`; for the 5×52 `negate`: `Gen.ct.fe_negate`), run with C's WRAP-AROUND
  semantics: `runC f env = (execL env f.body).env`.  Nothing re-types the algorithms: the proofs evaluate
  the generated terms (`Proofs/FieldLinear.lean`).  A field element is the array `"r.n"` (resp. `"a.n"`) of a memory;
  scalars (`"a"`, `"m"`) live in cell 0 of their name.

  FINDING F4 (10×26 only).  `secp256k1_fe_impl_normalize` / `_normalize_weak` for the 10×26 layout are NOT correct on
  the whole documented input domain (magnitude ≤ 32): `t0 += x * 0x3D1UL; t1 += (x << 6); t1 += (t0 >> 26)` are
  32-bit additions and overflow when `n[0]` (resp. `n[1]`) is within `977 x` (resp. `64 x + 63`) of `2^32`, which
  magnitude 32 allows (`n[0], n[1] ≤ 64 (2^26-1) = 2^32 - 64`, `x = n[9] >> 22 ≤ 63`).  Concrete input:
  `n = [0xFFFFFFC0, 0, …, 0, 0x400000]` (value `2^256 + 2^32 - 64 ≡ 2^33 + 913`), output `[0x391, 0x40, 0, …]`
  (value `2^32 + 913`): `fe_normalize_10x26_mag32_counterexample` below (also reproduced with the compiled C
  function).  The theorems for these two functions are therefore `…_partial`: they hold under `NormPre10`
  (magnitude ≤ 32 and `n[0] ≤ 2^32 - 61552`, `n[1] ≤ 2^32 - 4096`), which covers every magnitude ≤ 31
  (`fe_normalize_10x26_mag31`, `fe_normalize_weak_10x26_mag31`); a weaker sufficient condition is `NoOvf10`
  (`Proofs/FieldLinear.lean`: the two additions do not wrap; theorems `fe_normalize(_weak)_10x26_exact` in
  `Props/C05_fieldinv.lean`).  All other items hold at full strength.

  Not modelled: aliasing of `r` and `a` (the IR keeps `"r.n"` and `"a.n"` apart).
-/

namespace SecpZkp
namespace C05lin
open MiniC MiniC.Bounds FieldKernel FieldLinear

def top5 (a : String) (m : Nat) : Env :=
  [((a, 0), 2 * m * (2 ^ 52 - 1)), ((a, 1), 2 * m * (2 ^ 52 - 1)), ((a, 2), 2 * m * (2 ^ 52 - 1)),
   ((a, 3), 2 * m * (2 ^ 52 - 1)), ((a, 4), 2 * m * (2 ^ 48 - 1))]

def top10 (a : String) (m : Nat) : Env :=
  [((a, 0), 2 * m * (2 ^ 26 - 1)), ((a, 1), 2 * m * (2 ^ 26 - 1)), ((a, 2), 2 * m * (2 ^ 26 - 1)),
   ((a, 3), 2 * m * (2 ^ 26 - 1)), ((a, 4), 2 * m * (2 ^ 26 - 1)), ((a, 5), 2 * m * (2 ^ 26 - 1)),
   ((a, 6), 2 * m * (2 ^ 26 - 1)), ((a, 7), 2 * m * (2 ^ 26 - 1)), ((a, 8), 2 * m * (2 ^ 26 - 1)),
   ((a, 9), 2 * m * (2 ^ 22 - 1))]

/-- the limbs of `p`: an unreduced representation of 0 -/
def pEnv5 : Env :=
  [(("r.n", 0), 0xFFFFEFFFFFC2F), (("r.n", 1), 0xFFFFFFFFFFFFF), (("r.n", 2), 0xFFFFFFFFFFFFF),
   (("r.n", 3), 0xFFFFFFFFFFFFF), (("r.n", 4), 0xFFFFFFFFFFFF)]

def pEnv10 : Env :=
  [(("r.n", 0), 0x3FFFC2F), (("r.n", 1), 0x3FFFFBF), (("r.n", 2), 0x3FFFFFF), (("r.n", 3), 0x3FFFFFF),
   (("r.n", 4), 0x3FFFFFF), (("r.n", 5), 0x3FFFFFF), (("r.n", 6), 0x3FFFFFF), (("r.n", 7), 0x3FFFFFF),
   (("r.n", 8), 0x3FFFFFF), (("r.n", 9), 0x3FFFFF)]

theorem fe_add_5x52 (env : Env) (mr ma : Nat) (hm : mr + ma ≤ 32)
    (hr : Mag5 env "r.n" mr) (ha : Mag5 env "a.n" ma) :
    (∀ i, i < 5 → (runC Gen.field5x52.fe_add env).get "r.n" i = env.get "r.n" i + env.get "a.n" i) ∧
    val5At (runC Gen.field5x52.fe_add env) "r.n" = val5At env "r.n" + val5At env "a.n" ∧
    Mag5 (runC Gen.field5x52.fe_add env) "r.n" (mr + ma) := by
  rw [runC_eq_runW _ _ (by decide)]
  have E := fe_add_5x52_key env mr ma hm hr ha
  obtain ⟨kv, kb⟩ := add_spec (w := 52) (mag5_leL.mp hr) (mag5_leL.mp ha) rfl
  rw [← E] at kv kb
  rw [magB_add] at kb
  exact ⟨fun i hi => by simpa only [Nat.zero_add] using LimbList.readL_zipWith_get E i hi,
    by rw [val5At_eq, val5At_eq, val5At_eq, kv], mag5_leL.mpr kb⟩

example : Mag5 (top5 "r.n" 3 ++ top5 "a.n" 29) "r.n" 3 ∧ Mag5 (top5 "r.n" 3 ++ top5 "a.n" 29) "a.n" 29 ∧
    Mag5 (runC Gen.field5x52.fe_add (top5 "r.n" 3 ++ top5 "a.n" 29)) "r.n" 32 :=
  ⟨by decide +kernel, by decide +kernel,
   (fe_add_5x52 _ 3 29 (by decide) (by decide +kernel) (by decide +kernel)).2.2⟩

theorem fe_add_10x26 (env : Env) (mr ma : Nat) (hm : mr + ma ≤ 32)
    (hr : Mag10 env "r.n" mr) (ha : Mag10 env "a.n" ma) :
    (∀ i, i < 10 → (runC Gen.field10x26.fe_add env).get "r.n" i = env.get "r.n" i + env.get "a.n" i) ∧
    val10At (runC Gen.field10x26.fe_add env) "r.n" = val10At env "r.n" + val10At env "a.n" ∧
    Mag10 (runC Gen.field10x26.fe_add env) "r.n" (mr + ma) := by
  rw [runC_eq_runW _ _ (by decide)]
  have E := fe_add_10x26_key env mr ma hm hr ha
  obtain ⟨kv, kb⟩ := add_spec (w := 26) (mag10_leL.mp hr) (mag10_leL.mp ha) rfl
  rw [← E] at kv kb
  rw [magB_add] at kb
  exact ⟨fun i hi => by simpa only [Nat.zero_add] using LimbList.readL_zipWith_get E i hi,
    by rw [val10At_eq, val10At_eq, val10At_eq, kv], mag10_leL.mpr kb⟩

example : Mag10 (top10 "r.n" 3 ++ top10 "a.n" 29) "r.n" 3 ∧ Mag10 (top10 "r.n" 3 ++ top10 "a.n" 29) "a.n" 29 ∧
    Mag10 (runC Gen.field10x26.fe_add (top10 "r.n" 3 ++ top10 "a.n" 29)) "r.n" 32 :=
  ⟨by decide +kernel, by decide +kernel,
   (fe_add_10x26 _ 3 29 (by decide) (by decide +kernel) (by decide +kernel)).2.2⟩

theorem fe_mul_int_5x52 (env : Env) (m : Nat) (ha : env.get "a" 0 ≤ 32) (hm : m * env.get "a" 0 ≤ 32)
    (hr : Mag5 env "r.n" m) :
    (∀ i, i < 5 → (runC Gen.field5x52.fe_mul_int env).get "r.n" i = env.get "r.n" i * env.get "a" 0) ∧
    val5At (runC Gen.field5x52.fe_mul_int env) "r.n" = val5At env "r.n" * env.get "a" 0 ∧
    Mag5 (runC Gen.field5x52.fe_mul_int env) "r.n" (m * env.get "a" 0) := by
  rw [runC_eq_runW _ _ (by decide)]
  have E := fe_mul_int_5x52_key env m ha hm hr
  obtain ⟨kv, kb⟩ := scale_spec (w := 52) (a := env.get "a" 0) (mag5_leL.mp hr)
  rw [← E] at kv kb
  rw [magB_mul] at kb
  exact ⟨fun i hi => by simpa only [Nat.zero_add] using LimbList.readL_map_get E i hi,
    by rw [val5At_eq, val5At_eq, kv], mag5_leL.mpr kb⟩

example : Mag5 ((("a", 0), 8) :: top5 "r.n" 4) "r.n" 4 ∧
    Mag5 (runC Gen.field5x52.fe_mul_int ((("a", 0), 8) :: top5 "r.n" 4)) "r.n" 32 :=
  ⟨by decide +kernel, (fe_mul_int_5x52 _ 4 (by decide +kernel) (by decide +kernel) (by decide +kernel)).2.2⟩

theorem fe_mul_int_10x26 (env : Env) (m : Nat) (ha : env.get "a" 0 ≤ 32) (hm : m * env.get "a" 0 ≤ 32)
    (hr : Mag10 env "r.n" m) :
    (∀ i, i < 10 → (runC Gen.field10x26.fe_mul_int env).get "r.n" i = env.get "r.n" i * env.get "a" 0) ∧
    val10At (runC Gen.field10x26.fe_mul_int env) "r.n" = val10At env "r.n" * env.get "a" 0 ∧
    Mag10 (runC Gen.field10x26.fe_mul_int env) "r.n" (m * env.get "a" 0) := by
  rw [runC_eq_runW _ _ (by decide)]
  have E := fe_mul_int_10x26_key env m ha hm hr
  obtain ⟨kv, kb⟩ := scale_spec (w := 26) (a := env.get "a" 0) (mag10_leL.mp hr)
  rw [← E] at kv kb
  rw [magB_mul] at kb
  exact ⟨fun i hi => by simpa only [Nat.zero_add] using LimbList.readL_map_get E i hi,
    by rw [val10At_eq, val10At_eq, kv], mag10_leL.mpr kb⟩

example : Mag10 ((("a", 0), 8) :: top10 "r.n" 4) "r.n" 4 ∧
    Mag10 (runC Gen.field10x26.fe_mul_int ((("a", 0), 8) :: top10 "r.n" 4)) "r.n" 32 :=
  ⟨by decide +kernel, (fe_mul_int_10x26 _ 4 (by decide +kernel) (by decide +kernel) (by decide +kernel)).2.2⟩

theorem fe_negate_5x52 (env : Env) (hm : env.get "m" 0 ≤ 31) (ha : Mag5 env "a.n" (env.get "m" 0)) :
    (val5At (runC Gen.ct.fe_negate env) "r.n" + val5At env "a.n") % P = 0 ∧
    val5At (runC Gen.ct.fe_negate env) "r.n" + val5At env "a.n" = 2 * (env.get "m" 0 + 1) * P ∧
    Mag5 (runC Gen.ct.fe_negate env) "r.n" (env.get "m" 0 + 1) := by
  rw [runC_eq_runW _ _ (by decide)]
  obtain ⟨E, hle⟩ := fe_negate_5x52_key env hm ha
  obtain ⟨kv, kb⟩ := zipWith_sub (w := 52) (f := (· - ·)) (fun _ _ _ hs => Nat.sub_add_cancel hs) hle
  rw [← E, (scale_spec (LeL.refl pL5)).1] at kv
  rw [← E] at kb
  have k : val5At (runW env Gen.ct.fe_negate.body) "r.n" + val5At env "a.n" = 2 * (env.get "m" 0 + 1) * P := by
    rw [val5At_eq, val5At_eq, kv]; exact Nat.mul_comm ..
  refine ⟨by rw [k]; exact Nat.mul_mod_left _ _, k, mag5_leL.mpr (kb.trans ?_)⟩
  simp only [LeL, pL5, magB, List.map, List.replicate, List.cons_append, List.nil_append, and_true, Nat.reducePow,
    Nat.reduceSub]
  omega

example : Mag5 ((("m", 0), 31) :: top5 "a.n" 31) "a.n" 31 ∧
    Mag5 (runC Gen.ct.fe_negate ((("m", 0), 31) :: top5 "a.n" 31)) "r.n" 32 :=
  ⟨by decide +kernel, (fe_negate_5x52 _ (by decide +kernel) (by decide +kernel)).2.2⟩

theorem fe_negate_10x26 (env : Env) (hm : env.get "m" 0 ≤ 31) (ha : Mag10 env "a.n" (env.get "m" 0)) :
    (val10At (runC Gen.field10x26.fe_negate env) "r.n" + val10At env "a.n") % P = 0 ∧
    val10At (runC Gen.field10x26.fe_negate env) "r.n" + val10At env "a.n" = 2 * (env.get "m" 0 + 1) * P ∧
    Mag10 (runC Gen.field10x26.fe_negate env) "r.n" (env.get "m" 0 + 1) := by
  rw [runC_eq_runW _ _ (by decide)]
  obtain ⟨E, hle⟩ := fe_negate_10x26_key env hm ha
  obtain ⟨kv, kb⟩ := zipWith_sub (w := 26) (f := (· - ·)) (fun _ _ _ hs => Nat.sub_add_cancel hs) hle
  rw [← E, (scale_spec (LeL.refl pL10)).1] at kv
  rw [← E] at kb
  have k : val10At (runW env Gen.field10x26.fe_negate.body) "r.n" + val10At env "a.n" = 2 * (env.get "m" 0 + 1) * P := by
    rw [val10At_eq, val10At_eq, kv]; exact Nat.mul_comm ..
  refine ⟨by rw [k]; exact Nat.mul_mod_left _ _, k, mag10_leL.mpr (kb.trans ?_)⟩
  simp only [LeL, pL10, magB, List.map, List.replicate, List.cons_append, List.nil_append, and_true, Nat.reducePow,
    Nat.reduceSub]
  omega

example : Mag10 ((("m", 0), 31) :: top10 "a.n" 31) "a.n" 31 ∧
    Mag10 (runC Gen.field10x26.fe_negate ((("m", 0), 31) :: top10 "a.n" 31)) "r.n" 32 :=
  ⟨by decide +kernel, (fe_negate_10x26 _ (by decide +kernel) (by decide +kernel)).2.2⟩

theorem fe_normalize_weak_5x52 (env : Env) (h : Mag5 env "r.n" 32) :
    val5At (runC Gen.field5x52.fe_normalize_weak env) "r.n" % P = val5At env "r.n" % P ∧
    Mag5 (runC Gen.field5x52.fe_normalize_weak env) "r.n" 1 ∧
    (runC Gen.field5x52.fe_normalize_weak env).get "r.n" 0 < 2 ^ 52 ∧
    (runC Gen.field5x52.fe_normalize_weak env).get "r.n" 1 < 2 ^ 52 ∧
    (runC Gen.field5x52.fe_normalize_weak env).get "r.n" 2 < 2 ^ 52 ∧
    (runC Gen.field5x52.fe_normalize_weak env).get "r.n" 3 < 2 ^ 52 ∧
    (runC Gen.field5x52.fe_normalize_weak env).get "r.n" 4 ≤ 2 ^ 48 + 63 := by
  rw [runC_eq_runW _ _ (by decide)]
  obtain ⟨k, kb⟩ := fe_normalize_weak_5x52_key env h
  have m := (mag5_leL (m := 1)).mpr (kb.trans (by simp [LeL, weakB, magB, List.replicate]))
  simp only [LeL, LimbList.readL, weakB, List.replicate, List.cons_append, List.nil_append, Nat.reduceAdd, and_true] at kb
  exact ⟨k, m, by omega, by omega, by omega, by omega, by omega⟩

example : Mag5 (top5 "r.n" 32) "r.n" 32 ∧ Mag5 (runC Gen.field5x52.fe_normalize_weak (top5 "r.n" 32)) "r.n" 1 :=
  ⟨by decide +kernel, (fe_normalize_weak_5x52 _ (by decide +kernel)).2.1⟩

/-- PARTIAL (finding F4): with the documented hypothesis `Mag10 env "r.n" 32` alone the statement is FALSE
    (`fe_normalize_10x26_mag32_counterexample`); `NormPre10` holds at every magnitude ≤ 31 -/
theorem fe_normalize_weak_10x26_partial (env : Env) (h : NormPre10 env "r.n") :
    val10At (runC Gen.field10x26.fe_normalize_weak env) "r.n" % P = val10At env "r.n" % P ∧
    Mag10 (runC Gen.field10x26.fe_normalize_weak env) "r.n" 1 ∧
    LeL (LimbList.readL (runC Gen.field10x26.fe_normalize_weak env) "r.n" 0 10) (weakB 26 22 9 64) := by
  rw [runC_eq_runW _ _ (by decide)]
  obtain ⟨k, kb⟩ := fe_normalize_weak_10x26_exact_key env (noOvf10_of_normPre10 h)
  exact ⟨k, mag10_leL.mpr (kb.trans (by simp [LeL, weakB, magB, List.replicate])), kb⟩

theorem fe_normalize_weak_10x26_mag31 (env : Env) (h : Mag10 env "r.n" 31) :
    val10At (runC Gen.field10x26.fe_normalize_weak env) "r.n" % P = val10At env "r.n" % P ∧
    Mag10 (runC Gen.field10x26.fe_normalize_weak env) "r.n" 1 :=
  let t := fe_normalize_weak_10x26_partial env (NormPre10_of_mag31 h)
  ⟨t.1, t.2.1⟩

example : Mag10 (top10 "r.n" 31) "r.n" 31 ∧ Mag10 (runC Gen.field10x26.fe_normalize_weak (top10 "r.n" 31)) "r.n" 1 :=
  ⟨by decide +kernel, (fe_normalize_weak_10x26_mag31 _ (by decide +kernel)).2⟩

theorem fe_half_5x52 (env : Env) (m : Nat) (hm : m ≤ 31) (h : Mag5 env "r.n" m) :
    (2 * val5At (runC Gen.field5x52.fe_half env) "r.n") % P = val5At env "r.n" % P ∧
    2 * val5At (runC Gen.field5x52.fe_half env) "r.n" = val5At env "r.n" + env.get "r.n" 0 % 2 * P ∧
    Mag5 (runC Gen.field5x52.fe_half env) "r.n" (m / 2 + 1) := by
  rw [runC_eq_runW _ _ (by decide)]
  obtain ⟨k1, k2⟩ := fe_half_5x52_key env m hm h
  exact ⟨by rw [k1]; exact Nat.add_mul_mod_self_right _ _ _, k1, k2⟩

/-- non-vacuity: an ODD element at the top of magnitude 31 (the mask branch), result of magnitude 16 -/
example : Mag5 ((("r.n", 0), 2 * 31 * (2 ^ 52 - 1) - 1) :: top5 "r.n" 31) "r.n" 31 ∧
    Mag5 (runC Gen.field5x52.fe_half ((("r.n", 0), 2 * 31 * (2 ^ 52 - 1) - 1) :: top5 "r.n" 31)) "r.n" 16 :=
  ⟨by decide +kernel, (fe_half_5x52 _ 31 (by decide) (by decide +kernel)).2.2⟩

theorem fe_half_10x26 (env : Env) (m : Nat) (hm : m ≤ 31) (h : Mag10 env "r.n" m) :
    (2 * val10At (runC Gen.field10x26.fe_half env) "r.n") % P = val10At env "r.n" % P ∧
    2 * val10At (runC Gen.field10x26.fe_half env) "r.n" = val10At env "r.n" + env.get "r.n" 0 % 2 * P ∧
    Mag10 (runC Gen.field10x26.fe_half env) "r.n" (m / 2 + 1) := by
  rw [runC_eq_runW _ _ (by decide)]
  obtain ⟨k1, k2⟩ := fe_half_10x26_key env m hm h
  exact ⟨by rw [k1]; exact Nat.add_mul_mod_self_right _ _ _, k1, k2⟩

example : Mag10 ((("r.n", 0), 2 * 31 * (2 ^ 26 - 1) - 1) :: top10 "r.n" 31) "r.n" 31 ∧
    Mag10 (runC Gen.field10x26.fe_half ((("r.n", 0), 2 * 31 * (2 ^ 26 - 1) - 1) :: top10 "r.n" 31)) "r.n" 16 :=
  ⟨by decide +kernel, (fe_half_10x26 _ 31 (by decide) (by decide +kernel)).2.2⟩

theorem fe_normalize_5x52 (env : Env) (h : Mag5 env "r.n" 32) :
    Red5 (runC Gen.field5x52.fe_normalize env) "r.n" ∧
    val5At (runC Gen.field5x52.fe_normalize env) "r.n" < P ∧
    val5At (runC Gen.field5x52.fe_normalize env) "r.n" = val5At env "r.n" % P := by
  rw [runC_eq_runW _ _ (by decide)]
  obtain ⟨k1, k2⟩ := fe_normalize_5x52_key env h
  exact ⟨k1, k2 ▸ Nat.mod_lt _ (by decide), k2⟩

example : Mag5 (top5 "r.n" 32) "r.n" 32 ∧ val5At (runC Gen.field5x52.fe_normalize (top5 "r.n" 32)) "r.n" < P :=
  ⟨by decide +kernel, (fe_normalize_5x52 _ (by decide +kernel)).2.1⟩

/-- the data-dependent branch of the final reduction is exercised: the limbs of `p` normalize to 0 -/
example : Mag5 pEnv5 "r.n" 32 ∧ val5At pEnv5 "r.n" = P ∧ val5At (runC Gen.field5x52.fe_normalize pEnv5) "r.n" = 0 :=
  ⟨by decide +kernel, by decide +kernel,
   (by rw [runC_eq_runW _ _ (by decide)]; decide +kernel)⟩

theorem fe_normalize_10x26_exact (env : Env) (h : NoOvf10 env "r.n") :
    Red10 (runC Gen.field10x26.fe_normalize env) "r.n" ∧
    val10At (runC Gen.field10x26.fe_normalize env) "r.n" < P ∧
    val10At (runC Gen.field10x26.fe_normalize env) "r.n" = val10At env "r.n" % P := by
  rw [runC_eq_runW _ _ (by decide)]
  obtain ⟨k1, k2⟩ := fe_normalize_10x26_exact_key env h
  exact ⟨k1, k2 ▸ Nat.mod_lt _ (by decide), k2⟩

/-- PARTIAL (finding F4), as `fe_normalize_weak_10x26_partial` -/
theorem fe_normalize_10x26_partial (env : Env) (h : NormPre10 env "r.n") :
    Red10 (runC Gen.field10x26.fe_normalize env) "r.n" ∧
    val10At (runC Gen.field10x26.fe_normalize env) "r.n" < P ∧
    val10At (runC Gen.field10x26.fe_normalize env) "r.n" = val10At env "r.n" % P :=
  fe_normalize_10x26_exact env (noOvf10_of_normPre10 h)

theorem fe_normalize_10x26_mag31 (env : Env) (h : Mag10 env "r.n" 31) :
    Red10 (runC Gen.field10x26.fe_normalize env) "r.n" ∧
    val10At (runC Gen.field10x26.fe_normalize env) "r.n" < P ∧
    val10At (runC Gen.field10x26.fe_normalize env) "r.n" = val10At env "r.n" % P :=
  fe_normalize_10x26_partial env (NormPre10_of_mag31 h)

example : Mag10 (top10 "r.n" 31) "r.n" 31 ∧ val10At (runC Gen.field10x26.fe_normalize (top10 "r.n" 31)) "r.n" < P :=
  ⟨by decide +kernel, (fe_normalize_10x26_mag31 _ (by decide +kernel)).2.1⟩

example : NormPre10 pEnv10 "r.n" ∧ val10At pEnv10 "r.n" = P ∧
    val10At (runC Gen.field10x26.fe_normalize pEnv10) "r.n" = 0 :=
  ⟨by decide +kernel, by decide +kernel,
   (by rw [runC_eq_runW _ _ (by decide)]; decide +kernel)⟩

def cex10 : Env :=
  [(("r.n", 0), 0xFFFFFFC0), (("r.n", 1), 0), (("r.n", 2), 0), (("r.n", 3), 0), (("r.n", 4), 0), (("r.n", 5), 0),
   (("r.n", 6), 0), (("r.n", 7), 0), (("r.n", 8), 0), (("r.n", 9), 0x400000)]

/-- finding F4: `cex10` (value `2^256 + 2^32 - 64`) has magnitude 32, every limb within `secp256k1_fe_impl_verify`'s bound, but
    both functions return limbs whose value is NOT congruent to the input modulo `p`: the 32-bit addition `t0 += x * 0x3D1`
    wraps (`0xFFFFFFC0 + 977 = 2^32 + 913`), losing `2^32` -/
theorem fe_normalize_10x26_mag32_counterexample :
    Mag10 cex10 "r.n" 32 ∧
    val10At (runC Gen.field10x26.fe_normalize cex10) "r.n" % P ≠ val10At cex10 "r.n" % P ∧
    val10At (runC Gen.field10x26.fe_normalize_weak cex10) "r.n" % P ≠ val10At cex10 "r.n" % P ∧
    val10At cex10 "r.n" % P = 2 ^ 33 + 913 ∧
    val10At (runC Gen.field10x26.fe_normalize cex10) "r.n" = 2 ^ 32 + 913 :=
  ⟨by decide +kernel,
   (by rw [runC_eq_runW _ _ (by decide)]; decide +kernel),
   (by rw [runC_eq_runW _ _ (by decide)]; decide +kernel),
   by decide +kernel,
   (by rw [runC_eq_runW _ _ (by decide)]; decide +kernel)⟩

/-! `Gen.ct.fe_normalize` and `Gen.ct.fe_half` (the translation unit used for the constant-time analysis) have
literally the same bodies as `Gen.field5x52.fe_normalize` / `fe_half`, so the theorems above apply to them. -/

theorem ct_fe_half_body : Gen.ct.fe_half.body = Gen.field5x52.fe_half.body := rfl

theorem ct_fe_normalize_5x52 (env : Env) (h : Mag5 env "r.n" 32) :
    Red5 (runC Gen.ct.fe_normalize env) "r.n" ∧
    val5At (runC Gen.ct.fe_normalize env) "r.n" < P ∧
    val5At (runC Gen.ct.fe_normalize env) "r.n" = val5At env "r.n" % P :=
  fe_normalize_5x52 env h

end C05lin
end SecpZkp
