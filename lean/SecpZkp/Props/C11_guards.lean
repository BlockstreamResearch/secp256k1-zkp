import SecpZkp.Gen.Guards
/-! # C11 — the argument checks the model assumes are present at the C call sites (translator mode G)

How to read a fact, and what a mismatch means: `Props/C01_guards.lean`. -/
namespace SecpZkp.Props.C11_guards
open SecpZkp.Gen

theorem surjectionproof_verify_sites : Facts.surjectionproof_verify = [
    ⟨.scalar_set_b32, 1, false, some true⟩,
    ⟨.borromean_verify, 1, true, none⟩
  ] := by decide

theorem surjectionproof_generate_sites : Facts.surjectionproof_generate = [
    ⟨.ecmult_gen_context_is_built, 1, true, none⟩,
    ⟨.scalar_set_b32, 1, false, some true⟩,
    ⟨.scalar_set_b32, 2, false, some true⟩,
    ⟨.memcmp_var, 1, true, none⟩
  ] := by decide

theorem surjection_genrand_sites : Facts.surjection_genrand = [
    ⟨.scalar_set_b32, 1, false, some true⟩
  ] := by decide

def all : List CallFact := Facts.surjectionproof_verify ++ Facts.surjectionproof_generate ++ Facts.surjection_genrand

/-- No overflow flag written by a scalar decoding in these functions is ignored (overwritten or never read). -/
theorem no_flag_dropped : ∀ f ∈ all, f.flag ≠ some false := by decide

/-- non-vacuity: the regenerated fact lists are not empty -/
example : all.length = 7 := by decide

end SecpZkp.Props.C11_guards
