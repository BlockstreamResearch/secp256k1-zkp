import SecpZkp.Proofs.Halfagg
import SecpZkp.Props.C17_lengths
/-
  Property C17: Schnorr half-aggregation (`src/modules/schnorrsig_halfagg/main_impl.h`, model
  `SecpZkp/Model/Halfagg.lean`) is complete, incremental-consistent and exact.  The clauses on lengths are in
  Props/C17_lengths.lean.

  To read the statements: inputs of aggregation are lists of `Entry` (key object, message, signature), which `keys`,
  `msgs`, `sigs` project to the three C arrays.  The buffer is a byte list whose length is `*aggsig_len` on entry; a call
  returns `(buffer contents, new *aggsig_len)`.  Between incremental calls the caller announces the full buffer size
  again (as `tests_impl.h` does: `aggsig_len = sizeof(aggsig)`), so the next call receives the whole `out.1`.  `size_t`
  is 64 bits wide (`sizeMax = 2^64`).

  Only `agg_complete` uses the group law, and keeps it as the hypothesis `gl : GroupLaw`: plugging in the proved
  `groupLaw` of Proofs/GroupLawProved.lean would import Mathlib into this file.

  Not proved, being no statement about the code: that reordered or altered keys or messages, or an altered signature,
  are rejected; that is the unforgeability of the scheme (SHA-256, discrete logarithms).  Proved is that `aggverify`
  returns 1 EXACTLY when the equation of the specification holds (`aggverify_iff_spec`), in which every `z_i` and `e_i`
  is the one-shot hash of the keys, messages and `r` values in their given order.
-/
namespace SecpZkp
namespace Halfagg

/-- Entries for the non-vacuity examples.  The key `Pt.aff 5 6` of `exE3` is deliberately off the curve: aggregation only
    tests `≠ ∞` and serializes `x`. -/
def exE1 : Entry := (Pt.G, List.replicate 32 1, List.replicate 64 2)
def exE2 : Entry := (Pt.G, List.replicate 32 3, List.replicate 32 4 ++ List.replicate 32 5)
def exE3 : Entry := (Pt.aff 5 6, List.replicate 32 7, List.replicate 32 0xff ++ List.replicate 32 0xfe)
def exBuf : Bytes := List.replicate 160 0xAA

theorem aggregate_ok_iff (buf : Bytes) (xs : List Entry) (hn : xs.length < sizeMax) :
    (aggregate buf (keys xs) (msgs xs) (sigs xs)).ret = 1 ↔
      32 * (xs.length + 1) ≤ buf.length ∧ ∀ e ∈ xs, e.1 ≠ Pt.inf := by
  rw [aggregate_closed buf xs hn, ← absorbNewSt_isSome 0 xs tagAgg 0]
  by_cases hlen : 32 * (xs.length + 1) ≤ buf.length
  · simp only [hlen, if_true, true_and]
    cases absorbNewSt 0 xs tagAgg 0 <;> simp
  · simp [hlen]

example : (aggregate exBuf (keys [exE1, exE2]) (msgs [exE1, exE2]) (sigs [exE1, exE2])).ret = 1 :=
  (aggregate_ok_iff exBuf [exE1, exE2] (by decide +kernel)).2 (by decide +kernel)

/-- Incremental = one-shot, for one cut: `secp256k1_schnorrsig_aggregate` on `xs`, then `_inc_aggregate` with
    `n_before = |xs|` on the buffer it left, against `_aggregate` on `xs ++ ys`; equal as whole results, the bytes behind
    the aggregate included.  By `absorbOld_eq` (Proofs/Halfagg.lean) for the `z_i`; and `s`, being reduced, is read back
    from the buffer unchanged.  `hsig` is asked of `xs` only: their `r_i` must lie at the offsets `32*i` where the first
    loop reads them back. -/
theorem inc_eq_oneshot (buf : Bytes) (xs ys : List Entry)
    (hsig : ∀ e ∈ xs, e.2.2.length = 64)
    (hn : xs.length + ys.length < sizeMax)
    (hbuf : 32 * (xs.length + ys.length + 1) ≤ buf.length)
    (hkeys : ∀ e ∈ xs ++ ys, e.1 ≠ Pt.inf) :
    let first := aggregate buf (keys xs) (msgs xs) (sigs xs)
    let oneshot := aggregate buf (keys (xs ++ ys)) (msgs (xs ++ ys)) (sigs (xs ++ ys))
    first.ret = 1 ∧ first.out.1.length = buf.length ∧ first.out.2 = 32 * (xs.length + 1) ∧
    incAggregate first.out.1 (keys (xs ++ ys)) (msgs (xs ++ ys)) (sigs ys) xs.length = oneshot ∧
    oneshot.ret = 1 := by
  have hret : (aggregate buf (keys (xs ++ ys)) (msgs (xs ++ ys)) (sigs (xs ++ ys))).ret = 1 :=
    (aggregate_ok_iff buf _ (by simpa using hn)).2 ⟨by simpa using hbuf, hkeys⟩
  have hret1 : (aggregate buf (keys xs) (msgs xs) (sigs xs)).ret = 1 :=
    (aggregate_ok_iff buf xs (by omega)).2 ⟨by omega, fun e he => hkeys e (List.mem_append_left _ he)⟩
  obtain ⟨h1, s1, hx, hs1, hr1⟩ := aggregate_ok buf xs (by omega) hret1
  obtain ⟨h2, s2, hxy, -, hr2⟩ := aggregate_ok buf (xs ++ ys) (by simpa using hn) hret
  rw [absorbNewSt_append, hx, Option.bind_some, Nat.zero_add] at hxy
  have hA := length_rs_be32 xs hsig s1
  rw [← hA] at hr1
  have hlen := length_append_drop (rs xs ++ Bytes.be32 s1) buf (by rw [hA]; omega)
  intro first oneshot
  rw [show first = _ from hr1]
  refine ⟨rfl, hlen, Nat.add_comm 1 _ ▸ rfl, ?_, hret⟩
  show incAggregate _ _ _ _ _ = aggregate _ _ _ _
  rw [incAggregate_closed _ xs ys h1 s1 hsig hn ?_ ?_ hx]
  · rw [hr2, hxy, hlen, if_pos hbuf, drop_append_drop _ _ (by rw [hA]; omega)]
    simp only [rs_append, List.length_append]
  · rw [List.append_assoc, List.take_left' (length_rs xs hsig)]
  · -- the scalar is read back from the buffer; for `xs = []` nothing is read and it is the initial `0`
    by_cases h0 : xs.length > 0
    · rw [if_pos h0, List.append_assoc, chunk32_mid _ _ _ _ (length_rs xs hsig) (Bytes.be32_length s1),
        Bytes.toNat_be32_of_lt_N hs1, Nat.mod_eq_of_lt hs1]
    · obtain rfl : xs = [] := List.eq_nil_of_length_eq_zero (by omega)
      rw [if_neg h0]
      exact (Prod.mk.inj (Option.some.inj hx)).2

/-- Non-vacuity of `inc_eq_oneshot`: its hypotheses on one instance … -/
example : (∀ e ∈ [exE1, exE2], e.2.2.length = 64) ∧ [exE1, exE2].length + [exE3].length < sizeMax ∧
    32 * ([exE1, exE2].length + [exE3].length + 1) ≤ exBuf.length ∧
    (∀ e ∈ [exE1, exE2] ++ [exE3], e.1 ≠ Pt.inf) := by decide +kernel

/-- … and its conclusion there, evaluated by the kernel without the theorem. -/
example :
    let first := aggregate exBuf (keys [exE1, exE2]) (msgs [exE1, exE2]) (sigs [exE1, exE2])
    let inc := incAggregate first.out.1 (keys [exE1, exE2, exE3]) (msgs [exE1, exE2, exE3]) (sigs [exE3]) 2
    let oneshot := aggregate exBuf (keys [exE1, exE2, exE3]) (msgs [exE1, exE2, exE3]) (sigs [exE1, exE2, exE3])
    (inc.ret, inc.out, inc.illegal) = (oneshot.ret, oneshot.out, oneshot.illegal) ∧ oneshot.ret = 1 := by
  decide +kernel

theorem inc_eq_oneshot_of_ok (buf : Bytes) (xs ys : List Entry)
    (hsig : ∀ e ∈ xs, e.2.2.length = 64)
    (hn : xs.length + ys.length < sizeMax)
    (hok : (aggregate buf (keys (xs ++ ys)) (msgs (xs ++ ys)) (sigs (xs ++ ys))).ret = 1) :
    (aggregate buf (keys xs) (msgs xs) (sigs xs)).ret = 1 ∧
    incAggregate (aggregate buf (keys xs) (msgs xs) (sigs xs)).out.1
        (keys (xs ++ ys)) (msgs (xs ++ ys)) (sigs ys) xs.length
      = aggregate buf (keys (xs ++ ys)) (msgs (xs ++ ys)) (sigs (xs ++ ys)) := by
  have h := (aggregate_ok_iff buf (xs ++ ys) (by simpa using hn)).1 hok
  have hbuf : 32 * (xs.length + ys.length + 1) ≤ buf.length := by simpa using h.1
  have := inc_eq_oneshot buf xs ys hsig hn hbuf h.2
  exact ⟨this.1, this.2.2.2.1⟩

/-- `hok` of `inc_eq_oneshot_of_ok` on one instance -/
example : (aggregate exBuf (keys ([exE1] ++ [exE2, exE3])) (msgs ([exE1] ++ [exE2, exE3]))
    (sigs ([exE1] ++ [exE2, exE3]))).ret = 1 :=
  (aggregate_ok_iff exBuf _ (by decide +kernel)).2 (by decide +kernel)

/-- The caller's side of incremental aggregation: each piece is added by one `inc_aggregate` call on the whole buffer the
    previous call left (`cur`), with `n_before = |done|`; the chain stops at the first failing call. -/
def chain : (done : List Entry) → (cur : Ret (Bytes × Nat)) → List (List Entry) → Ret (Bytes × Nat)
  | _, cur, [] => cur
  | done, cur, p :: ps =>
    if cur.ret = 1 then
      chain (done ++ p)
        (incAggregate cur.out.1 (keys (done ++ p)) (msgs (done ++ p)) (sigs p) done.length) ps
    else cur

theorem chain_eq (buf : Bytes) (done : List Entry) (pieces : List (List Entry))
    (hsig : ∀ e ∈ done ++ pieces.flatten, e.2.2.length = 64)
    (hn : (done ++ pieces.flatten).length < sizeMax)
    (hbuf : 32 * ((done ++ pieces.flatten).length + 1) ≤ buf.length)
    (hkeys : ∀ e ∈ done ++ pieces.flatten, e.1 ≠ Pt.inf) :
    chain done (aggregate buf (keys done) (msgs done) (sigs done)) pieces =
      aggregate buf (keys (done ++ pieces.flatten)) (msgs (done ++ pieces.flatten))
        (sigs (done ++ pieces.flatten)) := by
  induction pieces generalizing done with
  | nil => simp [chain]
  | cons p ps ih =>
    simp only [List.flatten_cons, List.length_append] at hsig hn hbuf hkeys
    have h' := inc_eq_oneshot buf done p
      (fun e he => hsig e (by simp [he])) (by omega) (by omega)
      (fun e he => hkeys e (by
        rcases List.mem_append.1 he with h | h
        · simp [h]
        · simp [h]))
    simp only [chain, h'.1, if_true, h'.2.2.2.1]
    rw [ih (done ++ p)]
    · simp
    · intro e he; exact hsig e (by simpa using he)
    · simpa [Nat.add_assoc] using hn
    · simpa [Nat.add_assoc] using hbuf
    · intro e he; exact hkeys e (by simpa using he)

/-- Clause "incremental aggregation over any split produces the same bytes as one-shot aggregation": `aggregate` with
    `n = 0`, then one `inc_aggregate` per piece (`chain`; empty pieces allowed), against one `aggregate` on all entries. -/
theorem all_splits_equal (buf : Bytes) (pieces : List (List Entry))
    (hsig : ∀ e ∈ pieces.flatten, e.2.2.length = 64)
    (hn : pieces.flatten.length < sizeMax)
    (hbuf : 32 * (pieces.flatten.length + 1) ≤ buf.length)
    (hkeys : ∀ e ∈ pieces.flatten, e.1 ≠ Pt.inf) :
    chain [] (aggregate buf [] [] []) pieces =
      aggregate buf (keys pieces.flatten) (msgs pieces.flatten) (sigs pieces.flatten) ∧
    (aggregate buf (keys pieces.flatten) (msgs pieces.flatten) (sigs pieces.flatten)).ret = 1 := by
  have := chain_eq buf [] pieces (by simpa using hsig) (by simpa using hn) (by simpa using hbuf)
    (by simpa using hkeys)
  exact ⟨by simpa using this, (aggregate_ok_iff buf _ hn).2 ⟨hbuf, hkeys⟩⟩

theorem splits_agree (buf : Bytes) (pieces₁ pieces₂ : List (List Entry))
    (heq : pieces₁.flatten = pieces₂.flatten)
    (hsig : ∀ e ∈ pieces₁.flatten, e.2.2.length = 64)
    (hn : pieces₁.flatten.length < sizeMax)
    (hbuf : 32 * (pieces₁.flatten.length + 1) ≤ buf.length)
    (hkeys : ∀ e ∈ pieces₁.flatten, e.1 ≠ Pt.inf) :
    chain [] (aggregate buf [] [] []) pieces₁ = chain [] (aggregate buf [] [] []) pieces₂ := by
  rw [(all_splits_equal buf pieces₁ hsig hn hbuf hkeys).1,
    (all_splits_equal buf pieces₂ (heq ▸ hsig) (heq ▸ hn) (heq ▸ hbuf) (heq ▸ hkeys)).1, heq]

/-- Non-vacuity of `all_splits_equal`: its hypotheses on a split with an empty piece … -/
example : (∀ e ∈ [[exE1], [], [exE2, exE3]].flatten, e.2.2.length = 64) ∧
    [[exE1], [], [exE2, exE3]].flatten.length < sizeMax ∧
    32 * ([[exE1], [], [exE2, exE3]].flatten.length + 1) ≤ exBuf.length ∧
    (∀ e ∈ [[exE1], [], [exE2, exE3]].flatten, e.1 ≠ Pt.inf) := by decide +kernel

/-- … and its conclusion there (four calls against one), evaluated by the kernel without the theorem. -/
example :
    let c := chain [] (aggregate exBuf [] [] []) [[exE1], [], [exE2, exE3]]
    let o := aggregate exBuf (keys [exE1, exE2, exE3]) (msgs [exE1, exE2, exE3]) (sigs [exE1, exE2, exE3])
    (c.ret, c.out, c.illegal) = (o.ret, o.out, o.illegal) := by
  decide +kernel

/-- what the caller gets: the first `*aggsig_len` bytes of the buffer -/
def aggBytes (r : Ret (Bytes × Nat)) : Bytes := r.out.1.take r.out.2

/-- Clause "an aggregate of exactly 32*(n+1) bytes", for `secp256k1_schnorrsig_aggregate`; `r.out.2` is `*aggsig_len`.
    For `n_before ≠ 0` the lengths are `C17.incAggregate_len` (Props/C17_lengths.lean). -/
theorem aggregate_length (buf : Bytes) (xs : List Entry)
    (hsig : ∀ e ∈ xs, e.2.2.length = 64) (hn : xs.length < sizeMax)
    (hok : (aggregate buf (keys xs) (msgs xs) (sigs xs)).ret = 1) :
    let r := aggregate buf (keys xs) (msgs xs) (sigs xs)
    r.out.2 = 32 * (xs.length + 1) ∧ (aggBytes r).length = 32 * (xs.length + 1) ∧
    r.out.1.length = buf.length ∧ r.illegal = 0 ∧
    ∃ s, s < N ∧ aggBytes r = rs xs ++ Bytes.be32 s := by
  intro r
  obtain ⟨_, S, _, hS, hr⟩ := aggregate_ok buf xs hn hok
  have hbuf := ((aggregate_ok_iff buf xs hn).1 hok).1
  have hlrs := length_rs xs hsig
  have htk : aggBytes r = rs xs ++ Bytes.be32 S := by
    rw [show r = _ from hr]; exact take_rs_be32 xs hsig S _
  rw [htk, show r = _ from hr]
  refine ⟨?_, ?_, ?_, rfl, S, hS, rfl⟩
  · show 32 * (1 + xs.length) = _; omega
  · rw [List.length_append, hlrs, Bytes.be32_length]; omega
  · simp only [List.length_append, List.length_drop, hlrs, Bytes.be32_length]; omega

example : (∀ e ∈ [exE1, exE2, exE3], e.2.2.length = 64) ∧ [exE1, exE2, exE3].length < sizeMax ∧
    (aggregate exBuf (keys [exE1, exE2, exE3]) (msgs [exE1, exE2, exE3]) (sigs [exE1, exE2, exE3])).ret = 1 := by
  decide +kernel

theorem aggregate_empty (buf : Bytes) :
    aggregate buf [] [] [] =
      if 32 ≤ buf.length then ⟨1, (Bytes.zeros 32 ++ buf.drop 32, 32), 0⟩ else ⟨0, (buf, buf.length), 0⟩ := by
  have h := aggregate_closed buf [] (by decide +kernel)
  simp only [keys_nil, msgs_nil, sigs_nil, List.length_nil, absorbNewSt, rs_nil, List.nil_append] at h
  rw [h]
  rfl

example : aggBytes (aggregate exBuf [] [] []) = Bytes.zeros 32 := by decide +kernel

/-- Clause "aggregate verification returns 1 exactly when the equation of the specification holds", for
    `secp256k1_schnorrsig_aggverify`.  The terms are `T_i = z_i • (e_i • P_i + R_i)` (`termSpec`, with the one-shot
    randomizer `zSpec`, both in Proofs/Halfagg.lean); `Pt.sum` adds left to right from `∞`.
    `hm` cannot be dropped: `List.zip` cuts to the shorter list, while `n` is the number of keys. -/
theorem aggverify_iff_spec (pks : List Pt) (ms : List Bytes) (agg : Bytes) (hm : ms.length = pks.length) :
    (aggverify pks ms (some agg)).ret = 1 ↔
      agg.length = 32 * (pks.length + 1) ∧
      ∃ terms : List Pt,
        (List.range pks.length).map (termSpec agg (List.zip pks ms)) = terms.map some ∧
        Bytes.toNat (chunk32 agg pks.length) < N ∧
        Pt.add (Pt.neg (Pt.mulG (Bytes.toNat (chunk32 agg pks.length)))) (Pt.sum terms) = Pt.inf := by
  have hzl : (List.zip pks ms).length = pks.length := by simp [hm]
  have key : ∀ out, verifyLoop agg 0 (List.zip pks ms) tagAgg Pt.inf = .ok out ↔
      ∃ terms : List Pt, (List.range pks.length).map (termSpec agg (List.zip pks ms)) = terms.map some ∧
        out = Pt.sum terms := by
    intro out
    have := verifyLoop_ok_iff agg (List.zip pks ms) [] (List.zip pks ms) tagAgg Pt.inf out rfl
      (by simpa [hashedBytes] using tagAgg_eq_after)
    simpa [hzl, List.range_eq_range', Pt.sum] using this
  rw [(aggverify_cases pks ms agg).2]
  refine and_congr_right fun _ => ⟨?_, ?_⟩
  · rintro ⟨rhs, hv, hlt, he⟩
    obtain ⟨terms, ht, rfl⟩ := (key rhs).1 hv
    exact ⟨terms, ht, hlt, he⟩
  · rintro ⟨terms, ht, hlt, he⟩
    exact ⟨_, (key _).2 ⟨terms, ht, rfl⟩, hlt, he⟩

/-- Non-vacuity of the left-hand side for `n = 0`; for `n = 2` see `exAgg_accepted`. -/
example : (aggverify [] [] (some (Bytes.zeros 32))).ret = 1 := by decide +kernel

theorem aggverify_term_undefined (pks : List Pt) (ms : List Bytes) (agg : Bytes) (hm : ms.length = pks.length)
    (i : Nat) (hi : i < pks.length) (hnone : termSpec agg (List.zip pks ms) i = none) :
    (aggverify pks ms (some agg)).ret = 0 := by
  rcases C17.aggverify_ret01 pks ms (some agg) with h | h
  · exact h
  · obtain ⟨_, terms, ht, _⟩ := (aggverify_iff_spec pks ms agg hm).1 h
    -- entry `i` of the two lists: `some none` against `Option.map some terms[i]?`
    have h' := congrArg (·[i]?) ht
    simp only [List.getElem?_map, List.getElem?_range hi, Option.map_some, hnone] at h'
    generalize terms[i]? = o at h'
    cases o <;> cases h'

/-- Clause "rejecting a wrong length, an out-of-range or off-curve value", for `secp256k1_schnorrsig_aggverify`.  In the
    order of the conjuncts: the NULL aggregate (its callback: `C17.halfagg_null`); the length; `s ≥ N` (the `overflow`
    flag of `secp256k1_scalar_set_b32`); `r_i ≥ p` (`secp256k1_fe_set_b32_limit`); `r_i^3 + 7` not a square
    (`secp256k1_ge_set_xo_var`; the `bind` covers the previous case too); an invalid key object
    (`secp256k1_xonly_pubkey_load`).  The last three are read off `aggverify_iff_spec`: the term is undefined. -/
theorem aggverify_guards (pks : List Pt) (ms : List Bytes) (agg : Bytes) (hm : ms.length = pks.length) :
    (aggverify pks ms none).ret = 0 ∧
    (agg.length ≠ 32 * (pks.length + 1) → (aggverify pks ms (some agg)).ret = 0) ∧
    (Bytes.toNat (chunk32 agg pks.length) ≥ N → (aggverify pks ms (some agg)).ret = 0) ∧
    (∀ i, i < pks.length → Bytes.toNat (chunk32 agg i) ≥ P → (aggverify pks ms (some agg)).ret = 0) ∧
    (∀ i, i < pks.length → (Codec.feLimit (chunk32 agg i)).bind (fun rx => Pt.liftX rx false) = none →
      (aggverify pks ms (some agg)).ret = 0) ∧
    (∀ i, i < pks.length → pks[i]? = some Pt.inf → (aggverify pks ms (some agg)).ret = 0) := by
  have hcurve : ∀ i, i < pks.length → (Codec.feLimit (chunk32 agg i)).bind (fun rx => Pt.liftX rx false) = none →
      (aggverify pks ms (some agg)).ret = 0 := fun i hi hr => by
    apply aggverify_term_undefined pks ms agg hm i hi
    unfold termSpec
    cases (List.zip pks ms)[i]? with
    | none => rfl
    | some pm =>
      obtain ⟨pk, m⟩ := pm
      cases pk with
      | inf => rfl
      | aff px py =>
        cases hf : Codec.feLimit (chunk32 agg i) with
        | none => rfl
        | some rx =>
          rw [hf] at hr
          simp only [Option.bind_some] at hr
          simp only [hr]
  refine ⟨rfl, fun h => (C17.halfagg_len pks ms agg h).1, fun hs => ?_, fun i hi hr => hcurve i hi ?_, hcurve,
    fun i hi hk => ?_⟩
  · -- `s ≥ N`
    rcases aggverify_cases pks ms agg with ⟨h | h, hiff⟩
    · exact h
    · obtain ⟨_, _, _, hlt, _⟩ := hiff.1 h
      omega
  · -- `r_i ≥ p`: `feLimit` fails
    have : ¬ Bytes.toNat (chunk32 agg i) < P := by omega
    simp [Codec.feLimit, this]
  · -- an invalid key object
    apply aggverify_term_undefined pks ms agg hm i hi
    unfold termSpec
    cases hz : (List.zip pks ms)[i]? with
    | none => rfl
    | some pm =>
      obtain ⟨pk, m⟩ := pm
      have := (List.getElem?_zip_eq_some.1 hz).1
      rw [hk] at this
      simp only [Option.some.injEq] at this
      subst this
      rfl

/-- Clause "aggregating valid BIP-340 signatures yields an aggregate that aggregate verification accepts for the same
    (key, message) pairs", for `secp256k1_schnorrsig_aggregate` and `_aggverify`.  Why `gl` stays a hypothesis: head of
    the file.

    NOT proved: that `Schnorr.verify = 1` implies `bip340Holds`.  `Schnorr.verify` checks `(-e_i) • P_i + s_i • G = R_i`;
    passing from it to `s_i • G = R_i + e_i • P_i` needs `N • P_i = ∞` for arbitrary curve points, which the `GroupLaw`
    interface has for `G` only.  Hence `hok` is the equation itself; `sgE1` below satisfies both forms. -/
theorem agg_complete (gl : GroupLaw) (buf : Bytes) (xs : List Entry)
    (hsig : ∀ e ∈ xs, e.2.2.length = 64) (hn : xs.length < sizeMax)
    (hbuf : 32 * (xs.length + 1) ≤ buf.length)
    (hok : ∀ e ∈ xs, bip340Holds e = true) :
    let r := aggregate buf (keys xs) (msgs xs) (sigs xs)
    r.ret = 1 ∧ (aggBytes r).length = 32 * (xs.length + 1) ∧
    (aggverify (keys xs) (msgs xs) (some (aggBytes r))).ret = 1 := by
  intro r
  have hkeys : ∀ e ∈ xs, e.1 ≠ Pt.inf := fun e he => key_valid_of_bip340Holds e (hok e he)
  have hret : r.ret = 1 := (aggregate_ok_iff buf xs hn).2 ⟨hbuf, hkeys⟩
  have hlrs := length_rs xs hsig
  obtain ⟨h1, S, hx, hS, hr⟩ := aggregate_ok buf xs hn hret
  have hagg : aggBytes r = rs xs ++ Bytes.be32 S := by
    rw [show r = _ from hr]; exact take_rs_be32 xs hsig S _
  have hlen : (aggBytes r).length = 32 * (xs.length + 1) := (aggregate_length buf xs hsig hn hret).2.1
  refine ⟨hret, hlen, ?_⟩
  -- the verification loop, run on the bytes the aggregator wrote, ends with `S • G`, `S` the aggregator's scalar
  have hloop := verifyLoop_complete gl [] (Bytes.be32 S) 0 xs tagAgg 0 _ rfl hsig hok (by decide +kernel) hx
  rw [gl.mul_zero, List.nil_append, ← hagg] at hloop
  have hchunk : chunk32 (aggBytes r) xs.length = Bytes.be32 S := by
    rw [hagg]
    simpa using chunk32_mid (rs xs) (Bytes.be32 S) [] xs.length hlrs (Bytes.be32_length _)
  have hS' : Bytes.toNat (chunk32 (aggBytes r) (keys xs).length) = S := by
    rw [length_keys, hchunk, Bytes.toNat_be32_of_lt_N hS]
  exact (aggverify_cases _ _ _).2.2 ⟨by rw [hlen, length_keys], _, by rw [zip_keys_msgs]; exact hloop,
    by rw [hS']; exact hS, by rw [hS']; exact neg_add_self_mulG gl S (by have := GroupLaw.two_N_lt_mulBound; omega)⟩

/-- Two entries with genuine BIP-340 signatures, made with the model's `Schnorr.signInternal` for the secret keys 3 and 5
    and pasted as literals, so that the kernel does not have to sign. -/
def sgE1 : Entry :=
  (Pt.aff 0xf9308a019258c31049344f85f89d5229b531c845836f99b08601f113bce036f9
    0x388f7b0f632de8140fe337e62a37f3566500a99934c2231b6cb9fd7584b8e672,
   List.replicate 32 17,
   [0x80, 0x2c, 0xb0, 0x66, 0x82, 0x60, 0x37, 0xb9, 0xc4, 0xc2, 0x23, 0xab, 0x75, 0x54, 0x16, 0x37, 0xf5, 0x84, 0xfa, 0x99, 0x08, 0x0d, 0x46, 0x29, 0xed, 0x37, 0x49, 0x08, 0xa2, 0x41, 0x43, 0xc7, 0xd0, 0x71, 0x40, 0x81, 0x51, 0x88, 0x20, 0x93, 0xa4, 0x00, 0x2b, 0x71, 0x9b, 0xd7, 0x16, 0x8b, 0xf3, 0xfd, 0xc0, 0xa9, 0x7c, 0x0c, 0x2d, 0xe6, 0x87, 0xff, 0xf5, 0xb5, 0xc8, 0x9a, 0xa7, 0x12])
def sgE2 : Entry :=
  (Pt.aff 0x2f8bde4d1a07209355b4a7250a5c5128e88b84bddc619ab7cba8d569b240efe4
    0xd8ac222636e5e3d6d4dba9dda6c9c426f788271bab0d6840dca87d3aa6ac62d6,
   List.replicate 32 34,
   [0xb7, 0xb8, 0xf8, 0x32, 0x8f, 0x37, 0x10, 0x0d, 0xa8, 0xe4, 0x6d, 0xbb, 0xb6, 0xb2, 0xb2, 0xb8, 0x7c, 0x93, 0x79, 0x53, 0x35, 0x88, 0xa8, 0x86, 0x1f, 0x34, 0xf0, 0xa3, 0xab, 0x5a, 0x73, 0xda, 0x3e, 0x74, 0x29, 0x4d, 0x72, 0x58, 0x88, 0x85, 0xca, 0xab, 0xd4, 0x99, 0xee, 0x1d, 0xc1, 0xe6, 0x33, 0x77, 0x39, 0x61, 0x09, 0x1a, 0xb9, 0x15, 0xe9, 0xd1, 0x51, 0x8f, 0x46, 0xb5, 0xc4, 0x7c])

def exAgg : Bytes :=
  aggBytes (aggregate (Bytes.zeros 96) (keys [sgE1, sgE2]) (msgs [sgE1, sgE2]) (sigs [sgE1, sgE2]))

/-- `sgE1` is accepted by `secp256k1_schnorrsig_verify` (so is `sgE2`) … -/
example : (Schnorr.verify sgE1.2.2 sgE1.2.1 sgE1.1).ret = 1 := by decide +kernel

/-- … and both satisfy the hypotheses of `agg_complete`. -/
example : bip340Holds sgE1 = true := by decide +kernel
example : bip340Holds sgE2 = true := by decide +kernel
example : (∀ e ∈ [sgE1, sgE2], e.2.2.length = 64) ∧ [sgE1, sgE2].length < sizeMax ∧
    32 * ([sgE1, sgE2].length + 1) ≤ (Bytes.zeros 96).length := by decide +kernel

/-- The conclusion of `agg_complete` on them, evaluated by the kernel without `gl`. -/
theorem exAgg_accepted : (aggverify (keys [sgE1, sgE2]) (msgs [sgE1, sgE2]) (some exAgg)).ret = 1 := by
  decide +kernel

/-- Hence the right-hand side of `aggverify_iff_spec` is satisfiable with `n = 2`. -/
example : exAgg.length = 32 * (2 + 1) ∧
    ∃ terms : List Pt,
      (List.range 2).map (termSpec exAgg (List.zip (keys [sgE1, sgE2]) (msgs [sgE1, sgE2]))) = terms.map some ∧
      Bytes.toNat (chunk32 exAgg 2) < N ∧
      Pt.add (Pt.neg (Pt.mulG (Bytes.toNat (chunk32 exAgg 2)))) (Pt.sum terms) = Pt.inf :=
  (aggverify_iff_spec (keys [sgE1, sgE2]) (msgs [sgE1, sgE2]) exAgg rfl).1 exAgg_accepted

/-- Each hypothesis of `aggverify_guards` is satisfiable, on alterations of `exAgg` (`r_1 = 5`: `5^3 + 7 = 132` is not a
    square mod `P`). -/
example : (exAgg ++ [0]).length ≠ 32 * ((keys [sgE1, sgE2]).length + 1) := by decide +kernel
example : Bytes.toNat (chunk32 (exAgg.take 64 ++ List.replicate 32 0xff) 2) ≥ N := by decide +kernel
example : Bytes.toNat (chunk32 (List.replicate 32 0xff ++ exAgg.drop 32) 0) ≥ P := by decide +kernel
example : (Codec.feLimit (chunk32 (exAgg.take 32 ++ Bytes.be32 5 ++ exAgg.drop 64) 1)).bind
    (fun rx => Pt.liftX rx false) = none := by decide +kernel
example : [sgE1.1, Pt.inf][1]? = some Pt.inf := rfl

/-- One flipped bit (the lowest of `s`) makes THIS aggregate invalid: an evaluation.  In general that is the
    unforgeability of the scheme (head of the file). -/
example : (aggverify (keys [sgE1, sgE2]) (msgs [sgE1, sgE2])
    (some (exAgg.take 95 ++ [exAgg[95]! ^^^ 1]))).ret = 0 := by decide +kernel

end Halfagg
end SecpZkp
