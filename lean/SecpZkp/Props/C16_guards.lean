import SecpZkp.Gen.Guards
/-! # C16 — the argument checks the model assumes are present at the C call sites (translator mode G)

How to read a fact, and what a mismatch means: `Props/C01_guards.lean`. -/
namespace SecpZkp.Props.C16_guards
open SecpZkp.Gen

theorem whitelist_verify_sites : Facts.whitelist_verify = [
    ⟨.scalar_set_b32, 1, false, some true⟩,
    ⟨.scalar_is_zero, 1, true, none⟩,
    ⟨.borromean_verify, 1, true, none⟩
  ] := by decide

theorem whitelist_compute_tweaked_privkey_sites : Facts.whitelist_compute_tweaked_privkey = [
    ⟨.scalar_set_b32, 1, false, some true⟩,
    ⟨.scalar_is_zero, 1, true, none⟩,
    ⟨.scalar_set_b32, 2, false, some true⟩,
    ⟨.scalar_is_zero, 2, true, none⟩,
    ⟨.scalar_is_zero, 3, true, none⟩
  ] := by decide

theorem borromean_verify_sites : Facts.borromean_verify = [
    ⟨.scalar_set_b32, 1, false, some true⟩,
    ⟨.scalar_is_zero, 1, true, none⟩,
    ⟨.scalar_is_zero, 2, true, none⟩,
    ⟨.gej_is_infinity, 1, true, none⟩,
    ⟨.gej_is_infinity, 2, true, none⟩,
    ⟨.scalar_set_b32, 2, false, some true⟩,
    ⟨.memcmp_var, 1, true, none⟩
  ] := by decide

theorem whitelist_hash_pubkey_sites : Facts.whitelist_hash_pubkey = [
    ⟨.ge_is_infinity, 1, true, none⟩,
    ⟨.scalar_set_b32, 1, false, some true⟩,
    ⟨.scalar_is_zero, 1, true, none⟩
  ] := by decide

theorem whitelist_sign_sites : Facts.whitelist_sign = [
    ⟨.ecmult_gen_context_is_built, 1, true, none⟩,
    ⟨.scalar_set_b32, 1, false, some true⟩,
    ⟨.scalar_is_zero, 1, true, none⟩,
    ⟨.scalar_set_b32, 2, false, some true⟩,
    ⟨.scalar_is_zero, 2, true, none⟩
  ] := by decide

def all : List CallFact := Facts.whitelist_verify ++ Facts.whitelist_compute_tweaked_privkey ++ Facts.borromean_verify ++ Facts.whitelist_hash_pubkey ++ Facts.whitelist_sign

/-- No overflow flag written by a scalar decoding in these functions is ignored (overwritten or never read). -/
theorem no_flag_dropped : ∀ f ∈ all, f.flag ≠ some false := by decide

/-- non-vacuity: the regenerated fact lists are not empty -/
example : all.length = 23 := by decide

end SecpZkp.Props.C16_guards
