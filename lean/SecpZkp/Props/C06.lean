import SecpZkp.Gen.K_ct
import SecpZkp.Gen.K_ct32
import SecpZkp.Proofs.MiniC
/-
  C06: secret-dependent data never steers branches or memory addresses — source-level part.

  `Gen.ct.all` is regenerated on every run by `tools/c2lean_k.py` (mode K) from the C sources of the
  current working tree (clang's typed AST → MiniC IR, callees inlined): the branch-free selection
  primitives and the arithmetic kernels that the constant-time code paths are built from, among them the complete
  constant-time point addition `secp256k1_gej_add_ge` (the list: `ct_targets_names`).

  The information-flow checker `MiniC.Taint.checkL` is run with the EMPTY labelling, under which every
  input — every limb of every operand and every flag — is SECRET (only literals and loop counters are
  public).  Its soundness theorem (`Proofs/MiniC.lean`: `Taint.checkL_sound`, specialised to this labelling
  in `Taint.checkL_nil_sound`) then gives: for any two memories whatsoever, the two executions produce
  the same leakage trace (same branch outcomes, same array indices) and agree on whether they reach a
  `return`.

  What this does NOT cover: what the compiler and the CPU do with this source (observed separately
  under valgrind), and functions not in `Gen.ct.all`.
-/
namespace SecpZkp
namespace C06
open MiniC

theorem ct_targets_typecheck :
    ∀ p ∈ Gen.ct.all, (Taint.checkL [] p.2.body).isSome = true ∧ Taint.noDeclassify p.2.body = true := by
  decide +kernel

/-- For every translated primitive the sequence of branch outcomes and array indices does not depend on any input value. -/
theorem ct_targets_leakage_independent :
    ∀ p ∈ Gen.ct.all, ∀ e1 e2 : Env,
      (execL e1 p.2.body).leak = (execL e2 p.2.body).leak ∧
      (execL e1 p.2.body).ret.isSome = (execL e2 p.2.body).ret.isSome :=
  fun p hp => Taint.checkL_nil_sound (ct_targets_typecheck p hp)

/-- guards against an empty target list making the theorems above vacuous -/
theorem ct_targets_names :
    Gen.ct.all.map (·.1) = ["fe_cmov", "fe_storage_cmov", "scalar_cmov", "scalar_cond_negate", "scalar_negate",
      "scalar_add", "scalar_is_high", "scalar_check_overflow", "scalar_is_zero", "int_cmov", "fe_normalize",
      "fe_normalizes_to_zero", "fe_negate", "fe_half", "fe_mul_inner", "fe_sqr_inner", "gej_cmov", "ge_storage_cmov",
      "gej_add_ge", "gej_double", "gej_neg", "ge_to_storage", "fe_get_b32", "scalar_mul"] := by
  decide

/-! The same primitives as compiled for the 32-bit limb configuration (10x26 field, 8x32 scalar; `-DUSE_FORCE_WIDEMUL_INT64`). -/

theorem ct32_targets_typecheck :
    ∀ p ∈ Gen.ct32.all, (Taint.checkL [] p.2.body).isSome = true ∧ Taint.noDeclassify p.2.body = true := by
  decide +kernel

theorem ct32_targets_leakage_independent :
    ∀ p ∈ Gen.ct32.all, ∀ e1 e2 : Env,
      (execL e1 p.2.body).leak = (execL e2 p.2.body).leak ∧
      (execL e1 p.2.body).ret.isSome = (execL e2 p.2.body).ret.isSome :=
  fun p hp => Taint.checkL_nil_sound (ct32_targets_typecheck p hp)

theorem ct32_targets_names : Gen.ct32.all.map (·.1) = Gen.ct.all.map (·.1) := by decide

/-- The checker is not trivially permissive: a data-dependent early exit (the mutant described in the
    property: `if (!flag) return` added to a conditional negate) is rejected. -/
example : Taint.checkL [] [.ite (.lnot (.var "flag")) [.ret (.lit 1)] [], .assign "x" (.neg 64 (.var "x"))] = none := by
  decide

end C06
end SecpZkp
