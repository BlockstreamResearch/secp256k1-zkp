import SecpZkp.Proofs.Keys
import SecpZkp.Proofs.GroupLawProved
import SecpZkp.Proofs.Heapsort
import SecpZkp.Props.C03
/-
  Property C04: secret-key and public-key operations commute (key derivation algebra).

  Conventions.  A secret key is a 32-byte string; a valid one is `Bytes.be32 d` with `0 < d < N`, and its public key is
  `Pt.mulG d = d•G`.  The functions are those of `Model/Keys.lean`; `Ret` values are `⟨return value, output object,
  number of illegal-argument callbacks⟩`; the zero objects are `Pt.inf`, `Bytes.zeros 32`, `Keys.Keypair.zero`.
  `evenSk d` is the secret key of the even-y version of `d•G`, `parityOf d` its parity bit (`Proofs/Keys.lean`).
  Every theorem is unconditional: the group law is the theorem `groupLaw`, installed at the start of each proof.

  The clause about sorting is in `Props/C04_sort.lean`; `Proofs/Heapsort.lean` is imported for its `Bytes.cmp` lemmas
  (`cmp_spec`), `Props/C03.lean` for the serialize → parse round trip (`serialize33_injective`).
-/
namespace SecpZkp
namespace C04
open SecpZkp.Algebra SecpZkp.KeysLemmas

/-- `secp256k1_ec_pubkey_create`.  Stated for byte strings of any length; the C function reads exactly 32 bytes. -/
theorem pubkeyCreate_iff (sk : Bytes) :
    ((Keys.pubkeyCreate sk).1 = 1 ↔ 0 < Bytes.toNat sk ∧ Bytes.toNat sk < N) ∧
    ((Keys.pubkeyCreate sk).1 = 1 →
      (Keys.pubkeyCreate sk).2 = Pt.mulG (Bytes.toNat sk) ∧
      (Keys.pubkeyCreate sk).2.valid = true ∧ (Keys.pubkeyCreate sk).2 ≠ Pt.inf) ∧
    ((Keys.pubkeyCreate sk).1 ≠ 1 → Keys.pubkeyCreate sk = (0, Pt.inf)) := by
  have : HasGroupLaw := ⟨groupLaw⟩
  by_cases h : 0 < Bytes.toNat sk ∧ Bytes.toNat sk < N
  · simp [pubkeyCreate_eq, h, pub_valid h.2, mulG_ne_inf h.1 h.2]
  · simp [pubkeyCreate_eq, h]

theorem seckeyVerify_iff (sk : Bytes) :
    Keys.seckeyVerify sk = 1 ↔ (Keys.pubkeyCreate sk).1 = 1 := by
  rw [(pubkeyCreate_iff sk).1, seckeyVerify_eq]
  by_cases h : 0 < Bytes.toNat sk ∧ Bytes.toNat sk < N <;> simp [h]

theorem pubkeyCreate_be32 (d : Nat) (hd0 : 0 < d) (hdN : d < N) :
    Keys.pubkeyCreate (Bytes.be32 d) = (1, Pt.mulG d) := KeysLemmas.pubkeyCreate_be32 hd0 hdN

theorem pubkeyCreate_injective (sk₁ sk₂ : Bytes) (h₁ : sk₁.length = 32) (h₂ : sk₂.length = 32)
    (hv₁ : (Keys.pubkeyCreate sk₁).1 = 1) (hv₂ : (Keys.pubkeyCreate sk₂).1 = 1)
    (h : (Keys.pubkeyCreate sk₁).2 = (Keys.pubkeyCreate sk₂).2) : sk₁ = sk₂ := by
  have : HasGroupLaw := ⟨groupLaw⟩
  have a₁ := (pubkeyCreate_iff sk₁).1.1 hv₁
  have a₂ := (pubkeyCreate_iff sk₂).1.1 hv₂
  rw [((pubkeyCreate_iff sk₁).2.1 hv₁).1, ((pubkeyCreate_iff sk₂).2.1 hv₂).1] at h
  have := pub_inj a₁.2 a₂.2 h
  rw [← Bytes.be32_toNat sk₁ h₁, ← Bytes.be32_toNat sk₂ h₂, this]

example : Keys.pubkeyCreate (Bytes.be32 1) = (1, Pt.G) := by decide +kernel
example : Keys.pubkeyCreate (Bytes.be32 0) = (0, Pt.inf) ∧ Keys.pubkeyCreate (Bytes.be32 N) = (0, Pt.inf) ∧
    Keys.pubkeyCreate (Bytes.be32 (2 ^ 256 - 1)) = (0, Pt.inf) := by decide +kernel

/-- `secp256k1_ec_seckey_tweak_add` and `_ec_pubkey_tweak_add` commute: on a valid key they fail together, with zeroed
outputs, and on success the new public key is that of the new secret key. -/
theorem tweak_add_comm (d : Nat) (t : Bytes) (hd0 : 0 < d) (hdN : d < N) :
    let s := Keys.seckeyTweakAdd (Bytes.be32 d) t
    let p := Keys.pubkeyTweakAdd (Pt.mulG d) t
    let fails := N ≤ Bytes.toNat t ∨ (d + Bytes.toNat t) % N = 0
    (s.1 = 1 ↔ ¬ fails) ∧ (p.ret = 1 ↔ ¬ fails) ∧
    (¬ fails →
      s.2 = Bytes.be32 ((d + Bytes.toNat t) % N) ∧ p.out = Pt.mulG ((d + Bytes.toNat t) % N) ∧
      0 < Bytes.toNat s.2 ∧ Bytes.toNat s.2 < N ∧ p.out = Pt.mulG (Bytes.toNat s.2) ∧
      Keys.pubkeyCreate s.2 = (1, p.out) ∧ p.illegal = 0) ∧
    (fails → s = (0, Bytes.zeros 32) ∧ p.ret = 0 ∧ p.out = Pt.inf ∧ p.illegal = 0) := by
  have : HasGroupLaw := ⟨groupLaw⟩
  exact tweak_comm_of_eq (seckeyTweakAdd_be32 hd0 hdN t) (pubkeyTweakAdd_pub hd0 hdN t) ge_or_eq_zero_iff_not
    fun hc => ⟨Nat.pos_of_ne_zero hc.2, Nat.mod_lt _ N_pos⟩

theorem seckey_ops_invalid (sk t : Bytes) (h : ¬ (0 < Bytes.toNat sk ∧ Bytes.toNat sk < N)) :
    Keys.seckeyTweakAdd sk t = (0, Bytes.zeros 32) ∧ Keys.seckeyTweakMul sk t = (0, Bytes.zeros 32) ∧
    Keys.seckeyNegate sk = (0, Bytes.zeros 32) ∧ Keys.pubkeyCreate sk = (0, Pt.inf) ∧
    Keys.keypairCreate sk = (0, Keys.Keypair.zero) := by
  rw [seckeyTweakAdd_eq, seckeyTweakMul_eq, seckeyNegate_eq, pubkeyCreate_eq, keypairCreate_eq]
  simp [h]

/-- One illegal-argument callback for the zero public-key object, except in `tweak_mul` with an overflowing tweak, which
returns before loading the key. -/
theorem pubkey_ops_invalid (t : Bytes) :
    Keys.pubkeyTweakAdd .inf t = ⟨0, .inf, 1⟩ ∧ Keys.pubkeyNegate .inf = ⟨0, .inf, 1⟩ ∧
    (Bytes.toNat t < N → Keys.pubkeyTweakMul .inf t = ⟨0, .inf, 1⟩) ∧
    (N ≤ Bytes.toNat t → Keys.pubkeyTweakMul .inf t = ⟨0, .inf, 0⟩) := by
  rw [pubkeyTweakAdd_eq, pubkeyNegate_eq, pubkeyTweakMul_eq]
  simp +contextual

/-- Boundary values: the tweak `N - 5 = -key` (sum 0), the tweak `N` (overflow), and `d = N - 1`, `t = 2` (wrap-around to
`1`).  `sameXY` is equality of points (`sameXY_iff`). -/
example : Keys.seckeyTweakAdd (Bytes.be32 5) (Bytes.be32 7) = (1, Bytes.be32 12) ∧
    (Keys.pubkeyTweakAdd (Pt.mulG 5) (Bytes.be32 7)).ret = 1 ∧
    sameXY (Keys.pubkeyTweakAdd (Pt.mulG 5) (Bytes.be32 7)).out (Pt.mulG 12) := by decide +kernel
example : Keys.seckeyTweakAdd (Bytes.be32 5) (Bytes.be32 (N - 5)) = (0, Bytes.zeros 32) ∧
    (Keys.pubkeyTweakAdd (Pt.mulG 5) (Bytes.be32 (N - 5))).ret = 0 ∧
    (Keys.pubkeyTweakAdd (Pt.mulG 5) (Bytes.be32 (N - 5))).out = Pt.inf := by decide +kernel
example : Keys.seckeyTweakAdd (Bytes.be32 5) (Bytes.be32 N) = (0, Bytes.zeros 32) ∧
    (Keys.pubkeyTweakAdd (Pt.mulG 5) (Bytes.be32 N)).ret = 0 := by decide +kernel
example : Keys.seckeyTweakAdd (Bytes.be32 (N - 1)) (Bytes.be32 2) = (1, Bytes.be32 1) ∧
    sameXY (Keys.pubkeyTweakAdd (Pt.mulG (N - 1)) (Bytes.be32 2)).out Pt.G := by decide +kernel

/-- `pubkey_tweak_add` on an ARBITRARY valid public key `Q`: not necessarily of the form `d•G`, no assumption on its
order. -/
theorem pubkeyTweakAdd_general (Q : Pt) (t : Bytes) (hQ : Q.valid = true) :
    let p := Keys.pubkeyTweakAdd Q t
    (p.ret = 1 ↔ Q ≠ Pt.inf ∧ Bytes.toNat t < N ∧ Q ≠ Pt.neg (Pt.mulG (Bytes.toNat t))) ∧
    (p.ret = 1 → p.out = Pt.add Q (Pt.mulG (Bytes.toNat t)) ∧ p.out.valid = true ∧ p.out ≠ Pt.inf) ∧
    (p.ret ≠ 1 → p.ret = 0 ∧ p.out = Pt.inf) := by
  have : HasGroupLaw := ⟨groupLaw⟩
  have : Fact (Nat.Prime P) := ⟨SecpZkp.prime_P⟩
  intro p
  rw [show p = _ from pubkeyTweakAdd_eq Q t]
  by_cases hQi : Q = .inf
  · simp [hQi]
  by_cases ht : Bytes.toNat t < N
  · have hv : (Pt.mulG (Bytes.toNat t)).valid = true := pub_valid ht
    have hiff : Q = Pt.neg (Pt.mulG (Bytes.toNat t)) ↔ Pt.add Q (Pt.mulG (Bytes.toNat t)) = .inf := by
      rw [gl.add_comm _ _ hQ hv]; exact (add_eq_inf_iff hv hQ).symm
    by_cases h2 : Pt.add Q (Pt.mulG (Bytes.toNat t)) = .inf <;>
      simp [hQi, ht, h2, hiff, gl.valid_add _ _ hQ hv]
  · simp [hQi, ht]

/-- `secp256k1_ec_seckey_tweak_mul` and `_ec_pubkey_tweak_mul` commute, as `tweak_add_comm`; in particular the new
public key is never the point at infinity. -/
theorem tweak_mul_comm (d : Nat) (t : Bytes) (hd0 : 0 < d) (hdN : d < N) :
    let s := Keys.seckeyTweakMul (Bytes.be32 d) t
    let p := Keys.pubkeyTweakMul (Pt.mulG d) t
    let fails := N ≤ Bytes.toNat t ∨ Bytes.toNat t = 0
    (s.1 = 1 ↔ ¬ fails) ∧ (p.ret = 1 ↔ ¬ fails) ∧
    (¬ fails →
      s.2 = Bytes.be32 (d * Bytes.toNat t % N) ∧ p.out = Pt.mulG (d * Bytes.toNat t % N) ∧
      0 < Bytes.toNat s.2 ∧ Bytes.toNat s.2 < N ∧ p.out = Pt.mulG (Bytes.toNat s.2) ∧
      Keys.pubkeyCreate s.2 = (1, p.out) ∧ p.illegal = 0) ∧
    (fails → s = (0, Bytes.zeros 32) ∧ p.ret = 0 ∧ p.out = Pt.inf ∧ p.illegal = 0) := by
  have : HasGroupLaw := ⟨groupLaw⟩
  exact tweak_comm_of_eq (seckeyTweakMul_be32 hd0 hdN t) (pubkeyTweakMul_pub hd0 hdN t) ge_or_eq_zero_iff_not
    fun hc => ⟨mul_mod_N_pos hd0 hdN (Nat.pos_of_ne_zero hc.2) hc.1, Nat.mod_lt _ N_pos⟩

example : Keys.seckeyTweakMul (Bytes.be32 5) (Bytes.be32 7) = (1, Bytes.be32 35) ∧
    (Keys.pubkeyTweakMul (Pt.mulG 5) (Bytes.be32 7)).ret = 1 ∧
    sameXY (Keys.pubkeyTweakMul (Pt.mulG 5) (Bytes.be32 7)).out (Pt.mulG 35) := by decide +kernel
example : Keys.seckeyTweakMul (Bytes.be32 5) (Bytes.be32 0) = (0, Bytes.zeros 32) ∧
    (Keys.pubkeyTweakMul (Pt.mulG 5) (Bytes.be32 0)).ret = 0 ∧
    Keys.seckeyTweakMul (Bytes.be32 5) (Bytes.be32 N) = (0, Bytes.zeros 32) ∧
    (Keys.pubkeyTweakMul (Pt.mulG 5) (Bytes.be32 N)).ret = 0 := by decide +kernel
example : Keys.seckeyTweakMul (Bytes.be32 (N - 1)) (Bytes.be32 (N - 1)) = (1, Bytes.be32 1) := by
  decide +kernel

theorem pubkeyTweakMul_general (Q : Pt) (t : Bytes) :
    let p := Keys.pubkeyTweakMul Q t
    (p.ret = 1 ↔ Q ≠ Pt.inf ∧ Bytes.toNat t < N ∧ Bytes.toNat t ≠ 0) ∧
    (p.ret = 1 → p.out = Pt.mul (Bytes.toNat t) Q ∧ p.illegal = 0) ∧
    (p.ret ≠ 1 → p.ret = 0 ∧ p.out = Pt.inf) := by
  intro p
  rw [show p = _ from pubkeyTweakMul_eq Q t]
  split_ifs with h1 h2 h3 <;> simp [*, Nat.not_lt.2, Nat.not_le.1]

/-- PARTIAL: `hN` (the order of `Q` divides `N`) cannot be dropped here.  The full statement, that a successful
`pubkey_tweak_mul` on ANY valid key never yields the point at infinity (which `secp256k1_pubkey_save` could not store),
needs "every valid point has order dividing N", i.e. cofactor 1, which is not proved.  For keys of the form `d•G` the
hypothesis holds and the statement is part of `tweak_mul_comm`. -/
theorem pubkeyTweakMul_ne_inf_partial (Q : Pt) (t : Bytes) (hQ : Q.valid = true)
    (hN : Pt.mul N Q = Pt.inf) (h : (Keys.pubkeyTweakMul Q t).ret = 1) :
    (Keys.pubkeyTweakMul Q t).out ≠ Pt.inf ∧ (Keys.pubkeyTweakMul Q t).out.valid = true := by
  have : HasGroupLaw := ⟨groupLaw⟩
  obtain ⟨hQi, ht, ht0⟩ := (pubkeyTweakMul_general Q t).1.1 h
  rw [((pubkeyTweakMul_general Q t).2.1 h).1]
  have hk := lt_mulBound_of_lt_N ht
  refine ⟨?_, Algebra.valid_mul hk hQ⟩
  have hQ0 := nsmul_N_of_mul_N hQ hN
  have hne : (⟨Q, hQ⟩ : VPt) ≠ 0 := fun h0 => hQi (congrArg Subtype.val h0)
  intro hinf
  have h1 : smulHom ⟨Q, hQ⟩ hQ0 (Bytes.toNat t : ZMod N) = 0 := by
    rw [smulHom_natCast]; exact Subtype.ext (by rw [← mul_eq_nsmul hk]; exact hinf)
  have h2 := (smulHom_injective _ hQ0 hne) (h1.trans (map_zero _).symm)
  exact ht0 ((cast_eq_zero ht).1 h2)

/-- The hypothesis of the partial theorem is satisfiable (any `d•G`). -/
example : (Pt.mulG 5).valid = true ∧ Pt.mul N (Pt.mulG 5) = Pt.inf ∧
    (Keys.pubkeyTweakMul (Pt.mulG 5) (Bytes.be32 7)).ret = 1 := by decide +kernel

/-- `secp256k1_ec_seckey_negate` and `_ec_pubkey_negate` commute with `pubkey_create`, for EVERY string `sk`: for an
invalid one both sides end in the zero object, and `pubkey_negate` of it raises the callback. -/
theorem negate_comm (sk : Bytes) :
    let ok := 0 < Bytes.toNat sk ∧ Bytes.toNat sk < N
    let s := Keys.seckeyNegate sk
    let p := Keys.pubkeyNegate (Keys.pubkeyCreate sk).2
    (s.1 = 1 ↔ ok) ∧ (p.ret = 1 ↔ ok) ∧
    (Keys.pubkeyCreate s.2).2 = p.out ∧ (Keys.pubkeyCreate s.2).1 = p.ret ∧
    (ok → s.2 = Bytes.be32 (N - Bytes.toNat sk) ∧ p.out = Pt.mulG (N - Bytes.toNat sk) ∧
      p.out = Pt.neg (Pt.mulG (Bytes.toNat sk)) ∧ p.out ≠ Pt.inf ∧ p.illegal = 0) ∧
    (¬ ok → s = (0, Bytes.zeros 32) ∧ p.ret = 0 ∧ p.out = Pt.inf ∧ p.illegal = 1) := by
  have : HasGroupLaw := ⟨groupLaw⟩
  intro ok s p
  have hs : s = _ := seckeyNegate_eq sk
  have hp : p = Keys.pubkeyNegate (Keys.pubkeyCreate sk).2 := rfl
  rw [pubkeyCreate_eq] at hp
  by_cases h : 0 < Bytes.toNat sk ∧ Bytes.toNat sk < N
  · have h' : 0 < N - Bytes.toNat sk ∧ N - Bytes.toNat sk < N := by omega
    have hok : ok := h
    rw [if_pos h] at hs hp
    rw [pubkeyNegate_pub h.1 h.2] at hp
    -- the `let`-bound results become variables, so that their normal forms can be substituted
    clear_value s p ok
    subst hs hp
    simp [hok, KeysLemmas.pubkeyCreate_be32 h'.1 h'.2, pub_neg_sub h.1 h.2, mulG_ne_inf h'.1 h'.2]
  · have hok : ¬ ok := h
    rw [if_neg h] at hs hp
    clear_value s p ok
    subst hs hp
    have hz : Keys.pubkeyCreate (Bytes.zeros 32) = (0, Pt.inf) := by
      rw [pubkeyCreate_eq, Bytes.zeros, Bytes.toNat_replicate_zero]; rfl
    simp [hok, hz, Keys.pubkeyNegate]

theorem negate_comm_be32 (d : Nat) (hd0 : 0 < d) (hdN : d < N) :
    Keys.seckeyNegate (Bytes.be32 d) = (1, Bytes.be32 (N - d)) ∧
    Keys.pubkeyNegate (Pt.mulG d) = ⟨1, Pt.mulG (N - d), 0⟩ ∧ 0 < N - d ∧ N - d < N := by
  have : HasGroupLaw := ⟨groupLaw⟩
  exact ⟨seckeyNegate_be32 hd0 hdN, pubkeyNegate_pub hd0 hdN, by omega, by omega⟩

example : Keys.seckeyNegate (Bytes.be32 5) = (1, Bytes.be32 (N - 5)) ∧
    (Keys.pubkeyNegate (Pt.mulG 5)).ret = 1 ∧
    sameXY (Keys.pubkeyNegate (Pt.mulG 5)).out (Pt.mulG (N - 5)) := by decide +kernel
example : Keys.seckeyNegate (Bytes.be32 0) = (0, Bytes.zeros 32) ∧
    Keys.seckeyNegate (Bytes.be32 N) = (0, Bytes.zeros 32) := by decide +kernel

/-- `secp256k1_xonly_pubkey_from_pubkey`, and `_xonly_pubkey_serialize` of its result. -/
theorem xonly_from_pubkey_spec (pk : Pt) (hv : pk.valid = true) :
    let r := Keys.xonlyFromPubkey pk
    (pk = Pt.inf → r.ret = 0 ∧ r.out = (Pt.inf, 0) ∧ r.illegal = 1) ∧
    (pk ≠ Pt.inf → r.ret = 1 ∧ r.illegal = 0 ∧
      r.out.1.valid = true ∧ r.out.1 ≠ Pt.inf ∧ r.out.1.xOf = pk.xOf ∧ Fe.isOdd r.out.1.yOf = false ∧
      r.out.2 = (if Fe.isOdd pk.yOf then 1 else 0) ∧
      r.out.1 = (if Fe.isOdd pk.yOf then Pt.neg pk else pk) ∧
      Keys.xonlySerialize r.out.1 = ⟨1, Bytes.be32 pk.xOf, 0⟩) := by
  have : HasGroupLaw := ⟨groupLaw⟩
  intro r
  cases pk with
  | inf => exact ⟨fun _ => ⟨rfl, rfl, rfl⟩, fun h => absurd rfl h⟩
  | aff x y =>
    obtain ⟨h1, h2, h3, h4, h5, h6⟩ := evenY_valid hv
    refine ⟨fun h => Pt.noConfusion h, fun _ => ⟨rfl, rfl, h1, h2, h3, h4, h5, h6, ?_⟩⟩
    show Keys.xonlySerialize (Keys.evenY (.aff x y)).1 = _
    rw [h6]
    by_cases ho : Fe.isOdd y = true
    · rw [if_pos ho]; rfl
    · rw [if_neg ho]; rfl

theorem xonly_from_pubkey_pub (d : Nat) (hd0 : 0 < d) (hdN : d < N) :
    Keys.xonlyFromPubkey (Pt.mulG d) = ⟨1, (Pt.mulG (evenSk d), parityOf d), 0⟩ := by
  have : HasGroupLaw := ⟨groupLaw⟩
  rw [xonlyFromPubkey_eq, if_neg (mulG_ne_inf hd0 hdN), evenY_pub hd0 hdN]

/-- Non-vacuity: `5•G` has even y (kept), `6•G` has odd y (negated: the x-only key is `(N-6)•G`). -/
example : parityOf 5 = 0 ∧ evenSk 5 = 5 ∧ parityOf 6 = 1 ∧ evenSk 6 = N - 6 := by decide +kernel
example : (Pt.mulG 6).valid = true ∧ (Keys.xonlyFromPubkey (Pt.mulG 6)).ret = 1 ∧
    (Keys.xonlyFromPubkey (Pt.mulG 6)).out.2 = 1 ∧
    (Keys.xonlyFromPubkey (Pt.mulG 6)).out.1.xOf = (Pt.mulG 6).xOf ∧
    Fe.isOdd (Keys.xonlyFromPubkey (Pt.mulG 6)).out.1.yOf = false := by decide +kernel

/-- `secp256k1_keypair_xonly_tweak_add` and `_xonly_pubkey_tweak_add` commute.  `kp` is what `keypair_create` returns
(first conjunct); the scalar is `e = evenSk d`: the keypair tweak negates the secret key iff `d•G` has odd y.  On
success the new keypair is again what `keypair_create` returns for its secret key. -/
theorem keypair_xonly_tweak_add_comm (d : Nat) (t : Bytes) (hd0 : 0 < d) (hdN : d < N) :
    let kp : Keys.Keypair := ⟨Bytes.be32 d, Pt.mulG d⟩
    let r := Keys.keypairXonlyTweakAdd kp t
    let x := Keys.xonlyTweakAdd (Keys.xonlyFromPubkey (Pt.mulG d)).out.1 t
    let e := evenSk d
    let fails := N ≤ Bytes.toNat t ∨ (e + Bytes.toNat t) % N = 0
    Keys.keypairCreate (Bytes.be32 d) = (1, kp) ∧
    (r.ret = 1 ↔ ¬ fails) ∧ (x.ret = 1 ↔ ¬ fails) ∧
    (¬ fails →
      r.out.sk = Bytes.be32 ((e + Bytes.toNat t) % N) ∧ r.out.pk = Pt.mulG ((e + Bytes.toNat t) % N) ∧
      r.out.pk = x.out ∧ 0 < Bytes.toNat r.out.sk ∧ Bytes.toNat r.out.sk < N ∧
      r.out.pk = Pt.mulG (Bytes.toNat r.out.sk) ∧ Keys.keypairCreate r.out.sk = (1, r.out) ∧
      r.illegal = 0 ∧ x.illegal = 0) ∧
    (fails → r.ret = 0 ∧ r.out = Keys.Keypair.zero ∧ x.ret = 0 ∧ x.out = Pt.inf) := by
  have : HasGroupLaw := ⟨groupLaw⟩
  intro kp r x e fails
  have he := evenSk_pos_lt hd0 hdN
  have hr : r = _ := keypairXonlyTweakAdd_valid hd0 hdN t
  have hx : x = Keys.pubkeyTweakAdd (Keys.xonlyFromPubkey (Pt.mulG d)).out.1 t := rfl
  rw [xonly_from_pubkey_pub d hd0 hdN, pubkeyTweakAdd_pub he.1 he.2] at hx
  have hf : fails ↔ ¬ _ := ge_or_eq_zero_iff_not
  have he' : e = evenSk d := rfl
  refine ⟨keypairCreate_be32 hd0 hdN, ?_⟩
  clear_value r x fails e
  subst hr hx he'
  by_cases hc : Bytes.toNat t < N ∧ (evenSk d + Bytes.toNat t) % N ≠ 0
  · have hN := Nat.mod_lt (evenSk d + Bytes.toNat t) N_pos
    have h0 := Nat.pos_of_ne_zero hc.2
    simp [hc, hf, Bytes.toNat_be32_of_lt_N hN, h0, hN, keypairCreate_be32 h0 hN]
  · simp [hc, hf]

theorem keypair_xonly_tweak_add_invalid (kp : Keys.Keypair) (t : Bytes)
    (h : kp.pk = Pt.inf ∨ ¬ (0 < Bytes.toNat kp.sk ∧ Bytes.toNat kp.sk < N)) :
    (Keys.keypairXonlyTweakAdd kp t).ret = 0 ∧ (Keys.keypairXonlyTweakAdd kp t).out = Keys.Keypair.zero ∧
    (Keys.keypairXonlyTweakAdd kp t).illegal = 1 := by
  have hl : Keys.keypairLoad kp true = (false, 1, Pt.G, 1) := by
    unfold Keys.keypairLoad
    cases hpk : kp.pk with
    | inf => rfl
    | aff x y =>
      rcases h with h | h
      · rw [hpk] at h; exact Pt.noConfusion h
      · simp only [Sc.setB32Seckey_eq]
        simp [h]
  unfold Keys.keypairXonlyTweakAdd
  rw [hl]
  simp only []
  split <;> simp

/-- Non-vacuity (even-y key `5•G`: secret key kept; odd-y key `6•G`: secret key negated first, so tweaking
by `t = 6` is the failure case `-6 + 6 = 0`). -/
example :
    (Keys.keypairXonlyTweakAdd ⟨Bytes.be32 5, Pt.mulG 5⟩ (Bytes.be32 7)).ret = 1 ∧
    (Keys.keypairXonlyTweakAdd ⟨Bytes.be32 5, Pt.mulG 5⟩ (Bytes.be32 7)).out.sk = Bytes.be32 12 ∧
    sameXY (Keys.keypairXonlyTweakAdd ⟨Bytes.be32 5, Pt.mulG 5⟩ (Bytes.be32 7)).out.pk (Pt.mulG 12) := by
  decide +kernel
example :
    (Keys.keypairXonlyTweakAdd ⟨Bytes.be32 6, Pt.mulG 6⟩ (Bytes.be32 7)).ret = 1 ∧
    (Keys.keypairXonlyTweakAdd ⟨Bytes.be32 6, Pt.mulG 6⟩ (Bytes.be32 7)).out.sk = Bytes.be32 1 ∧
    sameXY (Keys.keypairXonlyTweakAdd ⟨Bytes.be32 6, Pt.mulG 6⟩ (Bytes.be32 7)).out.pk Pt.G ∧
    (Keys.keypairXonlyTweakAdd ⟨Bytes.be32 6, Pt.mulG 6⟩ (Bytes.be32 6)).ret = 0 ∧
    (Keys.xonlyTweakAdd (Keys.xonlyFromPubkey (Pt.mulG 6)).out.1 (Bytes.be32 6)).ret = 0 := by
  decide +kernel

/-- `secp256k1_xonly_pubkey_tweak_add_check` against `_xonly_pubkey_tweak_add`, for every internal-key object and a
`tweaked32` of any length. -/
theorem tweak_add_check_iff (tweaked32 : Bytes) (parity : Nat) (xpk : Pt) (t : Bytes) :
    ((Keys.xonlyTweakAddCheck tweaked32 parity xpk t).ret = 1 ↔
      (Keys.xonlyTweakAdd xpk t).ret = 1 ∧
      Bytes.be32 (Keys.xonlyTweakAdd xpk t).out.xOf = tweaked32 ∧
      (if Fe.isOdd (Keys.xonlyTweakAdd xpk t).out.yOf then 1 else 0) = parity) ∧
    ((Keys.xonlyTweakAddCheck tweaked32 parity xpk t).ret ≠ 1 →
      (Keys.xonlyTweakAddCheck tweaked32 parity xpk t).ret = 0) ∧
    (Keys.xonlyTweakAddCheck tweaked32 parity xpk t).illegal = (Keys.xonlyTweakAdd xpk t).illegal := by
  unfold Keys.xonlyTweakAdd
  rw [xonlyTweakAddCheck_eq, pubkeyTweakAdd_eq]
  by_cases h1 : xpk = .inf
  · simp [h1]
  by_cases h2 : Bytes.toNat t < N ∧ Pt.add xpk (Pt.mulG (Bytes.toNat t)) ≠ .inf
  · rw [if_neg h1, if_neg h1, if_pos h2, if_pos h2]
    split <;> simp [*]
  · simp [h1, h2]

/-- The check accepts exactly the pair (x-only serialization, parity) that
`xonly_pubkey_from_pubkey` + `xonly_pubkey_serialize` produce from the tweaked key. -/
theorem tweak_add_check_accepts_iff (tweaked32 : Bytes) (parity : Nat) (xpk : Pt) (t : Bytes)
    (h : (Keys.xonlyTweakAdd xpk t).ret = 1) :
    (Keys.xonlyTweakAddCheck tweaked32 parity xpk t).ret = 1 ↔
      tweaked32 = (Keys.xonlySerialize (Keys.xonlyFromPubkey (Keys.xonlyTweakAdd xpk t).out).out.1).out ∧
      parity = (Keys.xonlyFromPubkey (Keys.xonlyTweakAdd xpk t).out).out.2 := by
  rw [(tweak_add_check_iff tweaked32 parity xpk t).1]
  simp only [h, true_and]
  cases (Keys.xonlyTweakAdd xpk t).out with
  -- cannot occur under `h`, but the two sides agree there too: `be32 0` is `zeros 32`, the parity is 0
  | inf => exact and_congr eq_comm eq_comm
  | aff x y =>
    have e1 : Keys.xonlyFromPubkey (.aff x y) = ⟨1, Keys.evenY (.aff x y), 0⟩ := rfl
    rw [e1, evenY_aff]
    by_cases ho : Fe.isOdd y = true <;> simp [ho, Pt.neg, Keys.xonlySerialize, eq_comm]

/-- Taproot round trip on the secret side: what `keypair_xonly_pub` + serialization extract from the tweaked keypair
passes `xonly_pubkey_tweak_add_check` against the original internal key and the same tweak. -/
theorem taproot_tweak_check_roundtrip (d : Nat) (t : Bytes) (hd0 : 0 < d) (hdN : d < N)
    (hok : (Keys.keypairXonlyTweakAdd ⟨Bytes.be32 d, Pt.mulG d⟩ t).ret = 1) :
    let kp' := (Keys.keypairXonlyTweakAdd ⟨Bytes.be32 d, Pt.mulG d⟩ t).out
    let xo := Keys.keypairXonlyPub kp'
    let internal := (Keys.xonlyFromPubkey (Pt.mulG d)).out.1
    xo.ret = 1 ∧ xo.illegal = 0 ∧
    (Keys.xonlyTweakAddCheck (Keys.xonlySerialize xo.out.1).out xo.out.2 internal t).ret = 1 := by
  have : HasGroupLaw := ⟨groupLaw⟩
  intro kp' xo internal
  obtain ⟨_, hr, hx, hsucc, _⟩ := keypair_xonly_tweak_add_comm d t hd0 hdN
  have hnf := hr.1 hok
  obtain ⟨_, hpk, hpx, _, _, _, _, _, _⟩ := hsucc hnf
  have hxr := hx.2 hnf
  have hpk' : kp'.pk = Pt.mulG ((evenSk d + Bytes.toNat t) % N) := hpk
  have hne : kp'.pk ≠ .inf := by
    rw [hpk']
    exact mulG_ne_inf (Nat.pos_of_ne_zero (fun h0 => hnf (Or.inr h0))) (Nat.mod_lt _ N_pos)
  have hxo : xo = ⟨1, Keys.evenY kp'.pk, 0⟩ := by
    show Keys.keypairXonlyPub kp' = _
    unfold Keys.keypairXonlyPub Keys.keypairLoad
    cases hq : kp'.pk with
    | inf => exact absurd hq hne
    | aff x y => rfl
  have hq : (Keys.xonlyTweakAdd internal t).out = kp'.pk := hpx.symm
  refine ⟨by rw [hxo], by rw [hxo], ?_⟩
  rw [tweak_add_check_accepts_iff _ _ _ _ hxr, hq, xonlyFromPubkey_eq, if_neg hne, hxo]
  exact ⟨rfl, rfl⟩

/-- Internal key = x-only key of `6•G` (odd y, so the internal secret is `N - 6`); tweak 7 gives `G`. -/
example :
    (Keys.xonlyTweakAddCheck (Bytes.be32 Pt.Gx) 0 (Keys.xonlyFromPubkey (Pt.mulG 6)).out.1 (Bytes.be32 7)).ret = 1 ∧
    (Keys.xonlyTweakAddCheck (Bytes.be32 Pt.Gx) 1 (Keys.xonlyFromPubkey (Pt.mulG 6)).out.1 (Bytes.be32 7)).ret = 0 ∧
    (Keys.xonlyTweakAddCheck (Bytes.be32 (Pt.Gx + 1)) 0 (Keys.xonlyFromPubkey (Pt.mulG 6)).out.1
      (Bytes.be32 7)).ret = 0 := by decide +kernel

/-- One chain operation on the secret scalar; `none` = it fails.  `xadd` is the Taproot-style x-only add: negate first
iff `d•G` has odd y. -/
def chainStepSpec (d : Nat) : Keys.ChainOp → Option Nat
  | .add t => if Bytes.toNat t < N ∧ (d + Bytes.toNat t) % N ≠ 0 then some ((d + Bytes.toNat t) % N) else none
  | .mul t => if Bytes.toNat t < N ∧ Bytes.toNat t ≠ 0 then some (d * Bytes.toNat t % N) else none
  | .neg => some (N - d)
  | .xadd t => if Bytes.toNat t < N ∧ (evenSk d + Bytes.toNat t) % N ≠ 0
      then some ((evenSk d + Bytes.toNat t) % N) else none

def chainSpec (d : Nat) (ops : List Keys.ChainOp) : Option Nat := ops.foldlM chainStepSpec d

theorem chain_step (d : Nat) (op : Keys.ChainOp) (hd0 : 0 < d) (hdN : d < N) :
    Keys.chainSec (Bytes.be32 d) op = (chainStepSpec d op).map Bytes.be32 ∧
    Keys.chainPub (Pt.mulG d) op = (chainStepSpec d op).map Pt.mulG ∧
    ∀ d' ∈ chainStepSpec d op, 0 < d' ∧ d' < N := by
  have : HasGroupLaw := ⟨groupLaw⟩
  cases op with
  | add t =>
    simp only [Keys.chainSec, Keys.chainPub, chainStepSpec]
    exact chain_of_eq (seckeyTweakAdd_be32 hd0 hdN t) (pubkeyTweakAdd_pub hd0 hdN t)
      fun hc => ⟨Nat.pos_of_ne_zero hc.2, Nat.mod_lt _ N_pos⟩
  | mul t =>
    simp only [Keys.chainSec, Keys.chainPub, chainStepSpec]
    exact chain_of_eq (seckeyTweakMul_be32 hd0 hdN t) (pubkeyTweakMul_pub hd0 hdN t)
      fun hc => ⟨mul_mod_N_pos hd0 hdN (Nat.pos_of_ne_zero hc.2) hc.1, Nat.mod_lt _ N_pos⟩
  | neg =>
    simp only [Keys.chainSec, Keys.chainPub, chainStepSpec, seckeyNegate_be32 hd0 hdN,
      pubkeyNegate_pub hd0 hdN]
    exact ⟨rfl, rfl, fun d' h => by obtain rfl := Option.some.inj h; omega⟩
  | xadd t =>
    have he := evenSk_pos_lt hd0 hdN
    simp only [Keys.chainSec, Keys.chainPub, Keys.xonlyTweakAdd, keypairCreate_be32 hd0 hdN,
      xonly_from_pubkey_pub d hd0 hdN, one_ne_zero, ↓reduceIte]
    exact chain_of_eq (s := (_, _)) (by rw [keypairXonlyTweakAdd_valid hd0 hdN]; split <;> rfl)
      (pubkeyTweakAdd_pub he.1 he.2 t) fun hc => ⟨Nat.pos_of_ne_zero hc.2, Nat.mod_lt _ N_pos⟩

theorem chain_all (d : Nat) (ops : List Keys.ChainOp) (hd0 : 0 < d) (hdN : d < N) :
    Keys.chainSecAll (Bytes.be32 d) ops = (chainSpec d ops).map Bytes.be32 ∧
    Keys.chainPubAll (Pt.mulG d) ops = (chainSpec d ops).map Pt.mulG ∧
    ∀ d' ∈ chainSpec d ops, 0 < d' ∧ d' < N := by
  induction ops generalizing d with
  | nil =>
    exact ⟨rfl, rfl, fun d' h => by
      obtain rfl := Option.some.inj h
      exact ⟨hd0, hdN⟩⟩
  | cons op ops ih =>
    obtain ⟨h1, h2, h3⟩ := chain_step d op hd0 hdN
    simp only [Keys.chainSecAll, Keys.chainPubAll, chainSpec, List.foldlM_cons]
    rw [h1, h2]
    cases hs : chainStepSpec d op with
    | none => exact ⟨rfl, rfl, fun d' h => by cases h⟩
    | some d1 =>
      obtain ⟨a, b⟩ := h3 d1 hs
      exact ih d1 a b

/-- Arbitrary finite chains of mixed operations (additive, multiplicative tweak, negation, keypair / x-only tweak) commute
with public-key derivation.  Third conjunct: the two sides fail at the same step. -/
theorem chain_comm (d : Nat) (ops : List Keys.ChainOp) (hd0 : 0 < d) (hdN : d < N) :
    (Keys.chainSecAll (Bytes.be32 d) ops).map (fun sk => Pt.mulG (Bytes.toNat sk)) =
      Keys.chainPubAll (Pt.mulG d) ops ∧
    (∀ sk', Keys.chainSecAll (Bytes.be32 d) ops = some sk' →
      Keys.chainPubAll (Pt.mulG d) ops = some (Pt.mulG (Bytes.toNat sk')) ∧
      0 < Bytes.toNat sk' ∧ Bytes.toNat sk' < N ∧
      Keys.pubkeyCreate sk' = (1, Pt.mulG (Bytes.toNat sk'))) ∧
    (∀ k, (Keys.chainSecAll (Bytes.be32 d) (ops.take k)).isSome =
      (Keys.chainPubAll (Pt.mulG d) (ops.take k)).isSome) := by
  have hpre : ∀ k, (Keys.chainSecAll (Bytes.be32 d) (ops.take k)).isSome =
      (Keys.chainPubAll (Pt.mulG d) (ops.take k)).isSome := fun k => by
    obtain ⟨a, b, _⟩ := chain_all d (ops.take k) hd0 hdN
    rw [a, b, Option.isSome_map, Option.isSome_map]
  obtain ⟨h1, h2, h3⟩ := chain_all d ops hd0 hdN
  rw [h1, h2]
  cases hs : chainSpec d ops with
  | none => exact ⟨rfl, fun _ h => (nomatch h), hpre⟩
  | some d' =>
    obtain ⟨a, b⟩ := h3 d' hs
    have e := Bytes.toNat_be32_of_lt_N b
    refine ⟨by simp [e], fun sk' h => ?_, hpre⟩
    obtain rfl := Option.some.inj h
    rw [e]
    exact ⟨rfl, a, b, KeysLemmas.pubkeyCreate_be32 a b⟩

/-- All four kinds of operations on `d = 5`: add 1 → 6, whose point has odd y; x-only add 7 → (N-6)+7 = 1; multiply by 3;
negate.  And a chain that fails at its second step (add 1, then add N-6: the sum is 0). -/
example :
    Keys.chainSecAll (Bytes.be32 5) [.add (Bytes.be32 1), .xadd (Bytes.be32 7), .mul (Bytes.be32 3), .neg]
      = some (Bytes.be32 (N - 3)) ∧
    (Keys.chainPubAll (Pt.mulG 5) [.add (Bytes.be32 1), .xadd (Bytes.be32 7), .mul (Bytes.be32 3), .neg]).isSome
      = true ∧
    chainSpec 5 [.add (Bytes.be32 1), .xadd (Bytes.be32 7), .mul (Bytes.be32 3), .neg] = some (N - 3) := by
  decide +kernel
example :
    Keys.chainSecAll (Bytes.be32 5) [.add (Bytes.be32 1), .add (Bytes.be32 (N - 6)), .neg] = none ∧
    (Keys.chainPubAll (Pt.mulG 5) [.add (Bytes.be32 1), .add (Bytes.be32 (N - 6)), .neg]).isSome = false ∧
    (Keys.chainPubAll (Pt.mulG 5) [.add (Bytes.be32 1)]).isSome = true := by
  decide +kernel

/-- `secp256k1_ec_pubkey_combine`; `Pt.sum` is the left fold of the group addition. -/
theorem combine_spec (pks : List Pt) :
    let r := Keys.pubkeyCombine pks
    (r.ret = 1 ↔ pks ≠ [] ∧ Pt.sum pks ≠ Pt.inf) ∧
    (r.ret = 1 → r.out = Pt.sum pks ∧ r.illegal = 0) ∧
    (r.ret ≠ 1 → r.ret = 0 ∧ r.out = Pt.inf) ∧
    r.illegal = (if pks = [] then 1 else 0) := by
  intro r
  rw [show r = _ from pubkeyCombine_eq pks]
  split_ifs with h1 h2 <;> simp [*]

theorem combine_valid_perm (pks pks' : List Pt) (hv : ∀ p ∈ pks, p.valid = true) (hp : pks.Perm pks') :
    (Keys.pubkeyCombine pks).out.valid = true ∧
    (Keys.pubkeyCombine pks).ret = (Keys.pubkeyCombine pks').ret ∧
    (Keys.pubkeyCombine pks).out = (Keys.pubkeyCombine pks').out := by
  have : HasGroupLaw := ⟨groupLaw⟩
  have hne : pks = [] ↔ pks' = [] := ⟨fun h => (h ▸ hp).nil_eq.symm, fun h => (h ▸ hp).eq_nil⟩
  have hval := sum_valid hv
  rw [pubkeyCombine_eq, pubkeyCombine_eq, ← sum_perm hp hv]
  simp only [hne]
  split_ifs <;> simp [hval]

/-- Combination commutes with addition of secret keys. -/
theorem combine_pub (ds : List Nat) (hne : ds ≠ []) (h : ∀ d ∈ ds, d < N) :
    let r := Keys.pubkeyCombine (ds.map Pt.mulG)
    (r.ret = 1 ↔ ds.sum % N ≠ 0) ∧
    (ds.sum % N ≠ 0 → r.out = Pt.mulG (ds.sum % N) ∧ r.illegal = 0 ∧
      Keys.pubkeyCreate (Bytes.be32 (ds.sum % N)) = (1, r.out)) ∧
    (ds.sum % N = 0 → r.ret = 0 ∧ r.out = Pt.inf ∧ r.illegal = 0) := by
  have : HasGroupLaw := ⟨groupLaw⟩
  have hX : ds.sum % N < N := Nat.mod_lt _ N_pos
  intro r
  have hr : r = _ := pubkeyCombine_eq (ds.map Pt.mulG)
  rw [sum_pub ds h, if_neg (by simpa using hne)] at hr
  clear_value r
  subst hr
  by_cases h0 : ds.sum % N = 0
  · rw [if_pos ((pub_eq_inf_iff hX).2 h0)]; simp [h0]
  · rw [if_neg (mt (pub_eq_inf_iff hX).1 h0)]
    simp [h0, KeysLemmas.pubkeyCreate_be32 (Nat.pos_of_ne_zero h0) hX]

/-- A sum, a list that cancels to infinity (failure), and the empty list (illegal). -/
example : (Keys.pubkeyCombine [Pt.mulG 2, Pt.mulG 3, Pt.mulG 7]).ret = 1 ∧
    sameXY (Keys.pubkeyCombine [Pt.mulG 2, Pt.mulG 3, Pt.mulG 7]).out (Pt.mulG 12) := by decide +kernel
example : (Keys.pubkeyCombine [Pt.mulG 2, Pt.mulG 3, Pt.mulG (N - 5)]).ret = 0 ∧
    (Keys.pubkeyCombine [Pt.mulG 2, Pt.mulG 3, Pt.mulG (N - 5)]).out = Pt.inf ∧
    (Keys.pubkeyCombine []).ret = 0 ∧ (Keys.pubkeyCombine []).illegal = 1 := by decide +kernel

theorem serialize33_injective (a b : Pt) (ha : a.valid = true) (hb : b.valid = true)
    (h : Codec.serialize33 a = Codec.serialize33 b) : a = b := by
  have : Fact (Nat.Prime P) := ⟨SecpZkp.prime_P⟩
  have hp : ∀ p : Pt, p.valid = true →
      Codec.pubkeyParse (Codec.serialize33 p) = if p = .inf then none else some p := by
    intro p hv
    cases p with
    | inf => decide +kernel
    | aff x y => exact C03.pubkeyParse_serialize33_partial hv (liftX_of_valid hv)
  have := hp a ha
  rw [h, hp b hb] at this
  cases a <;> cases b <;> simp_all

/-- `secp256k1_ec_pubkey_cmp`: the sign of `memcmp` on the 33-byte compressed encodings, the zero object compared as 33
zero bytes after its callback.  The model's return code `2` stands for C's negative value, `1` for positive. -/
theorem cmp_spec (a b : Pt) :
    let r := Keys.pubkeyCmp a b
    (r.ret = 2 ↔ Codec.serialize33 a < Codec.serialize33 b) ∧
    (r.ret = 1 ↔ Codec.serialize33 b < Codec.serialize33 a) ∧
    (r.ret = 0 ↔ Codec.serialize33 a = Codec.serialize33 b) ∧
    (a.valid = true → b.valid = true → (r.ret = 0 ↔ a = b)) ∧
    r.illegal = (if a = Pt.inf then 1 else 0) + (if b = Pt.inf then 1 else 0) ∧
    Codec.serialize33 Pt.inf = Bytes.zeros 33 ∧
    (Codec.serialize33 a).length = 33 := by
  intro r
  have hlt := Bytes.cmp_neg_iff_lt (Codec.serialize33 a) (Codec.serialize33 b)
  have hgt := Bytes.cmp_neg_iff_lt (Codec.serialize33 b) (Codec.serialize33 a)
  have hanti := Bytes.cmp_antisymm (Codec.serialize33 a) (Codec.serialize33 b)
  have heq := Bytes.cmp_eq_zero_iff (Codec.serialize33 a) (Codec.serialize33 b)
  have hret : r.ret = if Bytes.cmp (Codec.serialize33 a) (Codec.serialize33 b) < 0 then 2
      else if Bytes.cmp (Codec.serialize33 a) (Codec.serialize33 b) > 0 then 1 else 0 := rfl
  have sign : ∀ c : Int,
      ((if c < 0 then 2 else if c > 0 then 1 else 0 : Nat) = 2 ↔ c < 0) ∧
      ((if c < 0 then 2 else if c > 0 then 1 else 0 : Nat) = 1 ↔ 0 < c) ∧
      ((if c < 0 then 2 else if c > 0 then 1 else 0 : Nat) = 0 ↔ c = 0) := by
    intro c
    by_cases h1 : c < 0 <;> by_cases h2 : c > 0 <;> simp [h1, h2] <;> omega
  have h0 : r.ret = 0 ↔ Codec.serialize33 a = Codec.serialize33 b := by
    rw [hret, (sign _).2.2, heq]
  refine ⟨?_, ?_, h0, ?_, ?_, rfl, ?_⟩
  · rw [hret, (sign _).1, hlt]
  · rw [hret, (sign _).2.1, hanti, hgt]
  · intro ha hb
    rw [h0]
    exact ⟨serialize33_injective a b ha hb, fun h => by rw [h]⟩
  · show (if a.isInf then 1 else 0) + (if b.isInf then 1 else 0) = _
    cases a <;> cases b <;> rfl
  · cases a with
    | inf => simp [Codec.serialize33, Bytes.zeros]
    | aff x y => simp [Codec.serialize33]

/-- `G` is encoded `02‖Gx`, `-G` is `03‖Gx`; the zero object sorts before everything and costs one callback. -/
example : (Keys.pubkeyCmp Pt.G (Pt.neg Pt.G)).ret = 2 ∧ (Keys.pubkeyCmp (Pt.neg Pt.G) Pt.G).ret = 1 ∧
    (Keys.pubkeyCmp Pt.G Pt.G).ret = 0 ∧ (Keys.pubkeyCmp Pt.inf Pt.G).ret = 2 ∧
    (Keys.pubkeyCmp Pt.inf Pt.G).illegal = 1 ∧ (Keys.pubkeyCmp Pt.inf Pt.inf).illegal = 2 := by
  decide +kernel

end C04
end SecpZkp
