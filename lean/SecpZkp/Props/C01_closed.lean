import SecpZkp.Props.C01
import SecpZkp.Proofs.GroupLawProved
import SecpZkp.Proofs.GroupExtra
/-
  C01, closed forms: the theorems of `Props/C01.lean` carry the group law
  (`GroupLaw`) and the square-root specification (`LiftXSpec`) as explicit hypotheses; here both are
  discharged (`groupLaw` from `Proofs/GroupLawProved.lean`, `liftXSpec` below from
  `Proofs/GroupExtra.lean`), so the statements hold with no hypothesis about the curve at all.
-/
namespace SecpZkp
namespace C01

theorem liftXSpec : LiftXSpec := by
  intro x y odd h
  split
  · next hp => exact hp ▸ liftX_of_valid h
  · next hp =>
    have hodd : Fe.isOdd (Fe.neg y) = odd := by
      rw [isOdd_neg h]
      cases ho : Fe.isOdd y <;> cases odd <;> simp_all
    exact hodd ▸ liftX_of_valid (valid_neg h)

/-- ECDSA verification is exact for every signature object, message and valid public key. -/
theorem ecdsa_verify_exact (r s : Nat) (msg : Bytes) (pk : Pt) (hr : r < N) (hpk : pk.valid = true) :
    (Ecdsa.verify (r, s) msg pk).ret = 1 ↔
      ¬ Sc.isHigh s = true ∧ pk ≠ Pt.inf ∧ r ≠ 0 ∧ s ≠ 0 ∧
      verifyPoint r s (Bytes.toNat msg % N) pk ≠ Pt.inf ∧
      (verifyPoint r s (Bytes.toNat msg % N) pk).xOf % N = r :=
  ecdsa_verify_iff' groupLaw r s msg pk hr hpk

/-- Whatever `secp256k1_ecdsa_sign` returns with value 1 is low-S and verifies under the public key
    of the secret key (any message incl. values ≥ n, any nonce function, any extra data). -/
theorem ecdsa_sign_verifies_closed (msg32 seckey : Bytes) (noncefp : Option Ecdsa.NonceFn)
    (ndata : Option Bytes) (r s : Nat) (h : Ecdsa.sign msg32 seckey noncefp ndata = (1, (r, s))) :
    ¬ Sc.isHigh s = true ∧ (Keys.pubkeyCreate seckey).1 = 1 ∧
    (Ecdsa.verify (r, s) msg32 (Keys.pubkeyCreate seckey).2).ret = 1 :=
  ecdsa_sign_api_verifies groupLaw msg32 seckey noncefp ndata r s h

/-- The recoverable variant recovers exactly the signer's public key. -/
theorem ecdsa_sign_recovers_closed (msg32 seckey : Bytes) (noncefp : Option Ecdsa.NonceFn)
    (ndata : Option Bytes) (h : (Ecdsa.signRecoverable msg32 seckey noncefp ndata).ret = 1) :
    let o := Ecdsa.signRecoverable msg32 seckey noncefp ndata
    Ecdsa.recover (o.r, o.s) o.recid msg32 = (1, (Keys.pubkeyCreate seckey).2) ∧
      (Keys.pubkeyCreate seckey).1 = 1 :=
  ecdsa_sign_api_recovers groupLaw liftXSpec msg32 seckey noncefp ndata h

end C01

end SecpZkp
