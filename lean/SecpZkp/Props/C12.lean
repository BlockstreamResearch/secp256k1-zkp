import SecpZkp.Proofs.Musig
import SecpZkp.Proofs.GroupLawProved
/-
  Property C12: MuSig2 computes BIP-327 and honest sessions always yield valid signatures.  The property theorems
  about the model `Model/Musig.lean` of `src/modules/musig/{keyagg,session,adaptor}_impl.h`.

  Reading the statements: a model call returns `⟨ret, out, illegal⟩` (return value, objects written, number of
  illegal-argument callbacks); a NULL pointer argument is `none`; the leading `Bool`s say which output pointers are
  non-NULL.  An honest signer is given by its secrets (`Signer`): secret key `d` (`0 < d < n`, keypair object
  `(be32 d, d•G)`) and secret nonce `(k1, k2)` (`k1, k2 < n`; secnonce object `secnonceSave k1 k2 (d•G)`, pubnonce object
  `pubnonceSave (k1•G) (k2•G)`, which is what `nonce_gen` writes: `nonce_gen_shape`).  `Signer`, `applyTweaks`,
  `aggCache`, `CacheInv`, `finalNoncePoint`, `signScalar`, `sgn` (`−1` if the flag is set, else `1`) are defined in
  `Proofs/Musig.lean`.

  No theorem carries a hypothesis about the curve: the group law is discharged with `groupLaw`
  (`Proofs/GroupLawProved.lean`).  No theorem depends on what a hash evaluates to; only the examples evaluate them.

  Not proved: "a partial signature fails for any other key, nonce or session".
-/
namespace SecpZkp
namespace C12
open SecpZkp.Algebra SecpZkp.Musig

/-- Clause "each partial signature verifies for its own signer".  Nothing is assumed about how `c` and `sess` were
    produced: any signer list and tweaks, aggregate nonce with components at `∞`, final nonce replaced by `G`, adaptor. -/
theorem partial_sig_verifies (d k1 k2 : Nat) (hd0 : 0 < d) (hdN : d < N) (hk1 : k1 < N) (hk2 : k2 < N)
    (c : KeyaggCache) (sess : Session)
    (hsign : (partialSign true (some (secnonceSave k1 k2 (Pt.mulG d))) (some ⟨Bytes.be32 d, Pt.mulG d⟩)
      (some c) (some sess)).ret = 1) :
    partialSigVerify
      (partialSign true (some (secnonceSave k1 k2 (Pt.mulG d))) (some ⟨Bytes.be32 d, Pt.mulG d⟩)
        (some c) (some sess)).out.sig
      (some (pubnonceSave (Pt.mulG k1) (Pt.mulG k2))) (some (Pt.mulG d)) (some c) (some sess) = ⟨1, (), 0⟩ := by
  have : HasGroupLaw := ⟨groupLaw⟩
  obtain ⟨hc, hs, hk⟩ := partialSign_ret_one hsign
  rw [Nat.mod_eq_of_lt hk1, Nat.mod_eq_of_lt hk2] at hk
  have hcore := verifyTmp_signScalar c sess hdN hk1 hk2
  -- `partialSign_eq` / `partialSigVerify_eq` are stated for an affine key: name `d•G = aff x y` first
  obtain ⟨x, y, hpk⟩ := mulG_eq_aff hd0 hdN
  rw [hpk] at hcore ⊢
  rw [partialSign_eq hd0 hdN hk1 hk2 hk hc hs, partialSigVerify_eq hc hs, hcore]
  rfl

/-- An instance of `partial_sig_verifies`, spelled out for a session that `nonce_process` wrote; `_hsess` is not used. -/
theorem partial_sig_verifies_session (d k1 k2 : Nat) (hd0 : 0 < d) (hdN : d < N) (hk1 : k1 < N) (hk2 : k2 < N)
    (c : KeyaggCache) (an : Option Aggnonce) (msg : Option Bytes) (adaptor : Option Pt) (sess : Session)
    (_hsess : (nonceProcess true an msg (some c) adaptor).out = some sess)
    (hsign : (partialSign true (some (secnonceSave k1 k2 (Pt.mulG d))) (some ⟨Bytes.be32 d, Pt.mulG d⟩)
      (some c) (some sess)).ret = 1) :
    (partialSigVerify
      (partialSign true (some (secnonceSave k1 k2 (Pt.mulG d))) (some ⟨Bytes.be32 d, Pt.mulG d⟩)
        (some c) (some sess)).out.sig
      (some (pubnonceSave (Pt.mulG k1) (Pt.mulG k2))) (some (Pt.mulG d)) (some c) (some sess)).ret = 1 := by
  rw [partial_sig_verifies d k1 k2 hd0 hdN hk1 hk2 c sess hsign]

/-- Non-vacuity of `hsign` in `partial_sig_verifies`: it holds whenever cache and session load and `(k1, k2) ≠ (0, 0)`. -/
theorem partial_sign_succeeds (d k1 k2 : Nat) (hd0 : 0 < d) (hdN : d < N) (hk1 : k1 < N) (hk2 : k2 < N)
    (hk : ¬ (k1 = 0 ∧ k2 = 0)) (c : KeyaggCache) (sess : Session) (hc : c.magic = keyaggCacheMagic)
    (hs : sess.magic = sessionMagic) :
    (partialSign true (some (secnonceSave k1 k2 (Pt.mulG d))) (some ⟨Bytes.be32 d, Pt.mulG d⟩)
      (some c) (some sess)).ret = 1 := by
  have : HasGroupLaw := ⟨groupLaw⟩
  obtain ⟨x, y, hpk⟩ := mulG_eq_aff hd0 hdN
  rw [hpk, partialSign_eq hd0 hdN hk1 hk2 hk hc hs]

/-- second key `2•G`, parity accumulator 1 -/
def exCache : KeyaggCache := ⟨keyaggCacheMagic, Pt.mulG 5, Pt.mulG 2, Bytes.zeros 32, 1, 9⟩

/-- odd final-nonce parity -/
def exSession : Session := ⟨sessionMagic, 1, Bytes.be32 Pt.Gx, 11, 13, 0⟩

/-- `hsign` for signer key 3: not the second key, so its coefficient is a hash. -/
example : (partialSign true (some (secnonceSave 5 7 (Pt.mulG 3))) (some ⟨Bytes.be32 3, Pt.mulG 3⟩)
    (some exCache) (some exSession)).ret = 1 := by decide +kernel

/-- `hsign` and `_hsess` for the signer whose key is the second key (coefficient 1), the aggregate nonce being `(∞, ∞)`
    (final nonce `G`). -/
example : ∃ sess, (nonceProcess true (some (aggnonceSave .inf .inf)) (some [1, 2, 3]) (some exCache) none).out = some sess ∧
    (partialSign true (some (secnonceSave 0 7 (Pt.mulG 2))) (some ⟨Bytes.be32 2, Pt.mulG 2⟩)
      (some exCache) (some sess)).ret = 1 :=
  ⟨_, rfl, partial_sign_succeeds 2 0 7 (by decide) (by decide +kernel) (by decide +kernel) (by decide +kernel)
    (by decide) _ _ rfl rfl⟩

/-- The conclusion on the first instance, evaluated by the kernel without the group law. -/
example : (partialSigVerify
    (partialSign true (some (secnonceSave 5 7 (Pt.mulG 3))) (some ⟨Bytes.be32 3, Pt.mulG 3⟩)
      (some exCache) (some exSession)).out.sig
    (some (pubnonceSave (Pt.mulG 5) (Pt.mulG 7))) (some (Pt.mulG 3)) (some exCache) (some exSession)).ret = 1 := by
  decide +kernel

/-- Clause "key aggregation computes the BIP-327 function for every list of public keys (including duplicates)":
    `pubkey_agg` on non-NULL key objects `≠ ∞` (the curve equation is not needed) stores `Q = Σ a_i•P_i` with `a_i` the
    BIP-327 `KeyAggCoeff` (`keyAggCoeffSpec`); the x-only output is `Q` with even y; `pubkey_get` returns `Q`.  The second
    conjunct ties `keyAggCoeffSpec` to the model's `keyaggCoefInternal`, which takes key and second key in the other
    order. -/
theorem key_agg_spec (ps : List Pt) (hne : ps ≠ []) (hv : ∀ p ∈ ps, p ≠ .inf) :
    let L := pksHash ps
    let second := secondKey ps
    let Q := Pt.sum (ps.map fun p => Pt.mul (keyAggCoeffSpec L second p) p)
    pubkeyAgg true true (ps.map some)
      = ⟨1, ⟨some (Keys.evenY Q).1, some ⟨keyaggCacheMagic, Q, second, L, 0, 0⟩⟩, 0⟩ ∧
    (∀ p ∈ ps, keyaggCoefInternal L p second = keyAggCoeffSpec L second p) ∧
    pubkeyGet (some ⟨keyaggCacheMagic, Q, second, L, 0, 0⟩) = ⟨1, Q, 0⟩ := by
  intro L second Q
  have hQ : aggPoint L second ps = Q := by
    rw [aggPoint_eq_sum]
    simp only [Q]
    congr 1
    apply List.map_congr_left
    intro p hp
    rw [keyaggCoefInternal_eq _ _ (hv p hp)]
  refine ⟨?_, fun p hp => keyaggCoefInternal_eq _ _ (hv p hp), rfl⟩
  rw [pubkeyAgg_eq true true hne hv]
  simp only [if_true, aggCache, hQ, L, second]

/-- Clause "plain and x-only tweaking compute BIP-327 for every sequence of tweaks": after tweak calls that all return 1
    on the cache `pubkey_agg` wrote, the BIP-327 invariant `Q = g•Q0 + tacc•G` holds (`Q0` the untweaked aggregate point,
    `g = −1` iff the parity accumulator is odd).  `hv` is `Pt.valid`, which admits `∞`, unlike `hv` of `key_agg_spec`.
    The induction over the tweak list is `cacheInv_applyTweaks`. -/
theorem tweak_invariant (ps : List Pt) (hv : ∀ p ∈ ps, p.valid = true) (tws : List TweakStep) (c : KeyaggCache)
    (h : applyTweaks (aggCache ps) tws = some c) :
    let Q0 := aggPoint (pksHash ps) (secondKey ps) ps
    c.magic = keyaggCacheMagic ∧ c.secondPk = secondKey ps ∧ c.pksHash = pksHash ps ∧
    c.pk = Pt.add (if c.parityAcc % 2 = 1 then Pt.neg Q0 else Q0) (Pt.mulG (c.tweak % N)) ∧
    (tws ≠ [] → c.pk ≠ .inf) := by
  have : HasGroupLaw := ⟨groupLaw⟩
  obtain ⟨h1, h2, h3, h4⟩ := cacheInv_applyTweaks (aggPoint_valid _ _ _ hv) tws (cacheInv_aggCache _) h
  exact ⟨h1.1, h2, h3, h1.2, h4⟩

/-- The same clause for one call of `pubkey_ec_tweak_add` (`xonly = false`) or `pubkey_xonly_tweak_add` (`xonly = true`)
    on any cache object, not only one reached from `pubkey_agg`. -/
theorem tweak_step_spec (xonly wantOut : Bool) (c : KeyaggCache) (tw : Bytes)
    (h : (tweakAddInternal xonly wantOut (some c) (some tw)).ret = 1) :
    ∃ c', tweakAddInternal xonly wantOut (some c) (some tw) = ⟨1, ⟨if wantOut then some c'.pk else none, some c'⟩, 0⟩ ∧
      Bytes.toNat tw < N ∧ c'.pk ≠ .inf ∧
      c'.pk = Pt.add (if xonly && Fe.isOdd c.pk.yOf then Pt.neg c.pk else c.pk) (Pt.mulG (Bytes.toNat tw)) ∧
      (∀ Q0 : Pt, Q0.valid = true → CacheInv Q0 c → CacheInv Q0 c') := by
  have : HasGroupLaw := ⟨groupLaw⟩
  obtain ⟨_, h2, h3, h4⟩ := tweakAddInternal_ret_one h
  refine ⟨_, h4, h2, h3, ?_, fun Q0 hQ0 hinv => cacheInv_tweaked hQ0 hinv xonly (Nat.mod_lt _ N_pos)⟩
  rw [Nat.mod_eq_of_lt h2]
  rfl

/-- Non-vacuity of `key_agg_spec`: a list with a repeated key. -/
example : [Pt.mulG 6, Pt.mulG 7, Pt.mulG 6] ≠ [] ∧ ∀ p ∈ [Pt.mulG 6, Pt.mulG 7, Pt.mulG 6], p ≠ Pt.inf := by
  decide +kernel

/-- a repeated first key is skipped: the second key is the third entry -/
example : secondKey [Pt.mulG 6, Pt.mulG 6, Pt.mulG 7, Pt.mulG 8] = Pt.mulG 7 := by decide +kernel

example (L : Bytes) (q : Pt) : keyAggCoeffSpec L q q = 1 := by simp [keyAggCoeffSpec]

def exSigners : List Signer := [⟨6, 5, 7⟩, ⟨7, 6, 8⟩]

/-- x-only tweak by 9; the untweaked aggregate key has odd y, so the parity accumulator flips -/
def exTweaks : List TweakStep := [⟨true, true, Bytes.be32 9⟩]

/-- the cache after `pubkey_agg` for `exSigners` and then `exTweaks`, values checked by `exC_run` -/
def exC : KeyaggCache :=
  { magic := keyaggCacheMagic,
    pk := Pt.aff 72640471273400913449699923557686391378898710437658702299278331437773806955990
                 2009687685280391207012840771629086935548471574591065615003532626113679302963,
    secondPk := Pt.aff 41948375291644419605210209193538855353224492619856392092318293986323063962044
                       48361766907851246668144012348516735800090617714386977531302791340517493990618,
    pksHash := [210, 190, 86, 61, 247, 90, 211, 62, 123, 119, 153, 253, 49, 185, 64, 158, 127, 44, 90, 63, 36, 204,
      87, 145, 192, 222, 245, 121, 188, 51, 166, 71],
    parityAcc := 1,
    tweak := 9 }

theorem exSigners_honest : ∀ s ∈ exSigners, s.Honest := by decide +kernel

/-- `h` of `tweak_invariant` and `htw` of `musig_complete` on the example. -/
theorem exC_run : applyTweaks (aggCache (exSigners.map Signer.pk)) exTweaks = some exC := by decide +kernel

/-- `tweak_invariant` on the example: `Q = −Q0 + 9•G`. -/
example : exC.pk = Pt.add (if exC.parityAcc % 2 = 1
      then Pt.neg (aggPoint (pksHash (exSigners.map Signer.pk)) (secondKey (exSigners.map Signer.pk)) (exSigners.map Signer.pk))
      else aggPoint (pksHash (exSigners.map Signer.pk)) (secondKey (exSigners.map Signer.pk)) (exSigners.map Signer.pk))
    (Pt.mulG (exC.tweak % N)) :=
  (tweak_invariant (exSigners.map Signer.pk)
    (by decide +kernel) exTweaks exC exC_run).2.2.2.1

/-- What links `Signer.secnonce` / `Signer.pubnonce` to the library: they are the objects `nonce_gen` writes when it
    returns 1 (for `nonce_gen_counter`, which calls the same internal function: `nonceGenCounter_cases`). -/
theorem nonce_gen_shape (secrand : Bytes) (seckey : Option Bytes) (pk : Pt) (msg32 : Option Bytes)
    (cache : Option KeyaggCache) (extra32 : Option Bytes)
    (h : (nonceGen true true (some secrand) seckey (some pk) msg32 cache extra32).ret = 1) :
    ∃ k1 k2, k1 < N ∧ k2 < N ∧
      (nonceGen true true (some secrand) seckey (some pk) msg32 cache extra32).out.secnonce
        = some (secnonceSave k1 k2 pk) ∧
      (nonceGen true true (some secrand) seckey (some pk) msg32 cache extra32).out.pubnonce
        = some (pubnonceSave (Pt.mulG k1) (Pt.mulG k2)) := by
  rcases nonceGen_cases true true (some secrand) seckey (some pk) msg32 cache extra32 with
    ⟨h0, _⟩ | ⟨k1, k2, p, _, he, h1, h2, _, hp, _⟩
  · rw [h0] at h; cases h
  · cases hp
    exact ⟨k1, k2, h1, h2, by rw [he], by rw [he]⟩

/-- The scalars `partial_sign` writes add up to `Σ s_i = e·g'·Σ a_i·d_i + σ·(Σ k1_i + b·Σ k2_i)` in `ZMod N`: `g' = −1` iff
    the parity of the aggregate key and the parity accumulator disagree, `σ = −1` iff the final nonce has odd y.
    `partial_sig_agg` adds the session's tweak term `±e·tacc` to this (`partialSigAgg_eq`). -/
theorem partial_sig_sum (c : KeyaggCache) (sess : Session) (L : List Signer) :
    (L.map fun s => ((signScalar c sess s.pk s.d s.k1 s.k2 : Nat) : ZMod N)).sum =
      (sess.challenge : ZMod N) * sgn (Fe.isOdd c.pk.yOf != (c.parityAcc % 2 == 1)) *
          (L.map fun s => ((keyaggCoefInternal c.pksHash s.pk c.secondPk : Nat) : ZMod N) * (s.d : ZMod N)).sum +
        sgn (decide (sess.finNonceParity ≠ 0)) *
          ((L.map fun s => (s.k1 : ZMod N)).sum + (sess.noncecoef : ZMod N) * (L.map fun s => (s.k2 : ZMod N)).sum) :=
  sum_signScalar c sess L

example (c : KeyaggCache) (sess : Session) (s : Signer) :
    ([s].map fun s => ((signScalar c sess s.pk s.d s.k1 s.k2 : Nat) : ZMod N)).sum
      = ((signScalar c sess s.pk s.d s.k1 s.k2 : Nat) : ZMod N) := by simp

/-- Clause "whenever all signers follow the protocol the aggregate is a valid BIP-340 signature for the (tweaked)
    aggregate key", without adaptor: every call of the protocol returns 1 and `schnorrsig_verify` accepts the result.
    `hQ`: for an untweaked cache BIP-327 excludes an aggregate key `∞` only with overwhelming probability; after a tweak
    it follows from `tweak_invariant`.  `hR`: when the combined nonce `R1 + b•R2` is `∞`, BIP-327 substitutes `G` and
    does not promise validity. -/
theorem musig_complete (L : List Signer) (hne : L ≠ []) (hh : ∀ s ∈ L, s.Honest) (tws : List TweakStep)
    (c : KeyaggCache) (htw : applyTweaks (aggCache (L.map Signer.pk)) tws = some c) (msg : Bytes)
    (hQ : c.pk ≠ .inf) (hR : finalNoncePoint L c msg none ≠ .inf) :
    pubkeyAgg true true (L.map fun s => some s.pk)
      = ⟨1, ⟨some (Keys.evenY (aggCache (L.map Signer.pk)).pk).1, some (aggCache (L.map Signer.pk))⟩, 0⟩ ∧
    ∃ an sess sig,
      nonceAgg true (L.map fun s => some s.pubnonce) = ⟨1, some an, 0⟩ ∧
      nonceProcess true (some an) (some msg) (some c) none = ⟨1, some sess, 0⟩ ∧
      (∀ s ∈ L, (partialSign true (some s.secnonce) (some s.keypair) (some c) (some sess)).ret = 1) ∧
      partialSigAgg true (some sess)
        (L.map fun s => (partialSign true (some s.secnonce) (some s.keypair) (some c) (some sess)).out.sig)
          = ⟨1, some sig, 0⟩ ∧
      (Schnorr.verify sig msg (Keys.evenY c.pk).1).ret = 1 := by
  have : HasGroupLaw := ⟨groupLaw⟩
  have hpks : (L.map fun s => some s.pk) = (L.map Signer.pk).map some := by rw [List.map_map]; rfl
  have hpkne : ∀ p ∈ L.map Signer.pk, p ≠ .inf := by
    intro p hp
    obtain ⟨s, hs, rfl⟩ := List.mem_map.1 hp
    exact Signer.pk_ne_inf (hh s hs)
  refine ⟨by rw [hpks, pubkeyAgg_eq true true (by simpa using hne) hpkne]; rfl, ?_⟩
  -- `honest_run` is stated with an adaptor secret `ta`; no adaptor is `ta = 0` (`hadp`), and `h0` removes the `± 0` this
  -- leaves in the signature
  have hadp : withAdaptor (aggR1 L) none = Pt.add (aggR1 L) (Pt.mulG 0) := by
    show aggR1 L = Pt.add (aggR1 L) (Pt.mul 0 Pt.G)
    rw [gl.mul_zero, add_inf_right]
  obtain ⟨an, rx, ry, r, hrN, hna, hnp, -, hps, hagg, hver⟩ := honest_run hne hh (cacheInv_of_run hh htw).1 msg N_pos hadp (by simp) hQ hR
  have h0 : Sc.add r (if Fe.isOdd ry then Sc.neg 0 else 0) = r := by
    simp [Sc.neg_zero, SecpZkp.Sc.add, Nat.mod_eq_of_lt hrN]
  rw [h0] at hver
  exact ⟨an, _, _, hna, hnp, hps, hagg, hver⟩

/-- Clause "adapting a pre-signature with the adaptor secret and extracting the secret from the result are inverse
    operations": `extract_adaptor` after `adapt`.  `hlen`: the model takes a byte string of any length where C takes
    `unsigned char[64]`. -/
theorem adapt_extract_inverse (pre : Bytes) (t : Nat) (par : Int) (ht : t < N) (hlen : 32 ≤ pre.length)
    (hs : Bytes.toNat (pre.drop 32) < N) (hp : par = 0 ∨ par = 1) :
    ∃ sig, adapt true (some pre) (some (Bytes.be32 t)) par = ⟨1, some sig, 0⟩ ∧
      extractAdaptor true (some sig) (some pre) par = ⟨1, some (Bytes.be32 t), 0⟩ := by
  refine ⟨_, adapt_eq pre ht hs hp, ?_⟩
  have hl : (pre.take 32).length = 32 := by rw [List.length_take]; omega
  have hd : (pre.take 32 ++ Bytes.be32 (Sc.add (Bytes.toNat (pre.drop 32)) (if par ≠ 0 then Sc.neg t else t))).drop 32
      = Bytes.be32 (Sc.add (Bytes.toNat (pre.drop 32)) (if par ≠ 0 then Sc.neg t else t)) := List.drop_left' hl
  have hsig : Bytes.toNat ((pre.take 32 ++ Bytes.be32 (Sc.add (Bytes.toNat (pre.drop 32))
      (if par ≠ 0 then Sc.neg t else t))).drop 32) = Sc.add (Bytes.toNat (pre.drop 32)) (if par ≠ 0 then Sc.neg t else t) := by
    rw [hd, Bytes.toNat_be32_of_lt_N (Sc.add_lt _ _)]
  rw [extractAdaptor_eq _ pre (by rw [hsig]; exact Sc.add_lt _ _) hs hp, hsig, extract_adapt _ t ht hp]

/-- The other direction: `adapt` after `extract_adaptor`. -/
theorem extract_adapt_inverse (sig pre : Bytes) (par : Int) (hls : sig.length = 64)
    (htake : sig.take 32 = pre.take 32) (hsig : Bytes.toNat (sig.drop 32) < N)
    (hs : Bytes.toNat (pre.drop 32) < N) (hp : par = 0 ∨ par = 1) :
    ∃ t32, extractAdaptor true (some sig) (some pre) par = ⟨1, some t32, 0⟩ ∧
      adapt true (some pre) (some t32) par = ⟨1, some sig, 0⟩ := by
  refine ⟨_, extractAdaptor_eq sig pre hsig hs hp, ?_⟩
  have hlt : (if par = 0 then Sc.neg (Sc.add (Sc.neg (Bytes.toNat (sig.drop 32))) (Bytes.toNat (pre.drop 32)))
      else Sc.add (Sc.neg (Bytes.toNat (sig.drop 32))) (Bytes.toNat (pre.drop 32))) < N :=
    ite_neg_lt _ (Sc.add_lt _ _)
  rw [adapt_eq pre hlt hs hp, adapt_extract _ _ hsig hp, ← htake,
    Bytes.be32_toNat _ (by rw [List.length_drop, hls]), List.take_append_drop]

/-- `musig_complete` with an adaptor `T = t•G` (combined nonce `R1 + T + b•R2`): `adapt` with `t` and the session's nonce
    parity turns the aggregate of the partial signatures into a signature that `schnorrsig_verify` accepts, and
    `extract_adaptor` recovers `t`.  `ht0`: `nonce_process` refuses the adaptor point `∞`. -/
theorem musig_complete_adaptor (L : List Signer) (hne : L ≠ []) (hh : ∀ s ∈ L, s.Honest) (tws : List TweakStep)
    (c : KeyaggCache) (htw : applyTweaks (aggCache (L.map Signer.pk)) tws = some c) (msg : Bytes)
    (t : Nat) (ht0 : 0 < t) (htN : t < N)
    (hQ : c.pk ≠ .inf) (hR : finalNoncePoint L c msg (some (Pt.mulG t)) ≠ .inf) :
    ∃ an sess pre par sig,
      nonceAgg true (L.map fun s => some s.pubnonce) = ⟨1, some an, 0⟩ ∧
      nonceProcess true (some an) (some msg) (some c) (some (Pt.mulG t)) = ⟨1, some sess, 0⟩ ∧
      (∀ s ∈ L, (partialSign true (some s.secnonce) (some s.keypair) (some c) (some sess)).ret = 1) ∧
      partialSigAgg true (some sess)
        (L.map fun s => (partialSign true (some s.secnonce) (some s.keypair) (some c) (some sess)).out.sig)
          = ⟨1, some pre, 0⟩ ∧
      nonceParity true (some sess) = ⟨1, some par, 0⟩ ∧
      adapt true (some pre) (some (Bytes.be32 t)) par = ⟨1, some sig, 0⟩ ∧
      (Schnorr.verify sig msg (Keys.evenY c.pk).1).ret = 1 ∧
      extractAdaptor true (some sig) (some pre) par = ⟨1, some (Bytes.be32 t), 0⟩ := by
  have : HasGroupLaw := ⟨groupLaw⟩
  obtain ⟨an, rx, ry, r, hrN, hna, hnp, f2, hps, hagg, hver⟩ :=
    honest_run hne hh (cacheInv_of_run hh htw).1 msg htN rfl (by simpa using mulG_ne_inf ht0 htN) hQ hR
  have hsess : (honestSession L c msg (some (Pt.mulG t))).magic = sessionMagic := rfl
  have hpar : ((if Fe.isOdd ry then 1 else 0 : Nat) : Int) = 0 ∨ ((if Fe.isOdd ry then 1 else 0 : Nat) : Int) = 1 := by
    split <;> simp
  have hdrop : Bytes.toNat ((Bytes.be32 rx ++ Bytes.be32 r).drop 32) = r := by
    rw [drop_be32_append, Bytes.toNat_be32_of_lt_N hrN]
  have hite : (if ((if Fe.isOdd ry then 1 else 0 : Nat) : Int) ≠ 0 then Sc.neg t else t)
      = if Fe.isOdd ry then Sc.neg t else t := by
    cases Fe.isOdd ry <;> simp
  obtain ⟨sig, hadapt, hext⟩ := adapt_extract_inverse (Bytes.be32 rx ++ Bytes.be32 r) t _ htN (by simp)
    (by rw [hdrop]; exact hrN) hpar
  -- the adapted signature is `be32 rx ‖ be32 (r ± t)`, the one `honest_run` shows valid
  have hsig := hadapt
  rw [adapt_eq _ htN (by rw [hdrop]; exact hrN) hpar, hdrop, take_be32_append, hite] at hsig
  cases hsig
  refine ⟨an, _, _, _, _, hna, hnp, hps, hagg, ?_, hadapt, hver, hext⟩
  simp only [nonceParity, sessionLoad_of_magic hsess, f2]
  rfl

/-- `hR` of `musig_complete` on the example -/
theorem exC_nonce : finalNoncePoint exSigners exC [1, 2, 3] none ≠ Pt.inf := by decide +kernel

/-- All hypotheses of `musig_complete` hold on the example. -/
example : ∃ sig, (Schnorr.verify sig [1, 2, 3] (Keys.evenY exC.pk).1).ret = 1 := by
  obtain ⟨_, _, _, sig, _, _, _, _, h⟩ :=
    musig_complete exSigners (by decide) exSigners_honest exTweaks exC exC_run [1, 2, 3] (by decide) exC_nonce
  exact ⟨sig, h⟩

/-- `hR` of `musig_complete_adaptor`, adaptor secret 11 -/
theorem exC_nonce_adaptor : finalNoncePoint exSigners exC [1, 2, 3] (some (Pt.mulG 11)) ≠ Pt.inf := by
  decide +kernel

example : ∃ pre sig par, (Schnorr.verify sig [1, 2, 3] (Keys.evenY exC.pk).1).ret = 1 ∧
    extractAdaptor true (some sig) (some pre) par = ⟨1, some (Bytes.be32 11), 0⟩ := by
  obtain ⟨_, _, pre, par, sig, _, _, _, _, _, _, h1, h2⟩ :=
    musig_complete_adaptor exSigners (by decide) exSigners_honest exTweaks exC exC_run [1, 2, 3] 11 (by decide)
      (by decide +kernel) (by decide) exC_nonce_adaptor
  exact ⟨pre, sig, par, h1, h2⟩

/-- Non-vacuity of `adapt_extract_inverse`. -/
example : ∃ sig, adapt true (some (Bytes.be32 1 ++ Bytes.be32 5)) (some (Bytes.be32 7)) 1 = ⟨1, some sig, 0⟩ ∧
    extractAdaptor true (some sig) (some (Bytes.be32 1 ++ Bytes.be32 5)) 1 = ⟨1, some (Bytes.be32 7), 0⟩ :=
  adapt_extract_inverse _ 7 1 (by decide +kernel) (by decide +kernel) (by decide +kernel) (Or.inr rfl)

/-- Clause "every nonce set (including an aggregate nonce at infinity)": the `∞ ↦ G` rule of BIP-327 in `nonce_process`.
    `R` is the combined nonce `R1 (+ T) + b•R2`; when it is `∞` the session holds `G` (x-coordinate, parity 0). -/
theorem final_nonce_inf_uses_G (c : KeyaggCache) (hc : c.magic = keyaggCacheMagic) (an : Aggnonce)
    (han : an.magic = aggnonceMagic) (msg : Bytes) (adaptor : Option Pt) (ha : adaptor ≠ some .inf) :
    ∃ sess, nonceProcess true (some an) (some msg) (some c) adaptor = ⟨1, some sess, 0⟩ ∧
      let r1 := withAdaptor an.r1 adaptor
      let b := nonceCoef r1 an.r2 (Bytes.be32 c.pk.xOf) msg
      let R := Pt.add (Pt.mul b an.r2) r1
      sess.noncecoef = b ∧
      (R = .inf → sess.finNonce = Bytes.be32 Pt.Gx ∧ sess.finNonceParity = 0) ∧
      (R ≠ .inf → sess.finNonce = Bytes.be32 R.xOf ∧ sess.finNonceParity = if Fe.isOdd R.yOf then 1 else 0) := by
  refine ⟨_, nonceProcess_eq hc han msg ha, ?_, ?_, ?_⟩
  · exact Nat.mod_eq_of_lt (Nat.mod_lt _ N_pos)
  · intro hR
    have hfin := finalNonce_of_inf (r1a := withAdaptor an.r1 adaptor) (r2 := an.r2)
      (aggPk32 := Bytes.be32 c.pk.xOf) (msg := msg) hR
    simp only [sessionOf, sessionSave, hfin]
    exact ⟨rfl, by decide⟩
  · intro hR
    have hfin := finalNonce_of_ne_inf (r1a := withAdaptor an.r1 adaptor) (r2 := an.r2)
      (aggPk32 := Bytes.be32 c.pk.xOf) (msg := msg) hR
    simp only [sessionOf, sessionSave, hfin]
    refine ⟨rfl, ?_⟩
    unfold effectiveNonce
    split <;> rfl

/-- The premise `R = ∞` holds for the aggregate nonce `(∞, ∞)`, whatever the hash … -/
example (b : Nat) : Pt.add (Pt.mul b .inf) (withAdaptor .inf none) = .inf := rfl

/-- … and `R ≠ ∞` for `(G, ∞)`. -/
example (b : Nat) : Pt.add (Pt.mul b .inf) (withAdaptor Pt.G none) ≠ .inf := by
  show Pt.G ≠ Pt.inf; decide

/-- "Counters over the full 64-bit range": `nonce_gen_counter` hands `counterInput cnt` (8-byte big-endian counter ‖ 24
    zero bytes) to `nonce_gen_internal` as the session randomness (second conjunct; it goes unchanged into the
    "MuSig/aux" hash: `nonceFunction_secrand`), and different counters below `2^64` give different strings, also when
    they differ only above bit 31.  Nothing is claimed about the hash. -/
theorem nonce_counter_injective_input (c1 c2 : Nat) (h1 : c1 < 2 ^ 64) (h2 : c2 < 2 ^ 64) (hne : c1 ≠ c2) :
    counterInput c1 ≠ counterInput c2 ∧
    ∀ (wantPub : Bool) (kp : Keys.Keypair) (msg32 : Option Bytes) (cache : Option KeyaggCache) (extra32 : Option Bytes)
      (cnt : Nat),
      nonceGenCounter true wantPub cnt (some kp) msg32 cache extra32 =
        let r := nonceGenInternal wantPub (counterInput cnt) (some kp.sk) (some kp.pk) msg32 cache extra32
        ⟨r.ret, ⟨some (r.out.secnonce.getD Secnonce.zero), r.out.pubnonce, none⟩, r.illegal⟩ :=
  ⟨fun h => hne (counterInput_injective h1 h2 h), fun _ _ _ _ _ _ => rfl⟩

theorem nonce_counter_recoverable (cnt : Nat) (h : cnt < 2 ^ 64) :
    Bytes.toNat ((counterInput cnt).take 8) = cnt ∧ (counterInput cnt).length = 32 :=
  ⟨by rw [counterInput_take, Nat.mod_eq_of_lt h], counterInput_length cnt⟩

/-- Non-vacuity: the pair of counters from the property text, `2^32` apart. -/
example : counterInput 1 ≠ counterInput (1 + 2 ^ 32) :=
  (nonce_counter_injective_input 1 (1 + 2 ^ 32) (by decide) (by decide) (by decide)).1

end C12
end SecpZkp
