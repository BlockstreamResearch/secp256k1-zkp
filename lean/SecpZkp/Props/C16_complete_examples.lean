import SecpZkp.Props.C16_complete
/-
  Evaluated instances for `Props/C16_complete.lean` (kept in a separate file because each kernel evaluation of
  `secp256k1_whitelist_sign` runs RFC 6979 twice, i.e. some sixty SHA-256 compressions):
  * non-vacuity of `whitelist_complete`;
  * the corner case "tweaked secret ≡ 0": `sign` returns 0, and no signature could verify anyway.
-/
namespace SecpZkp
namespace Whitelist
open SecpZkp.Algebra

/-- example instance: one key pair, `online = 3•G`, `offline = 2•G`, whitelisted key `3•G`, so that `online_sec = 3` and
    `summed_sec = 2 + 3 = 5` -/
def exOnline : List Pt := [Pt.mulG 3]
def exOffline : List Pt := [Pt.mulG 2]
def exSub : Pt := Pt.mulG 3
def exOnlineKey : Bytes := Bytes.be32 3
def exSummedKey : Bytes := Bytes.be32 5

theorem ex_ret : (sign exOnline exOffline exSub exOnlineKey exSummedKey 0).ret = 1 := by decide +kernel
theorem ex_hon : exOnline[0]? = some (Pt.mulG (Sc.setB32 exOnlineKey).1) := by decide +kernel
theorem ex_hoff : exOffline[0]?.map (fun o => Pt.add o exSub) = some (Pt.mulG (Sc.setB32 exSummedKey).1) := by
  decide +kernel
theorem ex_hothers : ∀ j, j ≠ 0 → (computeKeysAndMessage exOnline exOffline exSub).2[j]? ≠ some .inf := by
  intro j hj
  have hl : (computeKeysAndMessage exOnline exOffline exSub).2.length = 1 := by
    simp [computeKeys_snd, exOnline, exOffline]
  rw [List.getElem?_eq_none (by omega)]
  simp

/-- Non-vacuity of `whitelist_complete`: its hypotheses hold for the example instance (`secp256k1_whitelist_sign` is
    evaluated by the kernel, RFC 6979 included). -/
example : ∃ sig, (sign exOnline exOffline exSub exOnlineKey exSummedKey 0).out = some sig ∧
    verify sig exOnline exOffline exSub = 1 := by
  obtain ⟨sig, hout⟩ := sign_out_of_ret ex_ret
  exact ⟨sig, hout, whitelist_complete exOnline exOffline exSub exOnlineKey exSummedKey 0 sig (by decide)
    ex_hon ex_hoff ex_hothers ex_ret hout⟩

/-- `H(5•G)` as a scalar -/
def cornerTweak : Nat := 101209174688016319731860690379335570643309777889359451706221983432371306237727
/-- `−5·H(5•G) mod n`: the online secret for which, with `summed_sec = 5`, the tweaked secret vanishes. -/
def cornerOnlineSec : Nat := 0xa1342f890f841601c551c409d58b2ff0fcef9c1140962622a8bb7bcb9786faaa

theorem corner_tweak : hashPubkey (Pt.mulG (Sc.setB32 (Bytes.be32 5)).1) = some cornerTweak := by decide +kernel
theorem corner_zero :
    Sc.add (Sc.mul (Sc.setB32 (Bytes.be32 5)).1 cornerTweak) (Sc.setB32 (Bytes.be32 cornerOnlineSec)).1 = 0 := by
  decide +kernel
theorem corner_hon : [Pt.mulG cornerOnlineSec][0]? = some (Pt.mulG (Sc.setB32 (Bytes.be32 cornerOnlineSec)).1) := by
  decide +kernel
theorem corner_hoff : [Pt.mulG 2][0]?.map (fun o => Pt.add o (Pt.mulG 3)) = some (Pt.mulG (Sc.setB32 (Bytes.be32 5)).1) := by
  decide +kernel
/-- the first conjunct of the example below, by plain evaluation of the model -/
theorem corner_sign_ret_eval :
    (sign [Pt.mulG cornerOnlineSec] [Pt.mulG 2] (Pt.mulG 3) (Bytes.be32 cornerOnlineSec) (Bytes.be32 5) 0).ret = 0 := by
  decide +kernel

/-- The corner case of finding F2, evaluated: `summed_sec = 5` and `online_sec = −5·H(5•G) mod n` are valid secret keys,
    the public keys match them, and the tweaked secret is 0. -/
example :
    (sign [Pt.mulG cornerOnlineSec] [Pt.mulG 2] (Pt.mulG 3) (Bytes.be32 cornerOnlineSec) (Bytes.be32 5) 0).ret = 0 ∧
    ∀ sig, verify sig [Pt.mulG cornerOnlineSec] [Pt.mulG 2] (Pt.mulG 3) = 0 := by
  refine ⟨whitelist_sign_refuses_zero_tweaked_secret _ _ _ _ _ 0 cornerTweak corner_tweak corner_zero, fun sig => ?_⟩
  exact whitelist_zero_tweaked_ringkey_inf [Pt.mulG cornerOnlineSec] [Pt.mulG 2] (Pt.mulG 3) (Bytes.be32 cornerOnlineSec)
    (Bytes.be32 5) 0 sig cornerTweak (by decide) corner_hon corner_hoff corner_tweak corner_zero

end Whitelist
end SecpZkp
