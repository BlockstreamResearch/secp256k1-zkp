import SecpZkp.Proofs.EllswiftIR
/-
  C18 (IR level): the hand-written model of the ElligatorSwift field-level functions (`Model/Ellswift.lean`:
  `geXOnCurveVar`, `geXFracOnCurveVar`, `xswiftecFracVar`, `xswiftecVar`, …) is a faithful transcription of the C code.

  `Gen/F_ellswift.lean` is REGENERATED from the C sources (src/modules/ellswift/main_impl.h, src/group_impl.h) by the
  translator (mode F): programs over field VALUES with the magnitude contract of src/field.h (`FeIR.execL`; `none` = a
  field primitive is called outside its documented magnitude).  For EVERY state entered normally (`st.returned = false`;
  all field values, all other variables arbitrary), running the generated body succeeds, and its outputs are EXACTLY the
  values the model function returns.

  * Inputs are field variables of the state (`st.fe.get "u"` = value and magnitude); the values are arbitrary naturals
    (NOT assumed reduced mod `P`): the model functions reduce their inputs themselves, and the theorems hold for
    unreduced inputs as they stand.  Magnitude hypotheses are `≤ 8` (what `fe_mul`/`fe_sqr` accept), which covers the
    callers of the library (they pass magnitude ≤ 1, and ≤ 6 for the inlined on-curve tests).
  * Outputs: `(st'.fe.get "xn").val` is the value held by the C variable after the call; equalities are equalities of
    natural numbers (both sides are reduced mod `P`), not just congruences.
-/
namespace SecpZkp.C18ir
open SecpZkp SecpZkp.FeIR SecpZkp.MiniC

-- the field operations are never unfolded below (a failed unification of two different field terms would otherwise
-- end in `_ % P` on a non-literal, i.e. unary recursion on `P`)
attribute [local irreducible] Fe.add Fe.mul Fe.sqr Fe.neg Fe.inv Fe.isSquare Fe.half Fe.sqrtCand FeIR.canon

def stOf (vars : List (String × ℕ × ℕ)) : State := ⟨vars.map fun v => (v.1, ⟨v.2.1, v.2.2⟩), [], false⟩

theorem ge_x_on_curve_var_eq (st : State) (hret : st.returned = false) (hx : (st.fe.get "x").mag ≤ 8) :
    ∃ st', FeIR.execL st Gen.ellswift.ge_x_on_curve_var.body = some st' ∧
      st'.ints.get "ret" 0 = if Ellswift.geXOnCurveVar (st.fe.get "x").val = true then 1 else 0 := by
  obtain ⟨fe, ints, ret⟩ := st
  simp only at hret hx; subst hret
  generalize hxv : fe.get "x" = xv at hx; obtain ⟨X, mx⟩ := xv
  simp only at hx
  apply Post.elim
  fe_run [Gen.ellswift.ge_x_on_curve_var, hxv]
  rfl

set_option maxRecDepth 100000 in
/-- non-vacuity: `x = Gx` (on the curve: 1), `x = 5` (not on the curve: 0), and an unreduced value `P + Gx` -/
example :
    ((FeIR.execL (stOf [("x", Pt.Gx, 1)]) Gen.ellswift.ge_x_on_curve_var.body).map (·.ints.get "ret" 0) = some 1 ∧
      Ellswift.geXOnCurveVar Pt.Gx = true) ∧
    ((FeIR.execL (stOf [("x", 5, 8)]) Gen.ellswift.ge_x_on_curve_var.body).map (·.ints.get "ret" 0) = some 0 ∧
      Ellswift.geXOnCurveVar 5 = false) ∧
    ((FeIR.execL (stOf [("x", P + Pt.Gx, 1)]) Gen.ellswift.ge_x_on_curve_var.body).map (·.ints.get "ret" 0) = some 1 ∧
      Ellswift.geXOnCurveVar (P + Pt.Gx) = true) := by decide +kernel

theorem ge_x_frac_on_curve_var_eq (st : State) (hret : st.returned = false)
    (hxn : (st.fe.get "xn").mag ≤ 8) (hxd : (st.fe.get "xd").mag ≤ 8) :
    ∃ st', FeIR.execL st Gen.ellswift.ge_x_frac_on_curve_var.body = some st' ∧
      st'.ints.get "ret" 0 =
        if Ellswift.geXFracOnCurveVar (st.fe.get "xn").val (st.fe.get "xd").val = true then 1 else 0 := by
  obtain ⟨fe, ints, ret⟩ := st
  simp only at hret hxn hxd; subst hret
  generalize hnv : fe.get "xn" = nv at hxn; obtain ⟨Xn, mn⟩ := nv
  generalize hdv : fe.get "xd" = dv at hxd; obtain ⟨Xd, md⟩ := dv
  simp only at hxn hxd
  apply Post.elim
  fe_run [Gen.ellswift.ge_x_frac_on_curve_var, hnv, hdv]

set_option maxRecDepth 100000 in
/-- non-vacuity: `3·Gx / 3` is on the curve, `5 / 1` is not -/
example :
    ((FeIR.execL (stOf [("xn", Fe.mul 3 Pt.Gx, 3), ("xd", 3, 6)]) Gen.ellswift.ge_x_frac_on_curve_var.body).map
        (·.ints.get "ret" 0) = some 1 ∧ Ellswift.geXFracOnCurveVar (Fe.mul 3 Pt.Gx) 3 = true) ∧
    ((FeIR.execL (stOf [("xn", 5, 1), ("xd", 1, 1)]) Gen.ellswift.ge_x_frac_on_curve_var.body).map
        (·.ints.get "ret" 0) = some 0 ∧ Ellswift.geXFracOnCurveVar 5 1 = false) := by decide +kernel

/-- `secp256k1_ellswift_xswiftec_frac_var(xn, xd, u, t)`, in every case (`u = 0`, `t = 0`, `g + s = 0`, each of the three
    candidates `x3`, `x2`, `x1`).  Output magnitudes at most 3 and 6 (so `xd` may be passed to `fe_inv`, and both to
    `fe_mul`). -/
theorem xswiftec_frac_var_eq (st : State) (hret : st.returned = false)
    (hu : (st.fe.get "u").mag ≤ 8) (ht : (st.fe.get "t").mag ≤ 8) :
    ∃ st', FeIR.execL st Gen.ellswift.xswiftec_frac_var.body = some st' ∧
      (st'.fe.get "xn").val = (Ellswift.xswiftecFracVar (st.fe.get "u").val (st.fe.get "t").val).1 ∧
      (st'.fe.get "xd").val = (Ellswift.xswiftecFracVar (st.fe.get "u").val (st.fe.get "t").val).2 ∧
      (st'.fe.get "xn").mag ≤ 3 ∧ (st'.fe.get "xd").mag ≤ 6 := by
  obtain ⟨fe, ints, ret⟩ := st
  simp only at hret hu ht; subst hret
  generalize huv : fe.get "u" = uv at hu; obtain ⟨U, mu⟩ := uv
  generalize htv : fe.get "t" = tv at ht; obtain ⟨T, mt⟩ := tv
  simp only at hu ht
  have hm := xswiftecFracVar_raw U T
  simp only [Ellswift.fracCore] at hm
  generalize Ellswift.xswiftecFracVar U T = m at hm
  apply Post.elim
  fe_run [Gen.ellswift.xswiftec_frac_var, huv, htv]
  repeat' fe_split1 hm
  all_goals (subst hm; with_reducible refine ⟨rfl, rfl, ?_, ?_⟩ <;> first | omega | (split_ifs <;> omega))

/-- a square root of `-(5³ + 7)`: with `u = 5` this `t` hits the exceptional case `g + s = 0` -/
def tExc : ℕ := 23991821008281484097053715379747718372991279943638939452345024967188278261434

def fracAgrees (u t : ℕ) : Bool :=
  (FeIR.execL (stOf [("u", u, 1), ("t", t, 1)]) Gen.ellswift.xswiftec_frac_var.body).map
    (fun st' => ((st'.fe.get "xn").val, (st'.fe.get "xd").val)) = some (Ellswift.xswiftecFracVar u t)

theorem fracAgrees_all (u t : ℕ) : fracAgrees u t = true := by
  obtain ⟨st', h, h1, h2, _⟩ := xswiftec_frac_var_eq (stOf [("u", u, 1), ("t", t, 1)]) rfl (show 1 ≤ 8 by decide)
    (show 1 ≤ 8 by decide)
  unfold fracAgrees
  rw [h, Option.map_some, h1, h2]
  exact decide_eq_true rfl

set_option maxRecDepth 100000 in
/-- non-vacuity, one input per path: `(2, 1)` returns `x3`, `(0, 0)` (both remapped) returns `x2`, `(0, 2)` returns `x1`,
    `(5, tExc)` takes the `g + s = 0` branch, `(P + 2, P + 1)` is unreduced -/
example : fracAgrees 2 1 = true ∧ fracAgrees 0 0 = true ∧ fracAgrees 0 2 = true ∧ fracAgrees 5 tExc = true ∧
    fracAgrees (P + 2) (P + 1) = true ∧
    Fe.add (Fe.add (Fe.mul (Fe.sqr 5) 5) 7) (Fe.sqr tExc) = 0 :=
  ⟨fracAgrees_all _ _, fracAgrees_all _ _, fracAgrees_all _ _, fracAgrees_all _ _, fracAgrees_all _ _,
    by decide +kernel⟩

/-- `secp256k1_ellswift_xswiftec_var(x, u, t)`: the inlined `xswiftec_frac_var`, then `fe_inv_var` and `fe_mul` -/
theorem xswiftec_var_eq (st : State) (hret : st.returned = false)
    (hu : (st.fe.get "u").mag ≤ 8) (ht : (st.fe.get "t").mag ≤ 8) :
    ∃ st', FeIR.execL st Gen.ellswift.xswiftec_var.body = some st' ∧
      (st'.fe.get "x").val = Ellswift.xswiftecVar (st.fe.get "u").val (st.fe.get "t").val ∧
      (st'.fe.get "x").mag ≤ 1 := by
  obtain ⟨fe, ints, ret⟩ := st
  simp only at hret hu ht; subst hret
  generalize huv : fe.get "u" = uv at hu; obtain ⟨U, mu⟩ := uv
  generalize htv : fe.get "t" = tv at ht; obtain ⟨T, mt⟩ := tv
  simp only at hu ht
  have hv : Ellswift.xswiftecVar U T =
      Fe.mul (Ellswift.xswiftecFracVar U T).1 (Fe.inv (Ellswift.xswiftecFracVar U T).2) := rfl
  rw [hv]
  have hm := xswiftecFracVar_raw U T
  simp only [Ellswift.fracCore, ite_prod_sel, sel_self] at hm
  generalize Ellswift.xswiftecFracVar U T = m at hm
  apply Post.elim
  fe_run [Gen.ellswift.xswiftec_var, huv, htv]
  subst hm
  exact ⟨rfl, le_refl 1⟩

def xswiftecAgrees (u t : ℕ) : Bool :=
  (FeIR.execL (stOf [("u", u, 1), ("t", t, 1)]) Gen.ellswift.xswiftec_var.body).map
    (fun st' => (st'.fe.get "x").val) = some (Ellswift.xswiftecVar u t)

theorem xswiftecAgrees_all (u t : ℕ) : xswiftecAgrees u t = true := by
  obtain ⟨st', h, h1, _⟩ := xswiftec_var_eq (stOf [("u", u, 1), ("t", t, 1)]) rfl (show 1 ≤ 8 by decide)
    (show 1 ≤ 8 by decide)
  unfold xswiftecAgrees
  rw [h, Option.map_some, h1]
  exact decide_eq_true rfl

set_option maxRecDepth 100000 in
example : xswiftecAgrees 2 1 = true ∧ xswiftecAgrees 0 0 = true ∧ xswiftecAgrees 0 2 = true ∧
    xswiftecAgrees 5 tExc = true ∧ xswiftecAgrees (P + 2) (P + 1) = true :=
  ⟨xswiftecAgrees_all _ _, xswiftecAgrees_all _ _, xswiftecAgrees_all _ _, xswiftecAgrees_all _ _,
    xswiftecAgrees_all _ _⟩

/-- `secp256k1_ge_set_gej(r, a)`.  The C function rescales `a` in place: afterwards `a` still holds `p`, now with `z = 1`.
    When the infinity flag is set the field operations are still executed (on whatever `a` contains) and the flag is
    copied. -/
theorem ge_set_gej_eq (st : State) (p : Pt) (hret : st.returned = false) (ha : RepJ st "a" p 4 4 1) :
    ∃ st', FeIR.execL st Gen.ellswift.ge_set_gej.body = some st' ∧ RepA st' "r" p 1 1 ∧ RepJ st' "a" p 1 1 1 := by
  obtain ⟨fe, ints, ret⟩ := st
  simp only at hret; subst hret
  simp only [RepJ, String.reduceAppend] at ha
  generalize hx : fe.get "a.x" = ax at ha; obtain ⟨X, mx⟩ := ax
  generalize hy : fe.get "a.y" = ay at ha; obtain ⟨Y, my⟩ := ay
  generalize hz : fe.get "a.z" = az at ha; obtain ⟨Z, mz⟩ := az
  obtain ⟨h1, h2, h3, h4⟩ := ha.elim
  simp only at h1 h2 h3 h4
  apply Post.elim
  fe_run [Gen.ellswift.ge_set_gej, hx, hy, hz]
  fe_get []
  rcases h4 with ⟨hi, rfl⟩ | ⟨hi, hzc, a, b, hab, hX, hY⟩
  · exact ⟨RepA'.inf (by mg) (by mg) hi rfl, RepJ'.inf (by mg) (by mg) (by mg) hi rfl⟩
  · have ex : ((Fe.mul X (Fe.sqr (Fe.inv Z)) : ℕ) : ZMod P) = a := by casts [hX]; field_simp
    have ey : ((Fe.mul Y (Fe.mul (Fe.inv Z) (Fe.sqr (Fe.inv Z))) : ℕ) : ZMod P) = b := by casts [hY]; field_simp
    have hr := hab.congr ex.symm ey.symm
    exact ⟨RepA'.fin (by mg) (by mg) hi hr, RepJ'.of_aff (by mg) (by mg) (by mg) hi rfl hr⟩

/-- `secp256k1_ge_set_gej_var(r, a)`: the same, with an early return for infinity (`r = (0, 0)`, flag 1; `a` untouched). -/
theorem ge_set_gej_var_eq (st : State) (p : Pt) (hret : st.returned = false) (ha : RepJ st "a" p 4 4 1) :
    ∃ st', FeIR.execL st Gen.ellswift.ge_set_gej_var.body = some st' ∧ RepA st' "r" p 1 1 ∧
      RepJ st' "a" p 4 4 1 := by
  obtain ⟨fe, ints, ret⟩ := st
  simp only at hret; subst hret
  simp only [RepJ, String.reduceAppend] at ha
  generalize hx : fe.get "a.x" = ax at ha; obtain ⟨X, mx⟩ := ax
  generalize hy : fe.get "a.y" = ay at ha; obtain ⟨Y, my⟩ := ay
  generalize hz : fe.get "a.z" = az at ha; obtain ⟨Z, mz⟩ := az
  obtain ⟨h1, h2, h3, h4⟩ := ha.elim
  simp only at h1 h2 h3 h4
  apply Post.elim
  fe_run [Gen.ellswift.ge_set_gej_var, hx, hy, hz]
  refine ite_intro (fun hne => ?_) (fun heq => ?_)
  · fe_get [hx, hy, hz]
    rcases h4 with ⟨hi, rfl⟩ | ⟨hi, _⟩
    · exact ⟨RepA'.inf (by mg) (by mg) rfl rfl, RepJ'.inf (by mg) (by mg) (by mg) hi rfl⟩
    · exact absurd hi hne
  · fe_get []
    rcases h4 with ⟨hi, rfl⟩ | ⟨hi, hzc, a, b, hab, hX, hY⟩
    · exact absurd (not_not.1 heq) (by omega)
    · have ex : ((Fe.mul X (Fe.sqr (Fe.inv Z)) : ℕ) : ZMod P) = a := by casts [hX]; field_simp
      have ey : ((Fe.mul Y (Fe.mul (Fe.inv Z) (Fe.sqr (Fe.inv Z))) : ℕ) : ZMod P) = b := by casts [hY]; field_simp
      have hr := hab.congr ex.symm ey.symm
      exact ⟨RepA'.fin (by mg) (by mg) rfl hr, RepJ'.of_aff (by mg) (by mg) (by mg) hi rfl hr⟩

def stJac (inf : ℕ) : State :=
  ⟨[("a.x", ⟨Fe.mul Pt.Gx (Fe.sqr 2), 4⟩), ("a.y", ⟨Fe.mul Pt.Gy (Fe.mul (Fe.sqr 2) 2), 4⟩), ("a.z", ⟨2, 1⟩)],
    [(("a.infinity", 0), inf)], false⟩

set_option maxRecDepth 100000 in
example : (RepJ (stJac 0) "a" Pt.G 4 4 1 ∧ RepJ (stJac 1) "a" Pt.inf 4 4 1) ∧
    ((FeIR.execL (stJac 0) Gen.ellswift.ge_set_gej.body).map fun st' => decide (RepA st' "r" Pt.G 1 1)) = some true ∧
    ((FeIR.execL (stJac 0) Gen.ellswift.ge_set_gej_var.body).map fun st' => decide (RepA st' "r" Pt.G 1 1)) = some true ∧
    ((FeIR.execL (stJac 1) Gen.ellswift.ge_set_gej_var.body).map fun st' => decide (RepA st' "r" Pt.inf 1 1)) = some true := by
  decide +kernel

theorem ge_set_gej_toPt (st : State) (hret : st.returned = false)
    (hmx : (st.fe.get "a.x").mag ≤ 4) (hmy : (st.fe.get "a.y").mag ≤ 4) (hmz : (st.fe.get "a.z").mag ≤ 1)
    (hinf : st.ints.get "a.infinity" 0 = 0) (hz : (st.fe.get "a.z").val % P ≠ 0) :
    ∃ st', FeIR.execL st Gen.ellswift.ge_set_gej.body = some st' ∧
      RepA st' "r" (Pt.Jac.toPt ⟨(st.fe.get "a.x").val, (st.fe.get "a.y").val, (st.fe.get "a.z").val⟩) 1 1 := by
  have ha : RepJ st "a" (Pt.Jac.toPt ⟨(st.fe.get "a.x").val, (st.fe.get "a.y").val, (st.fe.get "a.z").val⟩) 4 4 1 := by
    simp only [RepJ, String.reduceAppend]
    exact ⟨hmx, hmy, hmz, Or.inr ⟨hinf, hz, rfl⟩⟩
  obtain ⟨st', h1, h2, _⟩ := ge_set_gej_eq st _ hret ha
  exact ⟨st', h1, h2⟩
end SecpZkp.C18ir
