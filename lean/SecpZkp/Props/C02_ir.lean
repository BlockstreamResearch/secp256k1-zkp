import SecpZkp.Gen.P_schnorr
import SecpZkp.Model.Schnorr
import SecpZkp.Proofs.AlgIRLemmas
import SecpZkp.Proofs.Algebra
import SecpZkp.Proofs.BytesBasic
import SecpZkp.Proofs.GroupLawProved
/-
  Property C02 (part "ir"): the REGENERATED `secp256k1_schnorrsig_verify` (`Gen/P_schnorr.lean`, translator mode P,
  from `src/modules/schnorrsig/main_impl.h`) computes exactly the hand-written model `Schnorr.verify` of
  `Model/Schnorr.lean`: the return value and the number of illegal-argument callbacks.

  Hypothesis on the key object: `pk.valid = true` (the all-zero object `Pt.inf` counts as valid: for it both sides
  return 0 with one callback).  It is needed because the program reads coordinates through `secp256k1_fe_get_b32` /
  `normalize` / `fe_equal`, i.e. REDUCED mod p (`x % P`), where the model uses the raw coordinates of `pk` and of
  `R = s·G - e·P`: the two agree when the coordinates are canonical (`< p`), which for `R` follows from the validity of
  `pk` (`valid_add`, `valid_mul`).  "Even y" of the x-only key is NOT needed: neither side looks at the parity of
  `pk.y`.  Side conditions of the IR: the state binds no FIELD variables called `pk.x`, `r.x`, `r.y` (these names
  denote coordinates of the point variables `pk`, `r`), and the first signature half has 32 bytes (so that it is
  `sig64.take 32`).
-/
namespace SecpZkp
namespace C02ir
open MiniC AlgIR SecpZkp.Algebra

/-- the translator names the two halves of `sig64` by their offsets: `sig64@0`, `sig64@32` -/
theorem verify_eq (st : State) (hret : st.returned = false)
    (hlen : (st.byGet "sig64@0").length = 32) (hill : st.ints.get "illegal" 0 = 0)
    (hpk : (st.ptGet "pubkey").valid = true)
    (hf1 : st.fe.find? (·.1 == "pk.x") = none) (hf2 : st.fe.find? (·.1 == "r.x") = none)
    (hf3 : st.fe.find? (·.1 == "r.y") = none) :
    (execL st Gen.Pschnorr.verify.body).ints.get "ret" 0 =
      (Schnorr.verify (st.byGet "sig64@0" ++ st.byGet "sig64@32") (lookup [] st.bs "msg") (st.ptGet "pubkey")).ret ∧
    (execL st Gen.Pschnorr.verify.body).ints.get "illegal" 0 =
      (Schnorr.verify (st.byGet "sig64@0" ++ st.byGet "sig64@32") (lookup [] st.bs "msg")
        (st.ptGet "pubkey")).illegal := by
  obtain ⟨sc, fe, pt, bs, ints, rfl⟩ := st.exists_mk hret
  simp only [alg_run] at hlen hill hpk hf1 hf2 hf3 ⊢
  have : Fact (Nat.Prime P) := ⟨prime_P⟩
  unfold Gen.Pschnorr.verify
  simp only [alg_run, hill, feGetL_x hf1 "pk" rfl, feGetL_x hf2 "r" rfl, feGetL_y hf3 "r" rfl]
  generalize lookup (Bytes.zeros 32) bs "sig64@0" = sig0 at hlen ⊢
  generalize lookup (Bytes.zeros 32) bs "sig64@32" = sig32
  generalize lookup [] bs "msg" = msg
  generalize lookup Pt.inf pt "pubkey" = pk at hpk ⊢
  simp only [Schnorr.verify, List.take_left' hlen, List.drop_left' hlen, Codec.feLimit, Sc.setB32]
  by_cases hlim : sig0.toNat < P
  · simp only [hlim, not_true_eq_false, if_true, if_false, Nat.mod_eq_of_lt hlim]
    by_cases hov : sig32.toNat ≥ N
    · simp only [hov, if_true, decide_true, and_self]
    · simp only [hov, if_false, decide_false, Bool.false_eq_true]
      cases pk with
      | inf => simp only [if_true, and_self]
      | aff px py =>
        have hpx := (valid_aff_lt hpk).1
        have hR : (Pt.add (Pt.mul (Sc.neg (Schnorr.challenge sig0 msg (Bytes.be32 px))) (Pt.aff px py))
            (Pt.mulG (sig32.toNat % N))).valid = true :=
          valid_add (SecpZkp.valid_mul _ hpk) (SecpZkp.valid_mul _ valid_G)
        simp only [reduceCtorEq, if_false, Pt.xOf, Nat.mod_eq_of_lt hpx]
        generalize Pt.add (Pt.mul (Sc.neg (Schnorr.challenge sig0 msg (Bytes.be32 px))) (Pt.aff px py))
            (Pt.mulG (sig32.toNat % N)) = R at hR
        cases R with
        | inf => simp only [Pt.isInf, if_true, and_self]
        | aff x y =>
          obtain ⟨hx, hy⟩ := valid_aff_lt hR
          simp only [Pt.isInf, Bool.false_eq_true, if_false, Pt.yOf, Nat.mod_eq_of_lt hx, Nat.mod_eq_of_lt hy,
            and_true]
          unfold Fe.isOdd
          by_cases hxe : sig0.toNat = x
          · rcases Nat.mod_two_eq_zero_or_one y with h2 | h2 <;> simp [hxe, h2]
          · have hxe' : ¬ x = sig0.toNat := fun h => hxe h.symm
            rcases Nat.mod_two_eq_zero_or_one y with h2 | h2 <;> simp [hxe, hxe', h2]
  · simp only [hlim, not_false_eq_true, if_false, if_true, and_self]

/-- a valid BIP-340 signature of the message `01 02 03` under the key `1·G` (nonce 2) -/
def exSig0 : Bytes := Bytes.be32 89565891926547004231252920425935692360644145829622209833684329913297188986597
def exSig32 : Bytes := Bytes.be32 2343127929875755358429974876039672384165622702450281479373157071334449065574

def exSt : State :=
  { bs := [("sig64@0", exSig0), ("sig64@32", exSig32), ("msg", [1, 2, 3])], pt := [("pubkey", Pt.G)] }

example : exSt.returned = false ∧ (exSt.byGet "sig64@0").length = 32 ∧ exSt.ints.get "illegal" 0 = 0 ∧
    (exSt.ptGet "pubkey").valid = true ∧ exSt.fe.find? (·.1 == "pk.x") = none ∧
    exSt.fe.find? (·.1 == "r.x") = none ∧ exSt.fe.find? (·.1 == "r.y") = none := by decide +kernel

theorem ex_accepts : (Schnorr.verify (exSig0 ++ exSig32) [1, 2, 3] Pt.G).ret = 1 ∧
    (Schnorr.verify (exSig0 ++ exSig32) [1, 2, 3] Pt.G).illegal = 0 := by decide +kernel

example : (Schnorr.verify (exSig0 ++ exSig32) [1, 2, 3] Pt.G).ret = 1 := ex_accepts.1

example : (execL exSt Gen.Pschnorr.verify.body).ints.get "ret" 0 = 1 ∧
    (execL exSt Gen.Pschnorr.verify.body).ints.get "illegal" 0 = 0 := by
  have h := verify_eq exSt rfl (by decide +kernel) rfl valid_G rfl rfl rfl
  exact ⟨h.1.trans ex_accepts.1, h.2.trans ex_accepts.2⟩

example : (execL { exSt with pt := [] } Gen.Pschnorr.verify.body).ints.get "ret" 0 = 0 ∧
    (execL { exSt with pt := [] } Gen.Pschnorr.verify.body).ints.get "illegal" 0 = 1 ∧
    (Schnorr.verify (exSig0 ++ exSig32) [1, 2, 3] Pt.inf).illegal = 1 := by decide +kernel

end C02ir
end SecpZkp
