import SecpZkp.Proofs.Generator
/-
  Property C08 — "Pedersen commitments are the stated group elements and tally exactly".

  Model: `Model/Generator.lean` (mirrors `src/modules/generator/main_impl.h`, `pedersen_impl.h`).
  Every theorem below is closed: the group law (`groupLaw`) and the primality of `P`, `N` are proved, no
  hypothesis about the curve is left.  Helper lemmas are in `Proofs/Generator.lean`.
  "Tally accepts ⇒ values balance" is NOT a theorem (see the end of the file).

  Findings (statements that are false of the model as literally requested) are marked FINDING.
-/
namespace SecpZkp
namespace C08
open Generator GeneratorLemmas

local instance : HasGroupLaw := ⟨groupLaw⟩
/- `whnf` on open terms containing `Fe.sqrtCand` would otherwise unroll the 520-step `powMod` loop -/
attribute [local irreducible] powMod

-- `2 ^ 264` (`mulBound`) is above the default threshold up to which Lean evaluates powers
set_option exponentiation.threshold 600

def commitPoint (blind : Bytes) (value : ℕ) (gen : Pt) : Pt :=
  Pt.add (Pt.mulG (Bytes.toNat blind)) (Pt.mul value gen)

/-- `secp256k1_pedersen_commit`: the two failure cases and the object written, with no hypothesis on the inputs. -/
theorem commit_spec (blind : Bytes) (value : ℕ) (gen : Pt) :
    (commit blind value gen = none ↔
      Bytes.toNat blind ≥ N ∨ commitPoint blind value gen = .inf) ∧
    (∀ c, commit blind value gen = some c → c = commitSave (commitPoint blind value gen)) := by
  unfold commitPoint
  by_cases h : Bytes.toNat blind ≥ N
  · rw [commit_of_ge value gen h]; simp [h]
  · rw [commit_of_lt value gen (Nat.not_le.1 h)]
    split <;> simp [*]

/- non-vacuity of `commit_spec`: success, failure by `b ≥ n`, failure by `b•G + v•gen = ∞` (with `b < n`) -/
example : commit (Bytes.be32 5) 3 H = some (commitSave (commitPoint (Bytes.be32 5) 3 H)) := by
  decide +kernel
example : commit (Bytes.be32 N) 1 H = none := by decide +kernel
example : Bytes.toNat (Bytes.be32 (N - 1)) < N ∧ commit (Bytes.be32 (N - 1)) 1 Pt.G = none := by
  decide +kernel
example : commit (Bytes.be32 0) 0 H = none := by decide +kernel

/-- The commitment object denotes exactly the point that was stored: the prefix bit "y is not a square" selects the right
    root because `-1` is a non-residue modulo `P`. -/
theorem commitLoad_commitSave (p : Pt) (hv : p.valid = true) (hne : p ≠ .inf) :
    commitLoad (commitSave p) = p := by
  cases p with
  | inf => exact absurd rfl hne
  | aff x y => exact GeneratorLemmas.commitLoad_commitSave hv

example : H.valid = true ∧ H ≠ .inf ∧ commitLoad (commitSave H) = H := by decide +kernel
example : (Pt.neg H).valid = true ∧ commitLoad (commitSave (Pt.neg H)) = Pt.neg H := by decide +kernel

theorem commit_denotes (blind : Bytes) (value : ℕ) (gen : Pt) (hgen : gen.valid = true) (c : Bytes)
    (h : commit blind value gen = some c) :
    commitLoad c = commitPoint blind value gen ∧ commitPoint blind value gen ≠ .inf ∧
      (commitPoint blind value gen).valid = true ∧ Bytes.toNat blind < N := by
  obtain ⟨hnone, hsome⟩ := commit_spec blind value gen
  have hv : (commitPoint blind value gen).valid = true :=
    valid_add (valid_mul _ valid_G) (valid_mul _ hgen)
  obtain ⟨hb, hne⟩ := not_or.1 (mt hnone.2 (h ▸ Option.some_ne_none c))
  exact ⟨hsome c h ▸ commitLoad_commitSave _ hv hne, hne, hv, Nat.not_le.1 hb⟩

example : H.valid = true ∧ (commit (Bytes.be32 5) (2 ^ 64 - 1) H).isSome = true := by decide +kernel

/-- In Mathlib's group of points of `y² = x³ + 7` over `ZMod P` (`•` is its scalar multiplication); `v < 2^64` as in the
    C API. -/
theorem commit_denotes_group (blind : Bytes) (value : ℕ) (gen : Pt) (hgen : gen.valid = true)
    (hval : value < 2 ^ 64) (c : Bytes) (h : commit blind value gen = some c) :
    toPoint (commitLoad c) = Bytes.toNat blind • toPoint Pt.G + value • toPoint gen := by
  obtain ⟨hl, _, _, hb⟩ := commit_denotes blind value gen hgen c h
  have eG : toPoint (Pt.mulG (Bytes.toNat blind)) = Bytes.toNat blind • toPoint Pt.G :=
    toPoint_mul (Field.lt_pow_264 (lt_trans hb N_lt)) valid_G
  have hvG : (Pt.mulG (Bytes.toNat blind)).valid = true := valid_mul _ valid_G
  rw [hl, commitPoint, toPoint_add hvG (valid_mul _ hgen), eG,
    toPoint_mul (Field.lt_pow_264 (lt_trans hval (by decide))) hgen]

example : H.valid = true ∧ (2 ^ 63 : ℕ) < 2 ^ 64 ∧ (commit (Bytes.be32 (N - 1)) (2 ^ 63) H).isSome = true := by
  decide +kernel

def IsAbscissa (x : ℕ) : Prop := ∃ y, (Pt.aff x y).valid = true

theorem isSquare_rhs_iff {x : ℕ} (hx : x < P) : Fe.isSquare (Parsers.curveRhs x) = true ↔ IsAbscissa x :=
  ⟨fun h => ⟨_, Parsers.onCurve_sqrtCand hx h⟩, fun ⟨_, hy⟩ => isSquare_rhs_of_valid hy⟩

/-- `secp256k1_pedersen_commitment_parse`: the acceptance set; the object is the input itself.
    FINDING (model only): the model does not look at the length of `input` (the C function reads a
    fixed 33-byte buffer), see `commitParse_short_input` below; with `input.length = 33` this is the
    requested statement (`commitParse_iff33`). -/
theorem commitParse_iff (input c : Bytes) :
    commitParse input = some c ↔
      c = input ∧ ∃ b0 rest, input = b0 :: rest ∧ (b0 = 8 ∨ b0 = 9) ∧ Bytes.toNat rest < P ∧
        IsAbscissa (Bytes.toNat rest) := by
  cases input with
  | nil => simp [commitParse]
  | cons b0 rest =>
    rw [commitParse_cons rfl, Option.ite_none_right_eq_some, Option.some.injEq]
    constructor
    · rintro ⟨⟨hb, hx, hs⟩, rfl⟩
      exact ⟨rfl, _, _, rfl, hb, hx, (isSquare_rhs_iff hx).1 hs⟩
    · rintro ⟨rfl, _, _, ⟨⟩, hb, hx, ha⟩
      exact ⟨⟨hb, hx, (isSquare_rhs_iff hx).2 ha⟩, rfl⟩

example : commitParse (8 :: Bytes.be32 1) = some (8 :: Bytes.be32 1) := by decide +kernel
example : commitParse (9 :: Bytes.be32 1) = some (9 :: Bytes.be32 1) := by decide +kernel
example : commitParse (10 :: Bytes.be32 1) = none := by decide +kernel
/-- FINDING (model only): inputs that are not 33 bytes long are accepted by the model's parser. -/
theorem commitParse_short_input : commitParse [8, 1] = some [8, 1] := by decide +kernel

theorem commitParse_iff33 (input c : Bytes) (hlen : input.length = 33) :
    commitParse input = some c ↔
      c = input ∧ ∃ b0 rest, input = b0 :: rest ∧ rest.length = 32 ∧ (b0 = 8 ∨ b0 = 9) ∧
        Bytes.toNat rest < P ∧ IsAbscissa (Bytes.toNat rest) := by
  rw [commitParse_iff]
  refine and_congr_right fun _ => exists₂_congr fun b0 rest => and_congr_right fun e => ?_
  exact (and_iff_right (by simpa [e] using hlen)).symm

example : (8 :: Bytes.be32 1).length = 33 := by decide +kernel

theorem commitParse_noncanonical (b0 : UInt8) (rest : Bytes) (h : Bytes.toNat rest ≥ P) :
    commitParse (b0 :: rest) = none := by
  rw [commitParse_cons rfl, if_neg (fun h' => absurd h'.2.1 (Nat.not_lt.2 h))]

/- `x = 1` is accepted, its non-canonical re-encoding `x + P` (which still fits in 32 bytes) is not -/
example : Bytes.toNat (Bytes.be32 (P + 1)) ≥ P ∧ commitParse (8 :: Bytes.be32 (P + 1)) = none ∧
    (commitParse (8 :: Bytes.be32 1)).isSome = true := by decide +kernel

/-- `secp256k1_generator_parse`: the acceptance set and the point returned. -/
theorem generator_parse_iff (input : Bytes) (g : Pt) :
    parse input = some g ↔
      ∃ b0 rest y, input = b0 :: rest ∧ (b0 = 10 ∨ b0 = 11) ∧ Bytes.toNat rest < P ∧
        g = .aff (Bytes.toNat rest) y ∧ g.valid = true ∧ (Fe.isSquare y = true ↔ b0 = 10) := by
  cases input with
  | nil => simp [parse]
  | cons b0 rest =>
    rw [parse_cons rfl, Option.ite_none_right_eq_some, Option.some.injEq]
    constructor
    · rintro ⟨⟨hb, hx, hs⟩, rfl⟩
      obtain ⟨hv, hsq⟩ := (valid_aff_iff_sqrtCand hx (b0 = 10)).2 ⟨hs, rfl⟩
      exact ⟨b0, rest, _, rfl, hb, hx, rfl, hv, hsq⟩
    · rintro ⟨_, _, y, ⟨⟩, hb, hx, rfl, hv, hsq⟩
      obtain ⟨hs, rfl⟩ := (valid_aff_iff_sqrtCand hx _).1 ⟨hv, hsq⟩
      exact ⟨⟨hb, hx, hs⟩, rfl⟩

example : parse (serialize H) = some H := by decide +kernel
example : parse (11 :: Bytes.be32 1) = some (Pt.neg (.aff 1 (Fe.sqrtCand 8))) := by decide +kernel
example : parse (8 :: Bytes.be32 1) = none := by decide +kernel

theorem generator_parse_noncanonical (b0 : UInt8) (rest : Bytes) (h : Bytes.toNat rest ≥ P) :
    parse (b0 :: rest) = none := by
  rw [parse_cons rfl, if_neg (fun h' => absurd h'.2.1 (Nat.not_lt.2 h))]

example : parse (10 :: Bytes.be32 (P + 1)) = none ∧ (parse (10 :: Bytes.be32 1)).isSome = true := by
  decide +kernel

theorem parse_serialize (g : Pt) (hv : g.valid = true) (hne : g ≠ .inf) :
    parse (serialize g) = some g := by
  cases g with
  | inf => exact absurd rfl hne
  | aff x y =>
    have hx := (Algebra.valid_aff_lt hv).1
    rw [generator_parse_iff]
    refine ⟨_, _, y, serialize_aff x y, ite_eq_or_eq _ _ _, ?_, ?_, hv, ?_⟩
    · rw [Bytes.toNat_be32_of_lt_P hx]; exact hx
    · rw [Bytes.toNat_be32_of_lt_P hx]
    · by_cases hs : Fe.isSquare y = true <;> simp [hs]

example : H.valid = true ∧ H ≠ .inf := by decide +kernel

/-- Hence the encoding accepted for a generator is unique. -/
theorem serialize_parse (bs : Bytes) (g : Pt) (hlen : bs.length = 33) (h : parse bs = some g) :
    serialize g = bs := by
  obtain ⟨b0, rest, y, rfl, hb, hx, rfl, hv, hsq⟩ := (generator_parse_iff bs g).1 h
  rw [serialize_aff, Bytes.be32_toNat rest (by simpa using hlen), prefix_eq hb (by decide) hsq]

example : (11 :: Bytes.be32 1).length = 33 ∧ (parse (11 :: Bytes.be32 1)).isSome = true := by decide +kernel

theorem commitParse_commitSave (p : Pt) (hv : p.valid = true) (hne : p ≠ .inf) :
    commitParse (commitSave p) = some (commitSave p) := by
  cases p with
  | inf => exact absurd rfl hne
  | aff x y =>
    have hx := (Algebra.valid_aff_lt hv).1
    rw [commitSave_aff, commitParse_cons (Bytes.toNat_be32_of_lt_P hx),
      if_pos ⟨ite_eq_or_eq _ _ _, hx, isSquare_rhs_of_valid hv⟩]

example : commitParse (commitSave H) = some (commitSave H) := by decide +kernel

/-- Parsing accepts exactly the canonical encodings of valid finite points. -/
theorem commitSave_commitLoad (c : Bytes) (hlen : c.length = 33) (h : commitParse c = some c) :
    commitSave (commitLoad c) = c ∧ (commitLoad c).valid = true ∧ commitLoad c ≠ .inf := by
  obtain ⟨_, b0, rest, rfl, hb, hx, y, hy⟩ := (commitParse_iff c c).1 h
  have hs := isSquare_rhs_of_valid hy
  obtain ⟨hv, hsq⟩ := (valid_aff_iff_sqrtCand hx (b0 = 8)).2 ⟨hs, rfl⟩
  rw [commitLoad_eq_aff rfl hb hx hs, commitSave_aff, Bytes.be32_toNat rest (by simpa using hlen),
    prefix_eq hb (by decide) hsq]
  exact ⟨rfl, hv, fun h => Pt.noConfusion h⟩

example : (9 :: Bytes.be32 1).length = 33 ∧ commitParse (9 :: Bytes.be32 1) = some (9 :: Bytes.be32 1) := by
  decide +kernel

/-- `secp256k1_pedersen_verify_tally`, for lists of any length, including empty ones, and any (even malformed) commitment
    objects: `commitLoad` is total and always yields a valid point. -/
theorem tally_iff (pos neg : List Bytes) :
    verifyTally pos neg = true ↔
      Pt.sub (Pt.sum (pos.map commitLoad)) (Pt.sum (neg.map commitLoad)) = .inf := by
  rw [verifyTally_eq, Pt.isInf_iff]

/- non-vacuity: the empty tally; a balanced tally 2-vs-1; the same tally off by one unit of value -/
example : verifyTally [] [] = true := by decide +kernel
example : (do let c1 ← commit (Bytes.be32 5) 3 H; let c2 ← commit (Bytes.be32 7) 4 H
              let c3 ← commit (Bytes.be32 12) 7 H; pure (verifyTally [c1, c2] [c3])) = some true := by
  decide +kernel
example : (do let c1 ← commit (Bytes.be32 5) 3 H; let c2 ← commit (Bytes.be32 7) 4 H
              let c3 ← commit (Bytes.be32 12) 8 H; pure (verifyTally [c1, c2] [c3])) = some false := by
  decide +kernel

theorem tally_iff_eq (pos neg : List Bytes) :
    verifyTally pos neg = true ↔ Pt.sum (pos.map commitLoad) = Pt.sum (neg.map commitLoad) := by
  rw [tally_iff, sub_eq_inf_iff (Algebra.sum_valid (commitLoad_map_valid pos))
    (Algebra.sum_valid (commitLoad_map_valid neg))]

theorem toPoint_sum {l : List Pt} (hl : ∀ p ∈ l, p.valid = true) :
    toPoint (Pt.sum l) = (l.map toPoint).sum := by
  induction l with
  | nil => rfl
  | cons p l ih =>
    obtain ⟨hp, hl'⟩ := List.forall_mem_cons.1 hl
    rw [Algebra.sum_cons hp hl', toPoint_add hp (Algebra.sum_valid hl'), ih hl']
    rfl

def signedBlindSum (blinds : List Bytes) (npos : ℕ) : ℤ :=
  ((blinds.take npos).map (fun b => (Bytes.toNat b : ℤ))).sum -
    ((blinds.drop npos).map (fun b => (Bytes.toNat b : ℤ))).sum

example : blindSum [Bytes.be32 5, Bytes.be32 N] 1 = none := by decide +kernel
example : blindSum [] 0 = some (Bytes.be32 0) := by decide +kernel

/-- `secp256k1_pedersen_blind_sum` on entries `< n`. -/
theorem blindSum_spec (blinds : List Bytes) (npos : ℕ) (h : ∀ b ∈ blinds, Bytes.toNat b < N) :
    blindSum blinds npos =
      some (Bytes.be32 ((signedBlindSum blinds npos % (N : ℤ)).toNat)) := by
  obtain ⟨r, hr, hb, hcast⟩ := blindSum_some blinds npos h
  rw [hb, eq_emod_of_cast hr (z := signedBlindSum blinds npos)]
  rw [hcast]
  simp [signedBlindSum, Int.cast_list_sum, Function.comp_def]

/- `5 + 3 − 10 = −2 ≡ n − 2` -/
example : blindSum [Bytes.be32 5, Bytes.be32 3, Bytes.be32 10] 2 = some (Bytes.be32 (N - 2)) := by
  decide +kernel
example : blindSum [Bytes.be32 (N - 1), Bytes.be32 (N - 1)] 2 = some (Bytes.be32 (N - 2)) := by
  decide +kernel

/-- The blinding factor returned by `blindSum`, used as one more *negative* blinding factor, balances the blinding factors. -/
theorem blindSum_balances (blinds : List Bytes) (npos : ℕ) (out : Bytes)
    (h : blindSum blinds npos = some out) :
    ((blinds.take npos).map Bytes.toNat).sum % N =
      (((blinds.drop npos).map Bytes.toNat).sum + Bytes.toNat out) % N := by
  have hall : ∀ b ∈ blinds, Bytes.toNat b < N := fun b hb => Nat.lt_of_not_le fun hc => by
    rw [(blindSum_none_iff blinds npos).2 ⟨b, hb, hc⟩] at h
    exact Option.some_ne_none out h.symm
  obtain ⟨r, hr, hb, hcast⟩ := blindSum_some blinds npos hall
  obtain rfl : Bytes.be32 r = out := Option.some.inj (hb.symm.trans h)
  rw [Bytes.toNat_be32_of_lt_N hr, ← ZMod.natCast_eq_natCast_iff', Nat.cast_add, hcast]
  simp [Nat.cast_list_sum, Function.comp_def]

example : (blindSum [Bytes.be32 5, Bytes.be32 3, Bytes.be32 10] 2).isSome = true := by decide +kernel

/-- `secp256k1_pedersen_blind_generator_blind_sum`: the failure cases. -/
theorem blindGeneratorBlindSum_none_iff (values : List ℕ) (genBlinds blinds : List Bytes) (nInputs : ℕ) :
    blindGeneratorBlindSum values genBlinds blinds nInputs = none ↔
      ∃ e ∈ List.zip values (List.zip genBlinds blinds), ¬ entryOk e := by
  unfold blindGeneratorBlindSum
  rw [← bgbs_go_none nInputs _ 0 0 0]
  split <;> simp [*]

example : blindGeneratorBlindSum [1, 2] [Bytes.be32 2, Bytes.be32 N] [Bytes.be32 7, Bytes.be32 11] 1 = none := by
  decide +kernel

/-- `secp256k1_pedersen_blind_generator_blind_sum`, what it computes.  The last entry `(v, g, b)` is the one whose blinding
    factor is replaced; `hn` says that it is an output, as the C `ARG_CHECK(n_total > n_inputs)` does.  Last conjunct: with
    `b` replaced by `r` the signed sum `Σ_{outputs} (v_i·g_i + b_i) − Σ_{inputs} (v_i·g_i + b_i)` vanishes. -/
theorem blindGeneratorBlindSum_spec (values : List ℕ) (genBlinds blinds : List Bytes) (nInputs : ℕ)
    (rest : List Entry) (v : ℕ) (g b : Bytes)
    (hl : List.zip values (List.zip genBlinds blinds) = rest ++ [(v, g, b)])
    (hok : ∀ e ∈ rest ++ [(v, g, b)], entryOk e) (hn : nInputs ≤ rest.length) :
    ∃ r, r < N ∧ blindGeneratorBlindSum values genBlinds blinds nInputs = some (Bytes.be32 r) ∧
      (r : ZMod N) = sc b - signedSum (rest ++ [(v, g, b)]) nInputs ∧
      signedSum (rest ++ [(v, g, Bytes.be32 r)]) nInputs = 0 := by
  obtain ⟨s, hgo, hcast⟩ := bgbs_go_some nInputs (rest ++ [(v, g, b)]) 0 0 0 hok
  rw [List.map_append, List.map_singleton, List.getLastD_concat] at hgo
  rw [Nat.cast_zero, zero_add, Nat.sub_zero] at hcast
  have hr := Sc.add_lt (Bytes.toNat b) (Sc.neg s)
  have e : ((Sc.add (Bytes.toNat b) (Sc.neg s) : ℕ) : ZMod N) =
      sc b - signedSum (rest ++ [(v, g, b)]) nInputs := by
    rw [Sc.cast_add, Sc.cast_neg, hcast, sub_eq_add_neg]
  refine ⟨_, hr, ?_, e, ?_⟩
  · unfold blindGeneratorBlindSum
    rw [hl, hgo]
  · rw [signedSum_append_singleton _ _ hn] at e ⊢
    simp only [term, sc, Bytes.toNat_be32_of_lt_N hr, e]
    ring

/- inputs `(1, 2, 7)`; outputs `(2, 3, 11)`, `(3, 5, 13)`: `−9 + 17 + 28 = 36`, `r = 13 − 36 ≡ n − 23` -/
example : blindGeneratorBlindSum [1, 2, 3] [Bytes.be32 2, Bytes.be32 3, Bytes.be32 5]
    [Bytes.be32 7, Bytes.be32 11, Bytes.be32 13] 1 = some (Bytes.be32 (N - 23)) := by decide +kernel
example : List.zip [1, 2, 3] (List.zip [Bytes.be32 2, Bytes.be32 3, Bytes.be32 5]
      [Bytes.be32 7, Bytes.be32 11, Bytes.be32 13]) =
    [(1, Bytes.be32 2, Bytes.be32 7), (2, Bytes.be32 3, Bytes.be32 11)] ++ [(3, Bytes.be32 5, Bytes.be32 13)] := by
  decide +kernel

/-- The Shallue–van de Woestijne map lands on the curve for every input (the identity behind it: `GeneratorLemmas.svdw_third`). -/
theorem svdw_on_curve (t : ℕ) : (svdw t).valid = true ∧ svdw t ≠ .inf :=
  ⟨svdw_valid t, svdw_ne_inf t⟩

example : (svdw 0).valid = true ∧ (svdw 1).valid = true ∧ (svdw (P - 1)).valid = true := by decide +kernel

/-- The return value of `secp256k1_generator_generate(_blinded)`.  (Determinism needs no proof: `generateInternal` is a
    function of `(key, blind)`.) -/
theorem generate_ret_iff (key : Bytes) (blind : Option Bytes) :
    (generateInternal key blind).1 = 1 ↔
      (∀ b, blind = some b → Bytes.toNat b < N) ∧ genT1 key < P ∧ genT2 key < P := by
  rw [generateInternal_fst, ite_eq_left_iff]
  exact ⟨fun h => by_contra fun hn => absurd (h hn) (by decide), fun h hn => absurd h hn⟩

example : (generateInternal (Bytes.zeros 32) none).1 = 1 := by decide +kernel
example : (generateInternal (Bytes.zeros 32) (some (Bytes.be32 5))).1 = 1 := by decide +kernel
example : (generateInternal (Bytes.zeros 32) (some (Bytes.be32 N))).1 = 0 := by decide +kernel

theorem generate_ret_zero_or_one (key : Bytes) (blind : Option Bytes) :
    (generateInternal key blind).1 = 0 ∨ (generateInternal key blind).1 = 1 := by
  rw [generateInternal_fst]
  exact (ite_eq_or_eq _ _ _).symm

/-- `valid` includes the point at infinity: the sum of the two mapped points could be `∞` only if the second hash maps to
    the negative of the first (the C code does not test this either). -/
theorem generate_on_curve (key : Bytes) (blind : Option Bytes) :
    (generateInternal key blind).2.valid = true := by
  rw [generateInternal_snd]
  refine valid_add (valid_add ?_ (svdw_valid _)) (svdw_valid _)
  cases blind
  · rfl
  · exact valid_mul _ valid_G

example : (generateInternal (Bytes.zeros 32) none).2.valid = true ∧
    (generateInternal (Bytes.zeros 32) none).2 ≠ .inf := by decide +kernel

/-- The model, like the C code, accumulates `(blind•G + A) + B`; associativity of the group law gives `blind•G + (A + B)`. -/
theorem generate_blinded_eq (key b : Bytes) :
    (generateInternal key (some b)).2 =
      Pt.add (Pt.mulG (Bytes.toNat b % N)) (generateInternal key none).2 := by
  rw [generateInternal_snd, generateInternal_snd, Option.elim_none, Algebra.add_inf_left]
  exact pt_add_assoc (valid_mul _ valid_G) (svdw_valid _) (svdw_valid _)

example : (generateInternal (Bytes.zeros 32) (some (Bytes.be32 5))).2 =
    Pt.add (Pt.mulG 5) (generateInternal (Bytes.zeros 32) none).2 := by decide +kernel

/-- a commitment opening `(blind, value, generator)` -/
abbrev Opening := Bytes × ℕ × Pt

def Committed (es : List Opening) (cs : List Bytes) : Prop :=
  List.Forall₂ (fun e c => commit e.1 e.2.1 e.2.2 = some c) es cs

def blindTotal (es : List Opening) : ℕ := (es.map (fun e => Bytes.toNat e.1)).sum

noncomputable def valueTotal (es : List Opening) : W.Point :=
  (es.map (fun e => e.2.1 • toPoint e.2.2)).sum

def OpeningsOk (es : List Opening) : Prop := ∀ e ∈ es, e.2.1 < 2 ^ 64 ∧ e.2.2.valid = true

theorem committed_sum {es : List Opening} {cs : List Bytes} (h : Committed es cs) (hok : OpeningsOk es) :
    toPoint (Pt.sum (cs.map commitLoad)) = blindTotal es • toPoint Pt.G + valueTotal es := by
  rw [toPoint_sum (commitLoad_map_valid cs)]
  induction h with
  | nil => simp [blindTotal, valueTotal]
  | @cons e c es cs hc _ ih =>
    obtain ⟨he, hok'⟩ := List.forall_mem_cons.1 hok
    have := commit_denotes_group e.1 e.2.1 e.2.2 he.2 he.1 c hc
    simp only [List.map_cons, List.sum_cons, blindTotal, valueTotal] at ih ⊢
    rw [ih hok', this, add_nsmul]
    abel

/-- The exact tally criterion for honestly created commitments (any number, any mix of valid generators), in the group of
    the curve. -/
theorem tally_commit_iff (pos neg : List Opening) (cpos cneg : List Bytes)
    (hpos : Committed pos cpos) (hneg : Committed neg cneg)
    (okp : OpeningsOk pos) (okn : OpeningsOk neg) :
    verifyTally cpos cneg = true ↔
      blindTotal pos • toPoint Pt.G + valueTotal pos = blindTotal neg • toPoint Pt.G + valueTotal neg := by
  rw [tally_iff_eq, ← committed_sum hpos okp, ← committed_sum hneg okn]
  exact ⟨congrArg _, toPoint_injective (Algebra.sum_valid (commitLoad_map_valid cpos))
    (Algebra.sum_valid (commitLoad_map_valid cneg))⟩

/- non-vacuity: honestly created commitments under two different generators (`H` and `G`) -/
example : (commit (Bytes.be32 5) 3 H).isSome = true ∧ (commit (Bytes.be32 7) 4 Pt.G).isSome = true ∧
    H.valid = true ∧ Pt.G.valid = true := by decide +kernel

theorem nsmul_G_congr {a b : ℕ} (h : a % N = b % N) : a • toPoint Pt.G = b • toPoint Pt.G := by
  rw [← mod_addOrderOf_nsmul (toPoint Pt.G) a, ← mod_addOrderOf_nsmul (toPoint Pt.G) b,
    addOrderOf_G prime_N, h]

def valueUnder (es : List Opening) (g : Pt) : ℕ :=
  ((es.filter (fun e => e.2.2 = g)).map (fun e => e.2.1)).sum

noncomputable def valueFinsupp (es : List Opening) : Pt →₀ ℕ :=
  (es.map (fun e => Finsupp.single e.2.2 e.2.1)).sum

theorem valueFinsupp_apply (es : List Opening) (g : Pt) : valueFinsupp es g = valueUnder es g := by
  induction es with
  | nil => simp [valueFinsupp, valueUnder]
  | cons e es ih =>
    simp only [valueFinsupp, valueUnder, List.map_cons, List.sum_cons, Finsupp.add_apply,
      List.filter_cons] at ih ⊢
    by_cases h : e.2.2 = g <;> simp [h, ih]

theorem valueTotal_eq_lift (es : List Opening) :
    valueTotal es =
      Finsupp.liftAddHom (fun g : Pt => multiplesHom W.Point (toPoint g)) (valueFinsupp es) := by
  induction es with
  | nil => simp [valueTotal, valueFinsupp]
  | cons e es ih => simp_all [valueTotal, valueFinsupp]

theorem valueTotal_congr {pos neg : List Opening} (h : ∀ g, valueUnder pos g = valueUnder neg g) :
    valueTotal pos = valueTotal neg := by
  rw [valueTotal_eq_lift, valueTotal_eq_lift]
  congr 1
  ext g
  rw [valueFinsupp_apply, valueFinsupp_apply, h]

/-- "Balance ⇒ tally accepts", several assets in one tally: the values balance *for each generator*. -/
theorem balance_if_mixed (pos neg : List Opening) (cpos cneg : List Bytes)
    (hpos : Committed pos cpos) (hneg : Committed neg cneg)
    (okp : OpeningsOk pos) (okn : OpeningsOk neg)
    (hb : blindTotal pos % N = blindTotal neg % N)
    (hval : ∀ g, valueUnder pos g = valueUnder neg g) :
    verifyTally cpos cneg = true := by
  rw [tally_commit_iff pos neg cpos cneg hpos hneg okp okn, valueTotal_congr hval, nsmul_G_congr hb]

/- non-vacuity: two assets (`H` and `G` as generators) in one tally, each balanced separately -/
example : (do let c1 ← commit (Bytes.be32 5) 3 H; let c2 ← commit (Bytes.be32 7) 4 Pt.G
              let c3 ← commit (Bytes.be32 2) 4 Pt.G; let c4 ← commit (Bytes.be32 10) 3 H
              pure (verifyTally [c1, c2] [c3, c4])) = some true := by
  decide +kernel

/-- "Balance ⇒ tally accepts", one generator. -/
theorem balance_if (gen : Pt) (hgen : gen.valid = true) (pos neg : List (Bytes × ℕ)) (cpos cneg : List Bytes)
    (hpos : Committed (pos.map fun e => (e.1, e.2, gen)) cpos)
    (hneg : Committed (neg.map fun e => (e.1, e.2, gen)) cneg)
    (hv : ∀ e ∈ pos ++ neg, e.2 < 2 ^ 64)
    (hb : (pos.map fun e => Bytes.toNat e.1).sum % N = (neg.map fun e => Bytes.toNat e.1).sum % N)
    (hval : (pos.map fun e => e.2).sum = (neg.map fun e => e.2).sum) :
    verifyTally cpos cneg = true := by
  have ok : ∀ l : List (Bytes × ℕ), (∀ e ∈ l, e.2 < 2 ^ 64) →
      OpeningsOk (l.map fun e => (e.1, e.2, gen)) := by
    intro l hl e he
    obtain ⟨e', he', rfl⟩ := List.mem_map.1 he
    exact ⟨hl e' he', hgen⟩
  refine balance_if_mixed _ _ _ _ hpos hneg (ok pos fun e he => hv e (List.mem_append_left _ he))
    (ok neg fun e he => hv e (List.mem_append_right _ he)) ?_ fun g => ?_
  · unfold blindTotal
    rw [List.map_map, List.map_map]
    exact hb
  · -- all openings are under `gen`: the filter of `valueUnder` keeps all of them or none
    by_cases h : gen = g <;> simp [valueUnder, List.filter_map, Function.comp_def, h, hval]

/- non-vacuity: `5 + 7 ≡ 12`, `3 + 4 = 7` -/
example : (do let c1 ← commit (Bytes.be32 5) 3 H; let c2 ← commit (Bytes.be32 7) 4 H
              let c3 ← commit (Bytes.be32 12) 7 H; pure (verifyTally [c1, c2] [c3])) = some true := by
  decide +kernel
/- blinding factors that balance only modulo `n`: `(n − 1) + 2 ≡ 1` -/
example : (do let c1 ← commit (Bytes.be32 (N - 1)) 3 H; let c2 ← commit (Bytes.be32 2) 4 H
              let c3 ← commit (Bytes.be32 1) 7 H; pure (verifyTally [c1, c2] [c3])) = some true := by
  decide +kernel

/-!
### The converse of `balance_if` is not a theorem

"`verifyTally` accepts ⇒ the values balance" is false as a mathematical statement: the group generated by
`G` has prime order, so a generator `gen = h•G` has other openings of the same commitment
(`(b, v)` and `(b − h·d, v + d)` commit to the same point).  It only holds computationally, under the
discrete-logarithm assumption for `gen` relative to `G`; an explicit hypothesis
`∀ a k, a•G + k•gen = ∞ → a ≡ 0 ∧ k ≡ 0` would be unsatisfiable for every `gen ∈ ⟨G⟩`, hence a theorem carrying it would
be vacuous, and it is omitted.  What IS exact is `tally_commit_iff` above.  The example below exhibits an
accepted tally with unbalanced values (`0` vs `1`) for the generator `gen = G`.
-/
example : (do let c1 ← commit (Bytes.be32 2) 0 Pt.G; let c2 ← commit (Bytes.be32 1) 1 Pt.G
              pure (verifyTally [c1] [c2])) = some true := by decide +kernel

end C08
end SecpZkp
