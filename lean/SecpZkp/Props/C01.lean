import SecpZkp.Model.Ecdsa
import SecpZkp.Model.Keys
import SecpZkp.Proofs.Algebra
import SecpZkp.Proofs.BytesBasic
/-
  Property C01: ECDSA verification is exact; signing produces low-S signatures that verify and from which
  the public key is recovered; invalid keys / failing nonce functions give 0 and a zero signature.

  `ecdsa_verify_iff` needs no group law; `ecdsa_sign_verifies`, `ecdsa_sign_recovers` depend on the curve
  only through the explicit hypothesis `gl : GroupLaw` (and, for recovery, the explicit hypothesis
  `LiftXSpec` about `Pt.liftX`, which belongs to the field layer).
-/
namespace SecpZkp
namespace C01
open SecpZkp.Algebra

/-- `R = u1•G + u2•Q`, `u1 = m/s`, `u2 = r/s` of the ECDSA verification equation. -/
def verifyPoint (r s m : Nat) (pk : Pt) : Pt :=
  Pt.add (Pt.mul (Sc.mul (Sc.inv s) r) pk) (Pt.mulG (Sc.mul (Sc.inv s) m))

/-- `x_mod_n` with the side condition as `ecdsa_sig_verify` tests it (`r ≥ p - n` excludes `r + n`). -/
theorem xcoord_mod_iff {x r : Nat} (hx : x < P) (hr : r < N) :
    x % N = r ↔ x = r ∨ (¬ r ≥ P - N ∧ x = r + N) := by
  rw [x_mod_n hx hr]; have := N_lt_P; omega

theorem sigVerify_iff (r s m : Nat) (pk : Pt) (hr : r < N) (hx : (verifyPoint r s m pk).xOf < P) :
    Ecdsa.sigVerify r s pk m = true ↔
      r ≠ 0 ∧ s ≠ 0 ∧ verifyPoint r s m pk ≠ Pt.inf ∧ (verifyPoint r s m pk).xOf % N = r := by
  rw [Ecdsa.sigVerify, ← and_assoc, ← not_or]
  by_cases h0 : r = 0 ∨ s = 0
  · simp [h0]
  · simp only [h0, if_false, not_false_eq_true, true_and, ← verifyPoint.eq_1]
    generalize verifyPoint r s m pk = R at hx ⊢
    cases R with
    | inf => simp
    | aff x y =>
      have hx : x < P := hx
      simp only [xOf_aff, xcoord_mod_iff hx hr]
      split_ifs <;> simp_all

theorem verify_ret_iff (sig : Nat × Nat) (msg : Bytes) (pk : Pt) :
    (Ecdsa.verify sig msg pk).ret = 1 ↔
      ¬ Sc.isHigh sig.2 = true ∧ pk ≠ Pt.inf ∧ Ecdsa.sigVerify sig.1 sig.2 pk (Bytes.toNat msg % N) = true := by
  unfold Ecdsa.verify
  cases pk <;> by_cases hh : Sc.isHigh sig.2 = true <;> simp [Pt.isInf, hh]

/-- C01 (verification is exact): `secp256k1_ecdsa_verify` on every signature object with `r < n` (all that the parsers
    produce), every message and key object.  `hx`: the x-coordinate of `R` is canonical (`< p`); it is whenever `Q` is a
    valid point (`ecdsa_verify_iff'`). -/
theorem ecdsa_verify_iff (r s : Nat) (msg : Bytes) (pk : Pt) (hr : r < N)
    (hx : (verifyPoint r s (Bytes.toNat msg % N) pk).xOf < P) :
    (Ecdsa.verify (r, s) msg pk).ret = 1 ↔
      ¬ Sc.isHigh s = true ∧ pk ≠ Pt.inf ∧ r ≠ 0 ∧ s ≠ 0 ∧
      verifyPoint r s (Bytes.toNat msg % N) pk ≠ Pt.inf ∧
      (verifyPoint r s (Bytes.toNat msg % N) pk).xOf % N = r := by
  rw [← sigVerify_iff r s _ pk hr hx, verify_ret_iff]

theorem ecdsa_verify_ret_illegal (sig : Nat × Nat) (msg : Bytes) (pk : Pt) :
    ((Ecdsa.verify sig msg pk).ret = 0 ∨ (Ecdsa.verify sig msg pk).ret = 1) ∧
    (Ecdsa.verify sig msg pk).illegal = (if ¬ Sc.isHigh sig.2 = true ∧ pk = Pt.inf then 1 else 0) := by
  unfold Ecdsa.verify
  cases pk <;> by_cases hh : Sc.isHigh sig.2 = true <;> simp [Pt.isInf, hh]

theorem valid_xOf_lt {p : Pt} (h : p.valid = true) : p.xOf < P := by
  cases p with
  | inf => exact lt_trans N_pos N_lt_P
  | aff x y => exact (valid_aff_lt h).1

theorem ecdsa_verify_iff' (gl : GroupLaw) (r s : Nat) (msg : Bytes) (pk : Pt) (hr : r < N)
    (hpk : pk.valid = true) :
    (Ecdsa.verify (r, s) msg pk).ret = 1 ↔
      ¬ Sc.isHigh s = true ∧ pk ≠ Pt.inf ∧ r ≠ 0 ∧ s ≠ 0 ∧
      verifyPoint r s (Bytes.toNat msg % N) pk ≠ Pt.inf ∧
      (verifyPoint r s (Bytes.toNat msg % N) pk).xOf % N = r := by
  have : HasGroupLaw := ⟨gl⟩
  exact ecdsa_verify_iff r s msg pk hr (valid_xOf_lt (Algebra.gl.valid_add _ _
    (valid_mul (lt_mulBound_of_lt_N (Sc.mul_lt _ _)) hpk) (mulG_valid (lt_mulBound_of_lt_N (Sc.mul_lt _ _)))))

theorem not_isHigh_normalize {s0 : Nat} (hs0 : s0 < N) :
    ¬ Sc.isHigh (if Sc.isHigh s0 = true then Sc.neg s0 else s0) = true := by
  split
  · next hh =>
    rw [Sc.isHigh_iff] at hh ⊢
    rw [Sc.neg_eq_of_pos (by omega) hs0]
    have := N_odd
    omega
  · next hh => exact hh

section
variable [HasGroupLaw]

theorem verify_field (r d m k s : ZMod N) (neg : Bool)
    (hs : s = (if neg then -(k⁻¹ * (r * d + m)) else k⁻¹ * (r * d + m))) (hs0 : s ≠ 0) :
    s⁻¹ * r * d + s⁻¹ * m = (if neg then -k else k) := by
  have h : k⁻¹ * (r * d + m) ≠ 0 := by
    intro h
    apply hs0; rw [hs, h, neg_zero, ite_self]
  obtain ⟨hk, hz⟩ := mul_ne_zero_iff.mp h
  rw [Ne, inv_eq_zero] at hk
  subst hs
  cases neg
  · simp only [Bool.false_eq_true, if_false]; field_simp
  · simp only [if_true]; field_simp; ring

theorem verifyPoint_mulG (r s m : Nat) {d : Nat} (hd : d < N) :
    verifyPoint r s m (Pt.mulG d) = gmul ((s : ZMod N)⁻¹ * r * d + (s : ZMod N)⁻¹ * m) := by
  rw [verifyPoint, mulG_eq_gmul (lt_mulBound_of_lt_N hd), mul_gmul (lt_mulBound_of_lt_N (Sc.mul_lt _ _)),
    mulG_eq_gmul (lt_mulBound_of_lt_N (Sc.mul_lt _ _)), add_gmul, cast_mul, cast_mul, cast_inv]

theorem sign_scalar (r d m k : Nat) :
    let s0 := Sc.mul (Sc.inv k) (Sc.add (Sc.mul r d) m)
    let s := if Sc.isHigh s0 = true then Sc.neg s0 else s0
    s < N ∧ (s : ZMod N) = (if Sc.isHigh s0 then -((k : ZMod N)⁻¹ * ((r : ZMod N) * d + m))
      else (k : ZMod N)⁻¹ * ((r : ZMod N) * d + m)) := by
  intro s0 s
  constructor
  · simp only [s]; split
    · exact Sc.neg_lt_N _
    · exact Sc.mul_lt _ _
  · simp only [s, s0]
    split <;> simp only [cast_neg, cast_mul, cast_inv, cast_add]

end

/-- C01 (signatures are low-S and verify), at the level of `secp256k1_ecdsa_sig_sign` / `_sig_verify`: `out.1` says that
    `r ≠ 0` and `s ≠ 0`; covers the negated and the unnegated `s`, and `x(k•G) ≥ n`. -/
theorem ecdsa_sign_verifies (gl : GroupLaw) (d m k : Nat) (hdN : d < N) (hk0 : 0 < k) (hkN : k < N) :
    let out := Ecdsa.sigSign d m k
    out.1 = true →
      ¬ Sc.isHigh out.2.2.1 = true ∧ Ecdsa.sigVerify out.2.1 out.2.2.1 (Pt.mulG d) m = true := by
  have : HasGroupLaw := ⟨gl⟩
  obtain ⟨x, y, hkG⟩ := mulG_eq_aff hk0 hkN
  have hv : (Pt.aff x y).valid = true := hkG ▸ mulG_valid (lt_mulBound_of_lt_N hkN)
  simp only [Ecdsa.sigSign, hkG, decide_eq_true_eq]
  refine fun ⟨hr0, hsne⟩ => ⟨not_isHigh_normalize (Sc.mul_lt _ _), ?_⟩
  obtain ⟨hsN, hs⟩ := sign_scalar (x % N) d m k
  generalize (if Sc.isHigh _ = true then Sc.neg _ else _) = s at hsN hs hsne ⊢
  have hR := verifyPoint_mulG (x % N) s m hdN
  rw [verify_field _ _ _ _ _ _ hs (fun h => hsne ((cast_eq_zero hsN).mp h)), gmul_pm ((mulG_gmul hkN).symm.trans hkG)] at hR
  rw [sigVerify_iff _ _ _ _ (Nat.mod_lt _ N_pos) (by rw [hR]; exact (valid_aff_lt hv).1), hR]
  exact ⟨hr0, hsne, by simp, rfl⟩

/-- What the recovery proof needs about `Pt.liftX` (`secp256k1_ge_set_xo_var`): an explicit hypothesis here, proved as
    `liftXSpec` in `Props/C01_closed.lean`. -/
def LiftXSpec : Prop :=
  ∀ (x y : Nat) (odd : Bool), (Pt.aff x y).valid = true →
    Pt.liftX x odd = some (Pt.aff x (if Fe.isOdd y = odd then y else Fe.neg y))

/-- The recovery id of `sigSign`: bit 1 is the overflow bit (`x(k•G) ≥ n`), bit 0 the parity of `y(k•G)`, flipped by the
    low-S negation. -/
theorem recid_bits (ov : Prop) [Decidable ov] (par high : Bool) :
    let recid0 := (if ov then 1 else 0) * 2 + (if par then 1 else 0)
    let recid := if high then recid0 ^^^ 1 else recid0
    (recid &&& 2 ≠ 0 ↔ ov) ∧ decide (recid &&& 1 = 1) = (par != high) := by
  by_cases h : ov <;> simp only [h, if_true, if_false] <;> cases par <;> cases high <;> decide

theorem recover_x {x : Nat} (hx : x < P) {b : Prop} [Decidable b] (hb : b ↔ x ≥ N) :
    (if b then (if x % N ≥ P - N then none else some (x % N + N)) else some (x % N)) = some x := by
  have hr := Nat.mod_lt x N_pos
  have h := (xcoord_mod_iff hx hr).mp rfl
  by_cases hxN : x ≥ N
  · rw [if_pos (hb.mpr hxN), if_neg (by omega)]
    congr 1; omega
  · rw [if_neg (mt hb.mp hxN)]
    congr 1; omega

/-- C01 (recovery), at the level of `secp256k1_ecdsa_sig_sign` / `_sig_recover`: for both parities of `y(k•G)`, with and
    without `x(k•G) ≥ n`, with and without the low-S negation. -/
theorem ecdsa_sign_recovers (gl : GroupLaw) (hlift : LiftXSpec) (d m k : Nat) (hd0 : 0 < d) (hdN : d < N)
    (hk0 : 0 < k) (hkN : k < N) :
    let out := Ecdsa.sigSign d m k
    out.1 = true → Ecdsa.sigRecover out.2.1 out.2.2.1 m out.2.2.2 = some (Pt.mulG d) := by
  have : HasGroupLaw := ⟨gl⟩
  obtain ⟨x, y, hkG⟩ := mulG_eq_aff hk0 hkN
  have hv : (Pt.aff x y).valid = true := hkG ▸ mulG_valid (lt_mulBound_of_lt_N hkN)
  simp only [Ecdsa.sigSign, hkG, decide_eq_true_eq]
  obtain ⟨hsN, hs⟩ := sign_scalar (x % N) d m k
  generalize Sc.isHigh (Sc.mul (Sc.inv k) _) = high at hsN hs ⊢
  obtain ⟨hb2, hb1⟩ := recid_bits (x ≥ N) (Fe.isOdd y) high
  generalize (if high = true then Sc.neg _ else _) = s at hsN hs ⊢
  generalize (if high = true then _ ^^^ 1 else _) = recid at hb1 hb2 ⊢
  rintro ⟨hr0, hsne⟩
  have hrz : ((x % N : Nat) : ZMod N) ≠ 0 := fun h => hr0 ((cast_eq_zero (Nat.mod_lt _ N_pos)).mp h)
  have hsz : (s : ZMod N) ≠ 0 := fun h => hsne ((cast_eq_zero hsN).mp h)
  -- the lifted point is ±k•G with the sign of the low-S negation
  have hX : Pt.aff x (if Fe.isOdd y = (Fe.isOdd y != high) then y else Fe.neg y)
      = gmul (if high then -(k : ZMod N) else k) := by
    rw [gmul_pm ((mulG_gmul hkN).symm.trans hkG)]
    cases Fe.isOdd y <;> cases high <;> rfl
  rw [Ecdsa.sigRecover, if_neg (not_or.mpr ⟨hr0, hsne⟩)]
  simp only [recover_x (valid_aff_lt hv).1 hb2, hb1, hlift x y _ hv, hX]
  rw [mul_gmul (lt_mulBound_of_lt_N (Sc.mul_lt _ _)), mulG_eq_gmul (lt_mulBound_of_lt_N (Sc.neg_lt_N _)),
    add_gmul, ← verify_field _ _ _ _ _ _ hs hsz]
  suffices h : ∀ a, a = (d : ZMod N) → (match gmul a with | .inf => none | q => some q) = some (Pt.mulG d) by
    apply h
    simp only [cast_mul, cast_inv, cast_neg]
    field_simp
    ring
  rintro _ rfl
  obtain ⟨qx, qy, hq⟩ := mulG_eq_aff hd0 hdN
  rw [← mulG_eq_gmul (lt_mulBound_of_lt_N hdN), hq]

/-- What `secp256k1_ecdsa_sign_inner` may return.  With a sign-to-contract hook the nonce is `k₀ + tw` for the untweaked
    nonce `k₀`, whose point is the exported opening, and the commitment hash `tw` of that point. -/
def SignSpec (s2c : Option Ecdsa.S2cHook) (isSecValid : Bool) (sec m : Nat) (o : Ecdsa.SignOut) : Prop :=
  (o.ret = 0 ∧ o.r = 0 ∧ o.s = 0 ∧ o.recid = 0) ∨
  (o.ret = 1 ∧ isSecValid = true ∧
    ∃ k, 0 < k ∧ k < N ∧ Ecdsa.sigSign sec m k = (true, o.r, o.s, o.recid) ∧
      ∀ hook, s2c = some hook → ∃ k0 tw, 0 < k0 ∧ k0 < N ∧ o.opening = some (Pt.mulG k0) ∧
        Ecdsa.ecCommitTweak hook.sha (Pt.mulG k0) hook.data = some tw ∧ Ecdsa.seckeyTweakAddHelper k0 tw = some k)

theorem seckeyTweakAddHelper_some {a : Nat} {tw : Bytes} {r : Nat}
    (h : Ecdsa.seckeyTweakAddHelper a tw = some r) : 0 < r ∧ r < N := by
  simp only [Ecdsa.seckeyTweakAddHelper] at h
  split at h
  · cases h
  · next hn =>
    cases h
    exact ⟨Nat.pos_of_ne_zero (fun h0 => hn (Or.inr h0)), Sc.add_lt _ _⟩

theorem loop_spec (s2c : Option Ecdsa.S2cHook) (msg32 seckey : Bytes) (noncefp : Option Ecdsa.NonceFn)
    (ndata : Option Bytes) (isSecValid : Bool) (sec m : Nat) :
    ∀ (fuel count : Nat) (op : Option Pt),
      SignSpec s2c isSecValid sec m
        (Ecdsa.signInner.loop s2c msg32 seckey noncefp ndata isSecValid sec m fuel count op) := by
  intro fuel
  induction fuel with
  | zero => exact fun _ _ => .inl ⟨rfl, rfl, rfl, rfl⟩
  | succ fuel ih =>
    intro count op
    unfold Ecdsa.signInner.loop
    simp only []
    split
    · left; simp
    · next nonce32 _ =>
      split
      · next hvalid =>
        obtain ⟨hn0, hnN, _⟩ := Sc.setB32Seckey_of_true (Prod.ext rfl hvalid)
        split
        · left; simp
        · next non' op' htw =>
          -- the nonce used, tweaked by the hook or not, is in range; with a hook, `op'` is the point of the untweaked one
          have hk : 0 < non' ∧ non' < N ∧ ∀ hook, s2c = some hook → ∃ k0 tw, 0 < k0 ∧ k0 < N ∧
              op' = some (Pt.mulG k0) ∧ Ecdsa.ecCommitTweak hook.sha (Pt.mulG k0) hook.data = some tw ∧
              Ecdsa.seckeyTweakAddHelper k0 tw = some non' := by
            cases s2c with
            | none => cases htw; exact ⟨hn0, hnN, fun _ h => nomatch h⟩
            | some hook =>
              simp only [] at htw
              split at htw
              · cases htw
              · next tw htweak =>
                split at htw
                · cases htw
                · next hh =>
                  cases htw
                  exact ⟨(seckeyTweakAddHelper_some hh).1, (seckeyTweakAddHelper_some hh).2,
                    fun _ e => by cases e; exact ⟨_, tw, hn0, hnN, rfl, htweak, hh⟩⟩
          split
          · next hok =>
            cases isSecValid with
            | false => left; simp
            | true =>
              refine .inr ⟨rfl, rfl, non', hk.1, hk.2.1, ?_, hk.2.2⟩
              simp only [if_true]
              rw [← hok]
          · exact ih _ _
      · exact ih _ _

theorem signInner_spec (fuel : Nat) (s2c : Option Ecdsa.S2cHook) (msg32 seckey : Bytes)
    (noncefp : Option Ecdsa.NonceFn) (ndata : Option Bytes) :
    SignSpec s2c (Sc.setB32Seckey seckey).2
      (if (Sc.setB32Seckey seckey).2 = true then (Sc.setB32Seckey seckey).1 else 1) (Bytes.toNat msg32 % N)
      (Ecdsa.signInner fuel s2c msg32 seckey noncefp ndata) :=
  loop_spec _ _ _ _ _ _ _ _ _ _ _

theorem signInner_one {fuel : Nat} {s2c : Option Ecdsa.S2cHook} {msg32 seckey : Bytes} {noncefp : Option Ecdsa.NonceFn}
    {ndata : Option Bytes} (h : (Ecdsa.signInner fuel s2c msg32 seckey noncefp ndata).ret = 1) :
    let o := Ecdsa.signInner fuel s2c msg32 seckey noncefp ndata
    ∃ d k, 0 < d ∧ d < N ∧ 0 < k ∧ k < N ∧ Keys.pubkeyCreate seckey = (1, Pt.mulG d) ∧
      Ecdsa.sigSign d (Bytes.toNat msg32 % N) k = (true, o.r, o.s, o.recid) := by
  rcases signInner_spec fuel s2c msg32 seckey noncefp ndata with ⟨h0, _⟩ | ⟨_, hvalid, k, hk0, hkN, hsig, -⟩
  · rw [h0] at h; cases h
  · obtain ⟨hd0, hdN, _⟩ := Sc.setB32Seckey_of_true (Prod.ext rfl hvalid)
    rw [if_pos hvalid] at hsig
    exact ⟨_, k, hd0, hdN, hk0, hkN, by simp [Keys.pubkeyCreate, hvalid], hsig⟩

/-- Whatever `secp256k1_ecdsa_sign_inner` returns with value 1 is low-S and verifies under the public key of the secret
    key: any retry bound, with or without a sign-to-contract hook. -/
theorem signInner_verifies (gl : GroupLaw) {fuel : Nat} {s2c : Option Ecdsa.S2cHook} {msg32 seckey : Bytes}
    {noncefp : Option Ecdsa.NonceFn} {ndata : Option Bytes}
    (h : (Ecdsa.signInner fuel s2c msg32 seckey noncefp ndata).ret = 1) :
    let o := Ecdsa.signInner fuel s2c msg32 seckey noncefp ndata
    ¬ Sc.isHigh o.s = true ∧ (Keys.pubkeyCreate seckey).1 = 1 ∧
    (Ecdsa.verify (o.r, o.s) msg32 (Keys.pubkeyCreate seckey).2).ret = 1 := by
  have : HasGroupLaw := ⟨gl⟩
  obtain ⟨d, k, hd0, hdN, hk0, hkN, hpk, hsig⟩ := signInner_one h
  have hv := ecdsa_sign_verifies gl d (Bytes.toNat msg32 % N) k hdN hk0 hkN
  simp only [hsig] at hv
  obtain ⟨hlow, hver⟩ := hv trivial
  rw [hpk]
  exact ⟨hlow, rfl, (verify_ret_iff _ _ _).mpr ⟨hlow, mulG_ne_inf hd0 hdN, hver⟩⟩

/-- C01 (invalid key): `secp256k1_ecdsa_sign` and `_sign_recoverable`, every nonce function. -/
theorem sign_invalid_key (msg32 seckey : Bytes) (noncefp : Option Ecdsa.NonceFn) (ndata : Option Bytes)
    (hbad : Bytes.toNat seckey = 0 ∨ N ≤ Bytes.toNat seckey) :
    Ecdsa.sign msg32 seckey noncefp ndata = (0, (0, 0)) ∧
    (Ecdsa.signRecoverable msg32 seckey noncefp ndata).ret = 0 ∧
    (Ecdsa.signRecoverable msg32 seckey noncefp ndata).r = 0 ∧
    (Ecdsa.signRecoverable msg32 seckey noncefp ndata).s = 0 ∧
    (Ecdsa.signRecoverable msg32 seckey noncefp ndata).recid = 0 := by
  have hinv : (Sc.setB32Seckey seckey).2 = false := by
    rw [Sc.setB32Seckey_eq]; exact decide_eq_false (by omega)
  have h := signInner_spec 64 none msg32 seckey noncefp ndata
  rw [hinv] at h
  rcases h with ⟨h1, h2, h3, h4⟩ | ⟨_, h, _⟩
  · exact ⟨by simp [Ecdsa.sign, h1, h2, h3], h1, h2, h3, h4⟩
  · cases h

/-- C01 (failing nonce callback): on its first call, counter 0; whatever the key. -/
theorem sign_nonce_fail (msg32 seckey : Bytes) (f : Ecdsa.NonceFn) (ndata : Option Bytes)
    (hfail : f msg32 seckey none ndata 0 = none) :
    Ecdsa.sign msg32 seckey (some f) ndata = (0, (0, 0)) := by
  simp [Ecdsa.sign, Ecdsa.signInner, Ecdsa.signInner.loop, hfail]

theorem sign_ret (msg32 seckey : Bytes) (noncefp : Option Ecdsa.NonceFn) (ndata : Option Bytes) :
    let o := Ecdsa.sign msg32 seckey noncefp ndata
    (o.1 = 0 ∨ o.1 = 1) ∧ (o.1 = 0 → o = (0, (0, 0))) := by
  rcases signInner_spec 64 none msg32 seckey noncefp ndata with ⟨h1, h2, h3, _⟩ | ⟨h1, _, _⟩
  · simp [Ecdsa.sign, h1, h2, h3]
  · simp [Ecdsa.sign, h1]

/-- C01 (RFC 6979 input): the message is reduced mod `n` before it enters the seed of the HMAC-DRBG; the
    `(counter+1)`-th 32-byte output block is returned. -/
theorem rfc6979_input (msg32 key32 : Bytes) (algo16 data : Option Bytes) (counter : Nat) :
    Ecdsa.rfc6979Nonce msg32 key32 algo16 data counter =
      some (Ecdsa.rfc6979Nonce.gen (counter + 1)
        (Sha256.rfc6979Init
          (key32 ++ Bytes.be32 (Bytes.toNat msg32 % N) ++ data.getD [] ++ algo16.getD [])) []) := rfl

theorem rfc6979_msg_mod (m1 m2 key32 : Bytes) (algo16 data : Option Bytes) (counter : Nat)
    (h : Bytes.toNat m1 % N = Bytes.toNat m2 % N) :
    Ecdsa.rfc6979Nonce m1 key32 algo16 data counter = Ecdsa.rfc6979Nonce m2 key32 algo16 data counter := by
  rw [rfc6979_input, rfc6979_input, h]

/-- C01 (API level: signatures verify): `secp256k1_ecdsa_sign`, `_ecdsa_verify` and `_ec_pubkey_create` on the same key
    string; default or custom nonce function. -/
theorem ecdsa_sign_api_verifies (gl : GroupLaw) (msg32 seckey : Bytes) (noncefp : Option Ecdsa.NonceFn)
    (ndata : Option Bytes) (r s : Nat) (h : Ecdsa.sign msg32 seckey noncefp ndata = (1, (r, s))) :
    ¬ Sc.isHigh s = true ∧ (Keys.pubkeyCreate seckey).1 = 1 ∧
    (Ecdsa.verify (r, s) msg32 (Keys.pubkeyCreate seckey).2).ret = 1 := by
  simp only [Ecdsa.sign, Prod.mk.injEq] at h
  obtain ⟨hret, rfl, rfl⟩ := h
  exact signInner_verifies gl hret

/-- C01 (API level: recovery): `secp256k1_ecdsa_sign_recoverable`, `_ecdsa_recover`, `_ec_pubkey_create`. -/
theorem ecdsa_sign_api_recovers (gl : GroupLaw) (hlift : LiftXSpec) (msg32 seckey : Bytes)
    (noncefp : Option Ecdsa.NonceFn) (ndata : Option Bytes)
    (h : (Ecdsa.signRecoverable msg32 seckey noncefp ndata).ret = 1) :
    let o := Ecdsa.signRecoverable msg32 seckey noncefp ndata
    Ecdsa.recover (o.r, o.s) o.recid msg32 = (1, (Keys.pubkeyCreate seckey).2) ∧
      (Keys.pubkeyCreate seckey).1 = 1 := by
  obtain ⟨d, k, hd0, hdN, hk0, hkN, hpk, hsig⟩ := signInner_one h
  have hv := ecdsa_sign_recovers gl hlift d (Bytes.toNat msg32 % N) k hd0 hdN hk0 hkN
  simp only [hsig] at hv
  simp only [hpk, Ecdsa.recover, Ecdsa.signRecoverable, hv trivial, and_self]

/-- Key 7, message scalar 12345, nonce 2: signing succeeds, `s` was negated (high) and `recid = 1`;
    nonce 6: not negated, `y(k•G)` odd, `recid = 1`. -/
example : (Ecdsa.sigSign 7 12345 2).1 = true ∧ (Ecdsa.sigSign 7 12345 2).2.2.2 = 1 ∧
    Sc.isHigh (Sc.mul (Sc.inv 2) (Sc.add (Sc.mul (Ecdsa.sigSign 7 12345 2).2.1 7) 12345)) = true := by
  decide +kernel
example : (Ecdsa.sigSign 7 12345 6).1 = true ∧ (Ecdsa.sigSign 7 12345 6).2.2.2 = 1 ∧
    Sc.isHigh (Sc.mul (Sc.inv 6) (Sc.add (Sc.mul (Ecdsa.sigSign 7 12345 6).2.1 7) 12345)) = false := by
  decide +kernel

example (gl : GroupLaw) :
    Ecdsa.sigVerify (Ecdsa.sigSign 7 12345 2).2.1 (Ecdsa.sigSign 7 12345 2).2.2.1 (Pt.mulG 7) 12345 = true :=
  (ecdsa_sign_verifies gl 7 12345 2 (by decide +kernel) (by decide) (by decide +kernel)
    (by decide +kernel)).2

/-- `LiftXSpec` at the generator, for both requested parities. -/
example : (Pt.aff Pt.Gx Pt.Gy).valid = true ∧
    Pt.liftX Pt.Gx false = some (Pt.aff Pt.Gx (if Fe.isOdd Pt.Gy = false then Pt.Gy else Fe.neg Pt.Gy)) ∧
    Pt.liftX Pt.Gx true = some (Pt.aff Pt.Gx (if Fe.isOdd Pt.Gy = true then Pt.Gy else Fe.neg Pt.Gy)) := by
  decide +kernel

/-- The conclusion of `ecdsa_sign_recovers` checked directly on the instance with negated `s`. -/
example : Ecdsa.sigRecover (Ecdsa.sigSign 7 12345 2).2.1 (Ecdsa.sigSign 7 12345 2).2.2.1 12345
    (Ecdsa.sigSign 7 12345 2).2.2.2 = some (Pt.mulG 7) := by decide +kernel

/-- `ecdsa_verify_iff`: its hypotheses hold for a concrete accepted triple (the signature of the 32-byte
    message `be32 12345` under key 7 with nonce 6) … -/
example :
    let sg := Ecdsa.sigSign 7 12345 6
    sg.2.1 < N ∧ (verifyPoint sg.2.1 sg.2.2.1 (Bytes.toNat (Bytes.be32 12345) % N) (Pt.mulG 7)).xOf < P ∧
    (Ecdsa.verify (sg.2.1, sg.2.2.1) (Bytes.be32 12345) (Pt.mulG 7)).ret = 1 := by decide +kernel

/-- … and for rejected ones: the same signature with `s` replaced by `n − s` (high S), and with `r = 0`. -/
example :
    let sg := Ecdsa.sigSign 7 12345 6
    (Ecdsa.verify (sg.2.1, Sc.neg sg.2.2.1) (Bytes.be32 12345) (Pt.mulG 7)).ret = 0 ∧
    (Ecdsa.verify (0, sg.2.2.1) (Bytes.be32 12345) (Pt.mulG 7)).ret = 0 := by decide +kernel

/-- `sign_invalid_key`: both kinds of invalid key strings exist. -/
example : Bytes.toNat (Bytes.zeros 32) = 0 ∧ N ≤ Bytes.toNat (Bytes.be32 N) := by decide +kernel

/-- `sign_nonce_fail`: a failing callback. -/
example : Ecdsa.sign (Bytes.be32 12345) (Bytes.be32 7) (some fun _ _ _ _ _ => none) none = (0, (0, 0)) :=
  sign_nonce_fail _ _ _ _ rfl

/-- `ecdsa_sign_api_verifies` / `ecdsa_sign_api_recovers`: the premise `ret = 1` is satisfiable (custom
    nonce callback returning the constant 6, to keep the kernel evaluation free of the DRBG). -/
example : (Ecdsa.sign (Bytes.be32 12345) (Bytes.be32 7) (some fun _ _ _ _ _ => some (Bytes.be32 6)) none).1 = 1 ∧
    (Ecdsa.signRecoverable (Bytes.be32 12345) (Bytes.be32 7) (some fun _ _ _ _ _ => some (Bytes.be32 6)) none).ret
      = 1 := by
  decide +kernel

end C01
end SecpZkp
