import SecpZkp.Proofs.BorromeanApps
/-
  C16 (part "complete"): a whitelist signature made with the correct secrets verifies against the same key list
  and whitelisted key.  Closed form (uses `groupLaw`); SHA-256, RFC 6979 and the point codec are treated as opaque.
-/
namespace SecpZkp
namespace Whitelist
open SecpZkp.Algebra

set_option linter.auxLemma false in
/-- `Whitelist.sign` with the nonce derivation as a parameter.  `nonceLoop 128 msg (be32 sec) n 0` is a closed-length
    SHA-256 computation on symbolic bytes, which the kernel would try to evaluate as soon as it has to reduce a `match` on
    it; all case analysis is therefore done with an abstract `nl`.  The body is `sign`'s own, written with `sign`'s
    auto-generated matchers so that `sign_eq_aux` holds by syntactic identity. -/
def signAux (nl : Bytes → Bytes → Nat → Nat → Option (Nat × List Nat))
    (online offline : List Pt) (sub : Pt) (onlineSeckey summedSeckey : Bytes) (index : Nat) : Ret (Option Sig) :=
  let nKeys := online.length
  if nKeys > maxKeys then ⟨0, none, 1⟩ else
  if ¬ index < nKeys then ⟨0, none, 1⟩ else
    sign.match_5 (fun _ => Ret (Option Sig)) (computeKeysAndMessage online offline sub) fun msg32 pubs =>
      computeTweakedPrivkey.match_1 (fun _ => Ret (Option Sig)) (computeTweakedPrivkey onlineSeckey summedSeckey)
        (fun _ => ⟨0, none, 0⟩) fun sec =>
        sign.match_3 (fun _ => Ret (Option Sig)) (nl msg32 (Bytes.be32 sec) nKeys 0)
          (fun _ => ⟨0, none, 0⟩) fun non s =>
          sign.match_1 (fun _ => Ret (Option Sig)) (signWith msg32 pubs sec non s index)
            (fun _ => ⟨0, none, 0⟩) fun sig => ⟨1, some sig, 0⟩

theorem sign_eq_aux (online offline : List Pt) (sub : Pt) (onlineSeckey summedSeckey : Bytes) (index : Nat) :
    sign online offline sub onlineSeckey summedSeckey index =
      signAux (nonceLoop 128) online offline sub onlineSeckey summedSeckey index := rfl

theorem signAux_cases (nl : Bytes → Bytes → Nat → Nat → Option (Nat × List Nat))
    (online offline : List Pt) (sub : Pt) (onlineSeckey summedSeckey : Bytes) (index : Nat) :
    ((signAux nl online offline sub onlineSeckey summedSeckey index).ret = 0 ∧
      (signAux nl online offline sub onlineSeckey summedSeckey index).out = none) ∨
    (online.length ≤ maxKeys ∧ index < online.length ∧
    ∃ sec non s e0 sOut,
      computeTweakedPrivkey onlineSeckey summedSeckey = some sec ∧
      nl (computeKeysAndMessage online offline sub).1 (Bytes.be32 sec) online.length 0 = some (non, s) ∧
      Borromean.sign s (computeKeysAndMessage online offline sub).2 [non] [sec]
        [(computeKeysAndMessage online offline sub).2.length] [index] (computeKeysAndMessage online offline sub).1
        = some (e0, sOut) ∧
      signAux nl online offline sub onlineSeckey summedSeckey index =
        ⟨1, some ⟨(computeKeysAndMessage online offline sub).2.length, sigData e0 sOut⟩, 0⟩) := by
  unfold signAux
  simp only []
  split
  · exact Or.inl ⟨rfl, rfl⟩
  next h1 =>
  split
  · exact Or.inl ⟨rfl, rfl⟩
  next h2 =>
  split
  · exact Or.inl ⟨rfl, rfl⟩
  next sec hsec =>
  split
  · exact Or.inl ⟨rfl, rfl⟩
  next non s hnl =>
  split
  · exact Or.inl ⟨rfl, rfl⟩
  next sg hsw =>
  rw [signWith] at hsw
  split at hsw
  · simp at hsw
  next e0 sOut hbs =>
  exact Or.inr ⟨by omega, by omega, sec, non, s, e0, sOut, hsec, hnl, hbs, by rw [← Option.some.inj hsw]⟩

theorem sign_success {online offline : List Pt} {sub : Pt} {onlineSeckey summedSeckey : Bytes} {index : Nat}
    (hret : (sign online offline sub onlineSeckey summedSeckey index).ret = 1) :
    online.length ≤ maxKeys ∧ index < online.length ∧
    ∃ sec non s e0 sOut,
      computeTweakedPrivkey onlineSeckey summedSeckey = some sec ∧
      nonceLoop 128 (computeKeysAndMessage online offline sub).1 (Bytes.be32 sec) online.length 0 = some (non, s) ∧
      Borromean.sign s (computeKeysAndMessage online offline sub).2 [non] [sec]
        [(computeKeysAndMessage online offline sub).2.length] [index] (computeKeysAndMessage online offline sub).1
        = some (e0, sOut) ∧
      (sign online offline sub onlineSeckey summedSeckey index).out =
        some ⟨(computeKeysAndMessage online offline sub).2.length, sigData e0 sOut⟩ := by
  rw [sign_eq_aux] at hret ⊢
  rcases signAux_cases (nonceLoop 128) online offline sub onlineSeckey summedSeckey index with
    ⟨h0, -⟩ | ⟨h1, h2, sec, non, s, e0, sOut, hsec, hnl, hbs, hr⟩
  · rw [h0] at hret; exact absurd hret (by decide)
  · exact ⟨h1, h2, sec, non, s, e0, sOut, hsec, hnl, hbs, by rw [hr]⟩

theorem sign_out_of_ret {online offline : List Pt} {sub : Pt} {onlineSeckey summedSeckey : Bytes} {index : Nat}
    (hret : (sign online offline sub onlineSeckey summedSeckey index).ret = 1) :
    ∃ sig, (sign online offline sub onlineSeckey summedSeckey index).out = some sig :=
  let ⟨_, _, _, _, _, _, _, _, _, _, h⟩ := sign_success hret
  ⟨_, h⟩

/-- C16 `whitelist_complete`: if `secp256k1_whitelist_sign` returns 1 with signature `sig`, `secp256k1_whitelist_verify`
    returns 1 on `sig` for the same key lists and whitelisted key.  `hon`, `hoff`: the signer at `index` holds the matching
    secrets; `secp256k1_whitelist_sign` relies on these relations and never checks them.  `1 ≤ n_keys ≤ 255` and
    `index < n_keys` are not assumed: the successful return implies them.

    `hothers` (no OTHER ring key is infinite) cannot be dropped: the verifier rejects every signature as soon as one ring
    key is infinite (`whitelist_inf_key_never_verifies`), whereas the signer does not look at the other members' ring
    keys.  The signer's OWN ring key is `sec•G` with `sec` the tweaked secret, which `sign` refuses when zero
    (`whitelist_sign_refuses_zero_tweaked_secret`). -/
theorem whitelist_complete (online offline : List Pt) (sub : Pt) (onlineSeckey summedSeckey : Bytes) (index : Nat)
    (sig : Sig)
    (hlen : offline.length = online.length)
    (hon : online[index]? = some (Pt.mulG (Sc.setB32 onlineSeckey).1))
    (hoff : offline[index]?.map (fun o => Pt.add o sub) = some (Pt.mulG (Sc.setB32 summedSeckey).1))
    (hothers : ∀ j, j ≠ index → (computeKeysAndMessage online offline sub).2[j]? ≠ some .inf)
    (hret : (sign online offline sub onlineSeckey summedSeckey index).ret = 1)
    (hout : (sign online offline sub onlineSeckey summedSeckey index).out = some sig) :
    verify sig online offline sub = 1 := by
  have : HasGroupLaw := ⟨groupLaw⟩
  obtain ⟨hmax, hidx, sec, non, s, e0, sOut, hsk, hnl, hbs, hsig⟩ := sign_success hret
  replace hsig := Option.some.inj (hout.symm.trans hsig)
  -- the key at `index` is `sec•G` (`hpidx`), finite since `sec ≠ 0`; the others are finite by `hothers`
  have hplen : (computeKeysAndMessage online offline sub).2.length = online.length := by
    simp [computeKeys_snd, hlen]
  obtain ⟨off, hoff1, hoff2⟩ := Option.map_eq_some_iff.1 hoff
  obtain ⟨hkey, hsecN, hsecne⟩ := ringKey_eq_mulG (on := Pt.mulG (Sc.setB32 onlineSeckey).1) (off := off) (sub := sub) hsk rfl hoff2
  have hpidx : (computeKeysAndMessage online offline sub).2[index]? = some (Pt.mulG sec) := by
    rw [computeKeys_snd, List.getElem?_map,
      (List.getElem?_zip_eq_some (z := (off, Pt.mulG (Sc.setB32 onlineSeckey).1))).mpr ⟨hoff1, hon⟩]
    simp [hkey]
  have hsec0 : 0 < sec := Nat.pos_of_ne_zero hsecne
  have hP : ∀ p ∈ (computeKeysAndMessage online offline sub).2, p ≠ .inf := by
    intro p hp hinf
    obtain ⟨j, hj, rfl⟩ := List.mem_iff_getElem.mp hp
    by_cases hji : j = index
    · subst hji
      rw [List.getElem?_eq_getElem hj] at hpidx
      rw [Option.some.inj hpidx] at hinf
      exact mulG_ne_inf hsec0 hsecN hinf
    · apply hothers j hji
      rw [List.getElem?_eq_getElem hj, hinf]
  obtain ⟨_, hnonN, hslen, hs⟩ := nonceLoop_spec _ _ _ _ _ _ _ hnl
  obtain ⟨he0, hsOlen, hsO, hver⟩ := Borromean.sign_single_spec hP (by omega) rfl (by omega) (fun y hy => (hs y hy).2)
    hsecN hnonN hpidx (fun j _ h0 => (hs 0 (List.mem_of_getElem? h0)).1 rfl) hbs
  -- `verify` reads from `sig` the scalars and the `e0` the signer returned and recomputes the same keys and message
  have hread := readScalars_sigData (computeKeysAndMessage online offline sub).2.length e0 sOut he0 hsO
  rw [hsOlen] at hread
  have hsige0 : sig.e0 = e0 := by
    rw [hsig, Sig.e0, sigData, List.take_left' he0]
  rw [verify]
  have hguard : ¬ (sig.nKeys = 0 ∨ sig.nKeys > maxKeys ∨ sig.nKeys ≠ online.length) := by
    rw [hsig]; simp only [hplen]; omega
  rw [if_neg hguard]
  have hnk : sig.nKeys = (computeKeysAndMessage online offline sub).2.length := by rw [hsig]
  rw [hnk]
  conv_lhs => rw [hsig]
  rw [hread]
  simp only []
  rw [← hsig, hsige0, hver]
  rfl

/-- The Borromean verifier rejects an infinite key at any position, while `secp256k1_whitelist_sign` never looks at the
    ring keys of the other members. -/
theorem whitelist_inf_key_never_verifies (sig : Sig) (online offline : List Pt) (sub : Pt)
    (hlen : offline.length = online.length)
    (hinf : Pt.inf ∈ (computeKeysAndMessage online offline sub).2) :
    verify sig online offline sub = 0 := by
  have hplen : (computeKeysAndMessage online offline sub).2.length = online.length := by
    simp [computeKeys_snd, hlen]
  unfold verify
  simp only []
  split
  · rfl
  next hg =>
  split
  · rfl
  next s _ =>
  have hn : sig.nKeys = online.length := by
    by_contra h; exact hg (Or.inr (Or.inr h))
  rw [Borromean.verify_single_inf _ _ _ _ _ (by omega) hinf]
  rfl

/-- Finding F2: when the tweaked secret `online_sec + H(summed_sec•G)·summed_sec` vanishes mod `n`,
    `secp256k1_whitelist_sign` returns 0.  Without this refusal it would return 1 with a signature that cannot verify
    (`whitelist_zero_tweaked_ringkey_inf`). -/
theorem whitelist_sign_refuses_zero_tweaked_secret (online offline : List Pt) (sub : Pt)
    (onlineSeckey summedSeckey : Bytes) (index : Nat) (tweak : Nat)
    (ht : hashPubkey (Pt.mulG (Sc.setB32 summedSeckey).1) = some tweak)
    (h0 : Sc.add (Sc.mul (Sc.setB32 summedSeckey).1 tweak) (Sc.setB32 onlineSeckey).1 = 0) :
    (sign online offline sub onlineSeckey summedSeckey index).ret = 0 := by
  rw [sign_eq_aux]
  rcases signAux_cases (nonceLoop 128) online offline sub onlineSeckey summedSeckey index with
    ⟨h, -⟩ | ⟨-, -, sec, _, _, _, _, hsec, -⟩
  · exact h
  · rw [computeTweakedPrivkey_none_of_zero ht h0] at hsec; exact absurd hsec (by simp)

/-- Why a zero tweaked secret has to be refused (F2): the ring key at `index` is then the point at infinity, and no
    signature object at all verifies against this key list and whitelisted key. -/
theorem whitelist_zero_tweaked_ringkey_inf (online offline : List Pt) (sub : Pt) (onlineSeckey summedSeckey : Bytes)
    (index : Nat) (sig : Sig) (tweak : Nat)
    (hlen : offline.length = online.length)
    (hon : online[index]? = some (Pt.mulG (Sc.setB32 onlineSeckey).1))
    (hoff : offline[index]?.map (fun o => Pt.add o sub) = some (Pt.mulG (Sc.setB32 summedSeckey).1))
    (ht : hashPubkey (Pt.mulG (Sc.setB32 summedSeckey).1) = some tweak)
    (h0 : Sc.add (Sc.mul (Sc.setB32 summedSeckey).1 tweak) (Sc.setB32 onlineSeckey).1 = 0) :
    verify sig online offline sub = 0 := by
  have : HasGroupLaw := ⟨groupLaw⟩
  obtain ⟨off, hoff1, hoff2⟩ := Option.map_eq_some_iff.1 hoff
  have hkey := ringKey_eq_mulG_tweaked (on := Pt.mulG (Sc.setB32 onlineSeckey).1) (off := off) (sub := sub)
    (Sc.setB32_fst_lt onlineSeckey) (Sc.setB32_fst_lt summedSeckey) ht rfl hoff2
  rw [h0] at hkey
  have hpidx : (computeKeysAndMessage online offline sub).2[index]? = some Pt.inf := by
    rw [computeKeys_snd, List.getElem?_map,
      (List.getElem?_zip_eq_some (z := (off, Pt.mulG (Sc.setB32 onlineSeckey).1))).mpr ⟨hoff1, hon⟩]
    simp only [Option.map_some, hkey]
    exact congrArg some (groupLaw.mul_zero _)
  exact whitelist_inf_key_never_verifies sig online offline sub hlen (List.mem_of_getElem? hpidx)

end Whitelist
end SecpZkp
