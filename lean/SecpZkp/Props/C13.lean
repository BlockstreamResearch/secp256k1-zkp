import SecpZkp.Proofs.Musig13
/-
  Property C13: "A MuSig secret nonce can sign at most once, whatever happens."  Core Lean only (no Mathlib).

  Single calls: `Musig.partialSign` (`secp256k1_musig_partial_sign`, session_impl.h:646-714), `Musig.nonceGen` /
  `nonceGenCounter`.  Call sequences: the two-slot history machine `Musig.runStep` / `runHistory` that the
  correspondence check drives; its invariant (ghost counters) is defined and proved here.

  Reading the statements: a call returns `⟨ret, out, illegal⟩` (return value, objects after the call, number of
  illegal-argument callbacks); a NULL pointer argument is `none`; an output object that a call did not write is `none`;
  the all-zero 132-byte secnonce object is `Secnonce.zero`.
-/
namespace SecpZkp
namespace Musig
namespace C13

/-! Objects for the examples, chosen cheap to evaluate: secret key 1, a cache whose second key is `G` (so the
  key-aggregation coefficient is 1 without hashing), two sessions that differ in challenge and nonce coefficient.  The
  `gen` steps of the history setup `suA` run the real nonce derivation (SHA-256 in the kernel). -/

def kpA : Keys.Keypair := ⟨Bytes.be32 1, Pt.G⟩
/-- a keypair with another public key; `(5, 6)` is deliberately off the curve: `keypair_load` only tests `≠ ∞` -/
def kpB : Keys.Keypair := ⟨Bytes.be32 2, Pt.aff 5 6⟩
def cacheA : KeyaggCache := ⟨keyaggCacheMagic, Pt.G, Pt.G, Bytes.zeros 32, 0, 0⟩
def sessA : Session := ⟨sessionMagic, 0, Bytes.zeros 32, 5, 7, 0⟩
def sessB : Session := ⟨sessionMagic, 0, Bytes.zeros 32, 11, 13, 0⟩
def snA : Secnonce := ⟨secnonceMagic, 2, 3, Pt.G⟩
def randA : Bytes := Bytes.zeros 27 ++ [1, 0, 0, 0, 0]
def suA : HistSetup := ⟨kpA, kpB, Bytes.zeros 32, cacheA, sessA, sessB, randA, 0⟩

/-- Clause "any partial-signing call that is handed a secret nonce, whether it then succeeds or fails for any reason,
    leaves that object all-zero": no hypothesis on the other arguments or on the return value.  The secnonce pointer is
    non-NULL (`some sn`); `ARG_CHECK(secnonce != NULL)` precedes the load, see `partial_sign_null`. -/
theorem partial_sign_wipes (wantSig : Bool) (sn : Secnonce) (keypair : Option Keys.Keypair)
    (cache : Option KeyaggCache) (session : Option Session) :
    (partialSign wantSig (some sn) keypair cache session).out.secnonce = some Secnonce.zero :=
  partialSign_wipes wantSig sn keypair cache session

theorem partial_sign_null (wantSig : Bool) (keypair : Option Keys.Keypair)
    (cache : Option KeyaggCache) (session : Option Session) :
    partialSign wantSig none keypair cache session = ⟨0, ⟨none, none⟩, 1⟩ := rfl

/-- The wipe on a successful call with a live nonce … -/
example : let r := partialSign true (some snA) (some kpA) (some cacheA) (some sessA)
    r.ret = 1 ∧ r.out.sig = some ⟨partialSigMagic, 24⟩ ∧ r.out.secnonce = some Secnonce.zero ∧ snA ≠ Secnonce.zero := by
  decide +kernel

/-- … and on failing calls handed the same nonce. -/
example :
    (partialSign true (some snA) (some kpB) (some cacheA) (some sessA)).ret = 0 ∧
    (partialSign true (some snA) (some kpB) (some cacheA) (some sessA)).out.secnonce = some Secnonce.zero ∧
    (partialSign false (some snA) (some kpA) (some cacheA) (some sessA)).out.secnonce = some Secnonce.zero ∧
    (partialSign true (some snA) (some kpA) (some cacheA) none).out.secnonce = some Secnonce.zero ∧
    (partialSign true (some snA) (some kpA) (some (badCacheOf cacheA)) (some sessA)).ret = 0 ∧
    (partialSign true (some snA) (some kpA) (some (badCacheOf cacheA)) (some sessA)).out.secnonce = some Secnonce.zero := by
  decide +kernel

/-- the secnonce object passes `secp256k1_musig_secnonce_load` (`live_iff_load`) -/
def Live (sn : Secnonce) : Prop := sn.magic = secnonceMagic ∧ ¬ (sn.k1 = 0 ∧ sn.k2 = 0)

instance (sn : Secnonce) : Decidable (Live sn) := by unfold Live; infer_instance

theorem live_iff_load (sn : Secnonce) : Live sn ↔ (secnonceLoad sn).isSome = true :=
  (secnonceLoad_isSome_iff sn).symm

theorem not_live_of_zero_or_bad_magic {sn : Secnonce}
    (h : sn = Secnonce.zero ∨ sn.isZero = true ∨ sn.magic ≠ secnonceMagic) : ¬ Live sn := by
  intro hl
  have hs := (live_iff_load sn).1 hl
  rcases h with h | h | h
  · rw [h, secnonceLoad_zero] at hs; exact absurd hs (by decide)
  · rw [secnonceLoad_isZero h] at hs; exact absurd hs (by decide)
  · exact h hl.1

/-- Clause "signing with a zeroed or already-used secret nonce produces no signature": return 0, one illegal-argument
    callback, the caller's partial-signature object untouched (`sig = none`), whatever the other arguments. -/
theorem sign_needs_live_nonce (wantSig : Bool) {sn : Secnonce} (keypair : Option Keys.Keypair)
    (cache : Option KeyaggCache) (session : Option Session) (h : ¬ Live sn) :
    partialSign wantSig (some sn) keypair cache session = ⟨0, ⟨none, some Secnonce.zero⟩, 1⟩ :=
  partialSign_dead _ _ _ _ ((secnonceLoad_eq sn).trans (if_neg h))

theorem sign_zero_nonce (wantSig : Bool) (keypair : Option Keys.Keypair)
    (cache : Option KeyaggCache) (session : Option Session) :
    partialSign wantSig (some Secnonce.zero) keypair cache session = ⟨0, ⟨none, some Secnonce.zero⟩, 1⟩ :=
  partialSign_dead _ _ _ _ secnonceLoad_zero

theorem no_sig_on_failure (wantSig : Bool) (sn : Option Secnonce) (keypair : Option Keys.Keypair)
    (cache : Option KeyaggCache) (session : Option Session) :
    ((partialSign wantSig sn keypair cache session).ret = 0 ∨ (partialSign wantSig sn keypair cache session).ret = 1) ∧
    ((partialSign wantSig sn keypair cache session).out.sig.isSome = true ↔
      (partialSign wantSig sn keypair cache session).ret = 1) :=
  ⟨partialSign_ret01 _ _ _ _ _, partialSign_sig_iff _ _ _ _ _⟩

/-- The "already-used" case: the object left behind by any call, successful or not, gives no signature in a second. -/
theorem second_use_fails (w1 w2 : Bool) (sn : Secnonce) (kp1 kp2 : Option Keys.Keypair)
    (c1 c2 : Option KeyaggCache) (s1 s2 : Option Session) :
    partialSign w2 (partialSign w1 (some sn) kp1 c1 s1).out.secnonce kp2 c2 s2 =
      ⟨0, ⟨none, some Secnonce.zero⟩, 1⟩ := by
  rw [partial_sign_wipes]; exact sign_zero_nonce _ _ _ _

/-- `Live` and `¬ Live` are both inhabited, the latter in each of its three ways. -/
example : Live snA ∧ (partialSign true (some snA) (some kpA) (some cacheA) (some sessA)).ret = 1 ∧
    ¬ Live Secnonce.zero ∧ ¬ Live { snA with magic := flipFirst snA.magic } ∧ ¬ Live { snA with k1 := 0, k2 := 0 } := by
  decide +kernel

/-- Clause "signing with a foreign-keyed secret nonce produces no signature", as what return value 1 implies.
    `kp.pk = sn.pk` is equality of `Pt`, so of both coordinates: comparing x alone would accept the negated key
    (`binding_negated_keypair`). -/
theorem binding {wantSig : Bool} {sn : Secnonce} {keypair : Option Keys.Keypair} {cache : Option KeyaggCache}
    {session : Option Session} (h : (partialSign wantSig (some sn) keypair cache session).ret = 1) :
    ∃ kp, keypair = some kp ∧ kp.pk = sn.pk ∧ kp.pk ≠ Pt.inf ∧ Live sn ∧ wantSig = true ∧
      (∃ c ci, cache = some c ∧ cacheLoad c = some ci) ∧ (∃ s si, session = some s ∧ sessionLoad s = some si) := by
  rcases partialSign_cases wantSig sn keypair cache session with
    h0 | ⟨_, _, kp, c, ci, s, si, hm, hz, hw, hkp, hpk, hne, hc, hci, hs, hsi⟩
  · rw [h0] at h; cases h
  · exact ⟨kp, hkp, hpk, hne, ⟨hm, hz⟩, hw, ⟨c, ci, hc, hci⟩, ⟨s, si, hs, hsi⟩⟩

theorem binding_refuses (wantSig : Bool) {sn : Secnonce} {kp : Keys.Keypair} (cache : Option KeyaggCache)
    (session : Option Session) (h : kp.pk ≠ sn.pk) :
    (partialSign wantSig (some sn) (some kp) cache session).ret = 0 := by
  rcases partialSign_ret01 wantSig (some sn) (some kp) cache session with h0 | h1
  · exact h0
  · obtain ⟨kp', hkp, hpk, _⟩ := binding h1
    cases hkp
    exact absurd hpk h

theorem binding_both_coordinates (wantSig : Bool) {sn : Secnonce} {kp : Keys.Keypair} {x y y' : Nat}
    (cache : Option KeyaggCache) (session : Option Session)
    (hsn : sn.pk = Pt.aff x y) (hkp : kp.pk = Pt.aff x y') (hy : y' ≠ y) :
    (partialSign wantSig (some sn) (some kp) cache session).ret = 0 := by
  apply binding_refuses
  rw [hsn, hkp]
  intro h
  cases h
  exact hy rfl

theorem neg_ne_self {x y : Nat} (h0 : 0 < y) (hP : y < P) : Pt.neg (Pt.aff x y) ≠ Pt.aff x y := by
  intro h
  have hy : Fe.neg y = y := by
    simp only [Pt.neg, Pt.aff.injEq, true_and] at h
    exact h
  unfold Fe.neg at hy
  rw [Nat.mod_eq_of_lt hP, Nat.mod_eq_of_lt (by omega)] at hy
  -- `p − y = y` would make `p` even
  have hodd : P % 2 = 1 := by decide
  omega

/-- The case a comparison of x alone would let through: the keypair of the negated secret key, public key `(x, −y)`.
    `h0`, `hP` hold for every point on the curve (reduced coordinates, and no curve point has `y = 0`). -/
theorem binding_negated_keypair (wantSig : Bool) {sn : Secnonce} {kp : Keys.Keypair} {x y : Nat}
    (cache : Option KeyaggCache) (session : Option Session)
    (hsn : sn.pk = kp.pk) (hkp : kp.pk = Pt.aff x y) (h0 : 0 < y) (hP : y < P) :
    (partialSign wantSig (some sn) (some (negKeypair kp)) cache session).ret = 0 := by
  apply binding_refuses
  show Pt.neg kp.pk ≠ sn.pk
  rw [hsn, hkp]
  exact neg_ne_self h0 hP

/-- The negated keypair loads, so it is the comparison with the nonce's key that refuses it. -/
example : (partialSign true (some snA) (some kpA) (some cacheA) (some sessA)).ret = 1 ∧
    (Keys.keypairLoad (negKeypair kpA) true).1 = true ∧
    (partialSign true (some snA) (some (negKeypair kpA)) (some cacheA) (some sessA)).ret = 0 ∧
    (partialSign true (some snA) (some kpB) (some cacheA) (some sessA)).ret = 0 := by
  decide +kernel

-- the hypotheses of `binding_negated_keypair`
example : snA.pk = kpA.pk ∧ kpA.pk = Pt.aff Pt.Gx Pt.Gy ∧ 0 < Pt.Gy ∧ Pt.Gy < P := by decide +kernel

/-- Clause "nonce generation rejects all-zero session randomness". -/
theorem nonce_gen_rejects_zero_rand (wantSec wantPub : Bool) {secrand : Bytes} (seckey : Option Bytes)
    (pubkey : Option Pt) (msg32 : Option Bytes) (cache : Option KeyaggCache) (extra32 : Option Bytes)
    (h : Bytes.isZero secrand = true) :
    (nonceGen wantSec wantPub (some secrand) seckey pubkey msg32 cache extra32).ret = 0 := by
  unfold nonceGen
  cases wantSec <;> simp [h]

/-- With a non-NULL secnonce pointer the rejection is the plain `return 0` after `secnonce_invalidate`: no callback. -/
theorem nonce_gen_zero_rand_result (wantPub : Bool) {secrand : Bytes} (seckey : Option Bytes)
    (pubkey : Option Pt) (msg32 : Option Bytes) (cache : Option KeyaggCache) (extra32 : Option Bytes)
    (h : Bytes.isZero secrand = true) :
    nonceGen true wantPub (some secrand) seckey pubkey msg32 cache extra32 =
      ⟨0, ⟨some Secnonce.zero, none, some secrand⟩, 0⟩ := by
  unfold nonceGen
  simp [h]

/-- Clause "nonce generation leaves the secret nonce zeroed on every failure", for `nonce_gen` with a non-NULL secnonce
    pointer (the NULL case: `nonce_gen_null_secnonce`). -/
theorem nonce_gen_fail_zero (wantPub : Bool) (secrand seckey : Option Bytes)
    (pubkey : Option Pt) (msg32 : Option Bytes) (cache : Option KeyaggCache) (extra32 : Option Bytes)
    (h : (nonceGen true wantPub secrand seckey pubkey msg32 cache extra32).ret ≠ 1) :
    (nonceGen true wantPub secrand seckey pubkey msg32 cache extra32).out.secnonce = some Secnonce.zero := by
  rcases nonceGen_cases true wantPub secrand seckey pubkey msg32 cache extra32 with
    ⟨_, _, hz⟩ | ⟨_, _, _, _, he, _⟩
  · exact hz rfl
  · rw [he] at h; exact absurd rfl h

theorem nonce_gen_null_secnonce (wantPub : Bool) (secrand seckey : Option Bytes)
    (pubkey : Option Pt) (msg32 : Option Bytes) (cache : Option KeyaggCache) (extra32 : Option Bytes) :
    nonceGen false wantPub secrand seckey pubkey msg32 cache extra32 = ⟨0, ⟨none, none, secrand⟩, 1⟩ := rfl

theorem nonce_gen_counter_fail_zero (wantPub : Bool) (cnt : Nat) (keypair : Option Keys.Keypair)
    (msg32 : Option Bytes) (cache : Option KeyaggCache) (extra32 : Option Bytes)
    (h : (nonceGenCounter true wantPub cnt keypair msg32 cache extra32).ret ≠ 1) :
    (nonceGenCounter true wantPub cnt keypair msg32 cache extra32).out.secnonce = some Secnonce.zero := by
  rcases nonceGenCounter_cases true wantPub cnt keypair msg32 cache extra32 with
    ⟨_, hz⟩ | ⟨_, _, _, he, _⟩
  · exact hz rfl
  · rw [he] at h; exact absurd rfl h

theorem nonce_gen_ret01 (wantSec wantPub : Bool) (secrand seckey : Option Bytes)
    (pubkey : Option Pt) (msg32 : Option Bytes) (cache : Option KeyaggCache) (extra32 : Option Bytes) :
    (nonceGen wantSec wantPub secrand seckey pubkey msg32 cache extra32).ret = 0 ∨
    (nonceGen wantSec wantPub secrand seckey pubkey msg32 cache extra32).ret = 1 := by
  rcases nonceGen_cases wantSec wantPub secrand seckey pubkey msg32 cache extra32 with
    ⟨h, _⟩ | ⟨_, _, _, _, he, _⟩
  · exact Or.inl h
  · exact Or.inr (by rw [he])

theorem nonce_gen_counter_ret01 (wantSec wantPub : Bool) (cnt : Nat) (keypair : Option Keys.Keypair)
    (msg32 : Option Bytes) (cache : Option KeyaggCache) (extra32 : Option Bytes) :
    (nonceGenCounter wantSec wantPub cnt keypair msg32 cache extra32).ret = 0 ∨
    (nonceGenCounter wantSec wantPub cnt keypair msg32 cache extra32).ret = 1 := by
  rcases nonceGenCounter_cases wantSec wantPub cnt keypair msg32 cache extra32 with
    ⟨h, _⟩ | ⟨_, _, _, he, _⟩
  · exact Or.inl h
  · exact Or.inr (by rw [he])

/-- Clause "nonce generation wipes the caller's randomness buffer on success" (`out.secrand` is `session_secrand32`
    after the call). -/
theorem rand_wiped_on_success (wantSec wantPub : Bool) (secrand seckey : Option Bytes)
    (pubkey : Option Pt) (msg32 : Option Bytes) (cache : Option KeyaggCache) (extra32 : Option Bytes) :
    ((nonceGen wantSec wantPub secrand seckey pubkey msg32 cache extra32).ret = 1 →
      (nonceGen wantSec wantPub secrand seckey pubkey msg32 cache extra32).out.secrand = some (Bytes.zeros 32)) ∧
    ((nonceGen wantSec wantPub secrand seckey pubkey msg32 cache extra32).ret ≠ 1 →
      (nonceGen wantSec wantPub secrand seckey pubkey msg32 cache extra32).out.secrand = secrand) := by
  rcases nonceGen_cases wantSec wantPub secrand seckey pubkey msg32 cache extra32 with
    ⟨h0, hsr, _⟩ | ⟨_, _, _, _, he, _⟩
  · exact ⟨fun h1 => absurd (h0.symm.trans h1) (by decide), fun _ => hsr⟩
  · rw [he]; exact ⟨fun _ => rfl, fun h => absurd rfl h⟩

/-- Clause "nonce generation binds the nonce to the supplied public key": `secnonceSave k1 k2 pk` is the object
    `magic ‖ k1 ‖ k2 ‖ pk`. -/
theorem nonce_gen_binds_pk {wantSec wantPub : Bool} {secrand seckey : Option Bytes}
    {pubkey : Option Pt} {msg32 : Option Bytes} {cache : Option KeyaggCache} {extra32 : Option Bytes}
    (h : (nonceGen wantSec wantPub secrand seckey pubkey msg32 cache extra32).ret = 1) :
    ∃ k1 k2 pk sr, wantSec = true ∧ pubkey = some pk ∧ pk ≠ Pt.inf ∧ secrand = some sr ∧ Bytes.isZero sr = false ∧
      (nonceGen wantSec wantPub secrand seckey pubkey msg32 cache extra32).out.secnonce = some (secnonceSave k1 k2 pk) ∧
      (nonceGen wantSec wantPub secrand seckey pubkey msg32 cache extra32).out.pubnonce =
        some (pubnonceSave (Pt.mulG k1) (Pt.mulG k2)) := by
  rcases nonceGen_cases wantSec wantPub secrand seckey pubkey msg32 cache extra32 with
    ⟨h0, _⟩ | ⟨k1, k2, p, r, he, _, _, hw, hp, hp0, hsr, hz⟩
  · rw [h0] at h; cases h
  · exact ⟨k1, k2, p, r, hw, hp, hp0, hsr, hz, by rw [he], by rw [he]⟩

theorem nonce_gen_counter_binds_pk {wantSec wantPub : Bool} {cnt : Nat} {keypair : Option Keys.Keypair}
    {msg32 : Option Bytes} {cache : Option KeyaggCache} {extra32 : Option Bytes}
    (h : (nonceGenCounter wantSec wantPub cnt keypair msg32 cache extra32).ret = 1) :
    ∃ k1 k2 kp, wantSec = true ∧ keypair = some kp ∧ kp.pk ≠ Pt.inf ∧
      (nonceGenCounter wantSec wantPub cnt keypair msg32 cache extra32).out.secnonce =
        some (secnonceSave k1 k2 kp.pk) := by
  rcases nonceGenCounter_cases wantSec wantPub cnt keypair msg32 cache extra32 with
    ⟨h0, _⟩ | ⟨k1, k2, kp, he, _, _, hw, hkp, hp0⟩
  · rw [h0] at h; cases h
  · exact ⟨k1, k2, kp, hw, hkp, hp0, by rw [he]⟩

/-- The two binding clauses together: generation for `pubkey`, then signing with a keypair of another key. -/
theorem generated_nonce_is_bound {wantPub : Bool} {secrand seckey : Option Bytes}
    {pubkey : Option Pt} {msg32 : Option Bytes} {cache : Option KeyaggCache} {extra32 : Option Bytes}
    (h : (nonceGen true wantPub secrand seckey pubkey msg32 cache extra32).ret = 1)
    (wantSig : Bool) (kp : Keys.Keypair) (cache' : Option KeyaggCache) (session : Option Session)
    (hne : some kp.pk ≠ pubkey) :
    (partialSign wantSig (nonceGen true wantPub secrand seckey pubkey msg32 cache extra32).out.secnonce
      (some kp) cache' session).ret = 0 := by
  obtain ⟨k1, k2, pk, sr, _, hp, _, _, _, hsn, _⟩ := nonce_gen_binds_pk h
  rw [hsn]
  apply binding_refuses
  intro he
  apply hne
  rw [hp, he]; rfl

/-- what `nonce_gen` derives from `randA` for `kpA` (`exGen`); the examples below share this one evaluation of the
    nonce hashes, which is slow to check -/
def snGen : Secnonce := ⟨secnonceMagic,
  4109036949333437109343200112771311873650969469805582804950383780107552589994,
  77619533697809288987102652120775896319259775808488863523924609422170363407395, Pt.G⟩

theorem exGen : (nonceGen true true (some randA) (some kpA.sk) (some kpA.pk) (some (Bytes.zeros 32)) (some cacheA)
    none).out.secnonce = some snGen := by decide +kernel

/-- `nonce_gen` does return 1 (`h` of `nonce_gen_binds_pk`, of `generated_nonce_is_bound`), and the nonce is live. -/
example :
    let r := nonceGen true true (some randA) (some kpA.sk) (some kpA.pk) (some (Bytes.zeros 32)) (some cacheA) none
    r.ret = 1 ∧ r.out.secrand = some (Bytes.zeros 32) ∧ (r.out.secnonce.map (·.pk)) = some Pt.G ∧
    (r.out.secnonce.map (fun s => decide (Live s))) = some true := by
  refine ⟨by decide +kernel, by decide +kernel, ?_, ?_⟩ <;> rw [exGen] <;> decide

-- Failures: all-zero randomness; an invalid secret key (return 0 after the derivation: secnonce zeroed, randomness
-- kept); and `nonce_gen_counter` succeeding and failing.
example :
    (nonceGen true true (some (Bytes.zeros 32)) (some kpA.sk) (some kpA.pk) none none none).ret = 0 ∧
    (let r := nonceGen true true (some randA) (some (Bytes.zeros 32)) (some kpA.pk) none none none
     r.ret = 0 ∧ r.illegal = 0 ∧ r.out.secnonce = some Secnonce.zero ∧ r.out.secrand = some randA) ∧
    (nonceGenCounter true true 7 (some kpA) none none none).ret = 1 ∧
    (nonceGenCounter true true 7 (some Keys.Keypair.zero) none none none).ret = 0 := by
  decide +kernel

/-! Histories: clause "across every sequence of API calls, each generated secret nonce yields at most one partial
  signature", over the history machine `runStep` of `Model/Musig.lean` (slot number `0` is slot 0, any other number is
  slot 1: `SameSlot`).  The theorems are about objects handed to a signing call: the call leaves the slot all-zero, and
  an all-zero slot never signs; so between two writes into a slot (`gen` on it or `copy` into it, the only steps that can
  put a live nonce there) at most one partial signature comes from it.
  Not claimed: a `copy` (object bytes duplicated, which the API forbids) made before the first signing call creates a
  second live object, and each of the two signs once (the last example); no library can prevent that.  A `copy` made
  after the signing call copies zeros (`copy_after_sign_is_dead`). -/

def signsOn (k : Nat) : Step → Bool
  | .sign k' _ => decide (SameSlot k' k)
  | _ => false

def writesTo (k : Nat) : Step → Bool
  | .gen k' _ => decide (SameSlot k' k)
  | .copy _ k' => decide (SameSlot k' k)
  | .sign _ _ => false

/-- All that the invariant (`slotInv_step`) and the trace theorem (`at_most_one_sig_between_writes`) use about
    `runStep`: untouched and silent, or wiped and silent if it was zero. -/
theorem step_effect (su : HistSetup) (j : Nat) (st : HistState) (s : Step) (k : Nat) (hw : writesTo k s = false) :
    ((runStep su j st s).1.get k = st.get k ∧ ¬ (signsOn k s = true ∧ (runStep su j st s).2.ret = 1)) ∨
    ((runStep su j st s).1.get k = Secnonce.zero ∧
      (st.get k = Secnonce.zero → ¬ (signsOn k s = true ∧ (runStep su j st s).2.ret = 1))) := by
  cases s with
  | gen k' m =>
    refine Or.inl ⟨?_, fun h => Bool.noConfusion h.1⟩
    unfold runStep; dsimp only; split
    · exact get_set_other _ _ (of_decide_eq_false hw)
    · rfl
  | copy src dst => exact Or.inl ⟨get_set_other _ _ (of_decide_eq_false hw), fun h => Bool.noConfusion h.1⟩
  | sign k' m =>
    rcases sign_step_eq su j st k' m with ⟨-, h⟩ | ⟨-, r, -, hz, h⟩ <;> rw [h]
    · exact Or.inl ⟨rfl, fun h => Nat.noConfusion h.2⟩
    · by_cases hk : SameSlot k' k
      -- the slot the step names is slot `k`: it is wiped, and it signed only if it was not zero (`hz`)
      · exact Or.inr ⟨get_set_same _ _ hk, fun h0 h1 => by rw [show r.ret = 0 from hz (get_congr st hk ▸ h0)] at h1; exact Nat.noConfusion h1.2⟩
      · exact Or.inl ⟨get_set_other _ _ hk, fun h1 => hk (of_decide_eq_true h1.1)⟩

/-- `partial_sign_wipes` on the machine; mode `nullNonce` passes a NULL pointer in place of the slot. -/
theorem sign_step_wipes (su : HistSetup) (j : Nat) (st : HistState) (slot : Nat) {mode : SignMode}
    (h : mode ≠ .nullNonce) :
    (runStep su j st (.sign slot mode)).1.get slot = Secnonce.zero := by
  rcases sign_step_eq su j st slot mode with ⟨hm, -⟩ | ⟨-, r, -, -, he⟩
  · exact absurd hm h
  · rw [he]; exact get_set_self ..

theorem zero_slot_does_not_sign (su : HistSetup) (j : Nat) {st : HistState} {slot : Nat} (mode : SignMode)
    (h : st.get slot = Secnonce.zero) :
    (runStep su j st (.sign slot mode)).2.ret = 0 ∧ (runStep su j st (.sign slot mode)).2.sig = none ∧
    (runStep su j st (.sign slot mode)).1.get slot = Secnonce.zero := by
  rcases sign_step_eq su j st slot mode with ⟨-, he⟩ | ⟨-, r, -, hz, he⟩ <;> rw [he]
  · exact ⟨rfl, rfl, h⟩
  · exact ⟨hz h, by simp only [hz h]; rfl, get_set_self ..⟩

theorem copy_after_sign_is_dead (su : HistSetup) (j j' j'' : Nat) (st : HistState) (a b : Nat)
    {mode : SignMode} (mode' : SignMode) (h : mode ≠ .nullNonce) :
    let st1 := (runStep su j st (.sign a mode)).1
    let st2 := (runStep su j' st1 (.copy a b)).1
    (runStep su j'' st2 (.sign b mode')).2.ret = 0 := by
  intro st1 st2
  apply (zero_slot_does_not_sign su j'' mode' _).1
  show (st1.set b (st1.get a)).get b = Secnonce.zero
  rw [get_set_self]
  exact sign_step_wipes su j st a h

/-- Ghost counters: `n0` (`n1`) is the number of successful partial signatures from slot 0 (slot 1) since the slot was
    last written, by a `gen` on it or a `copy` into it. -/
structure Counted where
  st : HistState
  n0 : Nat
  n1 : Nat

def Counted.upd (g : Counted) (st' : HistState) (k : Nat) (f : Nat → Nat) : Counted :=
  if k = 0 then ⟨st', f g.n0, g.n1⟩ else ⟨st', g.n0, f g.n1⟩

def countedStep (su : HistSetup) (j : Nat) (g : Counted) (s : Step) : Counted :=
  let r := runStep su j g.st s
  match s with
  | .gen k _ => g.upd r.1 k (fun _ => 0)
  | .copy _ k => g.upd r.1 k (fun _ => 0)
  | .sign k _ => g.upd r.1 k (fun n => if r.2.ret = 1 then n + 1 else n)

def countedRun (su : HistSetup) : Nat → Counted → List Step → Counted
  | _, g, [] => g
  | j, g, s :: rest => countedRun su (j + 1) (countedStep su j g s) rest

def Counted.init : Counted := ⟨HistState.init, 0, 0⟩

/-- `countedStep` read per slot (`countedStep_eq`), so that `slotInv_step` is stated once, for any slot -/
def nextCount (su : HistSetup) (j : Nat) (st : HistState) (s : Step) (k n : Nat) : Nat :=
  if writesTo k s = true then 0 else if signsOn k s = true ∧ (runStep su j st s).2.ret = 1 then n + 1 else n

theorem countedStep_eq (su : HistSetup) (j : Nat) (g : Counted) (s : Step) :
    countedStep su j g s =
      ⟨(runStep su j g.st s).1, nextCount su j g.st s 0 g.n0, nextCount su j g.st s 1 g.n1⟩ := by
  cases s <;> (simp only [countedStep, Counted.upd, nextCount, writesTo, signsOn, SameSlot]; split <;> simp [*])

theorem countedRun_st (su : HistSetup) (j : Nat) (g : Counted) (steps : List Step) :
    (countedRun su j g steps).st = (runHistory su j g.st steps).1 := by
  induction steps generalizing j g with
  | nil => rfl
  | cons s rest ih => rw [countedRun, ih, countedStep_eq, runHistory_cons]

def SlotInv (n : Nat) (sn : Secnonce) : Prop := n ≤ 1 ∧ (n = 1 → sn = Secnonce.zero)

def Inv (g : Counted) : Prop := SlotInv g.n0 (g.st.get 0) ∧ SlotInv g.n1 (g.st.get 1)

instance (g : Counted) : Decidable (Inv g) := by unfold Inv SlotInv; infer_instance

theorem inv_init : Inv Counted.init := by decide

theorem slotInv_step (su : HistSetup) (j : Nat) (st : HistState) (s : Step) (k : Nat) {n : Nat}
    (h : SlotInv n (st.get k)) : SlotInv (nextCount su j st s k n) ((runStep su j st s).1.get k) := by
  unfold nextCount
  by_cases hw : writesTo k s = true
  · rw [if_pos hw]; exact ⟨by omega, fun h => absurd h (by omega)⟩
  · obtain ⟨h1, h2⟩ := h
    rcases step_effect su j st s k (by simpa using hw) with ⟨e, hs⟩ | ⟨e, hs⟩ <;> rw [if_neg hw, e]
    · rw [if_neg hs]; exact ⟨h1, h2⟩
    · split
      · next hsig => exact ⟨by have : n ≠ 1 := fun hn => hs (h2 hn) hsig; omega, fun _ => rfl⟩
      · exact ⟨h1, fun _ => rfl⟩

theorem inv_step (su : HistSetup) (j : Nat) (g : Counted) (s : Step) (h : Inv g) :
    Inv (countedStep su j g s) := by
  rw [countedStep_eq]
  exact ⟨slotInv_step su j g.st s 0 h.1, slotInv_step su j g.st s 1 h.2⟩

theorem inv_run (su : HistSetup) (j : Nat) (g : Counted) (steps : List Step) (h : Inv g) :
    Inv (countedRun su j g steps) := by
  induction steps generalizing j g with
  | nil => exact h
  | cons s rest ih => exact ih (j + 1) _ (inv_step su j g s h)

/-- The history clause in terms of the ghost counters of `Counted`; the instrumented run carries the state of
    `runHistory` (`countedRun_st`). -/
theorem at_most_one_sig (su : HistSetup) (steps : List Step) :
    let g := countedRun su 0 Counted.init steps
    g.n0 ≤ 1 ∧ g.n1 ≤ 1 ∧ (g.n0 = 1 → g.st.slot0 = Secnonce.zero) ∧ (g.n1 = 1 → g.st.slot1 = Secnonce.zero) := by
  have h := inv_run su 0 Counted.init steps inv_init
  exact ⟨h.1.1, h.2.1, h.1.2, h.2.2⟩

def sigCount (su : HistSetup) (k : Nat) : Nat → HistState → List Step → Nat
  | _, _, [] => 0
  | j, st, s :: rest =>
    (if signsOn k s = true ∧ (runStep su j st s).2.ret = 1 then 1 else 0) +
      sigCount su k (j + 1) (runStep su j st s).1 rest

theorem sigCount_eq_observed (su : HistSetup) (k j : Nat) (st : HistState) (steps : List Step) :
    sigCount su k j st steps =
      ((steps.zip (runHistory su j st steps).2).filter
        (fun p => signsOn k p.1 && decide (p.2.1.ret = 1))).length := by
  induction steps generalizing j st with
  | nil => rfl
  | cons s rest ih =>
    rw [sigCount, ih, runHistory_cons]
    simp only [List.zip_cons_cons, List.filter_cons]
    by_cases hc : signsOn k s = true ∧ (runStep su j st s).2.ret = 1
    · simp only [hc, and_self, if_true, Bool.true_and, decide_true, List.length_cons]; omega
    · simp only [hc, if_false, Nat.zero_add]
      have : (signsOn k s && decide ((runStep su j st s).2.ret = 1)) = false := by
        cases hs : signsOn k s <;> simp_all
      simp only [this, Bool.false_eq_true, if_false]

/-- The history clause without ghost state: `sigCount` counts the signing steps on slot `k` that return 1, as they
    appear on the trace of `runHistory` (`sigCount_eq_observed`).  `st` need not be reachable. -/
theorem at_most_one_sig_between_writes (su : HistSetup) (k j : Nat) (st : HistState) (steps : List Step)
    (hw : ∀ s ∈ steps, writesTo k s = false) :
    sigCount su k j st steps ≤ 1 ∧ (st.get k = Secnonce.zero → sigCount su k j st steps = 0) := by
  induction steps generalizing j st with
  | nil => exact ⟨Nat.zero_le _, fun _ => rfl⟩
  | cons s rest ih =>
    obtain ⟨ih1, ih0⟩ := ih (j + 1) (runStep su j st s).1 fun t ht => hw t (List.mem_cons_of_mem _ ht)
    rw [sigCount]
    -- after the one signature the slot is zero and stays silent
    rcases step_effect su j st s k (hw s List.mem_cons_self) with ⟨e, hs⟩ | ⟨e, hs⟩
    · rw [if_neg hs, Nat.zero_add, ← e]; exact ⟨ih1, ih0⟩
    · rw [ih0 e]; exact ⟨by split <;> omega, fun hz => by rw [if_neg (hs hz)]⟩

/-- The form "between two generation steps" for runs from the initial state: the state `seg` starts in is that of the
    run of `pre ++ seg` after `pre` (`runHistory_append_fst`). -/
theorem at_most_one_sig_segment (su : HistSetup) (k : Nat) (pre seg : List Step)
    (hw : ∀ s ∈ seg, writesTo k s = false) :
    sigCount su k pre.length (runHistory su 0 HistState.init pre).1 seg ≤ 1 :=
  (at_most_one_sig_between_writes su k pre.length _ seg hw).1

/-- the `gen` step the examples below start with, through `exGen` -/
theorem gen0 : (runStep suA 0 HistState.init (.gen 0 .ok)).1 = ⟨snGen, Secnonce.zero⟩ := by
  have hr : stepRand randA 0 = randA := by decide +kernel
  unfold runStep
  dsimp only [suA]
  rw [hr, exGen]
  rfl

/-- The second nonce is burnt by the failed call (wrong keypair); the `Bool` is "slot 0 is all-zero after the step". -/
example :
    (runHistory suA 0 HistState.init
      [.gen 0 .ok, .sign 0 .ok, .sign 0 .session2, .gen 0 .ok, .sign 0 .wrongKp, .sign 0 .ok]).2.map
        (fun o => (o.1.ret, o.2.1)) =
      [(1, false), (1, true), (0, true), (1, false), (0, true), (0, true)] := by
  rw [runHistory_cons, gen0]
  decide +kernel

/-- `hw` of `at_most_one_sig_segment` on a segment, and the bound attained -/
example :
    (∀ s ∈ [Step.sign 0 .ok, .sign 0 .session2, .gen 1 .ctr, .sign 1 .ok, .copy 0 1],
      writesTo 0 s = false) ∧
    sigCount suA 0 1 (runHistory suA 0 HistState.init [.gen 0 .ok]).1
      [.sign 0 .ok, .sign 0 .session2, .gen 1 .ctr, .sign 1 .ok, .copy 0 1] = 1 := by
  rw [runHistory_cons, gen0]
  decide +kernel

/-- the bound of `at_most_one_sig` attained on both slots -/
example :
    let g := countedRun suA 0 Counted.init [.gen 0 .ok, .gen 1 .ctr, .sign 1 .ok, .sign 0 .ok, .sign 0 .ok]
    g.n0 = 1 ∧ g.n1 = 1 := by
  rw [countedRun, countedStep, show Counted.init.st = HistState.init from rfl, gen0]
  decide +kernel

/-- Not claimed: a copy made before the first signing call is a second live object, and both sign, with different
    sessions (nonce reuse).  The copy made after is dead. -/
example :
    (runHistory suA 0 HistState.init
      [.gen 0 .ok, .copy 0 1, .sign 0 .ok, .sign 1 .session2, .copy 0 1, .sign 1 .ok]).2.map (fun o => o.1.ret) =
      [1, 1, 1, 1, 1, 0] := by
  rw [runHistory_cons, gen0]
  decide +kernel

end C13
end Musig
end SecpZkp
