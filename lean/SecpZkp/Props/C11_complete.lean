import SecpZkp.Proofs.BorromeanSurjection
/-
  C11 (part "complete"): a surjection proof generated with matching blinding keys verifies against the same ephemeral
  tags.  Closed form (uses `groupLaw`); SHA-256 and the point codec are treated as opaque.
-/
namespace SecpZkp
namespace Surjection
open SecpZkp.Algebra

theorem generate_cases {P : Ret Proof → Prop} (proof : Proof) (inputs : List Pt) (output : Pt) (inputIndex : Nat)
    (inKey outKey : Bytes) (hfail : ∀ ill, P ⟨0, proof, ill⟩)
    (hok : ∀ bs e0 sOut, 0 < nUsedInputs proof → nUsedInputs proof ≤ proof.nInputs → proof.nInputs = inputs.length →
      (inputs.any (fun t => t = output)) = false →
      genRandAll (nUsedInputs proof) (Sc.add (Sc.setB32 outKey).1 (Sc.neg (Sc.setB32 inKey).1)) = some bs →
      Borromean.sign (bs.set (computePublicKeys inputs proof.used output inputIndex).2 0)
        (computePublicKeys inputs proof.used output inputIndex).1
        [bs.getD (computePublicKeys inputs proof.used output inputIndex).2 0]
        [Sc.add (Sc.setB32 outKey).1 (Sc.neg (Sc.setB32 inKey).1)]
        [nUsedInputs proof] [(computePublicKeys inputs proof.used output inputIndex).2]
        (genMessage inputs output) = some (e0, sOut) →
      P ⟨1, writeSig proof e0 sOut, 0⟩) :
    P (generate proof inputs output inputIndex inKey outKey) := by
  unfold generate
  extract_lets nUsed nTotal
  refine ite_elim (fun _ => hfail _) fun h1 => ?_
  generalize Sc.setB32 inKey = qi at hok ⊢
  generalize Sc.setB32 outKey = qo at hok ⊢
  generalize computePublicKeys inputs proof.used output inputIndex = pk at hok ⊢
  obtain ⟨tmps, ov1⟩ := qi
  obtain ⟨bk, ov2⟩ := qo
  obtain ⟨ringPubkeys, ringInputIndex⟩ := pk
  dsimp -zeta only
  refine ite_elim (fun _ => hfail _) fun h2 => ?_
  refine ite_elim (fun _ => hfail _) fun h3 => ?_
  refine ite_elim (fun _ => hfail _) fun h4 => ?_
  dsimp only
  refine ite_elim (fun _ => hfail _) fun h5 => ?_
  cases hbs : genRandAll nUsed (Sc.add bk (Sc.neg tmps)) with
  | none => exact hfail _
  | some bs =>
  dsimp only
  cases hsig : Borromean.sign _ _ _ _ _ _ _ with
  | none => exact hfail _
  | some r =>
  simp only [nUsed, nTotal, nTotalInputs] at h1 h5
  exact hok bs r.1 r.2 (by omega) (by omega) (by omega) (Bool.eq_false_iff.mpr h4) hbs hsig

theorem nUsedInputs_writeSig (p : Proof) (e0 : Bytes) (s : List Nat) :
    nUsedInputs (writeSig p e0 s) = nUsedInputs p := rfl

theorem verify_eq_of (p : Proof) (inputs : List Pt) (output : Pt) (s : List Nat)
    (h1 : nUsedInputs p ≠ 0) (h2 : nUsedInputs p ≤ p.nInputs) (h3 : p.nInputs = inputs.length)
    (h4 : nUsedInputs p ≤ MAX_USED_INPUTS) (hload : loadScalars p.data (nUsedInputs p) 0 = some s) :
    verify p inputs output =
      (Borromean.verify (p.data.take 32) s (computePublicKeys inputs p.used output 0).1 [nUsedInputs p]
        (genMessage inputs output)).1 := by
  unfold verify
  simp only [nTotalInputs]
  have hg1 : ¬ (nUsedInputs p = 0 ∨ nUsedInputs p > p.nInputs ∨ p.nInputs ≠ inputs.length) := by omega
  have hg2 : ¬ nUsedInputs p > MAX_USED_INPUTS := by omega
  rw [if_neg hg1, if_neg hg2, hload]

/-- C11 `generate_complete`: if `secp256k1_surjectionproof_generate` returns 1, `secp256k1_surjectionproof_verify` accepts
    the proof it wrote, for the same ephemeral tags.  `hkey`: the blinding keys match.  `hwf` (the ring has exactly
    `n_used_inputs` keys) says that the bitmap has no bit at a position `≥ nInputs`, which `parse` / `initialize`
    guarantee.

    `hnz` cannot be dropped: `secp256k1_surjection_genrand` only rejects scalars `≥ n`, the Borromean signer accepts a
    forged scalar 0 and the verifier rejects it (`Borromean.borromean_zero_forged_scalar`); it fails with probability
    about `2^-256` per position.  That no ring key is infinite is not assumed: `generate` refuses an input tag equal to
    the output. -/
theorem surjection_generate_complete (proof : Proof) (inputs : List Pt) (output : Pt) (inputIndex : Nat)
    (inKey outKey : Bytes) (t : Pt)
    (hn : inputs.length ≤ MAX_N_INPUTS)
    (hvin : ∀ p ∈ inputs, p.valid = true) (hvout : output.valid = true)
    (hidx : inputs[inputIndex]? = some t) (hbit : testBit proof.used inputIndex = true)
    (hwf : (computePublicKeys inputs proof.used output inputIndex).1.length = nUsedInputs proof)
    (hkey : Pt.add (Pt.neg t) output = Pt.mulG (Sc.add (Sc.setB32 outKey).1 (Sc.neg (Sc.setB32 inKey).1)))
    (hnz : ∀ bs, genRandAll (nUsedInputs proof) (Sc.add (Sc.setB32 outKey).1 (Sc.neg (Sc.setB32 inKey).1)) = some bs →
      ∀ j, j ≠ (computePublicKeys inputs proof.used output inputIndex).2 → bs[j]? ≠ some 0)
    (hret : (generate proof inputs output inputIndex inKey outKey).ret = 1) :
    verify (generate proof inputs output inputIndex inKey outKey).out inputs output = true := by
  have : HasGroupLaw := ⟨groupLaw⟩
  revert hret
  refine generate_cases (P := fun r => r.ret = 1 → verify r.out inputs output = true) proof inputs output inputIndex
    inKey outKey (fun _ h => absurd h (by simp)) fun bs e0 sOut hpos hle hnin hany hbs hsig _ => ?_
  dsimp only
  obtain ⟨hbslen, hbsN⟩ := genRand_spec _ _ _ _ _ hbs
  -- no ring key is infinite: `generate` refused an input equal to the output (`hany`); the key at the returned ring
  -- index is the signer's (`hpidx`)
  have hP : ∀ p ∈ (computePublicKeys inputs proof.used output inputIndex).1, p ≠ .inf := by
    intro p hp
    obtain ⟨t', ht', rfl⟩ := go_mem _ _ _ _ _ _ _ _ hp
    apply sub_ne_inf (hvin t' ht') hvout
    intro h
    have : inputs.any (fun t => t = output) = true := List.any_eq_true.mpr ⟨t', ht', by simp [h]⟩
    rw [hany] at this; exact absurd this (by simp)
  have hpidx := computePublicKeys_index inputs proof.used output inputIndex t hbit hidx
  rw [hkey] at hpidx
  have hri : (computePublicKeys inputs proof.used output inputIndex).2 < nUsedInputs proof := by
    rw [← hwf]
    exact (List.getElem?_eq_some_iff.mp hpidx).1
  obtain ⟨he0, hsOlen, hsO', hver⟩ := Borromean.sign_single_spec hP hri hwf (by simp [hbslen])
    (fun y hy => by
      rcases List.mem_or_eq_of_mem_set hy with h | h
      · exact hbsN y h
      · subst h; exact N_pos)
    (Sc.add_lt _ _) (Algebra.getD_lt_N hbsN _) hpidx
    (fun j hj h0 => hnz bs hbs j hj (by rwa [List.getElem?_set_ne (Ne.symm hj)] at h0)) hsig
  have hsO : ∀ x ∈ sOut, x < N := fun x hx => (hsO' x hx).2
  -- `verify` loads from the written proof the scalars and the `e0` the signer returned
  have hdata : (writeSig proof e0 sOut).data =
      e0 ++ ((sOut.map Bytes.be32).flatten ++ proof.data.drop (e0 ++ (sOut.map Bytes.be32).flatten).length) := by
    simp [writeSig]
  have hload : loadScalars (writeSig proof e0 sOut).data (nUsedInputs proof) 0 = some sOut := by
    rw [hdata, ← hsOlen]
    exact loadScalars_append _ sOut 0 e0 (by simp [he0]) hsO
  have htake : (writeSig proof e0 sOut).data.take 32 = e0 := by
    rw [hdata, List.take_left' he0]
  have hused : (writeSig proof e0 sOut).used = proof.used := rfl
  have hnin' : (writeSig proof e0 sOut).nInputs = proof.nInputs := rfl
  rw [verify_eq_of (writeSig proof e0 sOut) inputs output sOut
    (by rw [nUsedInputs_writeSig]; omega) (by rw [nUsedInputs_writeSig, hnin']; exact hle) (by rw [hnin']; exact hnin)
    (by rw [nUsedInputs_writeSig]; simp only [MAX_USED_INPUTS, MAX_N_INPUTS] at *; omega)
    (by rw [nUsedInputs_writeSig]; exact hload)]
  rw [nUsedInputs_writeSig, hused, computePublicKeys_fst inputs proof.used output 0 inputIndex, htake]
  exact hver

/-- example instance: inputs `7•G`, `9•G`, both selected; output `12•G = 9•G + (5 − 2)•G`; the prover knows the input
    blinding key 2 and the output blinding key 5 for input 1 -/
def exInputs : List Pt := [Pt.mulG 7, Pt.mulG 9]
def exOutput : Pt := Pt.mulG 12
def exProof : Proof := ⟨2, 3 :: Bytes.zeros 31, Bytes.zeros DATA_BYTES⟩
def exInKey : Bytes := Bytes.be32 2
def exOutKey : Bytes := Bytes.be32 5

theorem ex_ret : (generate exProof exInputs exOutput 1 exInKey exOutKey).ret = 1 := by decide +kernel
theorem ex_valid : (∀ p ∈ exInputs, p.valid = true) ∧ exOutput.valid = true := by decide +kernel
theorem ex_wf : (computePublicKeys exInputs exProof.used exOutput 1).1.length = nUsedInputs exProof ∧
    (computePublicKeys exInputs exProof.used exOutput 1).2 = 1 ∧ nUsedInputs exProof = 2 := by decide +kernel
theorem ex_key : Pt.add (Pt.neg (Pt.mulG 9)) exOutput =
    Pt.mulG (Sc.add (Sc.setB32 exOutKey).1 (Sc.neg (Sc.setB32 exInKey).1)) := by decide +kernel
theorem ex_forged : (genRandAll 2 (Sc.add (Sc.setB32 exOutKey).1 (Sc.neg (Sc.setB32 exInKey).1))).map (fun bs => bs[0]?)
    ≠ some (some 0) := by decide +kernel

/-- Non-vacuity of `surjection_generate_complete`: its hypotheses hold for the example instance (signer at ring position 1;
    `generate` evaluated by the kernel). -/
example : verify (generate exProof exInputs exOutput 1 exInKey exOutKey).out exInputs exOutput = true := by
  refine surjection_generate_complete exProof exInputs exOutput 1 exInKey exOutKey (Pt.mulG 9) (by decide)
    ex_valid.1 ex_valid.2 rfl (by decide) ex_wf.1 ex_key ?_ ex_ret
  intro bs hbs j hj h0
  rw [ex_wf.2.1] at hj
  rw [ex_wf.2.2] at hbs
  have hlen := (genRand_spec _ _ _ _ _ hbs).1
  have hj0 : j = 0 := by
    have := (List.getElem?_eq_some_iff.mp h0).1
    omega
  subst hj0
  apply ex_forged
  rw [hbs]; simp [h0]

end Surjection
end SecpZkp
