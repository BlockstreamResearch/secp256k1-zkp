import SecpZkp.Gen.F_group
import SecpZkp.Proofs.GroupIR
/-
  C05 (group level): the group-level C functions of src/group_impl.h, as translated into `Gen/F_group.lean`
  (programs over field VALUES with the magnitude contract of src/field.h, semantics `FeIR.execL`), compute the
  affine group law `Pt.add` / `Pt.dbl` / `Pt.neg` of `Model/Curve.lean`, and never violate a magnitude precondition
  of a field primitive.

  Every theorem has the form: for EVERY state whose inputs represent valid points (`RepJ` / `RepA`, Proofs/GroupIR.lean)
  within the C contract — gej magnitudes x ≤ 4, y ≤ 4, z ≤ 1; ge magnitudes x ≤ 4, y ≤ 3 — `execL st body = some st'`
  (execution succeeds: the static version of the VERIFY build's magnitude checks) and the outputs in `st'` represent the
  right point within the contract.  `st.returned = false`: the function is entered normally (the `returned` flag is
  internal to `execL`).
-/
namespace SecpZkp.C05grp
open SecpZkp SecpZkp.FeIR SecpZkp.MiniC

/-- a 3rd root of unity mod `P` (the `beta` of the endomorphism): `(β·Gx, -Gy)` is a curve point with `y = -Gy`, `x ≠ Gx` -/
def beta : ℕ := 0x7ae96a2b657c07106e64479eac3434e99cf0497512f58995c1396c28719501ee

/-- States for the non-vacuity examples: the point `(x, y)` in Jacobian form with the given `z` (the examples take `G`,
    `z = 2` or `3`), resp. an affine point, at the maximal magnitudes of the contract. -/
def jacVars (pre : String) (x y z : ℕ) : FeEnv :=
  [(pre ++ ".x", ⟨Fe.mul x (Fe.sqr z), 4⟩), (pre ++ ".y", ⟨Fe.mul y (Fe.mul (Fe.sqr z) z), 4⟩), (pre ++ ".z", ⟨z, 1⟩)]

def affVars (pre : String) (x y : ℕ) : FeEnv := [(pre ++ ".x", ⟨x, 4⟩), (pre ++ ".y", ⟨y, 3⟩)]

def stJ (pre : String) (inf : ℕ) : State := ⟨jacVars pre Pt.Gx Pt.Gy 2, [((pre ++ ".infinity", 0), inf)], false⟩

def stJA (pre : String) (inf bx by' : ℕ) : State :=
  ⟨jacVars pre Pt.Gx Pt.Gy 3 ++ affVars "b" bx by', [((pre ++ ".infinity", 0), inf), (("b.infinity", 0), 0)], false⟩

-- `double_proof` and `add_ge_var_proof` do inline what the proofs written out below take from `RepJ'.dbl_fin` and
-- `addvar_cases` (Proofs/GroupIR.lean).
set_option hygiene false in
local macro "double_proof" ax:str ay:str az:str fn:ident : tactic => `(tactic| (
  obtain ⟨fe, ints, ret⟩ := st
  simp only at hret; subst hret
  simp only [RepJ, String.reduceAppend] at ha
  generalize hx : fe.get $ax = ax at ha; obtain ⟨X, mx⟩ := ax
  generalize hy : fe.get $ay = ay at ha; obtain ⟨Y, my⟩ := ay
  generalize hz : fe.get $az = az at ha; obtain ⟨Z, mz⟩ := az
  obtain ⟨h1, h2, h3, h4⟩ := ha.elim
  simp only at h1 h2 h3 h4
  fe_exec [$fn:ident, hx, hy, hz]
  refine ⟨_, rfl, ?_⟩
  fe_get []
  rcases h4 with ⟨hi, rfl⟩ | ⟨hi, hzc, a, b, hab, hX, hY⟩
  · exact RepJ'.inf (by mg) (by mg) (by mg) hi rfl
  · have hc := hab.valid_iff.1 hv
    have hb := y_ne_zero_of_curve hc
    have h2' : (2 : ZMod P) ≠ 0 := zmodP_two_ne_zero
    refine RepJ'.fin (by mg) (by mg) (by mg) hi (hab.dbl hc) ?_ ?_ ?_
    · casts [hY]
      exact mul_ne_zero hzc (mul_ne_zero hb (mul_ne_zero (mul_ne_zero hzc hzc) hzc))
    · casts [hX, hY]
      field_simp
      ring
    · casts [hX, hY]
      field_simp
      ring))

/-- `secp256k1_gej_double(r, a)` (result magnitudes in fact 3, 3, 1).  The C code copies the infinity flag; this is
    right because a valid finite point of secp256k1 has `y ≠ 0` (no 2-torsion). -/
theorem gej_double_correct (st : State) (p : Pt) (hret : st.returned = false)
    (ha : RepJ st "a" p 4 4 1) (hv : p.valid = true) :
    ∃ st', FeIR.execL st Gen.group.gej_double.body = some st' ∧ RepJ st' "r" (Pt.dbl p) 4 4 1 := by
  double_proof "a.x" "a.y" "a.z" Gen.group.gej_double

set_option maxRecDepth 100000 in
/-- non-vacuity: G with `z = 2` (maximal magnitudes) satisfies the hypotheses -/
example : (stJ "a" 0).returned = false ∧ RepJ (stJ "a" 0) "a" Pt.G 4 4 1 ∧ Pt.G.valid = true := by decide +kernel
set_option maxRecDepth 100000 in
example : ∃ st', FeIR.execL (stJ "a" 0) Gen.group.gej_double.body = some st' ∧ RepJ st' "r" (Pt.dbl Pt.G) 4 4 1 :=
  exists_of_map_decide (by decide +kernel)
set_option maxRecDepth 100000 in
example : RepJ (stJ "a" 1) "a" Pt.inf 4 4 1 := by decide +kernel

theorem gej_double_inplace_correct (st : State) (p : Pt) (hret : st.returned = false)
    (ha : RepJ st "r" p 4 4 1) (hv : p.valid = true) :
    ∃ st', FeIR.execL st Gen.group.gej_double_inplace.body = some st' ∧ RepJ st' "r" (Pt.dbl p) 4 4 1 := by
  double_proof "r.x" "r.y" "r.z" Gen.group.gej_double_inplace

set_option maxRecDepth 100000 in
example : (stJ "r" 0).returned = false ∧ RepJ (stJ "r" 0) "r" Pt.G 4 4 1 ∧ Pt.G.valid = true := by decide +kernel
set_option maxRecDepth 100000 in
example : ∃ st', FeIR.execL (stJ "r" 0) Gen.group.gej_double_inplace.body = some st' ∧
    RepJ st' "r" (Pt.dbl Pt.G) 4 4 1 :=
  exists_of_map_decide (by decide +kernel)

set_option hygiene false in
local macro "add_ge_proof" ax:str ay:str az:str ainf:str fn:ident : tactic => `(tactic| (
  obtain ⟨fe, ints, ret⟩ := st
  simp only at hret hbinf; subst hret
  simp only [RepJ, RepA, String.reduceAppend] at ha hb
  generalize hx : fe.get $ax = ax at ha; obtain ⟨X, mx⟩ := ax
  generalize hy : fe.get $ay = ay at ha; obtain ⟨Y, my⟩ := ay
  generalize hz : fe.get $az = az at ha; obtain ⟨Z, mz⟩ := az
  generalize hbx : fe.get "b.x" = bx at hb; obtain ⟨Bx, mbx⟩ := bx
  generalize hby : fe.get "b.y" = by' at hb; obtain ⟨By, mby⟩ := by'
  obtain ⟨h1, h2, h3, h4⟩ := ha.elim
  obtain ⟨h5, h6, h7⟩ := hb.elim
  simp only at h1 h2 h3 h4 h5 h6 h7
  rcases h7 with ⟨h7, _⟩ | ⟨_, hq⟩
  · omega
  have hle : ints.get $ainf 0 ≤ 1 := by rcases h4 with ⟨hi, _⟩ | ⟨hi, _⟩ <;> omega
  fe_exec [$fn:ident, hx, hy, hz, hbx, hby, one_lt_P]
  refine ⟨_, rfl, ?_⟩
  fe_get []
  have h2' : (2 : ZMod P) ≠ 0 := zmodP_two_ne_zero
  rcases h4 with ⟨hi, rfl⟩ | ⟨hi, hzc, a, b, hab, hX, hY⟩
  · -- a is infinity: the result is (b.x, b.y, 1)
    simp only [hi, eq_self, if_true]
    have hadd : Pt.add .inf q = q := by cases q <;> rfl
    rw [hadd]
    refine RepJ'.isZero_fin (by mg) (by mg) (by mg) hq ?_ ?_ ?_
    · dsimp only; rw [Nat.cast_one]; exact one_ne_zero
    · dsimp only; rw [Nat.cast_one]; ring
    · dsimp only; rw [Nat.cast_one]; ring
  · have hc1 := hab.valid_iff.1 hvp
    have hc2 := hq.valid_iff.1 hvq
    obtain ⟨z, hz'⟩ : ∃ z : ZMod P, (Z : ZMod P) = z := ⟨_, rfl⟩
    obtain ⟨c, hc'⟩ : ∃ c : ZMod P, (Bx : ZMod P) = c := ⟨_, rfl⟩
    obtain ⟨d, hd'⟩ : ∃ d : ZMod P, (By : ZMod P) = d := ⟨_, rfl⟩
    rw [hz'] at hzc hX hY
    rw [hc', hd'] at hq hc2
    have hz3 : z * z * z ≠ 0 := mul_ne_zero (mul_ne_zero hzc hzc) hzc
    have hMc : ((Fe.add Y (Fe.mul (Fe.mul By (Fe.sqr Z)) Z) : ℕ) : ZMod P) = (b + d) * (z * z * z) := by
      casts [hX, hY, hz', hc', hd']; ring
    by_cases hM : canon (Fe.add Y (Fe.mul (Fe.mul By (Fe.sqr Z)) Z)) = 0
    · -- `degenerate`: y1 = -y2
      have hbd : b + d = 0 := by
        have hM' := hM
        rw [canon_eq_zero_iff, hMc] at hM'
        exact (mul_eq_zero.1 hM').resolve_right hz3
      obtain rfl : d = -b := by linear_combination hbd
      simp only [hi, hM, zero_ne_one, if_false, not_true_eq_false, if_true]
      by_cases hac : a = c
      · -- a = -b: infinity (r.z = 0)
        refine RepJ'.isZero_inf (by mg) (by mg) (by mg) ?_ (hab.add_neg (hac ▸ hq))
        dsimp only; casts [hX, hY, hz', hc', hd', hac]; ring
      · -- y1 = -y2, x1 ≠ x2: the alternative expression for lambda
        have hca : c - a ≠ 0 := sub_ne_zero.2 (Ne.symm hac)
        have hl : (-b - b) * (c - a)⁻¹ * (c - a) = -b - b := by field_simp
        have hR : b * (z * z * z) * 2 = (-b - b) * (c - a)⁻¹ * z * (-(c * (z * z)) + a * (z * z)) := by
          linear_combination (z * z * z) * hl
        refine RepJ'.isZero_fin (by mg) (by mg) (by mg) (hab.add_ne hq hac) ?_ ?_ ?_
        · dsimp only; casts [hX, hY, hz', hc', hd']
          have : z * (-(c * (z * z)) + a * (z * z)) = (z * z * z) * (a - c) := by ring
          rw [this]; exact mul_ne_zero hz3 (sub_ne_zero.2 hac)
        · dsimp only; casts [hX, hY, hz', hc', hd']
          linear_combination jac_add_x a c z _ _ _ hR
        · dsimp only; apply half_eq_of_two_mul; casts [hX, hY, hz', hc', hd']
          linear_combination jac_add_y a b c (-b) z _ _ _ (b * (z * z * z) + -b * (z * z) * z) hR (by ring) hl
    · -- y1 ≠ -y2: the unified formula
      have hbd : b + d ≠ 0 := by
        intro h0; apply hM; rw [canon_eq_zero_iff, hMc, h0, zero_mul]
      simp only [hi, hM, zero_ne_one, if_false, not_false_eq_true, if_true]
      have hz4 : z * (b * (z * z * z) + d * (z * z) * z) ≠ 0 := by
        have : z * (b * (z * z * z) + d * (z * z) * z) = z * ((b + d) * (z * z * z)) := by ring
        rw [this]; exact mul_ne_zero hzc (mul_ne_zero hbd hz3)
      by_cases hac : a = c
      · -- doubling through the unified formula
        subst hac
        have hdb : d = b := by
          rcases curve_same_x hc1 hc2 with h | h
          · exact h
          · exact absurd (by rw [h]; ring) hbd
        subst hdb
        have hb0 : d ≠ 0 := y_ne_zero_of_curve hc1
        rw [hab.add_same hq hc1]
        have hl2 : 3 * (a * a) * (2 * d)⁻¹ * (2 * d) = 3 * (a * a) := by field_simp
        have hR : (a * (z * z) + a * (z * z)) * (a * (z * z) + a * (z * z)) + a * (z * z) * -(a * (z * z)) =
            3 * (a * a) * (2 * d)⁻¹ * z * (d * (z * z * z) + d * (z * z) * z) := by
          linear_combination (-(z ^ 4)) * hl2
        refine RepJ'.isZero_fin (by mg) (by mg) (by mg) (hab.dbl hc1) ?_ ?_ ?_
        · dsimp only; casts [hX, hY, hz', hc', hd']; exact hz4
        · dsimp only; casts [hX, hY, hz', hc', hd']
          linear_combination jac_add_x a a z _ _ _ hR
        · dsimp only; apply half_eq_of_two_mul; casts [hX, hY, hz', hc', hd']
          linear_combination jac_add_y a d a d z _ _ _
            ((d * (z * z * z) + d * (z * z) * z) * (d * (z * z * z) + d * (z * z) * z) *
              ((d * (z * z * z) + d * (z * z) * z) * (d * (z * z * z) + d * (z * z) * z))) hR (by ring) (by ring)
      · -- generic chord: (x1² + x1x2 + x2²)/(y1 + y2) = (y2 - y1)/(x2 - x1) by the curve equation
        have hca : c - a ≠ 0 := sub_ne_zero.2 (Ne.symm hac)
        have hl : (d - b) * (c - a)⁻¹ * (c - a) = d - b := by field_simp
        have hl2 : a * a + a * c + c * c = (d - b) * (c - a)⁻¹ * (b + d) := by
          have : (c - a) * (a * a + a * c + c * c - (d - b) * (c - a)⁻¹ * (b + d)) = 0 := by
            linear_combination -hc2 + hc1 - (b + d) * hl
          exact sub_eq_zero.1 ((mul_eq_zero.1 this).resolve_left hca)
        have hR : (a * (z * z) + c * (z * z)) * (a * (z * z) + c * (z * z)) + a * (z * z) * -(c * (z * z)) =
            (d - b) * (c - a)⁻¹ * z * (b * (z * z * z) + d * (z * z) * z) := by
          linear_combination (z ^ 4) * hl2
        refine RepJ'.isZero_fin (by mg) (by mg) (by mg) (hab.add_ne hq hac) ?_ ?_ ?_
        · dsimp only; casts [hX, hY, hz', hc', hd']; exact hz4
        · dsimp only; casts [hX, hY, hz', hc', hd']
          linear_combination jac_add_x a c z _ _ _ hR
        · dsimp only; apply half_eq_of_two_mul; casts [hX, hY, hz', hc', hd']
          linear_combination jac_add_y a b c d z _ _ _
            ((b * (z * z * z) + d * (z * z) * z) * (b * (z * z * z) + d * (z * z) * z) *
              ((b * (z * z * z) + d * (z * z) * z) * (b * (z * z * z) + d * (z * z) * z))) hR (by ring) hl))

/-- `secp256k1_gej_add_ge(r, a, b)` (complete, constant time); `hbinf` is the C precondition `!b->infinity`.  Covers ALL
    cases: generic chord, `p = q` (doubling through the unified formula), `p = -q` (`r.infinity = 1`), `a` infinity
    (`r = (b.x, b.y, 1)`), and `y1 = -y2, x1 ≠ x2` (`degenerate`: the alternative expression for lambda, selected by
    cmov). -/
theorem gej_add_ge_correct (st : State) (p q : Pt) (hret : st.returned = false)
    (ha : RepJ st "a" p 4 4 1) (hb : RepA st "b" q 4 3) (hbinf : st.ints.get "b.infinity" 0 = 0)
    (hvp : p.valid = true) (hvq : q.valid = true) :
    ∃ st', FeIR.execL st Gen.group.gej_add_ge.body = some st' ∧ RepJ st' "r" (Pt.add p q) 4 4 1 := by
  add_ge_proof "a.x" "a.y" "a.z" "a.infinity" Gen.group.gej_add_ge

def G2 : Pt := Pt.dbl Pt.G

set_option maxRecDepth 100000 in
example : let st := stJA "a" 0 (Pt.xOf G2) (Pt.yOf G2)
    st.returned = false ∧ RepJ st "a" Pt.G 4 4 1 ∧ RepA st "b" G2 4 3 ∧ st.ints.get "b.infinity" 0 = 0 ∧
    Pt.G.valid = true ∧ G2.valid = true := by decide +kernel
set_option maxRecDepth 100000 in
example : ∃ st', FeIR.execL (stJA "a" 0 (Pt.xOf G2) (Pt.yOf G2)) Gen.group.gej_add_ge.body = some st' ∧
    RepJ st' "r" (Pt.add Pt.G G2) 4 4 1 :=
  exists_of_map_decide (by decide +kernel)
set_option maxRecDepth 100000 in
example : let st := stJA "a" 0 Pt.Gx Pt.Gy
    (RepJ st "a" Pt.G 4 4 1 ∧ RepA st "b" Pt.G 4 3) ∧
    ((FeIR.execL st Gen.group.gej_add_ge.body).map fun st' => decide (RepJ st' "r" G2 4 4 1)) = some true := by
  decide +kernel
set_option maxRecDepth 100000 in
example : let st := stJA "a" 0 Pt.Gx (P - Pt.Gy)
    (RepJ st "a" Pt.G 4 4 1 ∧ RepA st "b" (Pt.neg Pt.G) 4 3 ∧ (Pt.neg Pt.G).valid = true) ∧
    ((FeIR.execL st Gen.group.gej_add_ge.body).map fun st' => decide (RepJ st' "r" Pt.inf 4 4 1)) = some true := by
  decide +kernel
set_option maxRecDepth 100000 in
/-- the `degenerate` branch (`y1 = -y2`, `x1 ≠ x2`): `b = (β·Gx, -Gy)` -/
example : let st := stJA "a" 0 (Fe.mul beta Pt.Gx) (P - Pt.Gy)
    let q := Pt.aff (Fe.mul beta Pt.Gx) (P - Pt.Gy)
    (RepJ st "a" Pt.G 4 4 1 ∧ RepA st "b" q 4 3 ∧ q.valid = true ∧ Pt.add Pt.G q ≠ Pt.inf) ∧
    ((FeIR.execL st Gen.group.gej_add_ge.body).map fun st' => decide (RepJ st' "r" (Pt.add Pt.G q) 4 4 1)) =
      some true := by
  decide +kernel
set_option maxRecDepth 100000 in
example : let st := stJA "a" 1 Pt.Gx Pt.Gy
    (RepJ st "a" Pt.inf 4 4 1 ∧ RepA st "b" Pt.G 4 3) ∧
    ((FeIR.execL st Gen.group.gej_add_ge.body).map fun st' => decide (RepJ st' "r" Pt.G 4 4 1)) = some true := by
  decide +kernel

theorem gej_add_ge_inplace_correct (st : State) (p q : Pt) (hret : st.returned = false)
    (ha : RepJ st "r" p 4 4 1) (hb : RepA st "b" q 4 3) (hbinf : st.ints.get "b.infinity" 0 = 0)
    (hvp : p.valid = true) (hvq : q.valid = true) :
    ∃ st', FeIR.execL st Gen.group.gej_add_ge_inplace.body = some st' ∧ RepJ st' "r" (Pt.add p q) 4 4 1 := by
  add_ge_proof "r.x" "r.y" "r.z" "r.infinity" Gen.group.gej_add_ge_inplace

set_option maxRecDepth 100000 in
example : let st := stJA "r" 0 (Pt.xOf G2) (Pt.yOf G2)
    (st.returned = false ∧ RepJ st "r" Pt.G 4 4 1 ∧ RepA st "b" G2 4 3 ∧ st.ints.get "b.infinity" 0 = 0 ∧
      Pt.G.valid = true ∧ G2.valid = true) ∧
    ((FeIR.execL st Gen.group.gej_add_ge_inplace.body).map fun st' =>
      decide (RepJ st' "r" (Pt.add Pt.G G2) 4 4 1)) = some true := by
  decide +kernel

/-- `secp256k1_gej_neg(r, a)`: y is normalized, then negated (magnitude 2). -/
theorem gej_neg_correct (st : State) (p : Pt) (hret : st.returned = false) (ha : RepJ st "a" p 4 4 1) :
    ∃ st', FeIR.execL st Gen.group.gej_neg.body = some st' ∧ RepJ st' "r" (Pt.neg p) 4 4 1 := by
  obtain ⟨fe, ints, ret⟩ := st
  simp only at hret; subst hret
  simp only [RepJ, String.reduceAppend] at ha
  obtain ⟨h1, h2, h3, h4⟩ := ha.elim
  fe_exec [Gen.group.gej_neg]
  refine ⟨_, rfl, ?_⟩
  fe_get []
  rcases h4 with ⟨hi, rfl⟩ | ⟨hi, hzc, a, b, hab, hX, hY⟩
  · exact RepJ'.inf (by mg) (by mg) (by mg) hi rfl
  · refine RepJ'.fin (by mg) (by mg) (by mg) hi hab.neg hzc hX ?_
    casts [hY]; ring

set_option maxRecDepth 100000 in
example : (stJ "a" 0).returned = false ∧ RepJ (stJ "a" 0) "a" Pt.G 4 4 1 := by decide +kernel
set_option maxRecDepth 100000 in
example : ∃ st', FeIR.execL (stJ "a" 0) Gen.group.gej_neg.body = some st' ∧ RepJ st' "r" (Pt.neg Pt.G) 4 4 1 :=
  exists_of_map_decide (by decide +kernel)

theorem ge_neg_correct (st : State) (p : Pt) (hret : st.returned = false) (ha : RepA st "a" p 4 3) :
    ∃ st', FeIR.execL st Gen.group.ge_neg.body = some st' ∧ RepA st' "r" (Pt.neg p) 4 3 := by
  obtain ⟨fe, ints, ret⟩ := st
  simp only at hret; subst hret
  simp only [RepA, String.reduceAppend] at ha
  obtain ⟨h1, h2, h3⟩ := ha.elim
  fe_exec [Gen.group.ge_neg]
  refine ⟨_, rfl, ?_⟩
  fe_get []
  rcases h3 with ⟨hi, rfl⟩ | ⟨hi, hq⟩
  · exact RepA'.inf (by mg) (by mg) hi rfl
  · refine RepA'.fin (by mg) (by mg) hi (hq.neg.congr rfl ?_)
    casts []

def stA (inf : ℕ) : State := ⟨affVars "a" Pt.Gx Pt.Gy, [(("a.infinity", 0), inf)], false⟩

set_option maxRecDepth 100000 in
example : (stA 0).returned = false ∧ RepA (stA 0) "a" Pt.G 4 3 := by decide +kernel
set_option maxRecDepth 100000 in
example : ∃ st', FeIR.execL (stA 0) Gen.group.ge_neg.body = some st' ∧ RepA st' "r" (Pt.neg Pt.G) 4 3 :=
  exists_of_map_decide (by decide +kernel)

theorem gej_set_ge_correct (st : State) (p : Pt) (hret : st.returned = false) (ha : RepA st "a" p 4 3) :
    ∃ st', FeIR.execL st Gen.group.gej_set_ge.body = some st' ∧ RepJ st' "r" p 4 4 1 := by
  obtain ⟨fe, ints, ret⟩ := st
  simp only at hret; subst hret
  simp only [RepA, String.reduceAppend] at ha
  obtain ⟨h1, h2, h3⟩ := ha.elim
  fe_exec [Gen.group.gej_set_ge]
  refine ⟨_, rfl, ?_⟩
  fe_get []
  rcases h3 with ⟨hi, rfl⟩ | ⟨hi, hq⟩
  · exact RepJ'.inf (by mg) (by mg) (by mg) hi rfl
  · exact RepJ'.of_aff (by mg) (by mg) (by mg) hi rfl hq

set_option maxRecDepth 100000 in
example : ∃ st', FeIR.execL (stA 0) Gen.group.gej_set_ge.body = some st' ∧ RepJ st' "r" Pt.G 4 4 1 :=
  exists_of_map_decide (by decide +kernel)

theorem gej_rescale_correct (st : State) (p : Pt) (hret : st.returned = false) (ha : RepJ st "r" p 4 4 1)
    (hs : (st.fe.get "s").mag ≤ 8) (hs0 : (st.fe.get "s").val % P ≠ 0) :
    ∃ st', FeIR.execL st Gen.group.gej_rescale.body = some st' ∧ RepJ st' "r" p 4 4 1 ∧
      (st'.fe.get "r.z").val = Fe.mul (st.fe.get "r.z").val (st.fe.get "s").val := by
  obtain ⟨fe, ints, ret⟩ := st
  simp only at hret hs hs0; subst hret
  simp only [RepJ, String.reduceAppend] at ha
  obtain ⟨h1, h2, h3, h4⟩ := ha.elim
  have hsc := cast_ne_zero_of_mod hs0
  fe_exec [Gen.group.gej_rescale]
  refine ⟨_, rfl, ?_, ?_⟩
  · fe_get []
    rcases h4 with ⟨hi, rfl⟩ | ⟨hi, hzc, a, b, hab, hX, hY⟩
    · exact RepJ'.inf (by mg) (by mg) (by mg) hi rfl
    · refine RepJ'.fin (by mg) (by mg) (by mg) hi hab ?_ ?_ ?_
      · casts []; exact mul_ne_zero hzc hsc
      · casts [hX]; ring
      · casts [hY]; ring
  · fe_get []

def stRescale : State :=
  ⟨jacVars "r" Pt.Gx Pt.Gy 2 ++ [("s", ⟨5, 8⟩)], [(("r.infinity", 0), 0)], false⟩
set_option maxRecDepth 100000 in
example : stRescale.returned = false ∧ RepJ stRescale "r" Pt.G 4 4 1 ∧ (stRescale.fe.get "s").mag ≤ 8 ∧
    (stRescale.fe.get "s").val % P ≠ 0 := by decide +kernel
set_option maxRecDepth 100000 in
example : ∃ st', FeIR.execL stRescale Gen.group.gej_rescale.body = some st' ∧ RepJ st' "r" Pt.G 4 4 1 ∧
    (st'.fe.get "r.z").val = 10 :=
  exists_of_map_decide (by decide +kernel)

theorem ge_set_gej_zinv_correct (st : State) (p : Pt) (hret : st.returned = false) (ha : RepJ st "a" p 4 4 1)
    (hzi : (st.fe.get "zi").mag ≤ 8)
    (hinv : st.ints.get "a.infinity" 0 = 0 → ((st.fe.get "zi").val * (st.fe.get "a.z").val) % P = 1) :
    ∃ st', FeIR.execL st Gen.group.ge_set_gej_zinv.body = some st' ∧ RepA st' "r" p 4 3 := by
  obtain ⟨fe, ints, ret⟩ := st
  simp only at hret hzi hinv; subst hret
  simp only [RepJ, String.reduceAppend] at ha
  generalize hz : fe.get "a.z" = az at ha hinv; obtain ⟨Z, mz⟩ := az
  generalize hzv : fe.get "zi" = zv at hzi hinv; obtain ⟨ZI, mzi⟩ := zv
  obtain ⟨h1, h2, h3, h4⟩ := ha.elim
  simp only at h3 h4 hzi hinv
  fe_exec [Gen.group.ge_set_gej_zinv, hz, hzv]
  refine ⟨_, rfl, ?_⟩
  fe_get []
  rcases h4 with ⟨hi, rfl⟩ | ⟨hi, hzc, a, b, hab, hX, hY⟩
  · exact RepA'.inf (by mg) (by mg) hi rfl
  · have hzz := congrArg (Nat.cast : ℕ → ZMod P) (hinv hi)
    rw [ZMod.natCast_mod, Nat.cast_mul, Nat.cast_one] at hzz
    refine RepA'.fin (by mg) (by mg) hi (hab.congr ?_ ?_)
    · casts [hX]
      linear_combination (-a * ((ZI : ZMod P) * Z + 1)) * hzz
    · casts [hY]
      linear_combination (-b * (((ZI : ZMod P) * Z) ^ 2 + (ZI : ZMod P) * Z + 1)) * hzz

def stZinv : State :=
  ⟨jacVars "a" Pt.Gx Pt.Gy 2 ++ [("zi", ⟨(P + 1) / 2, 8⟩)], [(("a.infinity", 0), 0)], false⟩
set_option maxRecDepth 100000 in
example : stZinv.returned = false ∧ RepJ stZinv "a" Pt.G 4 4 1 ∧ (stZinv.fe.get "zi").mag ≤ 8 ∧
    ((stZinv.fe.get "zi").val * (stZinv.fe.get "a.z").val) % P = 1 := by decide +kernel
set_option maxRecDepth 100000 in
example : ∃ st', FeIR.execL stZinv Gen.group.ge_set_gej_zinv.body = some st' ∧ RepA st' "r" Pt.G 4 3 :=
  exists_of_map_decide (by decide +kernel)

theorem gej_eq_x_var_correct (st : State) (p : Pt) (hret : st.returned = false) (ha : RepJ st "a" p 4 4 1)
    (hfin : st.ints.get "a.infinity" 0 = 0) (hxm : (st.fe.get "x").mag ≤ 8) :
    ∃ st', FeIR.execL st Gen.group.gej_eq_x_var.body = some st' ∧
      st'.ints.get "ret" 0 = (if Pt.xOf p = (st.fe.get "x").val % P then 1 else 0) := by
  obtain ⟨fe, ints, ret⟩ := st
  simp only at hret hfin hxm; subst hret
  simp only [RepJ, String.reduceAppend] at ha
  generalize hx : fe.get "a.x" = ax at ha; obtain ⟨X, mx⟩ := ax
  generalize hz : fe.get "a.z" = az at ha; obtain ⟨Z, mz⟩ := az
  generalize hxv : fe.get "x" = xv at hxm; obtain ⟨XV, mxv⟩ := xv
  obtain ⟨h1, h2, h3, h4⟩ := ha.elim
  simp only at h1 h3 h4 hxm
  fe_exec [Gen.group.gej_eq_x_var, hx, hz, hxv]
  refine ⟨_, rfl, ?_⟩
  fe_get []
  rcases h4 with ⟨hi, _⟩ | ⟨hi, hzc, a, b, hab, hX, hY⟩
  · omega
  · have hiff : canon (Fe.add (Fe.neg (Fe.mul (Fe.sqr Z) XV)) X) = 0 ↔ Pt.xOf p = XV % P := by
      rw [canon_eq_zero_iff, hab.xOf_eq_iff]
      casts [hX]
      constructor
      · intro h
        have : (a - XV) * ((Z : ZMod P) * Z) = 0 := by linear_combination h
        exact sub_eq_zero.1 ((mul_eq_zero.1 this).resolve_right (mul_ne_zero hzc hzc))
      · intro h; rw [h]; ring
    simp only [hiff]

def stEqX (x : ℕ) : State :=
  ⟨jacVars "a" Pt.Gx Pt.Gy 2 ++ [("x", ⟨x, 8⟩)], [(("a.infinity", 0), 0)], false⟩
set_option maxRecDepth 100000 in
example : RepJ (stEqX (Pt.Gx + P)) "a" Pt.G 4 4 1 ∧ ((stEqX (Pt.Gx + P)).fe.get "x").mag ≤ 8 := by decide +kernel
set_option maxRecDepth 100000 in
example : ((FeIR.execL (stEqX (Pt.Gx + P)) Gen.group.gej_eq_x_var.body).map (·.ints.get "ret" 0)) = some 1 := by
  decide +kernel
set_option maxRecDepth 100000 in
example : ((FeIR.execL (stEqX (Pt.Gx + 1)) Gen.group.gej_eq_x_var.body).map (·.ints.get "ret" 0)) = some 0 := by
  decide +kernel

theorem ge_is_valid_var_correct (st : State) (hret : st.returned = false)
    (hxm : (st.fe.get "a.x").mag ≤ 4) (hym : (st.fe.get "a.y").mag ≤ 3) :
    ∃ st', FeIR.execL st Gen.group.ge_is_valid_var.body = some st' ∧ st'.ints.get "ret" 0 ≤ 1 ∧
      (st'.ints.get "ret" 0 = 1 ↔ st.ints.get "a.infinity" 0 = 0 ∧
        Pt.valid (.aff ((st.fe.get "a.x").val % P) ((st.fe.get "a.y").val % P)) = true) := by
  obtain ⟨fe, ints, ret⟩ := st
  simp only at hret hxm hym; subst hret
  generalize hx : fe.get "a.x" = ax at hxm; obtain ⟨X, mx⟩ := ax
  generalize hy : fe.get "a.y" = ay at hym; obtain ⟨Y, my⟩ := ay
  simp only at hxm hym
  by_cases hinf : ints.get "a.infinity" 0 = 0
  · fe_exec [Gen.group.ge_is_valid_var, hx, hy, hinf]
    refine ⟨_, rfl, ?_⟩
    fe_get []
    have hiff : canon (Fe.add (Fe.neg (Fe.sqr Y)) (Fe.add (Fe.mul (Fe.sqr X) X) 7)) = 0 ↔
        Pt.valid (.aff (X % P) (Y % P)) = true := by
      rw [canon_eq_zero_iff, (isAff_aff X Y).valid_iff]
      casts []
      constructor
      · intro h; linear_combination -h
      · intro h; linear_combination -h
    simp only [hiff]
    split <;> simp [*]
  · fe_exec [Gen.group.ge_is_valid_var, hx, hy, hinf]
    refine ⟨_, rfl, ?_⟩
    fe_get []
    simp

set_option maxRecDepth 100000 in
example : ((stA 0).fe.get "a.x").mag ≤ 4 ∧ ((stA 0).fe.get "a.y").mag ≤ 3 := by decide +kernel
set_option maxRecDepth 100000 in
example : ((FeIR.execL (stA 0) Gen.group.ge_is_valid_var.body).map (·.ints.get "ret" 0)) = some 1 := by
  decide +kernel
set_option maxRecDepth 100000 in
example : ((FeIR.execL (stA 1) Gen.group.ge_is_valid_var.body).map (·.ints.get "ret" 0)) = some 0 ∧
    ((FeIR.execL ⟨affVars "a" Pt.Gx (Pt.Gy + 1), [(("a.infinity", 0), 0)], false⟩
      Gen.group.ge_is_valid_var.body).map (·.ints.get "ret" 0)) = some 0 := by
  decide +kernel

/-- `secp256k1_gej_double_var(r, a, rzr)`: as `gej_double`, with an explicit early return for infinity -/
theorem gej_double_var_correct (st : State) (p : Pt) (hret : st.returned = false)
    (ha : RepJ st "a" p 4 4 1) (hv : p.valid = true) :
    ∃ st', FeIR.execL st Gen.group.gej_double_var.body = some st' ∧ RepJ st' "r" (Pt.dbl p) 4 4 1 := by
  obtain ⟨fe, ints, ret⟩ := st
  simp only at hret; subst hret
  simp only [RepJ, String.reduceAppend] at ha
  obtain ⟨h1, h2, h3, h4⟩ := ha.elim
  rcases h4 with ⟨hi, rfl⟩ | ⟨hi, hzc, a, b, hab, hX, hY⟩
  · fe_exec [Gen.group.gej_double_var, hi]
    refine ⟨_, rfl, ?_⟩
    fe_get []
    exact RepJ'.inf (by mg) (by mg) (by mg) rfl rfl
  · fe_exec [Gen.group.gej_double_var, hi]
    refine ⟨_, rfl, ?_⟩
    fe_get []
    refine RepJ'.dbl_fin (by mg) (by mg) (by mg) rfl hab (hab.valid_iff.1 hv) hzc hX hY rfl rfl ?_ ?_ ?_ <;> casts []

set_option maxRecDepth 100000 in
example : let st := stJ "a" 0
    (st.returned = false ∧ RepJ st "a" Pt.G 4 4 1 ∧ Pt.G.valid = true) ∧
    ((FeIR.execL st Gen.group.gej_double_var.body).map fun st' => decide (RepJ st' "r" (Pt.dbl Pt.G) 4 4 1)) =
      some true := by decide +kernel
set_option maxRecDepth 100000 in
example : let st := stJ "a" 1
    RepJ st "a" Pt.inf 4 4 1 ∧
    ((FeIR.execL st Gen.group.gej_double_var.body).map fun st' => decide (RepJ st' "r" Pt.inf 4 4 1)) =
      some true := by decide +kernel

set_option hygiene false in
local macro "add_ge_var_proof" ax:str ay:str az:str fn:ident : tactic => `(tactic| (
  obtain ⟨fe, ints, ret⟩ := st
  simp only at hret; subst hret
  simp only [RepJ, RepA, String.reduceAppend] at ha hb
  generalize hx : fe.get $ax = ax at ha; obtain ⟨X, mx⟩ := ax
  generalize hy : fe.get $ay = ay at ha; obtain ⟨Y, my⟩ := ay
  generalize hz : fe.get $az = az at ha; obtain ⟨Z, mz⟩ := az
  generalize hbx : fe.get "b.x" = bx at hb; obtain ⟨Bx, mbx⟩ := bx
  generalize hby : fe.get "b.y" = by' at hb; obtain ⟨By, mby⟩ := by'
  obtain ⟨h1, h2, h3, h4⟩ := ha.elim
  obtain ⟨h5, h6, h7⟩ := hb.elim
  simp only at h1 h2 h3 h4 h5 h6 h7
  have h2' : (2 : ZMod P) ≠ 0 := zmodP_two_ne_zero
  rcases h4 with ⟨hi, rfl⟩ | ⟨hi, hzc, a, b, hab, hX, hY⟩
  · -- a is infinity: r = (b.x, b.y, 1) with b's flag
    fe_exec [$fn:ident, hx, hy, hz, hbx, hby, hi]
    refine ⟨_, rfl, ?_⟩
    fe_get []
    have hadd : Pt.add .inf q = q := by cases q <;> rfl
    rw [hadd]
    rcases h7 with ⟨hbi, rfl⟩ | ⟨hbi, hq⟩
    · exact RepJ'.inf (by mg) (by mg) (by mg) hbi rfl
    · refine RepJ'.fin (by mg) (by mg) (by mg) hbi hq ?_ ?_ ?_
      · dsimp only; rw [Nat.cast_one]; exact one_ne_zero
      · dsimp only; rw [Nat.cast_one]; ring
      · dsimp only; rw [Nat.cast_one]; ring
  · rcases h7 with ⟨hbi, rfl⟩ | ⟨hbi, hq⟩
    · -- b is infinity: r = a
      fe_exec [$fn:ident, hx, hy, hz, hbx, hby, hi, hbi]
      refine ⟨_, rfl, ?_⟩
      fe_get [hx, hy, hz]
      have hadd : Pt.add p .inf = p := by cases p <;> rfl
      rw [hadd]
      exact RepJ'.fin (by mg) (by mg) (by mg) rfl hab hzc hX hY
    · have hc1 := hab.valid_iff.1 hvp
      have hc2 := hq.valid_iff.1 hvq
      obtain ⟨z, hz'⟩ : ∃ z : ZMod P, (Z : ZMod P) = z := ⟨_, rfl⟩
      obtain ⟨c, hc'⟩ : ∃ c : ZMod P, (Bx : ZMod P) = c := ⟨_, rfl⟩
      obtain ⟨d, hd'⟩ : ∃ d : ZMod P, (By : ZMod P) = d := ⟨_, rfl⟩
      rw [hz'] at hzc hX hY
      rw [hc', hd'] at hq hc2
      have hz2 : z * z ≠ 0 := mul_ne_zero hzc hzc
      have hz3 : z * z * z ≠ 0 := mul_ne_zero hz2 hzc
      have hHc : ((Fe.add (Fe.neg X) (Fe.mul Bx (Fe.sqr Z)) : ℕ) : ZMod P) = (c - a) * (z * z) := by
        casts [hX, hY, hz', hc', hd']; ring
      have hIc : ((Fe.add (Fe.neg (Fe.mul (Fe.mul By (Fe.sqr Z)) Z)) Y : ℕ) : ZMod P) = (b - d) * (z * z * z) := by
        casts [hX, hY, hz', hc', hd']; ring
      by_cases hH : canon (Fe.add (Fe.neg X) (Fe.mul Bx (Fe.sqr Z))) = 0
      · have hac : a = c := by
          have hH' := hH
          rw [canon_eq_zero_iff, hHc] at hH'
          exact (sub_eq_zero.1 ((mul_eq_zero.1 hH').resolve_right hz2)).symm
        subst hac
        by_cases hI : canon (Fe.add (Fe.neg (Fe.mul (Fe.mul By (Fe.sqr Z)) Z)) Y) = 0
        · -- the same point: doubling
          have hbd : b = d := by
            have hI' := hI
            rw [canon_eq_zero_iff, hIc] at hI'
            exact sub_eq_zero.1 ((mul_eq_zero.1 hI').resolve_right hz3)
          subst hbd
          fe_exec [$fn:ident, hx, hy, hz, hbx, hby, hi, hbi, hH, hI]
          refine ⟨_, rfl, ?_⟩
          fe_get []
          rw [hab.add_same hq hc1]
          have hb0 := y_ne_zero_of_curve hc1
          refine RepJ'.fin (by mg) (by mg) (by mg) rfl (hab.dbl hc1) ?_ ?_ ?_
          · casts [hX, hY, hz']
            exact mul_ne_zero hzc (mul_ne_zero hb0 hz3)
          · casts [hX, hY, hz']
            field_simp
            ring
          · casts [hX, hY, hz']
            field_simp
            ring
        · -- opposite points: infinity
          have hbd : d = -b := by
            rcases curve_same_x hc1 hc2 with h | h
            · exfalso; apply hI; rw [canon_eq_zero_iff, hIc, h, sub_self, zero_mul]
            · exact h
          subst hbd
          fe_exec [$fn:ident, hx, hy, hz, hbx, hby, hi, hbi, hH, hI]
          refine ⟨_, rfl, ?_⟩
          fe_get []
          exact RepJ'.inf (by mg) (by mg) (by mg) rfl (hab.add_neg hq)
      · -- different abscissas: the chord formula
        have hac : a ≠ c := by
          intro h; apply hH; rw [canon_eq_zero_iff, hHc, h, sub_self, zero_mul]
        have hca : c - a ≠ 0 := sub_ne_zero.2 (Ne.symm hac)
        have hl : (d - b) * (c - a)⁻¹ * (c - a) = d - b := by field_simp
        fe_exec [$fn:ident, hx, hy, hz, hbx, hby, hi, hbi, hH]
        refine ⟨_, rfl, ?_⟩
        fe_get []
        refine RepJ'.fin (by mg) (by mg) (by mg) rfl (hab.add_ne hq hac) ?_ ?_ ?_
        · casts [hX, hY, hz', hc', hd']
          have : z * (-(a * (z * z)) + c * (z * z)) = (z * z * z) * (c - a) := by ring
          rw [this]; exact mul_ne_zero hz3 hca
        · casts [hX, hY, hz', hc', hd']
          linear_combination jac_addvar_x a b c d z _ (-(a * (z * z)) + c * (z * z))
            (-(d * (z * z) * z) + b * (z * z * z)) (by ring) (by ring) hl
        · casts [hX, hY, hz', hc', hd']
          linear_combination jac_addvar_y a b c d z _ (-(a * (z * z)) + c * (z * z))
            (-(d * (z * z) * z) + b * (z * z * z)) (by ring) (by ring) hl))

/-- `secp256k1_gej_add_ge_var(r, a, b, rzr)`: either operand may be infinity; equal points → doubling, opposite points →
    infinity, otherwise the chord formula. -/
theorem gej_add_ge_var_correct (st : State) (p q : Pt) (hret : st.returned = false)
    (ha : RepJ st "a" p 4 4 1) (hb : RepA st "b" q 4 3) (hvp : p.valid = true) (hvq : q.valid = true) :
    ∃ st', FeIR.execL st Gen.group.gej_add_ge_var.body = some st' ∧ RepJ st' "r" (Pt.add p q) 4 4 1 := by
  add_ge_var_proof "a.x" "a.y" "a.z" Gen.group.gej_add_ge_var

theorem gej_add_ge_var_inplace_correct (st : State) (p q : Pt) (hret : st.returned = false)
    (ha : RepJ st "r" p 4 4 1) (hb : RepA st "b" q 4 3) (hvp : p.valid = true) (hvq : q.valid = true) :
    ∃ st', FeIR.execL st Gen.group.gej_add_ge_var_inplace.body = some st' ∧ RepJ st' "r" (Pt.add p q) 4 4 1 := by
  add_ge_var_proof "r.x" "r.y" "r.z" Gen.group.gej_add_ge_var_inplace

set_option maxRecDepth 100000 in
example : let st := stJA "a" 0 (Pt.xOf G2) (Pt.yOf G2)
    (st.returned = false ∧ RepJ st "a" Pt.G 4 4 1 ∧ RepA st "b" G2 4 3 ∧ Pt.G.valid = true ∧ G2.valid = true) ∧
    ((FeIR.execL st Gen.group.gej_add_ge_var.body).map fun st' => decide (RepJ st' "r" (Pt.add Pt.G G2) 4 4 1)) =
      some true := by decide +kernel
set_option maxRecDepth 100000 in
example :
    ((FeIR.execL (stJA "a" 0 Pt.Gx Pt.Gy) Gen.group.gej_add_ge_var.body).map fun st' =>
      decide (RepJ st' "r" G2 4 4 1)) = some true ∧
    ((FeIR.execL (stJA "a" 0 Pt.Gx (P - Pt.Gy)) Gen.group.gej_add_ge_var.body).map fun st' =>
      decide (RepJ st' "r" Pt.inf 4 4 1)) = some true := by decide +kernel
set_option maxRecDepth 100000 in
example : let st := stJA "r" 0 (Pt.xOf G2) (Pt.yOf G2)
    (st.returned = false ∧ RepJ st "r" Pt.G 4 4 1 ∧ RepA st "b" G2 4 3) ∧
    ((FeIR.execL st Gen.group.gej_add_ge_var_inplace.body).map fun st' =>
      decide (RepJ st' "r" (Pt.add Pt.G G2) 4 4 1)) = some true := by decide +kernel

theorem gej_add_var_correct (st : State) (p q : Pt) (hret : st.returned = false)
    (ha : RepJ st "a" p 4 4 1) (hb : RepJ st "b" q 4 4 1) (hvp : p.valid = true) (hvq : q.valid = true) :
    ∃ st', FeIR.execL st Gen.group.gej_add_var.body = some st' ∧ RepJ st' "r" (Pt.add p q) 4 4 1 := by
  obtain ⟨fe, ints, ret⟩ := st
  simp only at hret; subst hret
  simp only [RepJ, String.reduceAppend] at ha hb
  generalize hx : fe.get "a.x" = ax at ha; obtain ⟨X, mx⟩ := ax
  generalize hy : fe.get "a.y" = ay at ha; obtain ⟨Y, my⟩ := ay
  generalize hz : fe.get "a.z" = az at ha; obtain ⟨Z, mz⟩ := az
  generalize hbx : fe.get "b.x" = bx at hb; obtain ⟨Bx, mbx⟩ := bx
  generalize hby : fe.get "b.y" = by' at hb; obtain ⟨By, mby⟩ := by'
  generalize hbz : fe.get "b.z" = bz at hb; obtain ⟨Bz, mbz⟩ := bz
  obtain ⟨h1, h2, h3, h4⟩ := ha.elim
  obtain ⟨h5, h6, h7, h8⟩ := hb.elim
  simp only at h1 h2 h3 h4 h5 h6 h7 h8
  rcases h4 with ⟨hi, rfl⟩ | ⟨hi, hzc, a, b, hab, hX, hY⟩
  · -- a is infinity: r = b
    fe_exec [Gen.group.gej_add_var, hx, hy, hz, hbx, hby, hbz, hi]
    refine ⟨_, rfl, ?_⟩
    fe_get []
    have hadd : Pt.add .inf q = q := by cases q <;> rfl
    rw [hadd]
    rcases h8 with ⟨hbi, rfl⟩ | ⟨hbi, hzc2, c, d, hq, hX2, hY2⟩
    · exact RepJ'.inf (by mg) (by mg) (by mg) hbi rfl
    · exact RepJ'.fin (by mg) (by mg) (by mg) hbi hq hzc2 hX2 hY2
  · rcases h8 with ⟨hbi, rfl⟩ | ⟨hbi, hzc2, c, d, hq, hX2, hY2⟩
    · -- b is infinity: r = a
      fe_exec [Gen.group.gej_add_var, hx, hy, hz, hbx, hby, hbz, hi, hbi]
      refine ⟨_, rfl, ?_⟩
      fe_get []
      rw [GroupLaw.add_inf_right]
      exact RepJ'.fin (by mg) (by mg) (by mg) rfl hab hzc hX hY
    · have hc1 := hab.valid_iff.1 hvp
      have hc2 := hq.valid_iff.1 hvq
      obtain ⟨z, hz'⟩ : ∃ z : ZMod P, (Z : ZMod P) = z := ⟨_, rfl⟩
      obtain ⟨z2, hz2'⟩ : ∃ z2 : ZMod P, (Bz : ZMod P) = z2 := ⟨_, rfl⟩
      rw [hz'] at hzc hX hY
      rw [hz2'] at hzc2 hX2 hY2
      have hw : z * z2 ≠ 0 := mul_ne_zero hzc hzc2
      have hw2 : (z * z2) * (z * z2) ≠ 0 := mul_ne_zero hw hw
      have hw3 : (z * z2) * (z * z2) * (z * z2) ≠ 0 := mul_ne_zero hw2 hw
      have hHc : ((Fe.add (Fe.neg (Fe.mul X (Fe.sqr Bz))) (Fe.mul Bx (Fe.sqr Z)) : ℕ) : ZMod P) =
          (c - a) * ((z * z2) * (z * z2)) := by
        casts [hX, hY, hX2, hY2, hz', hz2']; ring
      have hIc : ((Fe.add (Fe.neg (Fe.mul (Fe.mul By (Fe.sqr Z)) Z)) (Fe.mul (Fe.mul Y (Fe.sqr Bz)) Bz) : ℕ) : ZMod P)
          = (b - d) * ((z * z2) * (z * z2) * (z * z2)) := by
        casts [hX, hY, hX2, hY2, hz', hz2']; ring
      obtain ⟨eH, eI, hopp⟩ := addvar_cases hw2 hw3 hHc hIc hc1 hc2
      by_cases hH : canon (Fe.add (Fe.neg (Fe.mul X (Fe.sqr Bz))) (Fe.mul Bx (Fe.sqr Z))) = 0
      · have hac := eH.1 hH
        by_cases hI : canon (Fe.add (Fe.neg (Fe.mul (Fe.mul By (Fe.sqr Z)) Z)) (Fe.mul (Fe.mul Y (Fe.sqr Bz)) Bz)) = 0
        · -- the same point: doubling
          have hbd := eI.1 hI
          subst hac hbd
          fe_exec [Gen.group.gej_add_var, hx, hy, hz, hbx, hby, hbz, hi, hbi, hH, hI]
          refine ⟨_, rfl, ?_⟩
          fe_get []
          rw [hab.add_same hq hc1]
          refine RepJ'.dbl_fin (by mg) (by mg) (by mg) rfl hab hc1 hzc hX hY rfl rfl ?_ ?_ ?_ <;> casts [hz']
        · -- opposite points: infinity
          have hbd := hopp hac hI
          subst hac hbd
          fe_exec [Gen.group.gej_add_var, hx, hy, hz, hbx, hby, hbz, hi, hbi, hH, hI]
          refine ⟨_, rfl, ?_⟩
          fe_get []
          exact RepJ'.inf (by mg) (by mg) (by mg) rfl (hab.add_neg hq)
      · -- different abscissas: the chord formula
        have hac : a ≠ c := fun h => hH (eH.2 h)
        have hca : c - a ≠ 0 := sub_ne_zero.2 (Ne.symm hac)
        have hl : (d - b) * (c - a)⁻¹ * (c - a) = d - b := by field_simp
        fe_exec [Gen.group.gej_add_var, hx, hy, hz, hbx, hby, hbz, hi, hbi, hH]
        refine ⟨_, rfl, ?_⟩
        fe_get []
        refine RepJ'.fin (by mg) (by mg) (by mg) rfl (hab.add_ne hq hac) ?_ ?_ ?_
        · casts [hX, hY, hX2, hY2, hz', hz2']
          have : z * ((-(a * (z * z) * (z2 * z2)) + c * (z2 * z2) * (z * z)) * z2) =
              (z * z2) * ((z * z2) * (z * z2)) * (c - a) := by ring
          rw [this]; exact mul_ne_zero (mul_ne_zero hw hw2) hca
        · casts [hX, hY, hX2, hY2, hz', hz2']
          linear_combination jac_addvar_x a b c d (z * z2) _ (-(a * (z * z) * (z2 * z2)) + c * (z2 * z2) * (z * z))
            (-(d * (z2 * z2 * z2) * (z * z) * z) + b * (z * z * z) * (z2 * z2) * z2) (by ring) (by ring) hl
        · casts [hX, hY, hX2, hY2, hz', hz2']
          linear_combination jac_addvar_y a b c d (z * z2) _ (-(a * (z * z) * (z2 * z2)) + c * (z2 * z2) * (z * z))
            (-(d * (z2 * z2 * z2) * (z * z) * z) + b * (z * z * z) * (z2 * z2) * z2) (by ring) (by ring) hl

def stJJ : State :=
  ⟨jacVars "a" Pt.Gx Pt.Gy 2 ++ jacVars "b" (Pt.xOf G2) (Pt.yOf G2) 3,
    [(("a.infinity", 0), 0), (("b.infinity", 0), 0)], false⟩
set_option maxRecDepth 100000 in
example : (stJJ.returned = false ∧ RepJ stJJ "a" Pt.G 4 4 1 ∧ RepJ stJJ "b" G2 4 4 1) ∧
    ((FeIR.execL stJJ Gen.group.gej_add_var.body).map fun st' => decide (RepJ st' "r" (Pt.add Pt.G G2) 4 4 1)) =
      some true := by decide +kernel

/-- the affine variable `b` is given on the isomorphic curve: the point is `(b.x·bzinv², b.y·bzinv³)` -/
def RepAZinv (st : State) (q : Pt) : Prop :=
  (st.fe.get "b.x").mag ≤ 4 ∧ (st.fe.get "b.y").mag ≤ 3 ∧ (st.fe.get "bzinv").mag ≤ 8 ∧
  ((st.ints.get "b.infinity" 0 = 1 ∧ q = .inf) ∨
   (st.ints.get "b.infinity" 0 = 0 ∧
      q = .aff (Fe.mul (st.fe.get "b.x").val (Fe.sqr (st.fe.get "bzinv").val))
        (Fe.mul (st.fe.get "b.y").val (Fe.mul (Fe.sqr (st.fe.get "bzinv").val) (st.fe.get "bzinv").val))))

instance (st : State) (q : Pt) : Decidable (RepAZinv st q) := by unfold RepAZinv; infer_instance

theorem gej_add_zinv_var_correct (st : State) (p q : Pt) (hret : st.returned = false)
    (ha : RepJ st "a" p 4 4 1) (hb : RepAZinv st q) (hvp : p.valid = true) (hvq : q.valid = true) :
    ∃ st', FeIR.execL st Gen.group.gej_add_zinv_var.body = some st' ∧ RepJ st' "r" (Pt.add p q) 4 4 1 := by
  obtain ⟨fe, ints, ret⟩ := st
  simp only at hret; subst hret
  simp only [RepJ, RepAZinv, String.reduceAppend] at ha hb
  generalize hx : fe.get "a.x" = ax at ha; obtain ⟨X, mx⟩ := ax
  generalize hy : fe.get "a.y" = ay at ha; obtain ⟨Y, my⟩ := ay
  generalize hz : fe.get "a.z" = az at ha; obtain ⟨Z, mz⟩ := az
  generalize hbx : fe.get "b.x" = bx at hb; obtain ⟨Bx, mbx⟩ := bx
  generalize hby : fe.get "b.y" = by' at hb; obtain ⟨By, mby⟩ := by'
  generalize hzi : fe.get "bzinv" = bzi at hb; obtain ⟨ZI, mzi⟩ := bzi
  obtain ⟨h1, h2, h3, h4⟩ := ha.elim
  obtain ⟨h5, h6, h6', h7⟩ := hb
  simp only at h1 h2 h3 h4 h5 h6 h6' h7
  obtain ⟨zi, hzi'⟩ : ∃ zi : ZMod P, (ZI : ZMod P) = zi := ⟨_, rfl⟩
  have hqaff : ints.get "b.infinity" 0 = 0 →
      IsAff q ((Bx : ZMod P) * (zi * zi)) ((By : ZMod P) * (zi * zi * zi)) := by
    intro h0
    rcases h7 with ⟨h, _⟩ | ⟨_, rfl⟩
    · omega
    · exact ⟨_, _, rfl, Fe.mul_lt_P _ _, Fe.mul_lt_P _ _, by casts [hzi'], by casts [hzi']⟩
  rcases h4 with ⟨hi, rfl⟩ | ⟨hi, hzc, a, b, hab, hX, hY⟩
  · -- a is infinity: r = (b.x·bzinv², b.y·bzinv³, 1)
    fe_exec [Gen.group.gej_add_zinv_var, hx, hy, hz, hbx, hby, hzi, hi]
    refine ⟨_, rfl, ?_⟩
    fe_get []
    have hadd : Pt.add .inf q = q := by cases q <;> rfl
    rw [hadd]
    rcases h7 with ⟨hbi, rfl⟩ | ⟨hbi, _⟩
    · exact RepJ'.inf (by mg) (by mg) (by mg) hbi rfl
    · exact RepJ'.of_aff (by mg) (by mg) (by mg) hbi rfl ((hqaff hbi).congr (by casts [hzi']) (by casts [hzi']))
  · rcases h7 with ⟨hbi, rfl⟩ | ⟨hbi, _⟩
    · -- b is infinity: r = a
      fe_exec [Gen.group.gej_add_zinv_var, hx, hy, hz, hbx, hby, hzi, hi, hbi]
      refine ⟨_, rfl, ?_⟩
      fe_get []
      rw [GroupLaw.add_inf_right]
      exact RepJ'.fin (by mg) (by mg) (by mg) rfl hab hzc hX hY
    · have hq := hqaff hbi
      have hc1 := hab.valid_iff.1 hvp
      have hc2 := hq.valid_iff.1 hvq
      obtain ⟨z, hz'⟩ : ∃ z : ZMod P, (Z : ZMod P) = z := ⟨_, rfl⟩
      obtain ⟨c, hc'⟩ : ∃ c : ZMod P, c = (Bx : ZMod P) * (zi * zi) := ⟨_, rfl⟩
      obtain ⟨d, hd'⟩ : ∃ d : ZMod P, d = (By : ZMod P) * (zi * zi * zi) := ⟨_, rfl⟩
      rw [hz'] at hzc hX hY
      rw [← hc', ← hd'] at hq hc2
      have hz2 : z * z ≠ 0 := mul_ne_zero hzc hzc
      have hz3 : z * z * z ≠ 0 := mul_ne_zero hz2 hzc
      have hHc : ((Fe.add (Fe.neg X) (Fe.mul Bx (Fe.sqr (Fe.mul Z ZI))) : ℕ) : ZMod P) = (c - a) * (z * z) := by
        casts [hX, hY, hz', hzi', hc', hd']; ring
      have hIc : ((Fe.add (Fe.neg (Fe.mul (Fe.mul By (Fe.sqr (Fe.mul Z ZI))) (Fe.mul Z ZI))) Y : ℕ) : ZMod P) =
          (b - d) * (z * z * z) := by
        casts [hX, hY, hz', hzi', hc', hd']; ring
      obtain ⟨eH, eI, hopp⟩ := addvar_cases hz2 hz3 hHc hIc hc1 hc2
      by_cases hH : canon (Fe.add (Fe.neg X) (Fe.mul Bx (Fe.sqr (Fe.mul Z ZI)))) = 0
      · have hac := eH.1 hH
        by_cases hI : canon (Fe.add (Fe.neg (Fe.mul (Fe.mul By (Fe.sqr (Fe.mul Z ZI))) (Fe.mul Z ZI))) Y) = 0
        · -- the same point: doubling
          have hbd := eI.1 hI
          fe_exec [Gen.group.gej_add_zinv_var, hx, hy, hz, hbx, hby, hzi, hi, hbi, hH, hI]
          refine ⟨_, rfl, ?_⟩
          fe_get []
          rw [hab.add_same (hq.congr hac.symm hbd.symm) hc1]
          refine RepJ'.dbl_fin (by mg) (by mg) (by mg) rfl hab hc1 hzc hX hY rfl rfl ?_ ?_ ?_ <;> casts [hz']
        · -- opposite points: infinity
          have hbd := hopp hac hI
          fe_exec [Gen.group.gej_add_zinv_var, hx, hy, hz, hbx, hby, hzi, hi, hbi, hH, hI]
          refine ⟨_, rfl, ?_⟩
          fe_get []
          exact RepJ'.inf (by mg) (by mg) (by mg) rfl (hab.add_neg (hq.congr hac.symm hbd))
      · -- different abscissas: the chord formula
        have hac : a ≠ c := fun h => hH (eH.2 h)
        have hca : c - a ≠ 0 := sub_ne_zero.2 (Ne.symm hac)
        have hl : (d - b) * (c - a)⁻¹ * (c - a) = d - b := by field_simp
        fe_exec [Gen.group.gej_add_zinv_var, hx, hy, hz, hbx, hby, hzi, hi, hbi, hH]
        refine ⟨_, rfl, ?_⟩
        fe_get []
        have hadd := hab.add_ne hq hac
        subst hc' hd'
        refine RepJ'.fin (by mg) (by mg) (by mg) rfl hadd ?_ ?_ ?_
        · casts [hX, hY, hz', hzi']
          have : z * (-(a * (z * z)) + (Bx : ZMod P) * (z * zi * (z * zi))) =
              (z * z * z) * ((Bx : ZMod P) * (zi * zi) - a) := by ring
          rw [this]; exact mul_ne_zero hz3 hca
        · casts [hX, hY, hz', hzi']
          linear_combination jac_addvar_x a b ((Bx : ZMod P) * (zi * zi)) ((By : ZMod P) * (zi * zi * zi)) z _
            (-(a * (z * z)) + (Bx : ZMod P) * (z * zi * (z * zi)))
            (-((By : ZMod P) * (z * zi * (z * zi)) * (z * zi)) + b * (z * z * z)) (by ring) (by ring) hl
        · casts [hX, hY, hz', hzi']
          linear_combination jac_addvar_y a b ((Bx : ZMod P) * (zi * zi)) ((By : ZMod P) * (zi * zi * zi)) z _
            (-(a * (z * z)) + (Bx : ZMod P) * (z * zi * (z * zi)))
            (-((By : ZMod P) * (z * zi * (z * zi)) * (z * zi)) + b * (z * z * z)) (by ring) (by ring) hl

/-- `a = G` (`z = 2`); `b = 2·G` on the isomorphic curve with `z = 2`, `bzinv = 1/2` -/
def stZinvAdd : State :=
  ⟨jacVars "a" Pt.Gx Pt.Gy 2 ++
    [("b.x", ⟨Fe.mul (Pt.xOf G2) 4, 4⟩), ("b.y", ⟨Fe.mul (Pt.yOf G2) 8, 3⟩), ("bzinv", ⟨(P + 1) / 2, 8⟩)],
    [(("a.infinity", 0), 0), (("b.infinity", 0), 0)], false⟩
set_option maxRecDepth 100000 in
example : (stZinvAdd.returned = false ∧ RepJ stZinvAdd "a" Pt.G 4 4 1 ∧ RepAZinv stZinvAdd G2) ∧
    ((FeIR.execL stZinvAdd Gen.group.gej_add_zinv_var.body).map fun st' =>
      decide (RepJ st' "r" (Pt.add Pt.G G2) 4 4 1)) = some true := by decide +kernel

/-- `secp256k1_ge_set_ge_zinv(r, a, zi)`: maps an affine point given on the isomorphic curve to the actual affine point
    `(a.x·zi², a.y·zi³)` (the point that `RepAZinv` assigns to `(b, bzinv)`) -/
theorem ge_set_ge_zinv_correct (st : State) (hret : st.returned = false)
    (hxm : (st.fe.get "a.x").mag ≤ 4) (hym : (st.fe.get "a.y").mag ≤ 3) (hzm : (st.fe.get "zi").mag ≤ 8)
    (hinf : st.ints.get "a.infinity" 0 ≤ 1) :
    ∃ st', FeIR.execL st Gen.group.ge_set_ge_zinv.body = some st' ∧
      RepA st' "r" (if st.ints.get "a.infinity" 0 = 1 then .inf else
        .aff (Fe.mul (st.fe.get "a.x").val (Fe.sqr (st.fe.get "zi").val))
          (Fe.mul (st.fe.get "a.y").val (Fe.mul (Fe.sqr (st.fe.get "zi").val) (st.fe.get "zi").val))) 4 3 := by
  obtain ⟨fe, ints, ret⟩ := st
  simp only at hret hxm hym hzm hinf ⊢; subst hret
  fe_exec [Gen.group.ge_set_ge_zinv]
  refine ⟨_, rfl, ?_⟩
  fe_get []
  rcases (by omega : ints.get "a.infinity" 0 = 0 ∨ ints.get "a.infinity" 0 = 1) with h | h
  · rw [if_neg (by omega)]
    refine ⟨by mg, by mg, Or.inr ⟨h, ?_⟩⟩
    dsimp only
    rw [Nat.mod_eq_of_lt (Fe.mul_lt_P _ _), Nat.mod_eq_of_lt (Fe.mul_lt_P _ _)]
  · rw [if_pos h]
    exact ⟨by mg, by mg, Or.inl ⟨h, rfl⟩⟩

/-- `2·G` on the isomorphic curve with `z = 2` as the affine variable `a`, and `zi = 1/2` -/
def stGeZinv : State :=
  ⟨[("a.x", ⟨Fe.mul (Pt.xOf G2) 4, 4⟩), ("a.y", ⟨Fe.mul (Pt.yOf G2) 8, 3⟩), ("zi", ⟨(P + 1) / 2, 8⟩)],
    [(("a.infinity", 0), 0)], false⟩
set_option maxRecDepth 100000 in
example : ((FeIR.execL stGeZinv Gen.group.ge_set_ge_zinv.body).map fun st' => decide (RepA st' "r" G2 4 3)) =
    some true := by decide +kernel

end SecpZkp.C05grp
