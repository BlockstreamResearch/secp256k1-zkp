import SecpZkp.Gen.F_group
import SecpZkp.Proofs.SqrtIR
/-
  C05 (square roots): `secp256k1_fe_sqrt`, `secp256k1_fe_equal` (src/field_impl.h) and the x-only lifts
  `secp256k1_ge_set_xquad`, `secp256k1_ge_set_xo_var` (src/group_impl.h), as translated into `Gen/F_group.lean`
  (programs over field VALUES with the magnitude contract of src/field.h, semantics `FeIR.execL`).

  Every theorem has the form: for EVERY state that is entered normally (`st.returned = false`) and whose inputs are
  within the documented magnitudes, `execL st body = some st'` (execution succeeds: no magnitude precondition of a
  field primitive is violated) and the outputs in `st'` are as stated.  `Fe.sqrtCand a = a ^ ((P+1)/4) mod P`
  (Model/Field.lean) is the candidate root; it squares to `a` exactly when `a` is a square modulo `P` (`P ≡ 3 mod 4`),
  and then it is the root that is itself a square.

  The addition chain (unrolled loops: 524 of the 530 statements of `fe_sqrt`) is checked, not executed
  (`Proofs/SqrtIR.lean`): `*_body_eq` (by `rfl`) show that the generated bodies are instances of the name-generic
  `sqrtTail` / `xquadFn`, `*_ok` run the exponent checker in the kernel.  A renumbering of the translator's temporaries
  (`z_8`, `fe_equal_3`, …) breaks `*_body_eq`; the names are then to be read off `Gen/F_group.lean` again.
-/
namespace SecpZkp.C05sqrt
open SecpZkp SecpZkp.FeIR SecpZkp.MiniC

/-- the addition chain of `fe_sqrt`: everything before `secp256k1_fe_sqr(r, &t1)` -/
def sqrtChain : List FeIR.Stmt := Gen.group.fe_sqrt.body.take 524

set_option maxRecDepth 100000 in
theorem fe_sqrt_body_eq : Gen.group.fe_sqrt.body =
    sqrtChain ++ sqrtTail "r" "t1" "fe_equal_3.na" "a" "z_8" "fe_equal_3.ret" "ret" := by rfl

theorem sqrtChain_ok :
    sqrtOK sqrtChain "r" "t1" "fe_equal_3.na" "a" "z_8" "fe_equal_3.ret" "ret" [] [] = true := by decide +kernel

def xquadChain : List FeIR.Stmt :=
  match Gen.group.ge_set_xquad.body.drop 5 with
  | .scope b :: _ => b.take 524
  | _ => []

set_option maxRecDepth 100000 in
theorem xquad_body_eq : Gen.group.ge_set_xquad.body =
    xquadFn xquadChain "x" "r.x" "x2" "x3" "r.infinity" "r.y" "fe_sqrt_2.t1" "fe_equal_5.na" "z_10" "fe_equal_5.ret"
      "fe_sqrt_2.ret" "ret" := by rfl

theorem xquadChain_ok :
    xquadOK xquadChain "x" "r.x" "x2" "x3" "r.infinity" "r.y" "fe_sqrt_2.t1" "fe_equal_5.na" "z_10" "fe_equal_5.ret"
      "fe_sqrt_2.ret" "ret" [] = true := by decide +kernel

def xoChain : List FeIR.Stmt :=
  match Gen.group.ge_set_xo_var.body with
  | .scope b :: _ =>
    (match b.drop 5 with
     | .scope c :: _ => c.take 524
     | _ => [])
  | _ => []

/-- what `ge_set_xo_var` does after the inlined `ge_set_xquad` -/
def xoPost : List FeIR.Stmt :=
  [.int "ret" (.var "ge_set_xquad_1.ret"),
   .norm "r.y",
   .isOdd "odd_17" "r.y",
   .ite (.bin .ne 32 (.var "odd_17") (.var "odd")) [.neg "r.y" "r.y" 1] [],
   .int "ret" (.var "ret"),
   .ret]

set_option maxRecDepth 100000 in
theorem xo_body_eq : Gen.group.ge_set_xo_var.body =
    .scope (xquadFn xoChain "x" "r.x" "ge_set_xquad_1.x2" "ge_set_xquad_1.x3" "r.infinity" "r.y" "fe_sqrt_3.t1"
      "fe_equal_6.na" "z_11" "fe_equal_6.ret" "fe_sqrt_3.ret" "ge_set_xquad_1.ret") :: xoPost := by rfl

theorem xoChain_ok :
    xquadOK xoChain "x" "r.x" "ge_set_xquad_1.x2" "ge_set_xquad_1.x3" "r.infinity" "r.y" "fe_sqrt_3.t1"
      "fe_equal_6.na" "z_11" "fe_equal_6.ret" "fe_sqrt_3.ret" "ge_set_xquad_1.ret" ["odd"] = true := by
  decide +kernel

theorem sqrtFlag_le (a : ℕ) : sqrtFlag a ≤ 1 := by unfold sqrtFlag; split <;> omega

theorem sqrtFlag_eq_one_iff (a : ℕ) : sqrtFlag a = 1 ↔ Fe.sqrtCand a * Fe.sqrtCand a % P = a % P := by
  unfold sqrtFlag Fe.sqr; split <;> simp [*]

theorem sqrtFlag_eq_one_iff_isSquare (a : ℕ) : sqrtFlag a = 1 ↔ IsSquare (a : ZMod P) := by
  rw [← Fe.isSquare_iff]
  unfold sqrtFlag Fe.isSquare
  split <;> simp [*]

theorem sqrtFlag_eq_one_iff_sqrt (a : ℕ) : sqrtFlag a = 1 ↔ Fe.sqrt a = some (Fe.sqrtCand a) := by
  unfold sqrtFlag Fe.sqrt
  split <;> simp [*]

theorem sqrtFlag_eq_zero_iff_sqrt (a : ℕ) : sqrtFlag a = 0 ↔ Fe.sqrt a = none := by
  unfold sqrtFlag Fe.sqrt
  split <;> simp [*]

theorem sqrtFlag_cast {a : ℕ} (h : sqrtFlag a = 1) :
    ((Fe.sqrtCand a : ℕ) : ZMod P) * (Fe.sqrtCand a : ℕ) = (a : ZMod P) :=
  Fe.sqrtCand_sq_of_isSquare ((sqrtFlag_eq_one_iff_isSquare a).1 h)

/-- `secp256k1_fe_sqrt(r, a)` for an input of magnitude at most 8: `r` holds exactly `Fe.sqrtCand a`; the return value
    is 1 iff `r² ≡ a (mod P)`, iff `a` is a square modulo `P`, iff the model's `Fe.sqrt a` returns `some r`. -/
theorem fe_sqrt_correct (st : State) (hret : st.returned = false) (ha : (st.fe.get "a").mag ≤ 8) :
    ∃ st', FeIR.execL st Gen.group.fe_sqrt.body = some st' ∧
      (st'.fe.get "r").val = Fe.sqrtCand (st.fe.get "a").val ∧
      (st'.fe.get "r").val = (st.fe.get "a").val ^ ((P + 1) / 4) % P ∧
      (st'.fe.get "r").mag = 1 ∧
      st'.ints.get "ret" 0 ≤ 1 ∧
      (st'.ints.get "ret" 0 = 1 ↔
        (st'.fe.get "r").val * (st'.fe.get "r").val % P = (st.fe.get "a").val % P) ∧
      (st'.ints.get "ret" 0 = 1 ↔ IsSquare ((st.fe.get "a").val : ZMod P)) ∧
      (st'.ints.get "ret" 0 = 1 ↔ Fe.sqrt (st.fe.get "a").val = some (st'.fe.get "r").val) ∧
      (st'.ints.get "ret" 0 = 1 →
        (((st'.fe.get "r").val : ℕ) : ZMod P) * ((st'.fe.get "r").val : ℕ) = ((st.fe.get "a").val : ZMod P)) := by
  obtain ⟨fe, ints, ret⟩ := st
  simp only at hret ha; subst hret
  obtain ⟨fe', ints', h, hr, hflag, -, -⟩ := sqrt_fn _ _ _ _ _ _ _ _ [] [] sqrtChain_ok fe ints ha
  rw [fe_sqrt_body_eq]
  refine ⟨_, h, ?_⟩
  have hrv : (fe'.get "r").val = Fe.sqrtCand (fe.get "a").val := by rw [hr]
  have hrm : (fe'.get "r").mag = 1 := by rw [hr]
  dsimp only
  rw [hflag, hrv]
  exact ⟨rfl, sqrtCand_eq_pow _, hrm, sqrtFlag_le _, sqrtFlag_eq_one_iff _, sqrtFlag_eq_one_iff_isSquare _,
    sqrtFlag_eq_one_iff_sqrt _, sqrtFlag_cast⟩

def stA (v : ℕ) : State := ⟨[("a", ⟨v, 8⟩)], [], false⟩

set_option maxRecDepth 100000 in
/-- non-vacuity: `a = 4 + P` (not normalized, magnitude 8) -/
example : (stA (4 + P)).returned = false ∧ ((stA (4 + P)).fe.get "a").mag ≤ 8 := by decide +kernel
/-- for the examples: by `sqrt_fn` the kernel has only the candidate root and the flag left to evaluate, not the run of
    the chain (likewise `xquad_run`, `xo_run` below) -/
theorem fe_sqrt_run (v : ℕ) : (FeIR.execL (stA v) Gen.group.fe_sqrt.body).map
    (fun st' => (st'.fe.get "r", st'.ints.get "ret" 0)) = some (⟨Fe.sqrtCand v, 1⟩, sqrtFlag v) := by
  obtain ⟨fe', ints', h, hr, hflag, -, -⟩ := sqrt_fn _ _ _ _ _ _ _ _ [] [] sqrtChain_ok [("a", ⟨v, 8⟩)] []
    (show 8 ≤ 8 by decide)
  rw [fe_sqrt_body_eq, stA, h, Option.map_some, hr, hflag]
  rfl

set_option maxRecDepth 100000 in
example : (FeIR.execL (stA (4 + P)) Gen.group.fe_sqrt.body).map
    (fun st' => (st'.fe.get "r", st'.ints.get "ret" 0)) = some (⟨2, 1⟩, 1) :=
  (fe_sqrt_run _).trans (by decide +kernel)
set_option maxRecDepth 100000 in
/-- 5 is not a square modulo `P`: `ret = 0` -/
example : (FeIR.execL (stA 5) Gen.group.fe_sqrt.body).map (fun st' => st'.ints.get "ret" 0) = some 0 := by
  have h := congrArg (Option.map Prod.snd) (fe_sqrt_run 5)
  rw [Option.map_map] at h
  exact h.trans (by decide +kernel)

/-! ## `secp256k1_fe_equal`

  FINDING F5 (DESIGN.md 10.5).  The statement with the documented magnitudes (`a ≤ 1`, `b ≤ 31`: src/field.h, and
  `SECP256K1_FE_VERIFY_MAGNITUDE(b, 31)` in the function) is FALSE of the magnitude contract: the body is
  `fe_negate(&na, a, 1)` (result magnitude `1 + 1 = 2`), then `fe_add(&na, b)`, whose documented precondition is
  `na.magnitude + b.magnitude ≤ 32`; with `b.magnitude = 31` this is `33 ≤ 32`, and a VERIFY build aborts
  (`fe_equal_fails_at_31`: execution returns `none` for EVERY state with `b.magnitude = 31`).  The function is correct
  for `b ≤ 30` (`fe_equal_partial`).  The full statement would be:

    theorem fe_equal_correct (st : State) (hret : st.returned = false) (ha : (st.fe.get "a").mag ≤ 1)
        (hb : (st.fe.get "b").mag ≤ 31) :
        ∃ st', FeIR.execL st Gen.group.fe_equal.body = some st' ∧ st'.ints.get "ret" 0 ≤ 1 ∧
          (st'.ints.get "ret" 0 = 1 ↔ (st.fe.get "a").val % P = (st.fe.get "b").val % P)
-/

theorem fe_equal_partial (st : State) (hret : st.returned = false) (ha : (st.fe.get "a").mag ≤ 1)
    (hb : (st.fe.get "b").mag ≤ 30) :
    ∃ st', FeIR.execL st Gen.group.fe_equal.body = some st' ∧
      st'.ints.get "ret" 0 ≤ 1 ∧
      (st'.ints.get "ret" 0 = 1 ↔ (st.fe.get "a").val % P = (st.fe.get "b").val % P) := by
  obtain ⟨fe, ints, ret⟩ := st
  simp only at hret ha hb; subst hret
  generalize hga : fe.get "a" = av at ha; obtain ⟨a, ma⟩ := av
  generalize hgb : fe.get "b" = bv at hb; obtain ⟨b, mb⟩ := bv
  simp only at ha hb
  fe_exec [Gen.group.fe_equal, hga, hgb]
  refine ⟨_, rfl, ?_⟩
  fe_get []
  have hiff : canon (Fe.add (Fe.neg a) b) = 0 ↔ a % P = b % P := by
    rw [canon_eq_zero_iff, ← ZMod.natCast_eq_natCast_iff']
    simp only [Fe.cast_add, Fe.cast_neg]
    constructor
    · intro h; linear_combination -h
    · intro h; linear_combination -h
  simp only [hiff]
  split <;> simp [*]

theorem fe_equal_fails_at_31 (st : State) (hret : st.returned = false) (ha : (st.fe.get "a").mag ≤ 1)
    (hb : (st.fe.get "b").mag = 31) : FeIR.execL st Gen.group.fe_equal.body = none := by
  obtain ⟨fe, ints, ret⟩ := st
  simp only at hret ha hb; subst hret
  generalize hga : fe.get "a" = av at ha; obtain ⟨a, ma⟩ := av
  generalize hgb : fe.get "b" = bv at hb; obtain ⟨b, mb⟩ := bv
  simp only at ha hb
  subst hb
  fe_exec [Gen.group.fe_equal, hga, hgb]
  rfl

def stAB (v w m : ℕ) : State := ⟨[("a", ⟨v, 1⟩), ("b", ⟨w, m⟩)], [], false⟩

set_option maxRecDepth 100000 in
example : (stAB 7 (7 + 3 * P) 30).returned = false ∧ ((stAB 7 (7 + 3 * P) 30).fe.get "a").mag ≤ 1 ∧
    ((stAB 7 (7 + 3 * P) 30).fe.get "b").mag ≤ 30 := by decide +kernel
set_option maxRecDepth 100000 in
example : (FeIR.execL (stAB 7 (7 + 3 * P) 30) Gen.group.fe_equal.body).map (fun st' => st'.ints.get "ret" 0) = some 1 ∧
    (FeIR.execL (stAB 7 8 30) Gen.group.fe_equal.body).map (fun st' => st'.ints.get "ret" 0) = some 0 := by
  decide +kernel
set_option maxRecDepth 100000 in
/-- the counterexample to the documented bound, evaluated by the kernel -/
example : ((stAB 7 7 31).fe.get "a").mag ≤ 1 ∧ ((stAB 7 7 31).fe.get "b").mag ≤ 31 ∧
    FeIR.execL (stAB 7 7 31) Gen.group.fe_equal.body = none := by
  refine ⟨by decide +kernel, by decide +kernel, ?_⟩
  exact fe_equal_fails_at_31 _ rfl (by decide +kernel) (by decide +kernel)

theorem rhs_mod (x : ℕ) : Fe.add (Fe.mul (Fe.sqr (x % P)) (x % P)) 7 = Fe.add (Fe.mul (Fe.sqr x) x) 7 := by
  rw [Fe.sqr_mod, Fe.mul_mod_right]

theorem liftXQuad_mod (x : ℕ) : Pt.liftXQuad (x % P) = Pt.liftXQuad x := by
  unfold Pt.liftXQuad; rw [rhs_mod, Nat.mod_mod]

theorem liftX_mod (x : ℕ) (odd : Bool) : Pt.liftX (x % P) odd = Pt.liftX x odd := by
  unfold Pt.liftX; rw [rhs_mod, Nat.mod_mod]

theorem liftXQuad_eq (x : ℕ) :
    Pt.liftXQuad x = if sqrtFlag (rhsv x) = 1 then some (.aff (x % P) (Fe.sqrtCand (rhsv x))) else none := by
  unfold Pt.liftXQuad
  rw [← rhsv]
  by_cases h : sqrtFlag (rhsv x) = 1
  · rw [if_pos h, (sqrtFlag_eq_one_iff_sqrt _).1 h]
  · have h0 : sqrtFlag (rhsv x) = 0 := by have := sqrtFlag_le (rhsv x); omega
    rw [if_neg h, (sqrtFlag_eq_zero_iff_sqrt _).1 h0]

theorem cast_rhsv (x : ℕ) : ((rhsv x : ℕ) : ZMod P) = (x : ZMod P) * x * x + 7 := by
  rw [rhsv, cast_rhs]

/-- `secp256k1_ge_set_xquad(r, x)` for an `x` of magnitude at most 8: the return value is 1 iff `x³ + 7` is a square
    modulo `P` (iff some curve point has abscissa `x`), and the outcome is the model's `Pt.liftXQuad (x mod P)`.  When
    `ret = 1`, `r` represents a valid curve point whose ordinate is itself a square — the root picked by
    `a ^ ((P+1)/4)`. -/
theorem ge_set_xquad_correct (st : State) (hret : st.returned = false) (hx : (st.fe.get "x").mag ≤ 8) :
    ∃ st', FeIR.execL st Gen.group.ge_set_xquad.body = some st' ∧
      st'.ints.get "ret" 0 ≤ 1 ∧
      (st'.ints.get "ret" 0 = 1 ↔
        IsSquare (((st.fe.get "x").val : ZMod P) * (st.fe.get "x").val * (st.fe.get "x").val + 7)) ∧
      st'.fe.get "r.x" = st.fe.get "x" ∧
      st'.ints.get "r.infinity" 0 = 0 ∧
      (st'.fe.get "r.y").mag = 1 ∧
      (st'.fe.get "r.y").val = Fe.sqrtCand (Fe.add (Fe.mul (Fe.sqr (st.fe.get "x").val) (st.fe.get "x").val) 7) ∧
      Pt.liftXQuad ((st.fe.get "x").val % P) =
        (if st'.ints.get "ret" 0 = 1 then some (.aff ((st.fe.get "x").val % P) (st'.fe.get "r.y").val) else none) ∧
      (st'.ints.get "ret" 0 = 1 →
        RepA st' "r" (.aff ((st.fe.get "x").val % P) (st'.fe.get "r.y").val) 8 1 ∧
        Pt.valid (.aff ((st.fe.get "x").val % P) (st'.fe.get "r.y").val) = true ∧
        IsSquare (((st'.fe.get "r.y").val : ℕ) : ZMod P)) := by
  obtain ⟨fe, ints, ret⟩ := st
  simp only at hret hx; subst hret
  obtain ⟨fe', ints', h, hrx, hry, hinf, hflag, -⟩ :=
    xquad_fn _ _ _ _ _ _ _ _ _ _ _ _ _ [] xquadChain_ok fe ints hx
  rw [xquad_body_eq]
  refine ⟨_, h, ?_⟩
  generalize hgx : fe.get "x" = xv at hx hrx hry hflag
  obtain ⟨x, mx⟩ := xv
  dsimp only at hx hry hflag ⊢
  rw [← rhsv, hflag]
  have hl := liftXQuad_eq x
  have hsqf := sqrtFlag_eq_one_iff_isSquare (rhsv x)
  have hysq := fun h1 => Fe.sqrtCand_isSquare ((sqrtFlag_eq_one_iff_isSquare (rhsv x)).1 h1)
  rw [cast_rhsv] at hsqf
  have hfle := sqrtFlag_le (rhsv x)
  have hylt := Fe.sqrtCand_lt_P (rhsv x)
  generalize sqrtFlag (rhsv x) = f at hl hsqf hfle hysq
  generalize Fe.sqrtCand (rhsv x) = y at hry hl hylt hysq
  have hryv : (fe'.get "r.y").val = y := by rw [hry]
  have hrym : (fe'.get "r.y").mag = 1 := by rw [hry]
  rw [hryv]
  refine ⟨hfle, hsqf, hrx, hinf, hrym, rfl, by rw [liftXQuad_mod, hl], fun h1 => ?_⟩
  rw [if_pos h1] at hl
  obtain ⟨hv, -, -, -⟩ := liftXQuad_some hl
  refine ⟨?_, hv, hysq h1⟩
  simp only [RepA, String.reduceAppend]
  rw [hrx, hry, hinf]
  unfold RepA'
  exact ⟨hx, le_refl _, Or.inr ⟨rfl, by dsimp only; rw [Nat.mod_eq_of_lt hylt]⟩⟩

def stX (v odd : ℕ) : State := ⟨[("x", ⟨v, 8⟩)], [(("odd", 0), odd)], false⟩

set_option maxRecDepth 100000 in
example : (stX (Pt.Gx + P) 0).returned = false ∧ ((stX (Pt.Gx + P) 0).fe.get "x").mag ≤ 8 := by decide +kernel
theorem xquad_run (v odd : ℕ) (p : Pt) : (FeIR.execL (stX v odd) Gen.group.ge_set_xquad.body).map
    (fun st' => (st'.ints.get "ret" 0, decide (RepA st' "r" p 8 1))) =
    some (sqrtFlag (rhsv v), decide (RepA' ⟨v, 8⟩ ⟨Fe.sqrtCand (rhsv v), 1⟩ 0 p 8 1)) := by
  obtain ⟨fe', ints', h, hrx, hry, hinf, hflag, -⟩ :=
    xquad_fn _ _ _ _ _ _ _ _ _ _ _ _ _ [] xquadChain_ok [("x", ⟨v, 8⟩)] [(("odd", 0), odd)] (show 8 ≤ 8 by decide)
  rw [xquad_body_eq, stX, h, Option.map_some]
  simp only [RepA, String.reduceAppend, hrx, hry, hinf, hflag]
  rfl

set_option maxRecDepth 100000 in
/-- `x = Gx + P` (not normalized): `ret = 1` and `r` represents the generator `G` (whose `y` is a square) -/
example : (FeIR.execL (stX (Pt.Gx + P) 0) Gen.group.ge_set_xquad.body).map
    (fun st' => (st'.ints.get "ret" 0, decide (RepA st' "r" Pt.G 8 1))) = some (1, true) :=
  (xquad_run _ _ _).trans (by decide +kernel)
set_option maxRecDepth 100000 in
example : (FeIR.execL (stX 5 0) Gen.group.ge_set_xquad.body).map (fun st' => st'.ints.get "ret" 0) = some 0 ∧
    Pt.liftXQuad 5 = none := by
  have h := congrArg (Option.map Prod.fst) (xquad_run 5 0 .inf)
  rw [Option.map_map] at h
  exact ⟨h.trans (by decide +kernel), by decide +kernel⟩

theorem liftX_eq (x : ℕ) (odd : Bool) :
    Pt.liftX x odd = if sqrtFlag (rhsv x) = 1 then
        some (.aff (x % P) (if Fe.isOdd (Fe.sqrtCand (rhsv x)) = odd then Fe.sqrtCand (rhsv x)
          else Fe.neg (Fe.sqrtCand (rhsv x))))
      else none := by
  unfold Pt.liftX
  rw [← rhsv]
  by_cases h : sqrtFlag (rhsv x) = 1
  · rw [if_pos h, (sqrtFlag_eq_one_iff_sqrt _).1 h]
  · have h0 : sqrtFlag (rhsv x) = 0 := by have := sqrtFlag_le (rhsv x); omega
    rw [if_neg h, (sqrtFlag_eq_zero_iff_sqrt _).1 h0]

theorem parity_iff {y odd : ℕ} (h : odd ≤ 1) : Fe.isOdd y = decide (odd = 1) ↔ y % 2 = odd := by
  unfold Fe.isOdd
  have h1 : odd = 0 ∨ odd = 1 := by omega
  rcases h1 with h1 | h1 <;> rcases Nat.mod_two_eq_zero_or_one y with h2 | h2 <;> simp [h1, h2]

/-- `secp256k1_ge_set_xo_var(r, x, odd)` for an `x` of magnitude at most 8 and `odd ∈ {0, 1}`: the outcome is the model's
    `Pt.liftX (x mod P) (odd = 1)`; when `ret = 1`, `r` represents a valid curve point and the parity of `r.y` is
    `odd` (`r.y` canonical, magnitude at most 2). -/
theorem ge_set_xo_var_correct (st : State) (hret : st.returned = false) (hx : (st.fe.get "x").mag ≤ 8)
    (hodd : st.ints.get "odd" 0 ≤ 1) :
    ∃ st', FeIR.execL st Gen.group.ge_set_xo_var.body = some st' ∧
      st'.ints.get "ret" 0 ≤ 1 ∧
      (st'.ints.get "ret" 0 = 1 ↔
        IsSquare (((st.fe.get "x").val : ZMod P) * (st.fe.get "x").val * (st.fe.get "x").val + 7)) ∧
      st'.fe.get "r.x" = st.fe.get "x" ∧
      st'.ints.get "r.infinity" 0 = 0 ∧
      (st'.fe.get "r.y").mag ≤ 2 ∧
      (st'.fe.get "r.y").val < P ∧
      Pt.liftX ((st.fe.get "x").val % P) (decide (st.ints.get "odd" 0 = 1)) =
        (if st'.ints.get "ret" 0 = 1 then some (.aff ((st.fe.get "x").val % P) (st'.fe.get "r.y").val) else none) ∧
      (st'.ints.get "ret" 0 = 1 →
        RepA st' "r" (.aff ((st.fe.get "x").val % P) (st'.fe.get "r.y").val) 8 2 ∧
        Pt.valid (.aff ((st.fe.get "x").val % P) (st'.fe.get "r.y").val) = true ∧
        (st'.fe.get "r.y").val % 2 = st.ints.get "odd" 0) := by
  obtain ⟨fe, ints, ret⟩ := st
  simp only at hret hx hodd; subst hret
  obtain ⟨fe1, ints1, h, hrx, hry, hinf, hflag, hkeep⟩ :=
    xquad_fn _ _ _ _ _ _ _ _ _ _ _ _ _ ["odd"] xoChain_ok fe ints hx
  have hodd1 : ints1.get "odd" 0 = ints.get "odd" 0 := hkeep "odd" (List.mem_singleton_self _)
  rw [xo_body_eq, execL_step, execS_scope, h, unscope_some, cont_some]
  generalize hgx : fe.get "x" = xv at hx hrx hry hflag
  obtain ⟨x, mx⟩ := xv
  generalize ints.get "odd" 0 = odd at hodd hodd1
  dsimp only at hx hry hflag ⊢
  have hl := liftX_eq x (decide (odd = 1))
  have hsqf := sqrtFlag_eq_one_iff_isSquare (rhsv x)
  rw [cast_rhsv] at hsqf
  have hfle := sqrtFlag_le (rhsv x)
  have hylt := Fe.sqrtCand_lt_P (rhsv x)
  generalize sqrtFlag (rhsv x) = f at hflag hl hsqf hfle
  generalize Fe.sqrtCand (rhsv x) = y at hry hl hylt
  have hcan := canon_of_lt hylt
  -- the point the model returns, its validity and parity (when the flag is 1)
  have hmodel : f = 1 → ∀ y', y' = (if Fe.isOdd y = decide (odd = 1) then y else Fe.neg y) →
      Pt.valid (.aff (x % P) y') = true ∧ y' % 2 = odd := by
    intro h1 y' hy'
    rw [if_pos h1, ← hy'] at hl
    obtain ⟨hv, -, -, hpar⟩ := liftX_some hl
    exact ⟨hv, (parity_iff hodd).1 hpar⟩
  unfold xoPost
  by_cases hpar : y % 2 = odd
  · have hsel : (if Fe.isOdd y = decide (odd = 1) then y else Fe.neg y) = y := if_pos ((parity_iff hodd).2 hpar)
    rw [hsel] at hl hmodel
    fe_exec [hry, hodd1, hflag, binIdeal, hcan, hpar]
    refine ⟨_, rfl, ?_⟩
    fe_get [hry, hrx, hinf, hflag, hcan]
    refine ⟨hfle, hsqf, trivial, trivial, by omega, hylt, by rw [liftX_mod, hl], fun h1 => ?_⟩
    obtain ⟨hv, hp⟩ := hmodel h1 y rfl
    refine ⟨?_, hv, hp⟩
    unfold RepA'
    exact ⟨hx, by mg, Or.inr ⟨rfl, by dsimp only; rw [Nat.mod_eq_of_lt hylt]⟩⟩
  · have hsel : (if Fe.isOdd y = decide (odd = 1) then y else Fe.neg y) = Fe.neg y :=
      if_neg (fun h => hpar ((parity_iff hodd).1 h))
    rw [hsel] at hl hmodel
    fe_exec [hry, hodd1, hflag, binIdeal, hcan, hpar]
    refine ⟨_, rfl, ?_⟩
    fe_get [hry, hrx, hinf, hflag, hcan]
    refine ⟨hfle, hsqf, trivial, trivial, by omega, Fe.neg_lt_P y, by rw [liftX_mod, hl], fun h1 => ?_⟩
    obtain ⟨hv, hp⟩ := hmodel h1 _ rfl
    refine ⟨?_, hv, hp⟩
    unfold RepA'
    exact ⟨hx, by mg, Or.inr ⟨rfl, by dsimp only; rw [Nat.mod_eq_of_lt (Fe.neg_lt_P y)]⟩⟩

set_option maxRecDepth 100000 in
example : (stX (Pt.Gx + P) 1).returned = false ∧ ((stX (Pt.Gx + P) 1).fe.get "x").mag ≤ 8 ∧
    (stX (Pt.Gx + P) 1).ints.get "odd" 0 ≤ 1 := by decide +kernel
theorem xo_run (v odd : ℕ) (hodd : odd ≤ 1) :
    ∃ st', FeIR.execL (stX v odd) Gen.group.ge_set_xo_var.body = some st' ∧
      (∀ q, Pt.liftX (v % P) (decide (odd = 1)) = some q → st'.ints.get "ret" 0 = 1 ∧ RepA st' "r" q 8 2) ∧
      (Pt.liftX (v % P) (decide (odd = 1)) = none → st'.ints.get "ret" 0 = 0) := by
  obtain ⟨st', h, hle, -, -, -, -, -, hl, hrep⟩ := ge_set_xo_var_correct (stX v odd) rfl (show 8 ≤ 8 by decide) hodd
  refine ⟨st', h, ?_⟩
  change Pt.liftX (v % P) (decide (odd = 1)) = _ at hl
  rw [hl]
  by_cases hr : st'.ints.get "ret" 0 = 1
  · rw [if_pos hr]
    exact ⟨fun q hq => ⟨hr, Option.some.inj hq ▸ (hrep hr).1⟩, fun h0 => nomatch h0⟩
  · rw [if_neg hr]
    exact ⟨fun q hq => (nomatch hq), fun _ => by omega⟩

theorem xo_run_some {v odd : ℕ} {q : Pt} (hodd : odd ≤ 1) (hl : Pt.liftX (v % P) (decide (odd = 1)) = some q) :
    (FeIR.execL (stX v odd) Gen.group.ge_set_xo_var.body).map
      (fun st' => (st'.ints.get "ret" 0, decide (RepA st' "r" q 8 2))) = some (1, true) := by
  obtain ⟨st', h, hs, -⟩ := xo_run v odd hodd
  rw [h, Option.map_some, (hs q hl).1, decide_eq_true (hs q hl).2]

set_option maxRecDepth 100000 in
/-- `x = Gx + P`, `odd = 0`: `ret = 1` and `r` represents `G` (`Gy` is even) -/
example : (FeIR.execL (stX (Pt.Gx + P) 0) Gen.group.ge_set_xo_var.body).map
    (fun st' => (st'.ints.get "ret" 0, decide (RepA st' "r" Pt.G 8 2))) = some (1, true) :=
  xo_run_some (by decide) (by decide +kernel)
set_option maxRecDepth 100000 in
example : (FeIR.execL (stX (Pt.Gx + P) 1) Gen.group.ge_set_xo_var.body).map
    (fun st' => (st'.ints.get "ret" 0, decide (RepA st' "r" (Pt.neg Pt.G) 8 2))) = some (1, true) :=
  xo_run_some (by decide) (by decide +kernel)
set_option maxRecDepth 100000 in
example : (FeIR.execL (stX 5 1) Gen.group.ge_set_xo_var.body).map (fun st' => st'.ints.get "ret" 0) = some 0 ∧
    Pt.liftX 5 true = none := by
  obtain ⟨st', h, -, hn⟩ := xo_run 5 1 (by decide)
  exact ⟨by rw [h, Option.map_some, hn (by decide +kernel)], by decide +kernel⟩

end SecpZkp.C05sqrt
