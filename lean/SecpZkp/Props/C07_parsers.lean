/-
  C07 (part "parsers"): untrusted bytes handed to the parsers of the surjection, whitelist,
  half-aggregation, Bulletproofs++ generator-list, generator / commitment, MuSig and ECDSA-adaptor modules.

  (a) TERMINATION is automatic: every model function below is a total Lean function (structural
      recursion, no `partial`, no fuel in these parsers), so "the call terminates for every byte string
      and every declared length" holds by construction and needs no theorem.
  (b) RETURN VALUES: every entry point returns only 0 or 1 (`*_ret01`), or `none`/`some` for the
      internal helpers that the C code writes as `int`-returning functions with an out-parameter.
  (c) NO OUT-OF-BOUNDS READ: for the variable-length parsers success implies that the number of bytes
      consumed is equal to the declared length, and an input shorter than the minimal length is rejected.
      (The model reads through `take` / `drop` / `getD`, which are total; these lemmas are what makes the
      totalisation harmless: whenever the parser succeeds no default value was used.)
      The fixed-size parsers (33-byte generator / commitment, 66-byte nonces, 32-byte partial signature,
      162-byte adaptor signature) take a pointer to an array of that size in C and have no length argument.
  (d) CLOSURE: a successful parse yields an object satisfying a decidable well-formedness predicate, under
      which every later read of the object is in bounds / every loaded point is on the curve / every scalar
      is reduced - so the object can be passed on to the functions that take its type.

  The theorems about the encodings themselves are in `C11_codec` (surjection), `C16_codec` (whitelist),
  `C17_lengths` (half-aggregation) and `C19_codec` (generator lists); this file imports them, restates
  the C07-relevant consequences and adds the generator / commitment / MuSig / adaptor codecs.
-/
import SecpZkp.Props.C11_codec
import SecpZkp.Props.C16_codec
import SecpZkp.Props.C17_lengths
import SecpZkp.Props.C19_codec
import SecpZkp.Props.C19_roundtrip

namespace SecpZkp
namespace C07

open Parsers

/-- (b) `secp256k1_surjectionproof_parse` returns 0 or 1; on 0 the object is untouched. -/
theorem surj_parse_ret01 (bs : Bytes) (prior : Surjection.Proof) :
    ((Surjection.parse bs prior).1 = 0 ∧ (Surjection.parse bs prior).2 = prior) ∨
    (Surjection.parse bs prior).1 = 1 := by
  rw [C11.surj_parse_eq]
  by_cases h : C11.Canonical bs <;> simp [h]

/-- (c) The three reads of the surjection parser, count bytes (2), bitmap (`bitmapLen n`) and signature block
(`32 * (1 + n_used)`), together are exactly the declared length. -/
theorem surj_parse_in_bounds (bs : Bytes) (prior : Surjection.Proof) (h : (Surjection.parse bs prior).1 = 1) :
    2 ≤ bs.length ∧
    2 + Surjection.bitmapLen (le16 bs) ≤ bs.length ∧
    2 + Surjection.bitmapLen (le16 bs)
      + 32 * (1 + Surjection.countBitsSet (bs.drop 2) (Surjection.bitmapLen (le16 bs))) = bs.length := by
  obtain ⟨h1, _, h3, _, h5⟩ := (C11.surj_parse_iff bs prior).1 h
  exact ⟨h1, h3, h5.symm⟩

/-- (c) Inputs shorter than the minimal encoding (2 count bytes + 32-byte `e0`) are rejected. -/
theorem surj_parse_short (bs : Bytes) (prior : Surjection.Proof) (h : bs.length < 34) :
    Surjection.parse bs prior = (0, prior) := by
  rcases surj_parse_ret01 bs prior with h0 | h1
  · exact Prod.ext h0.1 h0.2
  · have := surj_parse_in_bounds bs prior h1; omega

example : Surjection.parse (List.replicate 33 0) = (0, Surjection.Proof.zero) :=
  surj_parse_short _ _ (by decide)

/-- (d) `hu`, `hd`: the object parsed into has the C array sizes.  What well-formedness buys is
`surj_valid_reads_in_bounds`. -/
theorem surj_closure (bs : Bytes) (prior : Surjection.Proof)
    (hu : prior.used.length = Surjection.USED_BYTES) (hd : prior.data.length = Surjection.DATA_BYTES)
    (h : (Surjection.parse bs prior).1 = 1) :
    C11.ProofValid (Surjection.parse bs prior).2 := C11.surj_parse_valid bs prior hu hd h

/-- (d) The reads of `verify` / `generate` from a well-formed object: scalar slots `data[32 + 32 i .. +32]`, bitmap bytes
`used_inputs[i / 8]`; `n_used ≤ 256` is the size of their stack arrays. -/
theorem surj_valid_reads_in_bounds (p : Surjection.Proof) (h : C11.ProofValid p) :
    (∀ i, i < Surjection.nUsedInputs p → 32 + 32 * i + 32 ≤ p.data.length) ∧
    (∀ i, i < p.nInputs → i / 8 < p.used.length) ∧
    Surjection.nUsedInputs p ≤ Surjection.MAX_USED_INPUTS := by
  have hb := h.nUsed_le
  obtain ⟨h1, h2, h3, _⟩ := h
  have hM : Surjection.MAX_N_INPUTS = 256 := rfl
  have hM' : Surjection.MAX_USED_INPUTS = 256 := rfl
  have hU : Surjection.USED_BYTES = 32 := rfl
  refine ⟨fun i hi => by omega, fun i hi => by omega, by omega⟩

theorem surj_serialize_ret01 (p : Surjection.Proof) (outlen : Nat) :
    (Surjection.serialize p outlen).1 = 0 ∨ (Surjection.serialize p outlen).1 = 1 := by
  unfold Surjection.serialize
  simp only []
  split <;> simp

/-- (b) `secp256k1_whitelist_signature_parse` returns 0 or 1. -/
theorem wl_parse_ret01 (bs : Bytes) : (Whitelist.parse bs).1 = 0 ∨ (Whitelist.parse bs).1 = 1 := by
  cases bs with
  | nil => simp [Whitelist.parse]
  | cons b rest => simp only [Whitelist.parse]; split <;> simp

/-- (c) The count byte and the `32 * (n + 1)` data bytes are exactly the input.  (Note `C16.wl_parse_writes_nkeys`:
`n_keys` IS written before the length check - a write into the output object, not an out-of-bounds access.) -/
theorem wl_parse_in_bounds (bs : Bytes) (h : (Whitelist.parse bs).1 = 1) :
    1 ≤ bs.length ∧ 1 + 32 * ((bs.headD 0).toNat + 1) = bs.length ∧ 33 ≤ bs.length := by
  obtain ⟨h1, _, h3⟩ := (C16.wl_parse_iff bs).1 h
  cases bs with
  | nil => exact absurd rfl h1
  | cons b t => simp only [List.length_cons] at h3 ⊢; simp only [List.headD_cons] at h3 ⊢; omega

/-- (c) Inputs shorter than the minimal encoding (count byte + `e0`) are rejected. -/
theorem wl_parse_short (bs : Bytes) (h : bs.length < 33) : (Whitelist.parse bs).1 = 0 := by
  rcases wl_parse_ret01 bs with h0 | h1
  · exact h0
  · have := wl_parse_in_bounds bs h1; omega

def WlSigValid (sig : Whitelist.Sig) : Prop :=
  sig.nKeys ≤ Whitelist.maxKeys ∧ sig.data.length = 32 * (sig.nKeys + 1)

instance (sig : Whitelist.Sig) : Decidable (WlSigValid sig) := by unfold WlSigValid; infer_instance

/-- (d) What well-formedness buys is `wl_valid_reads_in_bounds`. -/
theorem wl_closure (bs : Bytes) (sig : Whitelist.Sig) (h : (Whitelist.parse bs).2.2 = some sig) :
    WlSigValid sig := by
  have h1 : (Whitelist.parse bs).1 = 1 := by
    rcases wl_parse_ret01 bs with h0 | h1
    · rw [(C16.wl_parse_result bs).2 h0] at h; simp at h
    · exact h1
  obtain ⟨b, rest, rfl, hrest, heq⟩ := (C16.wl_parse_result bs).1 h1
  rw [heq] at h
  have : sig = ⟨b.toNat, rest⟩ := by simpa using h.symm
  subst this
  have := UInt8.toNat_lt b
  exact ⟨by simp only [Whitelist.maxKeys]; omega, hrest⟩

/-- (d) `e0` and the `s_i` that verification reads are full 32-byte strings inside `data`. -/
theorem wl_valid_reads_in_bounds (sig : Whitelist.Sig) (h : WlSigValid sig) :
    sig.e0.length = 32 ∧ ∀ i, i < sig.nKeys → (sig.sBytes i).length = 32 := by
  obtain ⟨_, h2⟩ := h
  refine ⟨by simp only [Whitelist.Sig.e0, List.length_take]; omega, fun i hi => ?_⟩
  simp only [Whitelist.Sig.sBytes, List.length_take, List.length_drop]
  omega

example : WlSigValid ⟨1, List.replicate 64 7⟩ := by decide

/-- (b) `secp256k1_whitelist_verify` returns 0 or 1 -/
theorem wl_verify_ret01 (sig : Whitelist.Sig) (online offline : List Pt) (sub : Pt) :
    Whitelist.verify sig online offline sub = 0 ∨ Whitelist.verify sig online offline sub = 1 := by
  simp only [Whitelist.verify]
  split
  · simp
  · split
    · simp
    · split <;> simp

/-- (b)+(c) `secp256k1_schnorrsig_aggverify`: after the length check all `n + 1` chunks it reads are inside the
aggregate. -/
theorem halfagg_summary (pubkeys : List Pt) (msgs : List Bytes) (agg : Bytes) :
    ((Halfagg.aggverify pubkeys msgs (some agg)).ret = 0 ∨ (Halfagg.aggverify pubkeys msgs (some agg)).ret = 1) ∧
    (agg.length ≠ 32 * (pubkeys.length + 1) → (Halfagg.aggverify pubkeys msgs (some agg)).ret = 0) ∧
    (agg.length = 32 * (pubkeys.length + 1) →
      ∀ i, i ≤ pubkeys.length → 32 * i + 32 ≤ agg.length ∧ (Halfagg.chunk32 agg i).length = 32) :=
  ⟨C17.aggverify_ret01 _ _ _, fun h => (C17.halfagg_len _ _ _ h).1,
   fun h i hi => C17.halfagg_chunks_in_bounds agg _ i h hi⟩

/-- (c) for incremental aggregation: on success the buffer holds the `32 (n + 1)` bytes that are read
(old `r_i` and `s`) and written. -/
theorem halfagg_inc_in_bounds (aggsig : Bytes) (pks : List Pt) (msgs sigs : List Bytes) (nBefore : Nat)
    (hb : nBefore < 2 ^ 64) (hn : sigs.length < 2 ^ 64)
    (h : (Halfagg.incAggregate aggsig pks msgs sigs nBefore).ret = 1) :
    32 * (nBefore + sigs.length + 1) ≤ aggsig.length :=
  (C17.incAggregate_len aggsig pks msgs sigs nBefore hb hn h).1

/-- (b)+(c)+(d) `secp256k1_bppp_generators_parse`: `out = none` is the NULL returned with 0. -/
theorem gens_parse_summary (d : Bytes) :
    (((Bppp.gensParse (some d)).ret = 0 ∧ (Bppp.gensParse (some d)).out = none) ∨
      ((Bppp.gensParse (some d)).ret = 1 ∧ (Bppp.gensParse (some d)).out.isSome)) ∧
    (∀ l, Bppp.gensParse (some d) = ⟨1, some l, 0⟩ →
      d.length = 33 * l.length ∧ (∀ i, i < l.length → 33 * i + 33 ≤ d.length) ∧ ∀ g ∈ l, FinValid g) := by
  refine ⟨C19.gens_parse_ret01 (some d), fun l h => ?_⟩
  obtain ⟨h1, _, h3⟩ := C19.gens_parse_ok d l h
  refine ⟨h1, fun i hi => (h3 i hi).1, fun g hg => ?_⟩
  obtain ⟨i, hi, hgi⟩ := List.getElem_of_mem hg
  exact (h3 i hi).2.2.2 g (by rw [List.getElem?_eq_getElem hi, hgi])

/-- (b) `generators_serialize` returns 0 or 1 -/
theorem gens_serialize_ret01 (gs : Option (List Pt)) (b : Option Bytes) (n : Nat) :
    (Bppp.gensSerialize gs b n).ret = 0 ∨ (Bppp.gensSerialize gs b n).ret = 1 := by
  unfold Bppp.gensSerialize
  split
  · simp
  · split
    · simp
    · split <;> simp

/-- `secp256k1_ge_parse_ext`; `secp256k1_musig_ge_parse_ext` of the MuSig module has the same body, and the model uses
this one function for both. -/
theorem geParseExt_some {b : Bytes} {q : Pt} (h : Bppp.geParseExt b = some q) : q = .inf ∨ FinValid q := by
  unfold Bppp.geParseExt at h
  split at h
  · exact Or.inl (Option.some.inj h).symm
  · exact Or.inr (pubkeyParse_valid _ _ h).1

theorem valid_of_inf_or_finValid {q : Pt} (h : q = .inf ∨ FinValid q) : q.valid = true :=
  h.elim (fun e => e ▸ rfl) (fun v => v.1)

/-- (d) `secp256k1_bppp_parse_one_of_points` -/
theorem points_parse_valid (in65 : Bytes) (idx : Nat) (p : Pt) (h : Bppp.parseOneOfPoints in65 idx = some p) :
    p.valid = true := by
  unfold Bppp.parseOneOfPoints at h
  simp only [] at h
  split at h
  · cases h
  · split at h
    · exact valid_of_inf_or_finValid (geParseExt_some h)
    · by_cases hs : in65.headD 0 &&& (if idx = 0 then 2 else 1) ≠ 0
      · rw [if_pos hs] at h; cases h
      · rw [if_neg hs] at h; exact valid_of_inf_or_finValid (geParseExt_some h)

/-- (d) `secp256k1_generator_parse` -/
theorem generator_closure (c : Bytes) (g : Pt) (h : Generator.parse c = some g) : FinValid g :=
  (C19.generator_parse_valid c g h).1

theorem generator_parse_nil : Generator.parse [] = none := rfl

/-- (d) for commitments: what `secp256k1_pedersen_commitment_load` gives on a parsed commitment object. -/
theorem commit_closure (c o : Bytes) (h : Generator.commitParse c = some o) :
    FinValid (Generator.commitLoad o) ∧ (Generator.commitLoad o).xOf = Bytes.toNat c.tail := by
  obtain ⟨hne, ⟨_, hx, hs⟩, rfl⟩ := (commitParse_iff c o).1 h
  cases o with
  | nil => exact absurd rfl hne
  | cons b0 rest =>
    rw [commitLoad_cons b0 rest hx hs]
    have hv := finValid_aff _ _ (onCurve_sqrtCand hx hs)
    split
    · exact ⟨finValid_neg _ hv, rfl⟩
    · exact ⟨hv, rfl⟩

example : Generator.commitParse (Generator.commitSave Generator.H) = some (Generator.commitSave Generator.H) := by
  decide +kernel
example : Generator.commitParse (10 :: (Generator.commitSave Generator.H).tail) = none := by decide +kernel
example : Generator.commitLoad (Generator.commitSave Generator.H) = Generator.H := by decide +kernel

/-- (c)+(d) `secp256k1_musig_pubnonce_parse`; the last conjunct is `secp256k1_musig_pubnonce_load` of the object.
The length 98 is an artifact of the model: the C function parses `&in66[33]` with an explicit size 33, the model passes
`in66.drop 33`, so on a 98-byte list whose tail is a 65-byte uncompressed key the MODEL succeeds too.  The C function
cannot be called with anything but a 66-byte array, for which both points are compressed. -/
theorem pubnonce_closure (in66 : Bytes) (pn : Musig.Pubnonce) (h : Musig.pubnonceParse in66 = some pn) :
    (in66.length = 66 ∨ in66.length = 98) ∧ pn.magic = Musig.pubnonceMagic ∧ FinValid pn.r1 ∧ FinValid pn.r2 ∧
    Musig.pubnonceLoad pn = some (pn.r1, pn.r2) := by
  unfold Musig.pubnonceParse at h
  split at h
  · cases h
  · rename_i r1 h1
    split at h
    · cases h
    · rename_i r2 h2
      cases h
      obtain ⟨v1, l1⟩ := pubkeyParse_valid _ _ h1
      obtain ⟨v2, l2⟩ := pubkeyParse_valid _ _ h2
      rw [List.length_take] at l1
      rw [List.length_drop] at l2
      exact ⟨by omega, rfl, v1, v2, if_pos rfl⟩

/-- `h'`: the model artifact of `pubnonce_closure`. -/
theorem pubnonce_parse_short (bs : Bytes) (h : bs.length ≠ 66) (h' : bs.length ≠ 98) :
    Musig.pubnonceParse bs = none := by
  cases hp : Musig.pubnonceParse bs with
  | none => rfl
  | some pn => have := (pubnonce_closure bs pn hp).1; omega

/-- that artifact -/
example : (Musig.pubnonceParse (Codec.serialize33 Pt.G ++ Codec.serialize65 Pt.G)).isSome := by
  decide +kernel

example : (Musig.pubnonceParse (Codec.serialize33 Pt.G ++ Codec.serialize33 Pt.G)).isSome := by
  decide +kernel

/-- (d) `secp256k1_musig_aggnonce_parse`: infinity is admitted here (encoded as 33 zero bytes); the last conjunct is
`secp256k1_musig_aggnonce_load` of the object. -/
theorem aggnonce_closure (in66 : Bytes) (an : Musig.Aggnonce) (h : Musig.aggnonceParse in66 = some an) :
    an.magic = Musig.aggnonceMagic ∧ (an.r1 = .inf ∨ FinValid an.r1) ∧ (an.r2 = .inf ∨ FinValid an.r2) ∧
    an.r1.valid = true ∧ an.r2.valid = true ∧ Musig.aggnonceLoad an = some (an.r1, an.r2) := by
  unfold Musig.aggnonceParse at h
  split at h
  · cases h
  · rename_i r1 h1
    split at h
    · cases h
    · rename_i r2 h2
      cases h
      have g1 := geParseExt_some (b := in66.take 33) h1
      have g2 := geParseExt_some (b := in66.drop 33) h2
      exact ⟨rfl, g1, g2, valid_of_inf_or_finValid g1, valid_of_inf_or_finValid g2, if_pos rfl⟩

example : Musig.aggnonceParse (Bytes.zeros 33 ++ Codec.serialize33 Pt.G)
    = some (Musig.aggnonceSave .inf Pt.G) := by decide +kernel

/-- (b)+(d) `secp256k1_musig_partial_sig_parse`; `partialSigLoad` is `secp256k1_musig_partial_sig_load`; on 0 the object
is all zero. -/
theorem partialSig_parse_spec (in32 : Bytes) :
    ((Musig.partialSigParse in32).1 = 0 ∨ (Musig.partialSigParse in32).1 = 1) ∧
    ((Musig.partialSigParse in32).1 = 1 ↔ Bytes.toNat in32 < N) ∧
    ((Musig.partialSigParse in32).1 = 1 →
        (Musig.partialSigParse in32).2.magic = Musig.partialSigMagic ∧
        (Musig.partialSigParse in32).2.s = Bytes.toNat in32 ∧ (Musig.partialSigParse in32).2.s < N ∧
        Musig.partialSigLoad (Musig.partialSigParse in32).2 = some (Bytes.toNat in32)) ∧
    ((Musig.partialSigParse in32).1 = 0 → (Musig.partialSigParse in32).2 = Musig.PartialSig.zero) := by
  unfold Musig.partialSigParse
  by_cases hlt : Bytes.toNat in32 < N
  · rw [Sc.setB32_of_lt hlt]
    simp [Musig.partialSigSave, Musig.partialSigLoad, Nat.mod_eq_of_lt hlt, hlt]
  · simp [Sc.setB32_eq, hlt, Nat.not_lt.1 hlt]

example : (Musig.partialSigParse (Bytes.be32 (N - 1))).1 = 1 := by decide +kernel
example : (Musig.partialSigParse (Bytes.be32 N)).1 = 0 := by decide +kernel

theorem partialSig_serialize_parse (in32 : Bytes) (hlen : in32.length = 32)
    (h : (Musig.partialSigParse in32).1 = 1) :
    Musig.partialSigSerialize (some (Musig.partialSigParse in32).2) = ⟨1, some in32, 0⟩ := by
  obtain ⟨_, _, hs, _⟩ := partialSig_parse_spec in32
  obtain ⟨hm, hv, _, _⟩ := hs h
  unfold Musig.partialSigSerialize
  simp only []
  rw [if_pos hm, hv]
  rw [Bytes.be32_toNat in32 hlen]

/-- (b) the MuSig serializers return 0 or 1 -/
theorem musig_serialize_ret01 (p : Option Musig.Pubnonce) (a : Option Musig.Aggnonce) (s : Option Musig.PartialSig) :
    ((Musig.pubnonceSerialize p).ret = 0 ∨ (Musig.pubnonceSerialize p).ret = 1) ∧
    ((Musig.aggnonceSerialize a).ret = 0 ∨ (Musig.aggnonceSerialize a).ret = 1) ∧
    ((Musig.partialSigSerialize s).ret = 0 ∨ (Musig.partialSigSerialize s).ret = 1) := by
  refine ⟨?_, ?_, ?_⟩
  · unfold Musig.pubnonceSerialize; split
    · simp
    · split <;> simp
  · unfold Musig.aggnonceSerialize; split
    · simp
    · split <;> simp
  · unfold Musig.partialSigSerialize; split
    · simp
    · split <;> simp

def AdaptorPartsValid (full : Bool) (p : Adaptor.Parts) : Prop :=
  0 < p.sigr ∧ p.sigr < N ∧ 0 < p.sp ∧ p.sp < N ∧ p.e < N ∧ p.s < N ∧
  (full = true → FinValid p.r ∧ FinValid p.rp)

/-- (c)+(d) `secp256k1_ecdsa_adaptor_sig_deserialize`; `full`: all parts are requested, then the two 33-byte point
encodings were present, hence `66 ≤ a.length`. -/
theorem adaptor_closure (full : Bool) (a : Bytes) (p : Adaptor.Parts)
    (h : Adaptor.sigDeserialize full a = some p) :
    AdaptorPartsValid full p ∧ (full = true → 66 ≤ a.length) := by
  have hN := N_pos
  unfold Adaptor.sigDeserialize at h
  simp only [] at h
  split at h
  · cases h
  rename_i r hr
  split at h
  · cases h
  rename_i hsigr
  split at h
  · cases h
  rename_i rp hrp
  split at h
  · cases h
  rename_i hspok
  obtain ⟨hsp0, hspN, _⟩ := Sc.setB32Seckey_of_true (b := (a.drop 66).take 32) (Prod.ext rfl (by simpa using hspok))
  have hsr : 0 < Bytes.toNat ((a.drop 1).take 32) % N := Nat.pos_of_ne_zero hsigr
  cases full
  · cases h
    exact ⟨⟨hsr, Nat.mod_lt _ hN, hsp0, hspN, hN, hN, nofun⟩, nofun⟩
  · obtain ⟨v1, l1⟩ := pubkeyParse_valid _ _ hr
    obtain ⟨v2, l2⟩ := pubkeyParse_valid _ _ hrp
    rw [List.length_take] at l1
    rw [List.length_take, List.length_drop] at l2
    simp only [if_true] at h
    split at h
    · cases h
    · cases h
      exact ⟨⟨hsr, Nat.mod_lt _ hN, hsp0, hspN, Nat.mod_lt _ hN, Sc.setB32_fst_lt _, fun _ => ⟨v1, v2⟩⟩,
        fun _ => by omega⟩

/-- `h` of `adaptor_closure` is satisfiable (R = R' = G, all scalars 1); with `s' = 0` or `s = N` deserialization
fails. -/
example : (Adaptor.sigDeserialize true (Adaptor.sigSerialize Pt.G Pt.G 1 1 1)).isSome := by decide +kernel
example : Adaptor.sigDeserialize true (Adaptor.sigSerialize Pt.G Pt.G 0 1 1) = none := by decide +kernel
example : Adaptor.sigDeserialize true
    (Codec.serialize33 Pt.G ++ Codec.serialize33 Pt.G ++ Bytes.be32 1 ++ Bytes.be32 1 ++ Bytes.be32 N) = none := by
  decide +kernel

end C07
end SecpZkp
