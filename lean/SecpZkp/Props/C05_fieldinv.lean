import SecpZkp.Proofs.FieldInv10
import SecpZkp.Props.C05_fieldlin
import SecpZkp.Props.C05_field10x26
/-
  C05 (field part, representation invariant of the 10×26 layout): the wrap-around of the 10×26
  `secp256k1_fe_normalize` / `_normalize_weak` on some magnitude-32 inputs (`C05lin.fe_normalize_10x26_mag32_counterexample`,
  reproduced on the C library with `secp256k1_fe_get_bounds(&a, 32); secp256k1_fe_normalize(&a)`) is NOT reachable through
  the arithmetic producers of the field API: every translated producer maintains an invariant that is stronger than what
  `secp256k1_fe_impl_verify` checks and that excludes the overflow.

  Object of the theorems: the generated IR `Gen.field10x26.*`, run with C's wrap-around semantics
  (`runC f env = (execL env f.body).env`).  `Tight10`, `Inv10`: `Proofs/FieldInv10.lean`; `NormPre10`, `NoOvf10`:
  `Proofs/FieldLinear.lean`.  `Tight10 · 32 → NormPre10 → NoOvf10`,  `Tight10 · m → Inv10 · m`,  `Inv10 · 32 → NoOvf10`.

  (a) `normalize`, `normalize_weak` are exact on every `Tight10 · 32` input and return `Tight10 · 1`.
  (b) `Tight10` is preserved by `add`, `mul_int`, established by `negate`, `normalize`, `normalize_weak`, `mul_inner`,
      `sqr_inner`, but NOT preserved by `half` (`fe_half_10x26_not_tight`), and the slack matters: the state reached by
      `negate(1, 2); half; mul_int 16` (all calls within contract) is outside `Tight10 · 32` AND outside `NormPre10`
      (`reach_needs_inv10`).  So the interval argument alone does not close.  (Not formalised: iterating `half` at
      magnitude 1 the excess converges to 976 / 64 per unit of magnitude.)
  (b') The JOINT invariant `Inv10` closes the gap: it is implied by `Tight10` (so the same producers establish it),
      preserved by `add`, `mul_int` AND `half`, and `Inv10 · 32 → NoOvf10`, under which `normalize` / `normalize_weak` are
      exact (`C05lin.fe_normalize_10x26_exact`, `fe_normalize_weak_10x26_exact`; they subsume the `…_partial` theorems of
      `C05_fieldlin`).  Hence,
      starting from outputs of `normalize`/`normalize_weak`/`mul`/`sqr`/`negate` and applying `add`, `mul_int`, `negate`,
      `half` within their documented magnitude contracts, the overflow cannot occur.
      (Hand computation, not formalised: the margin is thin; `32 ×` the limit of the magnitude-1 half-chain comes within
      about 32 of `2^32` in `t0` and within a few units in `t1`; the joint bounds of `Inv10` are tight for `half` at odd `m`.)
  (c) Nothing of this is needed for the 5×52 layout: `C05lin.fe_normalize_5x52` / `fe_normalize_weak_5x52` are exact on the
      full `secp256k1_fe_impl_verify` domain (magnitude ≤ 32).

  Not translated, hence not covered here: `secp256k1_fe_add_int` (adds `a ≤ 0x7FFF` to limb 0, magnitude + 1: within
  `Tight10`), `secp256k1_fe_cmov` (selects one of two elements), `secp256k1_fe_set_b32_*` / `from_storage` / `from_signed30`
  (produce limbs `< 2^26`, top `< 2^22`); `secp256k1_fe_get_bounds` (test helper) deliberately produces the verify bound; the
  input of the counterexample is of that kind.
-/

namespace SecpZkp
namespace C05inv
open MiniC MiniC.Bounds FieldKernel FieldLinear C05lin

/-! ## (a) `Tight10 · 32` inputs -/

/-- `64 (2^26-977) = 2^32 - 62528 ≤ 2^32 - 61552`, `64 (2^26-65) = 2^32 - 4160 ≤ 2^32 - 4096` -/
theorem tight10_normPre10 (env : Env) (a : String) (h : Tight10 env a 32) : NormPre10 env a :=
  normPre10_of_tight10 h

theorem fe_normalize_10x26_tight (env : Env) (h : Tight10 env "r.n" 32) :
    Red10 (runC Gen.field10x26.fe_normalize env) "r.n" ∧
    val10At (runC Gen.field10x26.fe_normalize env) "r.n" < P ∧
    val10At (runC Gen.field10x26.fe_normalize env) "r.n" = val10At env "r.n" % P ∧
    Tight10 (runC Gen.field10x26.fe_normalize env) "r.n" 1 :=
  let t := fe_normalize_10x26_partial env (normPre10_of_tight10 h)
  ⟨t.1, t.2.1, t.2.2, tight10_of_red10 t.1⟩

theorem fe_normalize_weak_10x26_exact (env : Env) (h : NoOvf10 env "r.n") :
    val10At (runC Gen.field10x26.fe_normalize_weak env) "r.n" % P = val10At env "r.n" % P ∧
    Tight10 (runC Gen.field10x26.fe_normalize_weak env) "r.n" 1 := by
  rw [runC_eq_runW _ _ (by decide)]
  obtain ⟨k, kb⟩ := fe_normalize_weak_10x26_exact_key env h
  exact ⟨k, tight10_leL.mpr (kb.trans (by simp [LeL, weakB, pL10, List.replicate]))⟩

theorem fe_normalize_weak_10x26_tight (env : Env) (h : Tight10 env "r.n" 32) :
    val10At (runC Gen.field10x26.fe_normalize_weak env) "r.n" % P = val10At env "r.n" % P ∧
    Tight10 (runC Gen.field10x26.fe_normalize_weak env) "r.n" 1 :=
  fe_normalize_weak_10x26_exact env (noOvf10_of_normPre10 (normPre10_of_tight10 h))

def tightTop10 (a : String) (m : Nat) : Env :=
  [((a, 0), 2 * m * (2 ^ 26 - 977)), ((a, 1), 2 * m * (2 ^ 26 - 65)), ((a, 2), 2 * m * (2 ^ 26 - 1)),
   ((a, 3), 2 * m * (2 ^ 26 - 1)), ((a, 4), 2 * m * (2 ^ 26 - 1)), ((a, 5), 2 * m * (2 ^ 26 - 1)),
   ((a, 6), 2 * m * (2 ^ 26 - 1)), ((a, 7), 2 * m * (2 ^ 26 - 1)), ((a, 8), 2 * m * (2 ^ 26 - 1)),
   ((a, 9), 2 * m * (2 ^ 22 - 1))]

/-- non-vacuity: the top of `Tight10 · 32` (the limbs of `64 p`): it is NOT of magnitude 31, it normalizes to 0 -/
example : Tight10 (tightTop10 "r.n" 32) "r.n" 32 ∧ ¬ Mag10 (tightTop10 "r.n" 32) "r.n" 31 ∧
    val10At (runC Gen.field10x26.fe_normalize (tightTop10 "r.n" 32)) "r.n" = 0 :=
  ⟨by decide +kernel, by decide +kernel,
   (by rw [runC_eq_runW _ _ (by decide)]; decide +kernel)⟩

example : Tight10 (runC Gen.field10x26.fe_normalize_weak (tightTop10 "r.n" 32)) "r.n" 1 :=
  (fe_normalize_weak_10x26_tight _ (by decide +kernel)).2

/-! ## (b) closure of `Tight10` -/

theorem fe_add_10x26_tight (env : Env) (mr ma : Nat) (hm : mr + ma ≤ 32)
    (hr : Tight10 env "r.n" mr) (ha : Tight10 env "a.n" ma) :
    Tight10 (runC Gen.field10x26.fe_add env) "r.n" (mr + ma) := by
  rw [runC_eq_runW _ _ (by decide)]
  have E := fe_add_10x26_key env mr ma hm (mag10_of_tight10 hr) (mag10_of_tight10 ha)
  have kb := (add_spec (w := 26) (tight10_leL.mp hr) (tight10_leL.mp ha) rfl).2
  rw [← E, map_mul_add, ← Nat.mul_add] at kb
  exact tight10_leL.mpr kb

example : Tight10 (runC Gen.field10x26.fe_add (tightTop10 "r.n" 3 ++ tightTop10 "a.n" 29)) "r.n" 32 :=
  fe_add_10x26_tight _ 3 29 (by decide) (by decide +kernel) (by decide +kernel)

theorem fe_mul_int_10x26_tight (env : Env) (m : Nat) (ha : env.get "a" 0 ≤ 32) (hm : m * env.get "a" 0 ≤ 32)
    (hr : Tight10 env "r.n" m) :
    Tight10 (runC Gen.field10x26.fe_mul_int env) "r.n" (m * env.get "a" 0) := by
  rw [runC_eq_runW _ _ (by decide)]
  have E := fe_mul_int_10x26_key env m ha hm (mag10_of_tight10 hr)
  have kb := (scale_spec (w := 26) (a := env.get "a" 0) (tight10_leL.mp hr)).2
  rw [← E, map_mul_mul, Nat.mul_assoc] at kb
  exact tight10_leL.mpr kb

example : Tight10 (runC Gen.field10x26.fe_mul_int ((("a", 0), 8) :: tightTop10 "r.n" 4)) "r.n" 32 :=
  fe_mul_int_10x26_tight _ 4 (by decide +kernel) (by decide +kernel) (by decide +kernel)

theorem fe_negate_10x26_tight (env : Env) (hm : env.get "m" 0 ≤ 31) (ha : Mag10 env "a.n" (env.get "m" 0)) :
    Tight10 (runC Gen.field10x26.fe_negate env) "r.n" (env.get "m" 0 + 1) := by
  rw [runC_eq_runW _ _ (by decide)]
  obtain ⟨E, hle⟩ := fe_negate_10x26_key env hm ha
  exact tight10_leL.mpr (E ▸ (zipWith_sub (w := 26) (f := (· - ·)) (fun _ _ _ hs => Nat.sub_add_cancel hs) hle).2)

example : Tight10 (runC Gen.field10x26.fe_negate ((("m", 0), 31) :: top10 "a.n" 31)) "r.n" 32 :=
  fe_negate_10x26_tight _ (by decide +kernel) (by decide +kernel)

/-- the odd element at the top of `Tight10 · 1`: `[2 p_0 - 1, 2 p_1, 2 (2^26-1), …, 2 (2^22-1)]` -/
def halfCex : Env := (("r.n", 0), 2 * (2 ^ 26 - 977) - 1) :: tightTop10 "r.n" 1

/-- `secp256k1_fe_half` documents output magnitude `⌊1/2⌋ + 1 = 1` here; the output has magnitude 1 in the sense of
    `secp256k1_fe_impl_verify`, but is not `Tight10 · 1` -/
theorem fe_half_10x26_not_tight :
    Tight10 halfCex "r.n" 1 ∧ ¬ Tight10 (runC Gen.field10x26.fe_half halfCex) "r.n" 1 ∧
    (runC Gen.field10x26.fe_half halfCex).get "r.n" 0 = 2 * (2 ^ 26 - 977) + 488 ∧
    (runC Gen.field10x26.fe_half halfCex).get "r.n" 1 = 2 * (2 ^ 26 - 65) + 32 ∧
    Inv10 (runC Gen.field10x26.fe_half halfCex) "r.n" 1 :=
  ⟨by decide +kernel,
   (by rw [runC_eq_runW _ _ (by decide)]; decide +kernel),
   (by rw [runC_eq_runW _ _ (by decide)]; decide +kernel),
   (by rw [runC_eq_runW _ _ (by decide)]; decide +kernel),
   (by rw [runC_eq_runW _ _ (by decide)]; decide +kernel)⟩

/-- what `fe_half` keeps of `Tight10`; sharp by `fe_half_10x26_not_tight` -/
theorem fe_half_10x26_tight_slack (env : Env) (m : Nat) (hm : m ≤ 31) (h : Tight10 env "r.n" m) :
    (runC Gen.field10x26.fe_half env).get "r.n" 0 ≤ 2 * (m / 2 + 1) * (2 ^ 26 - 977) + 488 ∧
    (runC Gen.field10x26.fe_half env).get "r.n" 1 ≤ 2 * (m / 2 + 1) * (2 ^ 26 - 65) + 32 ∧
    (∀ i, 2 ≤ i → i < 9 → (runC Gen.field10x26.fe_half env).get "r.n" i ≤ 2 * (m / 2 + 1) * (2 ^ 26 - 1)) ∧
    (runC Gen.field10x26.fe_half env).get "r.n" 9 ≤ 2 * (m / 2 + 1) * (2 ^ 22 - 1) := by
  rw [runC_eq_runW _ _ (by decide)]
  obtain ⟨k0, k1, k2, k3, k4, k5, k6, k7, k8, k9⟩ := fe_half_10x26_tight_slack_key env m hm h
  generalize runW env Gen.field10x26.fe_half.body = out at *
  refine ⟨k0, k1, ?_, k9⟩
  intro i h2 h9
  have : i = 2 ∨ i = 3 ∨ i = 4 ∨ i = 5 ∨ i = 6 ∨ i = 7 ∨ i = 8 := by omega
  rcases this with rfl | rfl | rfl | rfl | rfl | rfl | rfl <;> assumption

example : (runC Gen.field10x26.fe_half (tightTop10 "r.n" 31)).get "r.n" 9 ≤ 2 * 16 * (2 ^ 22 - 1) :=
  (fe_half_10x26_tight_slack _ 31 (by decide) (by decide +kernel)).2.2.2

/-- tight output contract of `mul_inner` / `sqr_inner` as derived by the interval analysis (`r[2] ≤ 68157440`) -/
def tightOutMul : List ((String × Nat) × Nat) :=
  [(("r", 0), 2 ^ 26 - 1), (("r", 1), 2 ^ 26 - 1), (("r", 2), 68157440), (("r", 3), 2 ^ 26 - 1), (("r", 4), 2 ^ 26 - 1),
   (("r", 5), 2 ^ 26 - 1), (("r", 6), 2 ^ 26 - 1), (("r", 7), 2 ^ 26 - 1), (("r", 8), 2 ^ 26 - 1), (("r", 9), 2 ^ 22 - 1)]

theorem fe_mul_inner_10x26_tight_out :
    checkOut FieldKernel10x26.mulB Gen.field10x26.fe_mul_inner.body tightOutMul = true := by decide +kernel

theorem fe_sqr_inner_10x26_tight_out :
    checkOut FieldKernel10x26.sqrB Gen.field10x26.fe_sqr_inner.body tightOutMul = true := by decide +kernel

theorem tight10_of_tightOutMul {out : Env} (hb : ∀ o ∈ tightOutMul, out.get o.1.1 o.1.2 ≤ o.2) :
    Tight10 out "r" 1 := by
  have b0 := hb (("r", 0), 2 ^ 26 - 1) (by simp [tightOutMul])
  have b1 := hb (("r", 1), 2 ^ 26 - 1) (by simp [tightOutMul])
  have b2 := hb (("r", 2), 68157440) (by simp [tightOutMul])
  have b3 := hb (("r", 3), 2 ^ 26 - 1) (by simp [tightOutMul])
  have b4 := hb (("r", 4), 2 ^ 26 - 1) (by simp [tightOutMul])
  have b5 := hb (("r", 5), 2 ^ 26 - 1) (by simp [tightOutMul])
  have b6 := hb (("r", 6), 2 ^ 26 - 1) (by simp [tightOutMul])
  have b7 := hb (("r", 7), 2 ^ 26 - 1) (by simp [tightOutMul])
  have b8 := hb (("r", 8), 2 ^ 26 - 1) (by simp [tightOutMul])
  have b9 := hb (("r", 9), 2 ^ 22 - 1) (by simp [tightOutMul])
  simp only [Nat.reducePow, Nat.reduceSub] at b0 b1 b2 b3 b4 b5 b6 b7 b8 b9
  simp only [Tight10, Nat.reducePow, Nat.reduceSub]
  omega

theorem fe_mul_inner_10x26_tight (env : Env) (hr : Respects env FieldKernel10x26.mulB) :
    Tight10 (runC Gen.field10x26.fe_mul_inner env) "r" 1 ∧ C05x26.MulPost env (runC Gen.field10x26.fe_mul_inner env) :=
  ⟨tight10_of_tightOutMul (checkOut_sound hr fe_mul_inner_10x26_tight_out).2, C05x26.fe_mul_inner_correct env hr⟩

theorem fe_sqr_inner_10x26_tight (env : Env) (hr : Respects env FieldKernel10x26.sqrB) :
    Tight10 (runC Gen.field10x26.fe_sqr_inner env) "r" 1 ∧ C05x26.SqrPost env (runC Gen.field10x26.fe_sqr_inner env) :=
  ⟨tight10_of_tightOutMul (checkOut_sound hr fe_sqr_inner_10x26_tight_out).2, C05x26.fe_sqr_inner_correct env hr⟩

example : Respects C05x26.onesEnv FieldKernel10x26.mulB ∧
    Tight10 (runC Gen.field10x26.fe_mul_inner C05x26.onesEnv) "r" 1 :=
  ⟨respects_of_all (by decide +kernel), (fe_mul_inner_10x26_tight _ (respects_of_all (by decide +kernel))).1⟩

example : Respects C05x26.onesEnv FieldKernel10x26.sqrB ∧
    Tight10 (runC Gen.field10x26.fe_sqr_inner C05x26.onesEnv) "r" 1 :=
  ⟨respects_of_all (by decide +kernel), (fe_sqr_inner_10x26_tight _ (respects_of_all (by decide +kernel))).1⟩

/-! ## (b') the joint invariant `Inv10`, which `half` does preserve -/

theorem inv10_of_tight10' (env : Env) (a : String) (m : Nat) (h : Tight10 env a m) : Inv10 env a m :=
  inv10_of_tight10 h

theorem inv10_noOvf10 (env : Env) (a : String) (h : Inv10 env a 32) : NoOvf10 env a := noOvf10_of_inv10 h

theorem fe_normalize_10x26_inv (env : Env) (h : Inv10 env "r.n" 32) :
    val10At (runC Gen.field10x26.fe_normalize env) "r.n" < P ∧
    val10At (runC Gen.field10x26.fe_normalize env) "r.n" = val10At env "r.n" % P ∧
    Inv10 (runC Gen.field10x26.fe_normalize env) "r.n" 1 :=
  let t := fe_normalize_10x26_exact env (noOvf10_of_inv10 h)
  ⟨t.2.1, t.2.2, inv10_of_tight10 (tight10_of_red10 t.1)⟩

theorem fe_normalize_weak_10x26_inv (env : Env) (h : Inv10 env "r.n" 32) :
    val10At (runC Gen.field10x26.fe_normalize_weak env) "r.n" % P = val10At env "r.n" % P ∧
    Inv10 (runC Gen.field10x26.fe_normalize_weak env) "r.n" 1 :=
  let t := fe_normalize_weak_10x26_exact env (noOvf10_of_inv10 h)
  ⟨t.1, inv10_of_tight10 t.2⟩

theorem fe_add_10x26_inv (env : Env) (mr ma : Nat) (hm : mr + ma ≤ 32)
    (hr : Inv10 env "r.n" mr) (ha : Inv10 env "a.n" ma) :
    Inv10 (runC Gen.field10x26.fe_add env) "r.n" (mr + ma) := by
  obtain ⟨k, -, km⟩ := fe_add_10x26 env mr ma hm hr.1 ha.1
  have k0 := k 0 (by omega); have k1 := k 1 (by omega); have k9 := k 9 (by omega)
  refine ⟨km, ?_⟩
  obtain ⟨-, hr1, hr2⟩ := hr
  obtain ⟨-, ha1, ha2⟩ := ha
  generalize runC Gen.field10x26.fe_add env = out at *
  simp only [k0, k1, k9, Nat.reducePow, Nat.reduceSub, Nat.reduceMul, Nat.reduceAdd] at hr1 hr2 ha1 ha2 ⊢
  omega

theorem fe_mul_int_10x26_inv (env : Env) (m : Nat) (ha : env.get "a" 0 ≤ 32) (hm : m * env.get "a" 0 ≤ 32)
    (hr : Inv10 env "r.n" m) :
    Inv10 (runC Gen.field10x26.fe_mul_int env) "r.n" (m * env.get "a" 0) := by
  obtain ⟨k, -, km⟩ := fe_mul_int_10x26 env m ha hm hr.1
  have k0 := k 0 (by omega); have k1 := k 1 (by omega); have k9 := k 9 (by omega)
  refine ⟨km, ?_⟩
  obtain ⟨-, hr1, hr2⟩ := hr
  generalize runC Gen.field10x26.fe_mul_int env = out at *
  generalize env.get "a" 0 = s at *
  have e1 := Nat.mul_le_mul_right s hr1
  have e2 := Nat.mul_le_mul_right s hr2
  rw [k0, k1, k9]
  constructor
  · calc (2 ^ 22 - 1) * (env.get "r.n" 0 * s) + 977 * (env.get "r.n" 9 * s)
        = ((2 ^ 22 - 1) * env.get "r.n" 0 + 977 * env.get "r.n" 9) * s := by ring
      _ ≤ m * (2 ^ 27 * (2 ^ 22 - 1)) * s := e1
      _ = m * s * (2 ^ 27 * (2 ^ 22 - 1)) := by ring
  · calc (2 ^ 22 - 1) * (env.get "r.n" 0 * s + 2 ^ 26 * (env.get "r.n" 1 * s)) + (2 ^ 32 + 977) * (env.get "r.n" 9 * s)
        = ((2 ^ 22 - 1) * (env.get "r.n" 0 + 2 ^ 26 * env.get "r.n" 1) + (2 ^ 32 + 977) * env.get "r.n" 9) * s := by
          ring
      _ ≤ m * (2 ^ 53 * (2 ^ 22 - 1)) * s := e2
      _ = m * s * (2 ^ 53 * (2 ^ 22 - 1)) := by ring

theorem fe_negate_10x26_inv (env : Env) (hm : env.get "m" 0 ≤ 31) (ha : Mag10 env "a.n" (env.get "m" 0)) :
    Inv10 (runC Gen.field10x26.fe_negate env) "r.n" (env.get "m" 0 + 1) :=
  inv10_of_tight10 (fe_negate_10x26_tight env hm ha)

theorem fe_half_10x26_inv (env : Env) (m : Nat) (hm : m ≤ 31) (h : Inv10 env "r.n" m) :
    Inv10 (runC Gen.field10x26.fe_half env) "r.n" (m / 2 + 1) := by
  rw [runC_eq_runW _ _ (by decide)]
  exact fe_half_10x26_inv_key env m hm h

example : Inv10 halfCex "r.n" 1 ∧ Inv10 (runC Gen.field10x26.fe_half halfCex) "r.n" 1 :=
  ⟨by decide +kernel, fe_half_10x26_inv _ 1 (by decide) (by decide +kernel)⟩

/-- `Inv10 · 32`, so `normalize` is exact on it, but outside the interval precondition `NormPre10` (`n[0] = 2^32 - 64`, `n[9] = 0`) -/
example : Inv10 [(("r.n", 0), 2 ^ 32 - 64)] "r.n" 32 ∧ ¬ NormPre10 [(("r.n", 0), 2 ^ 32 - 64)] "r.n" ∧
    val10At (runC Gen.field10x26.fe_normalize [(("r.n", 0), 2 ^ 32 - 64)]) "r.n" = 2 ^ 32 - 64 :=
  ⟨by decide +kernel, by decide +kernel,
   (fe_normalize_10x26_inv _ (by decide +kernel)).2.1.trans (by decide +kernel)⟩

example : Inv10 (runC Gen.field10x26.fe_add (tightTop10 "r.n" 3 ++ tightTop10 "a.n" 29)) "r.n" 32 :=
  fe_add_10x26_inv _ 3 29 (by decide) (inv10_of_tight10 (by decide +kernel)) (inv10_of_tight10 (by decide +kernel))

example : Inv10 (runC Gen.field10x26.fe_mul_int ((("a", 0), 32) :: halfCex)) "r.n" 32 :=
  fe_mul_int_10x26_inv _ 1 (by decide +kernel) (by decide +kernel) (by decide +kernel)

/-! A reachable state that needs the joint invariant: `a = 1` (normalized, magnitude 1); `r = negate(a, 2)` (magnitude 3, `r = 6p - 1`, odd); `r = half(r)` (documented
magnitude 2; limb 0 is `4 p_0 + 488`); `r = mul_int(r, 16)` (magnitude 32).  Every call is within its documented contract.
The result violates `Tight10 · 32` and the interval precondition `NormPre10` (`n[0] = 2^32 - 54720 > 2^32 - 61552`), but it
satisfies `Inv10 · 32` (by the closure theorems), so `normalize` is exact on it. -/

/-- the three calls, evaluated with the kernel-reducible `runW` (equal to `runC`: `reach_eq`) -/
def reachEnv : Env :=
  runW ((("a", 0), 16) ::
    runW (runW [(("m", 0), 2), (("a.n", 0), 1)] Gen.field10x26.fe_negate.body) Gen.field10x26.fe_half.body)
    Gen.field10x26.fe_mul_int.body

theorem reach_eq : reachEnv =
    runC Gen.field10x26.fe_mul_int ((("a", 0), 16) ::
      runC Gen.field10x26.fe_half (runC Gen.field10x26.fe_negate [(("m", 0), 2), (("a.n", 0), 1)])) := by
  rw [runC_eq_runW _ _ (by decide), runC_eq_runW _ _ (by decide), runC_eq_runW _ _ (by decide)]; rfl

theorem reach_needs_inv10 :
    ¬ Tight10 reachEnv "r.n" 32 ∧ ¬ NormPre10 reachEnv "r.n" ∧ Inv10 reachEnv "r.n" 32 ∧
    val10At (runC Gen.field10x26.fe_normalize reachEnv) "r.n" = val10At reachEnv "r.n" % P := by
  have h1 : Inv10 (runC Gen.field10x26.fe_negate [(("m", 0), 2), (("a.n", 0), 1)]) "r.n" 3 :=
    fe_negate_10x26_inv _ (by decide +kernel) (by decide +kernel)
  have h2 := fe_half_10x26_inv _ 3 (by decide) h1
  have h3 : Inv10 reachEnv "r.n" 32 := by
    rw [reach_eq]
    exact fe_mul_int_10x26_inv ((("a", 0), 16) :: _) 2 (by decide +kernel) (by decide +kernel)
      -- the cell `a` prepended to the memory is not one of `r.n`, and `3 / 2 + 1` is `2`
      h2
  exact ⟨by decide +kernel, by decide +kernel, h3, (fe_normalize_10x26_inv _ h3).2.1⟩

/-- the counterexample of `C05lin` violates all three invariants (as it must) -/
example : ¬ Tight10 cex10 "r.n" 32 ∧ ¬ Inv10 cex10 "r.n" 32 ∧ ¬ NoOvf10 cex10 "r.n" :=
  ⟨by decide +kernel, by decide +kernel, by decide +kernel⟩

end C05inv
end SecpZkp
