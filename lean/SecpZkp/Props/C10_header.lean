/-
  C10 (part "header"): the header decoder and the guard prefix of range-proof verification.

  `Rangeproof.getHeader` models `secp256k1_rangeproof_getheader_impl`, `Rangeproof.verifyImpl` models
  `secp256k1_rangeproof_verify_impl` (src/modules/rangeproof/rangeproof_impl.h:487-538, 541-683).
  Every theorem is about these model functions themselves, for ALL byte strings `proof` (and all commitments,
  generators, extra data, nonces): the rejection theorems say that ONE local defect is enough to make
  `verifyImpl` return 0, whatever all the other bytes are.  The fields `hdr*`, the layout `v*` and the byte offsets they
  speak of are defined in `SecpZkp/Proofs/Rangeproof.lean`.
-/
import SecpZkp.Proofs.Rangeproof

namespace SecpZkp
namespace C10

open Rangeproof

theorem header_bit_tests (proof : Bytes) :
    (hdrB0 proof &&& 128 = 0 ↔ hdrB0 proof < 128) ∧ (hdrHasNz proof ↔ hdrB0 proof / 64 % 2 = 1) ∧
    (hdrHasMin proof ↔ hdrB0 proof / 32 % 2 = 1) ∧ hdrExpField proof = hdrB0 proof % 32 :=
  hdr_bits (hdrB0 proof) (by unfold hdrB0; exact UInt8.toNat_lt _)

/-- C10.  Whatever the output variables hold on entry (with `*offset = 0`, as in every caller), `getheader_impl` returns
1 exactly when `HeaderAccepts proof`: length ≥ 65, reserved bit 7 of byte 0 clear, exponent ≤ 18 and mantissa ≤ 64 if a
range is coded, and `max_value < 2^64`. -/
theorem getHeader_accepts_iff (init : Header) (proof : Bytes) (hoff : init.offset = 0) :
    (getHeader init proof).ret = true ↔ HeaderAccepts proof :=
  ⟨getHeader_accepts_imp init proof, fun h => by rw [getHeader_accept init proof hoff h]⟩

/-- The outputs on acceptance: header length, exponent (−1 for an exact-value proof), mantissa, `scale = 10^exp`,
`min_value`, `max_value = min_value + (2^mantissa − 1)·10^exp`, none depending on what the output variables held. -/
theorem getHeader_outputs (init : Header) (proof : Bytes) (hoff : init.offset = 0) (h : HeaderAccepts proof) :
    getHeader init proof =
      ⟨true, hdrLen proof, hdrExp proof, hdrMantissa proof, hdrScale proof, hdrMin proof,
        hdrMin proof + hdrSpan proof⟩ :=
  getHeader_accept init proof hoff h

theorem getHeader_range (init : Header) (proof : Bytes) (hoff : init.offset = 0)
    (h : (getHeader init proof).ret = true) :
    (getHeader init proof).minValue ≤ (getHeader init proof).maxValue ∧ (getHeader init proof).maxValue < 2 ^ 64 := by
  have ha := getHeader_accepts_imp init proof h
  rw [getHeader_accept init proof hoff ha]
  exact ⟨Nat.le_add_right _ _, ha.2.2.2⟩

theorem getHeader_rejects_short (init : Header) (proof : Bytes) (h : proof.length < 65) :
    (getHeader init proof).ret = false :=
  getHeader_reject init proof (fun ha => by have := ha.1; omega)

theorem getHeader_rejects_reserved_bit (init : Header) (proof : Bytes) (h : 128 ≤ hdrB0 proof) :
    (getHeader init proof).ret = false :=
  getHeader_reject init proof (fun ha => by have := (header_bit_tests proof).1.1 ha.2.1; omega)

theorem getHeader_rejects_exp_gt_18 (init : Header) (proof : Bytes) (hnz : hdrHasNz proof)
    (h : 18 < hdrExpField proof) : (getHeader init proof).ret = false :=
  getHeader_reject init proof (fun ha => by have := (ha.2.2.1 hnz).1; omega)

theorem getHeader_rejects_mantissa_gt_64 (init : Header) (proof : Bytes) (hnz : hdrHasNz proof)
    (h : 64 < hdrMantissa proof) : (getHeader init proof).ret = false :=
  getHeader_reject init proof (fun ha => by have := (ha.2.2.1 hnz).2; omega)

theorem getHeader_rejects_max_overflow (init : Header) (proof : Bytes) (h : 2 ^ 64 ≤ hdrSpan proof) :
    (getHeader init proof).ret = false :=
  getHeader_reject init proof (fun ha => by have := ha.2.2.2; omega)

theorem getHeader_rejects_sum_overflow (init : Header) (proof : Bytes) (h : 2 ^ 64 ≤ hdrMin proof + hdrSpan proof) :
    (getHeader init proof).ret = false :=
  getHeader_reject init proof (fun ha => by have := ha.2.2.2; omega)

/-! Non-vacuity of each clause (65-byte strings; the rest is zero). -/
-- accepted: exp 3, mantissa 10, min 456 (the header of the C09 example), range [456, 1023456]
example : HeaderAccepts ([0x63, 0x09, 0, 0, 0, 0, 0, 0, 0x01, 0xc8] ++ List.replicate 55 0) := by decide +kernel
example : (getHeader ⟨false, 0, 0, 0, 0, 0, 0⟩ ([0x63, 0x09, 0, 0, 0, 0, 0, 0, 0x01, 0xc8] ++ List.replicate 55 0)).maxValue
    = 1023456 := by decide +kernel
-- reserved bit
example : 128 ≤ hdrB0 ([0xe3, 0x09] ++ List.replicate 63 0) := by decide
-- exponent 19
example : hdrHasNz ([0x53, 0x09] ++ List.replicate 63 0) ∧ 18 < hdrExpField ([0x53, 0x09] ++ List.replicate 63 0) := by
  decide
-- mantissa 65
example : hdrHasNz ([0x40, 64] ++ List.replicate 63 0) ∧ 64 < hdrMantissa ([0x40, 64] ++ List.replicate 63 0) := by
  decide
-- (2^64 - 1) * 10 overflows
example : 2 ^ 64 ≤ hdrSpan ([0x41, 63] ++ List.replicate 63 0) := by decide +kernel
-- min = 2^64 - 1 plus a range of width 1 overflows, while the range alone does not
example : 2 ^ 64 ≤ hdrMin ([0x60, 0] ++ List.replicate 8 0xff ++ List.replicate 55 0) +
      hdrSpan ([0x60, 0] ++ List.replicate 8 0xff ++ List.replicate 55 0) ∧
    hdrSpan ([0x60, 0] ++ List.replicate 8 0xff ++ List.replicate 55 0) = 1 := by decide +kernel
example : (getHeader ⟨false, 0, 0, 0, 0, 0, 0⟩ ([0x60, 0] ++ List.replicate 8 0xff ++ List.replicate 55 0)).ret = false := by
  decide +kernel

private theorem ret_false_of {r : VerifyResult} {X : Prop} (h : r.ret = true → X) (hn : ¬ X) : r.ret = false := by
  cases hr : r.ret
  · rfl
  · exact absurd (h hr) hn

section
variable (nonce : Option Bytes) (mlen : Option Nat) (min0 max0 : Nat) (commit : Pt) (proof : Bytes)
  (extra : Option Bytes) (genp : Pt)

theorem verify_rejects_bad_header (h : ¬ HeaderAccepts proof) :
    (verifyImpl nonce mlen min0 max0 commit proof extra genp).ret = false :=
  ret_false_of (fun hr => (verifyImpl_accept_facts nonce mlen min0 max0 commit proof extra genp hr).1) h

/-- the length must be EXACTLY `hdrLen + nsign + 32·(rings−1) + 32 + 32·npub` -/
theorem verify_rejects_wrong_length (h : proof.length ≠ expectedLen proof) :
    (verifyImpl nonce mlen min0 max0 commit proof extra genp).ret = false :=
  ret_false_of (fun hr => (verifyImpl_accept_facts nonce mlen min0 max0 commit proof extra genp hr).2.1) h

theorem verify_rejects_trailing (h : expectedLen proof < proof.length) :
    (verifyImpl nonce mlen min0 max0 commit proof extra genp).ret = false :=
  verify_rejects_wrong_length nonce mlen min0 max0 commit proof extra genp (by omega)

/-- No accepted proof can be extended: `proof ++ more` is rejected under ANY commitment, generator, extra data and nonce
(the primed ones), not only those `proof` was accepted under. -/
theorem verify_rejects_extension (h : (verifyImpl nonce mlen min0 max0 commit proof extra genp).ret = true)
    (more : Bytes) (hmore : more ≠ [])
    (nonce' : Option Bytes) (mlen' : Option Nat) (min0' max0' : Nat) (commit' : Pt) (extra' : Option Bytes)
    (genp' : Pt) :
    (verifyImpl nonce' mlen' min0' max0' commit' (proof ++ more) extra' genp').ret = false := by
  obtain ⟨hacc, hlen, -⟩ := verifyImpl_accept_facts nonce mlen min0 max0 commit proof extra genp h
  apply verify_rejects_trailing
  rw [expectedLen_append proof more (by have := hacc.1; omega), ← hlen]
  have : 0 < more.length := List.length_pos_iff.2 hmore
  simp; omega

theorem verify_rejects_truncation (h : (verifyImpl nonce mlen min0 max0 commit proof extra genp).ret = true)
    (n : Nat) (hn : n < proof.length)
    (nonce' : Option Bytes) (mlen' : Option Nat) (min0' max0' : Nat) (commit' : Pt) (extra' : Option Bytes)
    (genp' : Pt) :
    (verifyImpl nonce' mlen' min0' max0' commit' (proof.take n) extra' genp').ret = false := by
  obtain ⟨hacc, hlen, -⟩ := verifyImpl_accept_facts nonce mlen min0 max0 commit proof extra genp h
  by_cases h2 : 2 ≤ n
  · apply verify_rejects_wrong_length
    rw [expectedLen_take proof n h2, ← hlen]
    simp; omega
  · apply verify_rejects_bad_header
    intro ha
    have := ha.1
    simp at this; omega

/-- The spare bits of the last sign byte, as the code tests them; bit by bit: `verify_rejects_spare_sign_bit`. -/
theorem verify_rejects_spare_sign_bits
    (h1 : (vRings proof - 1) &&& 7 ≠ 0)
    (h2 : (proof.getD (hdrLen proof + vNsign proof - 1) 0).toNat >>> ((vRings proof - 1) &&& 7) ≠ 0) :
    (verifyImpl nonce mlen min0 max0 commit proof extra genp).ret = false :=
  ret_false_of (fun hr => (verifyImpl_accept_facts nonce mlen min0 max0 commit proof extra genp hr).2.2.1)
    (fun hn => hn ⟨h1, h2⟩)

/-- Sign bit `i` lives in byte `hdrLen + i/8`, bit `i mod 8`.  Bits `0 … rings−2` are the signs of the digit commitments;
EVERY other bit of the sign bytes (`rings − 1 ≤ i < 8·nsign`) must be zero. -/
theorem verify_rejects_spare_sign_bit (i : Nat) (hi1 : vRings proof - 1 ≤ i) (hi2 : i < 8 * vNsign proof)
    (hbit : (proof.getD (hdrLen proof + i / 8) 0).toNat.testBit (i % 8) = true) :
    (verifyImpl nonce mlen min0 max0 commit proof extra genp).ret = false := by
  have hk : (vRings proof - 1) &&& 7 = (vRings proof - 1) % 8 := Nat.and_two_pow_sub_one_eq_mod _ 3
  have hns : vNsign proof = (vRings proof + 6) / 8 := rfl
  by_cases hr0 : vRings proof = 0
  · -- cannot happen for an accepted header, but then the header is rejected anyway
    apply verify_rejects_bad_header
    intro ha
    have := (layout_bounds (hdrMantissa proof) ha.mantissa_le).1
    exact absurd hr0 (by unfold vRings; omega)
  have hdiv : i / 8 = vNsign proof - 1 := by omega
  have hmod : (vRings proof - 1) % 8 ≤ i % 8 := by omega
  apply verify_rejects_spare_sign_bits
  · omega
  · rw [hk]
    intro hz
    rw [hdiv, show hdrLen proof + (vNsign proof - 1) = hdrLen proof + vNsign proof - 1 by omega] at hbit
    generalize (proof.getD (hdrLen proof + vNsign proof - 1) 0).toNat = b at hbit hz
    rw [Nat.shiftRight_eq_div_pow] at hz
    have hb : b < 2 ^ ((vRings proof - 1) % 8) := by
      have := Nat.pow_pos (n := (vRings proof - 1) % 8) (show 0 < 2 by omega)
      exact (Nat.div_eq_zero_iff_lt this).1 hz
    have hb2 : b < 2 ^ (i % 8) := Nat.lt_of_lt_of_le hb (Nat.pow_le_pow_right (by omega) hmod)
    rw [Nat.testBit_lt_two_pow hb2] at hbit
    exact absurd hbit (by simp)

/-- no `s + n` re-encoding of a ring scalar of a valid proof is accepted -/
theorem verify_rejects_scalar_ge_N (j : Nat) (hj : j < vNpub proof)
    (h : N ≤ Bytes.toNat (slice32 proof (scalarOffset proof j))) :
    (verifyImpl nonce mlen min0 max0 commit proof extra genp).ret = false :=
  ret_false_of
    (fun hr => ((verifyImpl_accept_facts nonce mlen min0 max0 commit proof extra genp hr).2.2.2.2 j hj).1)
    (by omega)

/-- A zero ring scalar is rejected by `secp256k1_borromean_verify`, which every one of the `npub` scalars reaches unless
an earlier check already failed; so every accepted scalar is in `[1, n−1]`. -/
theorem verify_rejects_scalar_zero (j : Nat) (hj : j < vNpub proof)
    (h : Bytes.toNat (slice32 proof (scalarOffset proof j)) = 0) :
    (verifyImpl nonce mlen min0 max0 commit proof extra genp).ret = false :=
  ret_false_of
    (fun hr => ((verifyImpl_accept_facts nonce mlen min0 max0 commit proof extra genp hr).2.2.2.2 j hj).2)
    (fun hn => hn h)

/-- no `x + p` re-encoding of a digit commitment is accepted -/
theorem verify_rejects_x_ge_P (j : Nat) (hj : j < vRings proof - 1)
    (h : P ≤ Bytes.toNat (slice32 proof (digitOffset proof j))) :
    (verifyImpl nonce mlen min0 max0 commit proof extra genp).ret = false :=
  ret_false_of
    (fun hr => ((verifyImpl_accept_facts nonce mlen min0 max0 commit proof extra genp hr).2.2.2.1 j hj).1)
    (by omega)

/-- `liftXQuad … = none`: `secp256k1_ge_set_xquad` fails, no curve point has this x-coordinate. -/
theorem verify_rejects_x_off_curve (j : Nat) (hj : j < vRings proof - 1)
    (h : Pt.liftXQuad (Bytes.toNat (slice32 proof (digitOffset proof j))) = none) :
    (verifyImpl nonce mlen min0 max0 commit proof extra genp).ret = false :=
  ret_false_of
    (fun hr => ((verifyImpl_accept_facts nonce mlen min0 max0 commit proof extra genp hr).2.2.2.1 j hj).2)
    (fun hn => hn h)

/-- For an accepted header `verify`, successful or not, reports the range `secp256k1_rangeproof_info` reports for the
same bytes. -/
theorem verify_reports_info_range (init : Header) (h : HeaderAccepts proof) :
    (verifyImpl nonce mlen min0 max0 commit proof extra genp).minValue = (info init proof).minValue ∧
    (verifyImpl nonce mlen min0 max0 commit proof extra genp).maxValue = (info init proof).maxValue ∧
    (info init proof).minValue ≤ (info init proof).maxValue ∧ (info init proof).maxValue < 2 ^ 64 := by
  obtain ⟨h1, h2⟩ := verifyImpl_range nonce mlen min0 max0 commit proof extra genp
  rw [h1, h2, (vHeader_eq min0 max0 h).1]
  unfold info
  rw [getHeader_accept _ proof rfl h]
  exact ⟨rfl, rfl, Nat.le_add_right _ _, h.2.2.2⟩

end

/-! ### index safety (serves property C07: reads stay inside the buffers) -/

/-- The array bounds of `verify_impl` after an accepted header: `rings ≤ 32` (`rsizes[32]`; `signs[31]`, only `rings − 1`
signs being stored), `npub ≤ 128` (`pubs[128]`, `s[128]`, `evalues[128]`); the `size_t` expression
`32 * (npub + rings - 1) + 32 + ((rings+6) >> 3)` is at most 5124, so it cannot wrap (even at 32 bits). -/
theorem header_index_safety (proof : Bytes) (h : HeaderAccepts proof) :
    1 ≤ vRings proof ∧ vRings proof ≤ 32 ∧ 1 ≤ vNpub proof ∧ vNpub proof ≤ 128 ∧
    (vRsizes proof).length = vRings proof ∧ (vRsizes proof).sum = vNpub proof ∧
    (∀ r ∈ vRsizes proof, r = 1 ∨ r = 2 ∨ r = 4) ∧
    1 ≤ hdrLen proof ∧ hdrLen proof ≤ 10 ∧ vNsign proof ≤ 4 ∧
    32 * (vNpub proof + vRings proof - 1) + 32 + ((vRings proof + 6) >>> 3) ≤ 5124 ∧
    expectedLen proof ≤ 5134 := by
  obtain ⟨b1, b2, b3, b4⟩ := layout_bounds (hdrMantissa proof) h.mantissa_le
  obtain ⟨-, -, l3, l4, l5⟩ := layout_spec (hdrMantissa proof)
  have hl : 1 ≤ hdrLen proof ∧ hdrLen proof ≤ 10 := by
    unfold hdrLen; split <;> split <;> omega
  have hs : (vRings proof + 6) >>> 3 = (vRings proof + 6) / 8 := by rw [Nat.shiftRight_eq_div_pow]
  rw [hs]
  unfold expectedLen e0Offset vNsign
  unfold vRings vNpub vRsizes
  exact ⟨b1, b2, b3, b4, l3, l4, l5, hl.1, hl.2, by omega, by omega, by omega⟩

/-- Every read of `verifyImpl` is inside the proof, once the header is accepted and the length guard `hg` has not fired
(after which the function goes on reading): the sign bytes, the byte of the spare-sign-bit test, the 32 bytes and the sign
bit (byte `j/8` of the sign bytes) of every digit commitment, `e0`, every scalar.  (`getHeader` itself reads at most the
first 10 bytes of a proof of length ≥ 65.) -/
theorem verify_reads_in_bounds (proof : Bytes) (h : HeaderAccepts proof)
    (hg : ¬ (proof.length - hdrLen proof <
      32 * (vNpub proof + vRings proof - 1) + 32 + ((vRings proof + 6) >>> 3))) :
    hdrLen proof + vNsign proof ≤ proof.length ∧
    ((vRings proof - 1) &&& 7 ≠ 0 →
      hdrLen proof ≤ hdrLen proof + vNsign proof - 1 ∧ hdrLen proof + vNsign proof - 1 < proof.length) ∧
    (∀ j < vRings proof - 1, digitOffset proof j + 32 ≤ proof.length ∧ j / 8 < vNsign proof) ∧
    e0Offset proof + 32 ≤ proof.length ∧
    (∀ j < vNpub proof, scalarOffset proof j + 32 ≤ proof.length) ∧
    expectedLen proof ≤ proof.length := by
  obtain ⟨b1, b2, b3, b4, -, -, -, hl1, hl2, -, -, -⟩ := header_index_safety proof h
  have hs : (vRings proof + 6) >>> 3 = (vRings proof + 6) / 8 := by rw [Nat.shiftRight_eq_div_pow]
  rw [hs] at hg
  have hk : (vRings proof - 1) &&& 7 = (vRings proof - 1) % 8 := Nat.and_two_pow_sub_one_eq_mod _ 3
  have h65 := h.1
  unfold expectedLen scalarOffset digitOffset e0Offset vNsign
  refine ⟨by omega, fun hne => by omega, fun j hj => by omega, by omega, fun j hj => ?_, by omega⟩
  have : 32 * j + 32 ≤ 32 * vNpub proof := by omega
  omega

/-- The guard of the previous theorem is the one `verifyImpl` evaluates: when it fires, `verifyImpl` returns 0
(before any of those reads). -/
theorem verify_rejects_too_short (nonce : Option Bytes) (mlen : Option Nat) (min0 max0 : Nat) (commit : Pt)
    (proof : Bytes) (extra : Option Bytes) (genp : Pt)
    (hg : proof.length - hdrLen proof <
      32 * (vNpub proof + vRings proof - 1) + 32 + ((vRings proof + 6) >>> 3)) :
    (verifyImpl nonce mlen min0 max0 commit proof extra genp).ret = false := by
  by_cases h : HeaderAccepts proof
  · apply verify_rejects_wrong_length
    obtain ⟨b1, b2, b3, b4, -, -, -, hl1, hl2, -, -, -⟩ := header_index_safety proof h
    rw [Nat.shiftRight_eq_div_pow] at hg
    have h65 := h.1
    unfold expectedLen e0Offset vNsign
    omega
  · exact verify_rejects_bad_header nonce mlen min0 max0 commit proof extra genp h

/-! Non-vacuity: concrete byte strings satisfying the hypotheses of each rejection theorem while passing all
the EARLIER checks of the code (accepted header, exact length). -/

/-- mantissa 3, exponent 0: 2 rings (sizes 4, 2), 6 scalars, 1 sign byte; 259 bytes. -/
private def p3 (sign : UInt8) (x : Bytes) (s0 : Bytes) : Bytes :=
  [0x40, 0x02, sign] ++ x ++ List.replicate 32 1 ++ s0 ++ List.replicate 160 1

example : HeaderAccepts (p3 0 (List.replicate 32 1) (List.replicate 32 1)) ∧
    (p3 0 (List.replicate 32 1) (List.replicate 32 1)).length = expectedLen (p3 0 (List.replicate 32 1) (List.replicate 32 1)) ∧
    vRings (p3 0 (List.replicate 32 1) (List.replicate 32 1)) = 2 ∧
    vNpub (p3 0 (List.replicate 32 1) (List.replicate 32 1)) = 6 := by decide +kernel
-- trailing byte
example : expectedLen (p3 0 (List.replicate 32 1) (List.replicate 32 1) ++ [0]) <
    (p3 0 (List.replicate 32 1) (List.replicate 32 1) ++ [0]).length := by decide +kernel
-- spare sign bit 1 set (only bit 0 is a sign)
example : let p := p3 2 (List.replicate 32 1) (List.replicate 32 1)
    vRings p - 1 ≤ 1 ∧ 1 < 8 * vNsign p ∧ (p.getD (hdrLen p + 1 / 8) 0).toNat.testBit (1 % 8) = true := by
  decide +kernel
-- scalar 0 = 0xff…ff ≥ n
example : let p := p3 0 (List.replicate 32 1) (List.replicate 32 0xff)
    0 < vNpub p ∧ N ≤ Bytes.toNat (slice32 p (scalarOffset p 0)) := by decide +kernel
-- scalar 5 (the last one) = 0
example : let p := p3 0 (List.replicate 32 1) (List.replicate 32 1) |>.take 227 |>.append (List.replicate 32 0)
    p.length = expectedLen p ∧ 5 < vNpub p ∧ Bytes.toNat (slice32 p (scalarOffset p 5)) = 0 := by decide +kernel
-- digit commitment 0 = 0xff…ff ≥ p
example : let p := p3 0 (List.replicate 32 0xff) (List.replicate 32 1)
    0 < vRings p - 1 ∧ P ≤ Bytes.toNat (slice32 p (digitOffset p 0)) := by decide +kernel
-- digit commitment x = 5: no curve point
example : let p := p3 0 (List.replicate 31 0 ++ [5]) (List.replicate 32 1)
    0 < vRings p - 1 ∧ Pt.liftXQuad (Bytes.toNat (slice32 p (digitOffset p 0))) = none := by decide +kernel

end C10
end SecpZkp
