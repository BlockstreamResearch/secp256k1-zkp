import SecpZkp.Gen.Guards
/-! # C03 — the argument checks the model assumes are present at the C call sites (translator mode G)

How to read a fact, and what a mismatch means: `Props/C01_guards.lean`. -/
namespace SecpZkp.Props.C03_guards
open SecpZkp.Gen

theorem der_parse_integer_sites : Facts.der_parse_integer = [
    ⟨.der_read_len, 1, true, none⟩,
    ⟨.scalar_set_b32, 1, false, some true⟩
  ] := by decide

theorem ecdsa_sig_parse_sites : Facts.ecdsa_sig_parse = [
    ⟨.der_read_len, 1, true, none⟩,
    ⟨.der_parse_integer, 1, true, none⟩,
    ⟨.der_parse_integer, 2, true, none⟩
  ] := by decide

theorem eckey_pubkey_parse_sites : Facts.eckey_pubkey_parse = [
    ⟨.fe_impl_set_b32_limit, 1, true, none⟩,
    ⟨.ge_set_xo_var, 1, true, none⟩,
    ⟨.fe_impl_set_b32_limit, 2, true, none⟩,
    ⟨.fe_impl_set_b32_limit, 3, true, none⟩,
    ⟨.ge_is_valid_var, 1, true, none⟩
  ] := by decide

theorem ec_pubkey_parse_sites : Facts.ec_pubkey_parse = [
    ⟨.eckey_pubkey_parse, 1, true, none⟩
  ] := by decide

theorem ecdsa_signature_parse_compact_sites : Facts.ecdsa_signature_parse_compact = [
    ⟨.scalar_set_b32, 1, false, some true⟩,
    ⟨.scalar_set_b32, 2, false, some true⟩
  ] := by decide

theorem xonly_pubkey_parse_sites : Facts.xonly_pubkey_parse = [
    ⟨.fe_impl_set_b32_limit, 1, true, none⟩,
    ⟨.ge_set_xo_var, 1, true, none⟩
  ] := by decide

def all : List CallFact := Facts.der_parse_integer ++ Facts.ecdsa_sig_parse ++ Facts.eckey_pubkey_parse ++ Facts.ec_pubkey_parse ++ Facts.ecdsa_signature_parse_compact ++ Facts.xonly_pubkey_parse

/-- No overflow flag written by a scalar decoding in these functions is ignored (overwritten or never read). -/
theorem no_flag_dropped : ∀ f ∈ all, f.flag ≠ some false := by decide

/-- non-vacuity: the regenerated fact lists are not empty -/
example : all.length = 15 := by decide

end SecpZkp.Props.C03_guards
