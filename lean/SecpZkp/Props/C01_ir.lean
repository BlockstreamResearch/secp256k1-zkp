import SecpZkp.Gen.P_ecdsa
import SecpZkp.Model.Ecdsa
import SecpZkp.Proofs.AlgIRLemmas
import SecpZkp.Proofs.Algebra
import SecpZkp.Proofs.BytesBasic
import SecpZkp.Proofs.GroupLawProved
/-
  Property C01 (part "ir"): the REGENERATED protocol cores of ECDSA compute exactly the hand-written model.

  `Gen/P_ecdsa.lean` is produced by the translator (mode P) from clang's AST of `src/ecdsa_impl.h`
  (`secp256k1_ecdsa_sig_verify`, `secp256k1_ecdsa_sig_sign`) and `src/modules/recovery/main_impl.h`
  (`secp256k1_ecdsa_sig_recover`) as programs of `Model/AlgIR.lean`.  The hand-written functions
  `Ecdsa.sigVerify`, `Ecdsa.sigSign`, `Ecdsa.sigRecover` of `Model/Ecdsa.lean` are what all property theorems of
  `Props/C01.lean` are about.  Here: for EVERY initial state that binds the inputs, running the generated program
  yields the value of the model function (`sig_verify_eq`, `sig_sign_eq`, `sig_recover_eq`).

  The hypotheses are the ones the proofs need; they are weaker than the preconditions of the C functions:
  * verify: `r, s < n` (the C code and the model test `r = 0`, `s = 0` on reduced scalars).  Nothing about the
    message or the public key is needed (the C precondition "pubkey valid and not infinity" is not used: both sides
    compute the same point `u2·Q + u1·G` and compare its abscissa).
  * sign: `1 ≤ nonce < n` (then `nonce·G` is a finite point with canonical coordinates), and the state must not bind
    field variables named `r.x` / `r.y` (these names denote the coordinates of the point variable `r`).
  * recover: `r, s < n`; any `recid` (the C code only looks at bits 0 and 1).
-/
namespace SecpZkp
namespace C01ir
open MiniC AlgIR SecpZkp.Algebra

/-- `secp256k1_ecdsa_const_p_minus_order` is `p - n` -/
theorem p_minus_order_eq : 432420386565659656852420866390673177326 % P = P - N := by decide +kernel
/-- `secp256k1_ecdsa_const_order_as_fe` is `n` -/
theorem order_as_fe_eq :
    115792089237316195423570985008687907852837564279074904382605163141518161494337 % P = N := by decide +kernel

theorem p_minus_order_mod : (P - N) % P = P - N := Nat.mod_eq_of_lt (Nat.sub_lt P_pos N_pos)

/-- The decision tree that symbolic execution leaves of `secp256k1_ecdsa_sig_verify` (also where it is inlined in
    `secp256k1_ecdsa_verify`, `Props/C01_api_ir.lean`) is `Ecdsa.sigVerify` on the reduced `r`: the comparison of the
    abscissa of `R = u2·Q + u1·G` with `r` and, only when `r < p - n`, with `r + n`.  The program reads `r` through
    `secp256k1_scalar_is_zero`, `_mul` and `_get_b32`, which all reduce it. -/
theorem verify_tree {s : Nat} (hs : s < N) (r m : Nat) (q : Pt) :
    (if (if r % N = 0 then 1 else if s % N = 0 then 1 else 0) ≠ 0 then 0
      else if (Pt.add (Pt.mul (Sc.mul (Sc.inv s) r) q) (Pt.mulG (Sc.mul (Sc.inv s) m))).isInf = true then 0
      else if (Pt.add (Pt.mul (Sc.mul (Sc.inv s) r) q) (Pt.mulG (Sc.mul (Sc.inv s) m))).xOf = r % N then 1
      else if P - N ≤ r % N then 0
      else if (Pt.add (Pt.mul (Sc.mul (Sc.inv s) r) q) (Pt.mulG (Sc.mul (Sc.inv s) m))).xOf =
          Fe.add (r % N) N % P then 1
      else 0) = if Ecdsa.sigVerify (r % N) s q m = true then 1 else 0 := by
  have e : Sc.mul (Sc.inv s) (r % N) = Sc.mul (Sc.inv s) r := (Nat.mul_mod_mod _ _ _)
  simp only [Ecdsa.sigVerify, e, Nat.mod_eq_of_lt hs, Fe.add, Nat.mod_mod]
  generalize Pt.add (Pt.mul (Sc.mul (Sc.inv s) r) q) (Pt.mulG (Sc.mul (Sc.inv s) m)) = R
  generalize r % N = r
  by_cases hr0 : r = 0
  · simp [hr0]
  by_cases hs0 : s = 0
  · simp [hs0]
  cases R with
  | inf => simp [hr0, hs0, Pt.isInf]
  | aff x y =>
    simp only [hr0, hs0, Pt.isInf, Pt.xOf, if_false, or_self, Bool.false_eq_true]
    by_cases hx : x = r
    · simp [hx]
    by_cases hge : P - N ≤ r
    · simp [hx, hge]
    have : (r + N) % P = r + N := Nat.mod_eq_of_lt (by omega)
    simp [hx, hge, this]

theorem sig_verify_eq (st : State) (hret : st.returned = false)
    (hr : st.scGet "sigr" < N) (hs : st.scGet "sigs" < N) :
    (execL st Gen.Pecdsa.sig_verify.body).ints.get "ret" 0 =
      if Ecdsa.sigVerify (st.scGet "sigr") (st.scGet "sigs") (st.ptGet "pubkey") (st.scGet "message") then 1 else 0 := by
  obtain ⟨sc, fe, pt, bs, ints, rfl⟩ := st.exists_mk hret
  simp only [alg_run] at hr hs
  unfold Gen.Pecdsa.sig_verify
  simp only [alg_run, feCmp_ge, p_minus_order_eq, order_as_fe_eq, p_minus_order_mod, Nat.mod_eq_of_lt hr,
    Bytes.toNat_be32_of_lt_N hr, Nat.mod_eq_of_lt (lt_trans hr N_lt_P)]
  have h := verify_tree hs (lookup 0 sc "sigr") (lookup 0 sc "message") (lookup Pt.inf pt "pubkey")
  rw [Nat.mod_eq_of_lt hr] at h
  exact h

/-- a valid signature (made with key 1, nonce 2 on message 3) for the examples -/
def exR : Nat := 89565891926547004231252920425935692360644145829622209833684329913297188986597
def exS : Nat := 44782945963273502115626460212967846180322072914811104916842164956648594493300

def exVerifySt : State := { sc := [("sigr", exR), ("sigs", exS), ("message", 3)], pt := [("pubkey", Pt.G)] }

theorem exVerify_accepts : Ecdsa.sigVerify exR exS Pt.G 3 = true := by decide +kernel

/-- non-vacuity; the state also satisfies the C precondition (the key is a valid finite point) -/
example : exVerifySt.returned = false ∧ exVerifySt.scGet "sigr" < N ∧ exVerifySt.scGet "sigs" < N ∧
    (exVerifySt.ptGet "pubkey").valid = true ∧ exVerifySt.ptGet "pubkey" ≠ .inf ∧
    Ecdsa.sigVerify (exVerifySt.scGet "sigr") (exVerifySt.scGet "sigs") (exVerifySt.ptGet "pubkey")
      (exVerifySt.scGet "message") = true :=
  ⟨rfl, by decide, by decide, valid_G, by decide, exVerify_accepts⟩

example : (execL exVerifySt Gen.Pecdsa.sig_verify.body).ints.get "ret" 0 = 1 :=
  (sig_verify_eq exVerifySt rfl (by decide) (by decide)).trans (if_pos exVerify_accepts)

theorem mulG_coords {k : Nat} (h0 : k ≠ 0) (hk : k < N) : ∃ x y, Pt.mulG k = .aff x y ∧ x < P ∧ y < P := by
  have : HasGroupLaw := ⟨groupLaw⟩
  have : Fact (Nat.Prime P) := ⟨prime_P⟩
  obtain ⟨x, y, h⟩ := mulG_eq_aff (Nat.pos_of_ne_zero h0) hk
  have hv : (Pt.mulG k).valid = true := SecpZkp.valid_mul k valid_G
  rw [h] at hv
  simp only [Pt.valid, Pt.onCurveXY, Bool.and_eq_true, decide_eq_true_eq] at hv
  exact ⟨x, y, h, hv.1.1, hv.1.2⟩

/-- `(overflow << 1) | odd` of the C code is `overflow * 2 + odd` of the model -/
theorem recid_or (ov : Prop) [Decidable ov] (y : Nat) :
    ((if ov then 1 else 0) * 2 ^ 1 ||| y % 2 : Nat) =
      (if ov then 1 else 0) * 2 + if Fe.isOdd y = true then 1 else 0 := by
  unfold Fe.isOdd
  by_cases h : ov <;> rcases Nat.mod_two_eq_zero_or_one y with h2 | h2 <;> simp [h, h2]

/-- The outputs `ret`, `sigr`, `sigs`, `recid` are the four components (ok as 0/1, r, s, recid) of the model function.
    (The model's first case `nonce·G = ∞` does not occur for `1 ≤ nonce < n`.) -/
theorem sig_sign_eq (st : State) (hret : st.returned = false)
    (hfx : st.fe.find? (·.1 == "r.x") = none) (hfy : st.fe.find? (·.1 == "r.y") = none)
    (hn0 : st.scGet "nonce" ≠ 0) (hn : st.scGet "nonce" < N) :
    (execL st Gen.Pecdsa.sig_sign.body).ints.get "ret" 0 =
      (if (Ecdsa.sigSign (st.scGet "seckey") (st.scGet "message") (st.scGet "nonce")).1 then 1 else 0) ∧
    (execL st Gen.Pecdsa.sig_sign.body).scGet "sigr" =
      (Ecdsa.sigSign (st.scGet "seckey") (st.scGet "message") (st.scGet "nonce")).2.1 ∧
    (execL st Gen.Pecdsa.sig_sign.body).scGet "sigs" =
      (Ecdsa.sigSign (st.scGet "seckey") (st.scGet "message") (st.scGet "nonce")).2.2.1 ∧
    (execL st Gen.Pecdsa.sig_sign.body).ints.get "recid" 0 =
      (Ecdsa.sigSign (st.scGet "seckey") (st.scGet "message") (st.scGet "nonce")).2.2.2 := by
  obtain ⟨sc, fe, pt, bs, ints, rfl⟩ := st.exists_mk hret
  simp only [alg_run] at hfx hfy hn0 hn ⊢
  obtain ⟨x, y, hxy, hx, hy⟩ := mulG_coords hn0 hn
  unfold Gen.Pecdsa.sig_sign
  simp only [alg_run, Nat.mod_eq_of_lt hn, feGetL_x hfx "r" rfl, feGetL_y hfy "r" rfl, hxy, Pt.xOf, Pt.yOf,
    Nat.mod_eq_of_lt hx, Nat.mod_eq_of_lt hy, Bytes.toNat_be32_of_lt_P hx, recid_or, Ecdsa.sigSign]
  generalize Sc.mul (Sc.inv (lookup 0 sc "nonce"))
    (Sc.add (Sc.mul (x % N) (lookup 0 sc "seckey")) (lookup 0 sc "message")) = s0
  by_cases hh : Sc.isHigh s0 = true
  · simp only [hh, if_true, ne_eq, and_self]
  · simp only [hh, if_false, ne_eq, Nat.xor_zero, and_self, Bool.false_eq_true]

def exSignSt : State := { sc := [("seckey", 1), ("message", 3), ("nonce", 2)] }

example : exSignSt.returned = false ∧ exSignSt.fe.find? (·.1 == "r.x") = none ∧
    exSignSt.fe.find? (·.1 == "r.y") = none ∧ exSignSt.scGet "nonce" ≠ 0 ∧ exSignSt.scGet "nonce" < N ∧
    Ecdsa.sigSign 1 3 2 = (true, exR, exS, 0) := by decide +kernel

example : (execL exSignSt Gen.Pecdsa.sig_sign.body).ints.get "ret" 0 = 1 ∧
    (execL exSignSt Gen.Pecdsa.sig_sign.body).scGet "sigr" = exR ∧
    (execL exSignSt Gen.Pecdsa.sig_sign.body).scGet "sigs" = exS ∧
    (execL exSignSt Gen.Pecdsa.sig_sign.body).ints.get "recid" 0 = 0 := by
  have m : Ecdsa.sigSign (exSignSt.scGet "seckey") (exSignSt.scGet "message") (exSignSt.scGet "nonce") =
      (true, exR, exS, 0) := by decide +kernel
  have h := sig_sign_eq exSignSt rfl rfl rfl (by decide +kernel) (by decide +kernel)
  rw [m] at h
  exact h

/-- The hypothesis about `r.x` is needed: `State.feGet` looks a name up among the field variables first, so a state
    that already binds a FIELD variable called `r.x` makes `feNorm "r.x"` read that value instead of the abscissa of
    the point `r` (an artefact of the name space of `AlgIR`, not of the C code, where `r.x` is a member of the local
    `r`).  With `r.x ↦ 0` the program returns 0 although the model signs. -/
example : (execL { exSignSt with fe := [("r.x", 0)] } Gen.Pecdsa.sig_sign.body).ints.get "ret" 0 = 0 ∧
    (Ecdsa.sigSign 1 3 2).1 = true := by decide +kernel

/-- `sig_recover_eq`, with `fx` standing for `r + n` (see the note on reduction in `Proofs/AlgIRLemmas.lean`: with
    `r + N` itself in the statement the kernel does not finish) -/
theorem sig_recover_aux (st : State) (hret : st.returned = false)
    (hr : st.scGet "sigr" < N) (hs : st.scGet "sigs" < N) (fx : Nat) (hfx : st.scGet "sigr" + N = fx) :
    match Ecdsa.sigRecover (st.scGet "sigr") (st.scGet "sigs") (st.scGet "message") (st.ints.get "recid" 0) with
    | some q => (execL st Gen.Pecdsa.sig_recover.body).ints.get "ret" 0 = 1 ∧
        (execL st Gen.Pecdsa.sig_recover.body).ptGet "pubkey" = q
    | none => (execL st Gen.Pecdsa.sig_recover.body).ints.get "ret" 0 = 0 := by
  obtain ⟨sc, fe, pt, bs, ints, rfl⟩ := st.exists_mk hret
  simp only [alg_run] at hr hs hfx
  unfold Gen.Pecdsa.sig_recover
  simp only [alg_run, feCmp_ge, p_minus_order_eq, order_as_fe_eq, p_minus_order_mod, Nat.mod_eq_of_lt hr,
    Nat.mod_eq_of_lt hs, Bytes.toNat_be32_of_lt_N hr, Nat.mod_eq_of_lt (lt_trans hr N_lt_P)]
  generalize lookup 0 sc "sigr" = r at hr hfx ⊢
  generalize lookup 0 sc "sigs" = s at hs ⊢
  generalize lookup 0 sc "message" = m
  generalize ints.get "recid" 0 = recid
  simp only [Ecdsa.sigRecover, FeIR.and_one_ne_zero]
  rw [hfx]
  -- from here on the curve operations are opaque for the elaborator: no reduction can enter `Pt.liftX` & co.
  generalize Pt.liftX = lift
  generalize Pt.add = padd
  generalize Pt.mul = pmul
  generalize Pt.mulG = pmulG
  generalize Sc.inv r = rn
  generalize decide (recid &&& 1 = 1) = b
  generalize Sc.mul rn s = u2
  generalize Sc.neg (Sc.mul rn m) = u1
  by_cases hr0 : r = 0
  · simp only [hr0, true_or, if_true, one_ne_zero_eq]
  by_cases hs0 : s = 0
  · simp only [hs0, or_true, if_true, one_ne_zero_eq, ite_self]
  simp only [hr0, hs0, if_false, or_self, zero_ne_zero_eq]
  have tail : ∀ (o : Option Pt) (d : Pt),
      match (match o with
        | none => none
        | some x => match padd (pmul u2 x) (pmulG u1) with
          | .inf => none
          | q => some q) with
      | some q =>
        optCase o (fun q => if ¬ (padd (pmul u2 q) (pmulG u1)).isInf = true then 1 else 0) 0 = 1 ∧
        optCase o (fun q => padd (pmul u2 q) (pmulG u1)) d = q
      | none =>
        optCase o (fun q => if ¬ (padd (pmul u2 q) (pmulG u1)).isInf = true then 1 else 0) 0
          = 0 := by
    intro o d
    cases o with
    | none => simp only [optCase]
    | some x =>
      simp only [optCase]
      generalize padd (pmul u2 x) (pmulG u1) = R
      cases R with
      | inf => simp only [Pt.isInf, not_true_eq_false, if_false]
      | aff a b => simp only [Pt.isInf, Bool.false_eq_true, not_false_eq_true, if_true, and_self]
  by_cases hb : recid &&& 2 = 0
  · simp only [hb, ne_eq, not_true_eq_false, if_false]
    exact tail _ _
  · by_cases hge : P - N ≤ r
    · simp only [hb, hge, ne_eq, not_false_eq_true, if_true]
    · have e4 : Fe.add r N % P = fx := by
        rw [← hfx]; unfold Fe.add; rw [Nat.mod_mod]
        exact Nat.mod_eq_of_lt (Nat.add_lt_of_lt_sub (Nat.lt_of_not_le hge))
      simp only [hb, hge, e4, ne_eq, not_false_eq_true, if_true, if_false]
      exact tail _ _

theorem sig_recover_eq (st : State) (hret : st.returned = false)
    (hr : st.scGet "sigr" < N) (hs : st.scGet "sigs" < N) :
    match Ecdsa.sigRecover (st.scGet "sigr") (st.scGet "sigs") (st.scGet "message") (st.ints.get "recid" 0) with
    | some q => (execL st Gen.Pecdsa.sig_recover.body).ints.get "ret" 0 = 1 ∧
        (execL st Gen.Pecdsa.sig_recover.body).ptGet "pubkey" = q
    | none => (execL st Gen.Pecdsa.sig_recover.body).ints.get "ret" 0 = 0 :=
  sig_recover_aux st hret hr hs _ rfl

theorem sig_recover_some (st : State) (hret : st.returned = false)
    (hr : st.scGet "sigr" < N) (hs : st.scGet "sigs" < N) {q : Pt}
    (h : Ecdsa.sigRecover (st.scGet "sigr") (st.scGet "sigs") (st.scGet "message") (st.ints.get "recid" 0) = some q) :
    (execL st Gen.Pecdsa.sig_recover.body).ints.get "ret" 0 = 1 ∧
      (execL st Gen.Pecdsa.sig_recover.body).ptGet "pubkey" = q := by
  have e := sig_recover_eq st hret hr hs
  rw [h] at e
  exact e
theorem sig_recover_none (st : State) (hret : st.returned = false)
    (hr : st.scGet "sigr" < N) (hs : st.scGet "sigs" < N)
    (h : Ecdsa.sigRecover (st.scGet "sigr") (st.scGet "sigs") (st.scGet "message") (st.ints.get "recid" 0) = none) :
    (execL st Gen.Pecdsa.sig_recover.body).ints.get "ret" 0 = 0 := by
  have e := sig_recover_eq st hret hr hs
  rw [h] at e
  exact e

theorem sig_recover_ret_one_iff (st : State) (hret : st.returned = false)
    (hr : st.scGet "sigr" < N) (hs : st.scGet "sigs" < N) :
    (execL st Gen.Pecdsa.sig_recover.body).ints.get "ret" 0 = 1 ↔
      Ecdsa.sigRecover (st.scGet "sigr") (st.scGet "sigs") (st.scGet "message") (st.ints.get "recid" 0) =
        some ((execL st Gen.Pecdsa.sig_recover.body).ptGet "pubkey") := by
  cases h : Ecdsa.sigRecover (st.scGet "sigr") (st.scGet "sigs") (st.scGet "message") (st.ints.get "recid" 0) with
  | none => simp [sig_recover_none st hret hr hs h]
  | some q => simp [sig_recover_some st hret hr hs h]

theorem sig_recover_ret_zero_iff (st : State) (hret : st.returned = false)
    (hr : st.scGet "sigr" < N) (hs : st.scGet "sigs" < N) :
    (execL st Gen.Pecdsa.sig_recover.body).ints.get "ret" 0 = 0 ↔
      Ecdsa.sigRecover (st.scGet "sigr") (st.scGet "sigs") (st.scGet "message") (st.ints.get "recid" 0) = none := by
  cases h : Ecdsa.sigRecover (st.scGet "sigr") (st.scGet "sigs") (st.scGet "message") (st.ints.get "recid" 0) with
  | none => simp [sig_recover_none st hret hr hs h]
  | some q => simp [sig_recover_some st hret hr hs h]

def exRecoverSt : State :=
  { sc := [("sigr", exR), ("sigs", exS), ("message", 3)], ints := [(("recid", 0), 0)] }

theorem exRecover_value :
    Ecdsa.sigRecover (exRecoverSt.scGet "sigr") (exRecoverSt.scGet "sigs") (exRecoverSt.scGet "message")
      (exRecoverSt.ints.get "recid" 0) = some Pt.G := by decide +kernel

example : exRecoverSt.returned = false ∧ exRecoverSt.scGet "sigr" < N ∧ exRecoverSt.scGet "sigs" < N ∧
    exRecoverSt.ints.get "recid" 0 ≤ 3 ∧
    Ecdsa.sigRecover (exRecoverSt.scGet "sigr") (exRecoverSt.scGet "sigs") (exRecoverSt.scGet "message")
      (exRecoverSt.ints.get "recid" 0) = some Pt.G :=
  ⟨rfl, by decide +kernel, by decide +kernel, by decide +kernel, exRecover_value⟩

example : (execL exRecoverSt Gen.Pecdsa.sig_recover.body).ints.get "ret" 0 = 1 ∧
    (execL exRecoverSt Gen.Pecdsa.sig_recover.body).ptGet "pubkey" = Pt.G :=
  sig_recover_some exRecoverSt rfl (by decide +kernel) (by decide +kernel) exRecover_value

example : Ecdsa.sigRecover 0 exS 3 0 = none ∧
    (execL { exRecoverSt with sc := [("sigr", 0), ("sigs", exS), ("message", 3)] }
      Gen.Pecdsa.sig_recover.body).ints.get "ret" 0 = 0 := by decide +kernel

end C01ir
end SecpZkp
