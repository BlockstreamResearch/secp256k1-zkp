/-
  C04 (part "sort"): `secp256k1_ec_pubkey_sort` returns a sorted permutation of its input,
  for every list length.

  The model `Keys.pubkeySort` runs `Heapsort.hsort` (a line-by-line model of `secp256k1_hsort` /
  `secp256k1_heap_down` in src/hsort_impl.h) with the callback
  `cmp a b = Bytes.cmp (cmpKey a) (cmpKey b)`, i.e. `memcmp` of the 33-byte compressed encodings
  (an invalid key is encoded as 33 zero bytes).  The proofs are in `SecpZkp/Proofs/Heapsort.lean`.
-/
import SecpZkp.Model.Keys
import SecpZkp.Proofs.Heapsort

namespace SecpZkp
namespace C04

open Heapsort

/-- The comparison callback of `secp256k1_ec_pubkey_sort` (memcmp of the encodings) is a total preorder
in the C sense, which is what the heap sort needs. -/
theorem pubkeyCmp_totalPreorder :
    TotalPreorderCmp (fun a b : Pt => Bytes.cmp (Keys.cmpKey a) (Keys.cmpKey b)) :=
  Bytes.cmp_totalPreorder.comap Keys.cmpKey

/-- **The generic heap sort.**  For EVERY array (any length) and every comparison callback
that is a total preorder, `secp256k1_hsort` returns an array of the same size that is a permutation of
the input and is non-decreasing: `cmp out[j] out[i] ≥ 0` whenever `i ≤ j` are positions of the array.
(The permutation and size parts hold for an arbitrary callback.) -/
theorem hsort_spec {α : Type} [Inhabited α] (cmp : α → α → Int) (h : TotalPreorderCmp cmp) (arr : Array α) :
    (hsort cmp arr).size = arr.size ∧
    (hsort cmp arr).toList.Perm arr.toList ∧
    (∀ i j, i ≤ j → j < arr.size → 0 ≤ cmp (hsort cmp arr)[j]! (hsort cmp arr)[i]!) :=
  ⟨hsort_size cmp arr, hsort_perm cmp arr, hsort_sorted h arr⟩

/-- The hypothesis of `hsort_spec` is satisfiable (by `memcmp` on byte strings), and on a concrete input
of 5 byte strings (with a duplicate and strings of different first bytes) `hsort` computes the sorted list. -/
example : TotalPreorderCmp Bytes.cmp := Bytes.cmp_totalPreorder

example :
    (hsort Bytes.cmp #[[3, 1], [2, 255], [3, 0], [0, 7], [2, 255]]).toList
      = [[0, 7], [2, 255], [2, 255], [3, 0], [3, 1]] := by decide

/-- **`secp256k1_ec_pubkey_sort` returns a sorted permutation** (any number of keys, valid or not):
the output list is a permutation of the input list, and it is sorted by the 33-byte encodings: for every
element `a` that occurs before an element `b` in the output, the encoding of `a` is lexicographically
`≤` the encoding of `b`, both as `memcmp` result (`Bytes.cmp … ≤ 0`) and in the order of `List UInt8`. -/
theorem pubkeySort_spec (pks : List Pt) :
    (Keys.pubkeySort pks).Perm pks ∧
    (Keys.pubkeySort pks).Pairwise (fun a b => Bytes.cmp (Keys.cmpKey a) (Keys.cmpKey b) ≤ 0) ∧
    ((Keys.pubkeySort pks).map Keys.cmpKey).Pairwise (· ≤ ·) := by
  have hs : (Keys.pubkeySort pks).Pairwise (fun a b => Bytes.cmp (Keys.cmpKey a) (Keys.cmpKey b) ≤ 0) :=
    hsort_pairwise pubkeyCmp_totalPreorder pks.toArray
  refine ⟨by simpa [Keys.pubkeySort] using hsort_perm _ pks.toArray, hs, ?_⟩
  rw [List.pairwise_map]
  exact hs.imp fun hab => (Bytes.cmp_nonpos_iff_le _ _).mp hab

theorem pubkeySort_length (pks : List Pt) : (Keys.pubkeySort pks).length = pks.length :=
  (pubkeySort_spec pks).1.length_eq

/-- Keys with equal encodings are equal as byte strings (`Bytes.cmp = 0 ↔ equal`), so the sorted order is
unique up to the order of keys with identical encodings. -/
theorem pubkeyCmp_eq_zero_iff (a b : Pt) :
    Bytes.cmp (Keys.cmpKey a) (Keys.cmpKey b) = 0 ↔ Keys.cmpKey a = Keys.cmpKey b :=
  Bytes.cmp_eq_zero_iff _ _

/-- A concrete instance: five keys (one invalid, two with the same encoding, both parities) are put in the
order of their encodings `00…`, `02‖3`, `02‖5`, `03‖3`, `03‖3` (heap sort is not stable: the two keys with
equal encodings come out in reverse input order). -/
example :
    Keys.pubkeySort [.aff 3 1, .aff 5 2, .inf, .aff 3 7, .aff 3 4]
      = [.inf, .aff 3 4, .aff 5 2, .aff 3 7, .aff 3 1] := by decide +kernel

end C04
end SecpZkp
