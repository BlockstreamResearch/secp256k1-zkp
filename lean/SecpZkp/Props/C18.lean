import SecpZkp.Proofs.Ellswift
import SecpZkp.Proofs.Algebra
import SecpZkp.Proofs.GroupLawProved
import SecpZkp.Proofs.GroupExtra
/-
  C18: ECDH and ElligatorSwift exchanges agree with the group law and with each other.

  All statements are closed: the group law is discharged by `groupLaw` (`Proofs/GroupLawProved.lean`),
  primality of `P` by `Proofs/Prime.lean`.
-/
namespace SecpZkp
namespace C18
open SecpZkp.Algebra Ellswift

def validSk (sk : Bytes) : Prop := 0 < Bytes.toNat sk ∧ Bytes.toNat sk < N

instance (sk : Bytes) : Decidable (validSk sk) := by unfold validSk; infer_instance

theorem overflow_eq_true {sk : Bytes} (h : ¬ validSk sk) :
    ((Sc.setB32 sk).2 || (Sc.setB32 sk).1 == 0) = true := by
  rw [Bool.or_eq_true, beq_iff_eq, Sc.setB32_bad_iff]
  unfold validSk at h; omega

theorem setB32Seckey_invalid {sk : Bytes} (h : ¬ validSk sk) :
    (Sc.setB32Seckey sk).2 = false := by
  rw [Sc.setB32Seckey_eq]; exact decide_eq_false h

theorem spec_of_valid_invalid {sk prev : Bytes} {r : Ret Bytes} {hr : ℕ × Option Bytes} {ill : ℕ}
    (hval : validSk sk → r = ⟨if hr.1 ≠ 0 then 1 else 0, Ecdh.writeOut prev hr.2, ill⟩)
    (hinv : ¬ validSk sk → r.ret = 0 ∧ r.illegal = ill) :
    (r.ret = 1 ↔ validSk sk ∧ hr.1 ≠ 0) ∧ (r.ret = 0 ∨ r.ret = 1) ∧
    (validSk sk → r.out = Ecdh.writeOut prev hr.2) ∧ r.illegal = ill := by
  by_cases hv : validSk sk
  · rw [hval hv]
    by_cases h0 : hr.1 = 0 <;> simp [h0, hv]
  · obtain ⟨h0, hi⟩ := hinv hv
    rw [h0]
    exact ⟨by simp [hv], Or.inl rfl, fun h => absurd h hv, hi⟩

/-- The hash callback selected by `hashfp` (`none` = NULL pointer = the built-in SHA256 default). -/
def selHash : Option Ecdh.HashFn → Ecdh.HashFn
  | none => Ecdh.hashSha256
  | some f => f

theorem ecdh_valid {sk : Bytes} (hv : validSk sk) (prev : Bytes) (pk : Pt)
    (hashfp : Option Ecdh.HashFn) :
    Ecdh.ecdh prev pk sk hashfp =
      (let Q := Pt.mul (Bytes.toNat sk) pk
       let hr := selHash hashfp (Bytes.be32 Q.xOf) (Bytes.be32 Q.yOf)
       ⟨if hr.1 ≠ 0 then 1 else 0, Ecdh.writeOut prev hr.2, if pk.isInf then 1 else 0⟩) := by
  unfold Ecdh.ecdh
  rw [Sc.setB32_of_lt hv.2]
  simp only [beq_false_of_ne (Nat.ne_of_gt hv.1), Bool.or_self, Bool.false_eq_true, if_false,
    Bool.not_false, and_true]
  cases hashfp <;> rfl

theorem ecdh_invalid {sk : Bytes} (hv : ¬ validSk sk) (prev : Bytes) (pk : Pt)
    (hashfp : Option Ecdh.HashFn) :
    (Ecdh.ecdh prev pk sk hashfp).ret = 0 ∧
    (Ecdh.ecdh prev pk sk hashfp).illegal = if pk.isInf then 1 else 0 := by
  unfold Ecdh.ecdh
  cases hashfp <;> simp [overflow_eq_true hv]

/-- `secp256k1_ecdh`, exact specification (`Pt.mul` is the scalar multiplication of the group law).  The illegal-argument
    callback fires only for the (forbidden) all-zero public-key object. -/
theorem ecdh_spec (prev : Bytes) (pk : Pt) (sk : Bytes) (hashfp : Option Ecdh.HashFn) :
    let Q := Pt.mul (Bytes.toNat sk) pk
    let hr := selHash hashfp (Bytes.be32 Q.xOf) (Bytes.be32 Q.yOf)
    let r := Ecdh.ecdh prev pk sk hashfp
    (r.ret = 1 ↔ validSk sk ∧ hr.1 ≠ 0) ∧
    (r.ret = 0 ∨ r.ret = 1) ∧
    (validSk sk → r.out = Ecdh.writeOut prev hr.2) ∧
    r.illegal = (if pk.isInf then 1 else 0) := by
  intro Q hr r
  exact spec_of_valid_invalid (fun hv => ecdh_valid hv prev pk hashfp)
    (fun hv => ecdh_invalid hv prev pk hashfp)

theorem mul_mulG {a b : ℕ} (ha : a < N) (hb : b < N) :
    Pt.mul a (Pt.mulG b) = Pt.mulG (a * b % N) := by
  have : HasGroupLaw := ⟨groupLaw⟩
  exact (gl.mul_mul gl.valid_G gl.mul_N_G ha hb).trans (by rw [Nat.mul_comm]; rfl)

/-- ECDH agreement, for every hash function (default or caller supplied) and every previous buffer content. -/
theorem ecdh_agree (prev : Bytes) (skA skB : Bytes) (hashfp : Option Ecdh.HashFn)
    (hA : validSk skA) (hB : validSk skB) :
    let pkA := Pt.mulG (Bytes.toNat skA)
    let pkB := Pt.mulG (Bytes.toNat skB)
    (Ecdh.ecdh prev pkB skA hashfp).ret = (Ecdh.ecdh prev pkA skB hashfp).ret ∧
    (Ecdh.ecdh prev pkB skA hashfp).out = (Ecdh.ecdh prev pkA skB hashfp).out ∧
    (Ecdh.ecdh prev pkB skA hashfp).illegal = 0 ∧ (Ecdh.ecdh prev pkA skB hashfp).illegal = 0 := by
  intro pkA pkB
  have : HasGroupLaw := ⟨groupLaw⟩
  obtain ⟨xa, ya, ea⟩ := mulG_eq_aff hA.1 hA.2
  obtain ⟨xb, yb, eb⟩ := mulG_eq_aff hB.1 hB.2
  simp only [pkA, pkB, ecdh_valid hA, ecdh_valid hB, mul_mulG hA.2 hB.2, mul_mulG hB.2 hA.2,
    Nat.mul_comm (Bytes.toNat skB), true_and]
  exact ⟨by rw [eb]; rfl, by rw [ea]; rfl⟩

/-- Non-vacuity: valid secrets exist, `0` and `n` are rejected, and the call succeeds on a concrete
    instance (default hash, secret 5, peer key `7 • G`). -/
example : validSk (Bytes.be32 5) ∧ validSk (Bytes.be32 7) ∧ ¬ validSk (Bytes.be32 0) ∧
    ¬ validSk (Bytes.be32 N) ∧ validSk (Bytes.be32 (N - 1)) := by decide +kernel

example : (Ecdh.ecdh [] (Pt.mulG 7) (Bytes.be32 5) none).ret = 1 ∧
    (Ecdh.ecdh [] (Pt.mulG 7) (Bytes.be32 N) none).ret = 0 := by decide +kernel

/-- Every `(u, t)` decodes onto the curve: all naturals (the code reduces them mod `P`), including `u = 0`, `t = 0` and the
    family `u³ + t² + 7 = 0`, which the code remaps. -/
theorem decode_on_curve (u t : ℕ) :
    xswiftecVar u t < P ∧ geXOnCurveVar (xswiftecVar u t) = true ∧
    ∃ y, (Pt.aff (xswiftecVar u t) y).valid = true := by
  obtain ⟨y, _, hv, _⟩ := swiftecVar_spec u t
  exact ⟨xswiftecVar_lt u t, xswiftecVar_onCurve u t, y, hv⟩

/-- `secp256k1_ellswift_decode` never fails; `decU`, `decT` are the two encoded field elements taken mod `P`. -/
theorem decode_valid (ell64 : Bytes) :
    (decode ell64).ret = 1 ∧ (decode ell64).illegal = 0 ∧
    (decode ell64).out.valid = true ∧ (decode ell64).out ≠ .inf ∧
    (decode ell64).out.xOf = xswiftecVar (decU ell64) (decT ell64) ∧
    Fe.isOdd (decode ell64).out.yOf = Fe.isOdd (decT ell64) := by
  obtain ⟨y, hq, hv, hp⟩ := swiftecVar_spec (decU ell64) (decT ell64)
  rw [decode_eq, hq]
  exact ⟨rfl, rfl, hv, nofun, by simp only [Pt.xOf], hp.trans (by rw [decT, Nat.mod_mod])⟩

/-- Non-vacuity / illustration on the remapped inputs: `u = 0`, `t = 0`, values `≥ P`, and a member of
    the family `u³ + t² + 7 = 0`. -/
example : geXOnCurveVar (xswiftecVar 0 0) = true ∧ geXOnCurveVar (xswiftecVar P (P + 1)) = true ∧
    (5 ^ 3 + 0x350ae3b48047adacdeea49fb8a0b289a94f726801078408aba79631fa7a1b6ba ^ 2 + 7) % P = 0 ∧
    geXOnCurveVar (xswiftecVar 5 0x350ae3b48047adacdeea49fb8a0b289a94f726801078408aba79631fa7a1b6ba) = true := by
  decide +kernel

example : (decode (Bytes.zeros 64)).out.valid = true ∧ (decode (List.replicate 64 0xFF)).out.valid = true := by
  decide +kernel

/-- The inverse map round-trips for every branch, indeed every natural `c` (only the bits `c & 1`, `c & 2`, `c & 5` are
    used). -/
theorem inv_roundtrip {x u c t : ℕ} (hx : x < P) (hxc : geXOnCurveVar x = true)
    (hu : u % P ≠ 0) (h : xswiftecInvVar x u c = some t) :
    xswiftecVar u t = x :=
  (xswiftecInvVar_roundtrip hx hxc hu h).1

/-- Non-vacuity: for `x = G.x` every branch `c = 0..7` is taken by some `u ≠ 0`
    (`u = 7` for the `x1/x2` branches, `u = 9` for the `x3` branches). -/
example : Pt.Gx < P ∧ geXOnCurveVar Pt.Gx = true ∧ 7 % P ≠ 0 ∧ 9 % P ≠ 0 ∧
    (xswiftecInvVar Pt.Gx 7 0).isSome = true ∧ (xswiftecInvVar Pt.Gx 7 1).isSome = true ∧
    (xswiftecInvVar Pt.Gx 9 2).isSome = true ∧ (xswiftecInvVar Pt.Gx 9 3).isSome = true ∧
    (xswiftecInvVar Pt.Gx 7 4).isSome = true ∧ (xswiftecInvVar Pt.Gx 7 5).isSome = true ∧
    (xswiftecInvVar Pt.Gx 9 6).isSome = true ∧ (xswiftecInvVar Pt.Gx 9 7).isSome = true := by
  decide +kernel

/-- The hypothesis `u mod P ≠ 0` cannot be dropped: for the on-curve abscissa below, `xswiftecInvVar x 0 2` returns a `t`
    (`= √-7`), but the forward map remaps `u = 0` to `u = 1` and decodes `(0, t)` to a different abscissa.
    The C code only `VERIFY_CHECK`s `u ≠ 0` in the encoder loop (the sampled `u` is a SHA-256 output). -/
example :
    let x := 0x5f2e49f7ca8978637cd0b0a34696eed5cdd99b12c81d230386d9f555e47eaea4
    let t := 0x70ac8110203e9f95f8d832964b58ccc2c712bb1c6cd58e861134b48f456c9b53
    x < P ∧ geXOnCurveVar x = true ∧ xswiftecInvVar x 0 2 = some t ∧ xswiftecVar 0 t ≠ x := by
  decide +kernel

/-- `decode (encode pk rnd) = pk` for every fuel for which the search loop terminates, provided the `u` half of the produced
    encoding is non-zero mod `P`. -/
/- Full statement (NOT provable, hence `_partial`): the same conclusion without `decU r.out ≠ 0`.
   `u` is `SHA256(...) mod P`; if that hash value were `0` or `P`, `xswiftecInvVar` can still return
   a `t` (see the counterexample above) that does not decode back.  Excluding this needs a statement
   about SHA-256 outputs; the C code has only a `VERIFY_CHECK` (absent from production builds). -/
theorem decode_encode_partial {fuel : ℕ} {pk : Pt} {rnd32 : Bytes} {r : Ret Bytes}
    (hv : pk.valid = true) (hfin : pk ≠ .inf) (h : encode fuel pk rnd32 = some r) :
    r.ret = 1 ∧ r.illegal = 0 ∧ r.out.length = 64 ∧
    (decU r.out ≠ 0 → decode r.out = ⟨1, pk, 0⟩) := by
  cases pk with
  | inf => exact absurd rfl hfin
  | aff px py =>
    unfold encode at h
    simp only [] at h
    split at h
    · exact absurd h (by simp)
    · next u32 t he =>
      obtain rfl := Option.some.inj h
      exact ⟨rfl, rfl, decode_elligatorswift hv he⟩

/-- Non-vacuity of `decode_encode_partial`: for `pk = G` and all-zero randomness the search
    terminates and the `u` half of the encoding is non-zero. -/
example : Pt.G.valid = true ∧ Pt.G ≠ .inf ∧
    ∃ r, encode 1 Pt.G (Bytes.zeros 32) = some r ∧ decU r.out ≠ 0 := by
  have h : (encode 1 Pt.G (Bytes.zeros 32)).any (fun r => decU r.out != 0) = true := by
    decide +kernel
  obtain ⟨r, hr, hu⟩ := (Option.any_eq_true _ _).1 h
  exact ⟨by decide +kernel, by decide, r, hr, by simpa using hu⟩

/-- `secp256k1_ellswift_create`: the return value, and `decode (create sk rnd) = sk • G` with the proviso `decU r.out ≠ 0`
    (NOT provable without it, hence `_partial`: see `decode_encode_partial`). -/
theorem decode_create_partial {fuel : ℕ} {sk : Bytes} {aux : Option Bytes} {r : Ret Bytes}
    (h : create fuel sk aux = some r) :
    (r.ret = 1 ↔ validSk sk) ∧ r.illegal = 0 ∧ r.out.length = 64 ∧
    (¬ validSk sk → r.ret = 0 ∧ r.out = Bytes.zeros 64) ∧
    (validSk sk → decU r.out ≠ 0 → decode r.out = ⟨1, Pt.mulG (Bytes.toNat sk), 0⟩) := by
  have : HasGroupLaw := ⟨groupLaw⟩
  unfold create at h
  by_cases hv : validSk sk
  · rw [Sc.setB32Seckey_of_valid hv.1 hv.2] at h
    obtain ⟨px, py, hp⟩ := mulG_eq_aff hv.1 hv.2
    have hval : (Pt.aff px py).valid = true := hp ▸ mulG_valid (lt_mulBound_of_lt_N hv.2)
    simp only [if_true, hp, Pt.xOf, Pt.yOf] at h
    split at h
    · exact absurd h (by simp)
    · next u32 t he =>
      obtain rfl := Option.some.inj h
      obtain ⟨hl, hd⟩ := decode_elligatorswift hval he
      exact ⟨by simp [hv], rfl, hl, fun h => absurd hv h, fun _ => hp ▸ hd⟩
  · have e2 := setB32Seckey_invalid hv
    generalize Sc.setB32Seckey sk = p at h e2
    obtain ⟨d, ok⟩ := p
    subst e2
    simp only [Bool.false_eq_true, if_false] at h
    split at h
    · exact absurd h (by simp)
    · obtain rfl := Option.some.inj h
      exact ⟨by simp [hv], rfl, by simp [Bytes.zeros], fun _ => ⟨rfl, rfl⟩, fun h => absurd h hv⟩

theorem decode_create_out {fuel : ℕ} {sk : Bytes} {aux : Option Bytes} {r : Ret Bytes}
    (hv : validSk sk) (h : create fuel sk aux = some r) (hu : decU r.out ≠ 0) :
    (decode r.out).out = Pt.mulG (Bytes.toNat sk) :=
  congrArg Ret.out ((decode_create_partial h).2.2.2.2 hv hu)

/-- Non-vacuity of `decode_create_partial` / `xdh_agree_create_partial`: secrets 7 and 8 are valid,
    `create` terminates for both and the `u` halves are non-zero. -/
theorem create_example (k : ℕ) (hk : k = 7 ∨ k = 8) :
    validSk (Bytes.be32 k) ∧ ∃ r, create 1 (Bytes.be32 k) none = some r ∧ decU r.out ≠ 0 := by
  have h : validSk (Bytes.be32 k) ∧
      (create 1 (Bytes.be32 k) none).any (fun r => decU r.out != 0) = true := by
    rcases hk with rfl | rfl <;> decide +kernel
  obtain ⟨r, hr, hu⟩ := (Option.any_eq_true _ _).1 h.2
  exact ⟨h.1, r, hr, by simpa using hu⟩

theorem xOf_mul_geSetXoVar {x y k : ℕ} (hv : (Pt.aff x y).valid = true) (hk : k < mulBound)
    (odd : Bool) :
    (Pt.mul k (geSetXoVar x odd).1).xOf = (Pt.mul k (Pt.aff x y)).xOf := by
  have : HasGroupLaw := ⟨groupLaw⟩
  obtain ⟨hx, hc⟩ := onCurve_of_valid hv
  obtain ⟨y', e, hv', _⟩ := geSetXoVar_spec hx hc odd
  rw [e]
  rcases eq_or_eq_neg_of_x_eq hv hv' with rfl | rfl
  · rfl
  · rw [show Pt.aff x (Fe.neg y) = Pt.neg (Pt.aff x y) from rfl, Algebra.mul_neg hv hk]
    cases Pt.mul k (Pt.aff x y) <;> rfl

/-- `secp256k1_ecmult_const_xonly`: the result does not depend on which of the two points with abscissa `n/d` is taken. -/
theorem ecmultConstXonly_eq {n d q x y : ℕ} (hv : (Pt.aff x y).valid = true)
    (hx : Fe.mul n (Fe.inv d) = x) (hq : q < mulBound) :
    ecmultConstXonly n (some d) q true = some (Pt.mul q (Pt.aff x y)).xOf := by
  unfold ecmultConstXonly
  simp only [Bool.not_true, Bool.false_and, Bool.false_eq_true, if_false, hx]
  rw [xOf_mul_geSetXoVar hv hq]

/-- The encoding a party of `xdh` decodes and multiplies: the other party's. -/
def theirs (ellA64 ellB64 : Bytes) (party : ℕ) : Bytes := if party ≠ 0 then ellA64 else ellB64

/-- `xdh` with the pattern matches spelled out as projections. -/
theorem xdh_eq (prev ellA ellB sk : Bytes) (party : ℕ) (f : XdhHashFn) :
    xdh prev ellA ellB sk party (some f) =
    (let th := theirs ellA ellB party
     let fr := xswiftecFracVar (decU th) (decT th)
     let ov := ((Sc.setB32 sk).2 || (Sc.setB32 sk).1 == 0)
     let s := if ov then 1 else (Sc.setB32 sk).1
     let px := (ecmultConstXonly fr.1 (some fr.2) s true).getD 0
     let h := f (Bytes.be32 px) ellA ellB
     ⟨if h.1 ≠ 0 ∧ !ov then 1 else 0, Ecdh.writeOut prev h.2, 0⟩) := by
  unfold xdh theirs decU decT
  simp only []

theorem xdh_valid {sk : Bytes} (hv : validSk sk) (prev ellA ellB : Bytes) (party : ℕ)
    (f : XdhHashFn) :
    xdh prev ellA ellB sk party (some f) =
      (let x := (Pt.mul (Bytes.toNat sk) (decode (theirs ellA ellB party)).out).xOf
       let hr := f (Bytes.be32 x) ellA ellB
       ⟨if hr.1 ≠ 0 then 1 else 0, Ecdh.writeOut prev hr.2, 0⟩) := by
  have : HasGroupLaw := ⟨groupLaw⟩
  obtain ⟨qy, hq, hval, _⟩ :=
    swiftecVar_spec (decU (theirs ellA ellB party)) (decT (theirs ellA ellB party))
  rw [xdh_eq, Sc.setB32_of_lt hv.2, decode_eq, hq]
  simp [Nat.ne_of_gt hv.1,
    ecmultConstXonly_eq hval (xswiftecVar_eq _ _).symm (lt_mulBound_of_lt_N hv.2)]

theorem xdh_invalid {sk : Bytes} (hv : ¬ validSk sk) (prev ellA ellB : Bytes) (party : ℕ)
    (f : XdhHashFn) :
    (xdh prev ellA ellB sk party (some f)).ret = 0 ∧
    (xdh prev ellA ellB sk party (some f)).illegal = 0 := by
  rw [xdh_eq]
  simp [overflow_eq_true hv]

/-- `secp256k1_ellswift_xdh`, exact specification for a hash callback other than NULL (that case: `xdh_null`);
    `decode (theirs …)` is always a valid finite point (`decode_valid`). -/
theorem xdh_spec (prev ellA ellB sk : Bytes) (party : ℕ) (f : XdhHashFn) :
    let x := (Pt.mul (Bytes.toNat sk) (decode (theirs ellA ellB party)).out).xOf
    let hr := f (Bytes.be32 x) ellA ellB
    let r := xdh prev ellA ellB sk party (some f)
    (r.ret = 1 ↔ validSk sk ∧ hr.1 ≠ 0) ∧
    (r.ret = 0 ∨ r.ret = 1) ∧
    (validSk sk → r.out = Ecdh.writeOut prev hr.2) ∧
    r.illegal = 0 := by
  intro x hr r
  exact spec_of_valid_invalid (fun hv => xdh_valid hv prev ellA ellB party f)
    (fun hv => xdh_invalid hv prev ellA ellB party f)

/-- `hashfp = NULL` is an illegal argument: return 0, output untouched, callback raised. -/
theorem xdh_null (prev ellA ellB sk : Bytes) (party : ℕ) :
    xdh prev ellA ellB sk party none = ⟨0, prev, 1⟩ := rfl

/-- Both roles of `xdh` (A is `party = 0`) derive the same secret, given the round trip as the explicit hypotheses `hdA`,
    `hdB`; these are discharged for encodings made by `create` in `xdh_agree_create_partial`. -/
theorem xdh_agree_partial (prev ellA ellB skA skB : Bytes) (f : XdhHashFn)
    (hA : validSk skA) (hB : validSk skB)
    (hdA : (decode ellA).out = Pt.mulG (Bytes.toNat skA))
    (hdB : (decode ellB).out = Pt.mulG (Bytes.toNat skB)) :
    let x := (Pt.mulG (Bytes.toNat skA * Bytes.toNat skB % N)).xOf
    let hr := f (Bytes.be32 x) ellA ellB
    (xdh prev ellA ellB skA 0 (some f)).ret = (if hr.1 ≠ 0 then 1 else 0) ∧
    (xdh prev ellA ellB skB 1 (some f)).ret = (if hr.1 ≠ 0 then 1 else 0) ∧
    (xdh prev ellA ellB skA 0 (some f)).out = Ecdh.writeOut prev hr.2 ∧
    (xdh prev ellA ellB skB 1 (some f)).out = Ecdh.writeOut prev hr.2 := by
  intro x hr
  have t0 : theirs ellA ellB 0 = ellB := rfl
  have t1 : theirs ellA ellB 1 = ellA := rfl
  simp only [xdh_valid hA, xdh_valid hB, t0, t1, hdA, hdB, mul_mulG hA.2 hB.2, mul_mulG hB.2 hA.2,
    Nat.mul_comm (Bytes.toNat skB)]
  exact ⟨rfl, rfl, rfl, rfl⟩

/-- The same for encodings made by `create`, with the proviso of `decode_encode_partial` on their `u` halves. -/
theorem xdh_agree_create_partial (prev skA skB : Bytes) (f : XdhHashFn)
    {fuelA fuelB : ℕ} {auxA auxB : Option Bytes} {rA rB : Ret Bytes}
    (hA : validSk skA) (hB : validSk skB)
    (hcA : create fuelA skA auxA = some rA) (hcB : create fuelB skB auxB = some rB)
    (huA : decU rA.out ≠ 0) (huB : decU rB.out ≠ 0) :
    (xdh prev rA.out rB.out skA 0 (some f)).ret = (xdh prev rA.out rB.out skB 1 (some f)).ret ∧
    (xdh prev rA.out rB.out skA 0 (some f)).out = (xdh prev rA.out rB.out skB 1 (some f)).out := by
  obtain ⟨r1, r2, o1, o2⟩ := xdh_agree_partial prev rA.out rB.out skA skB f hA hB
    (decode_create_out hA hcA huA) (decode_create_out hB hcB huB)
  exact ⟨r1.trans r2.symm, o1.trans o2.symm⟩

/-- Non-vacuity of `xdh_agree_partial` and `xdh_agree_create_partial`: the hypotheses hold for the
    encodings created from the secrets 7 and 8, and both parties then succeed with the BIP-324 hash. -/
example : ∃ ellA ellB : Bytes,
    (decode ellA).out = Pt.mulG (Bytes.toNat (Bytes.be32 7)) ∧
    (decode ellB).out = Pt.mulG (Bytes.toNat (Bytes.be32 8)) ∧
    (xdh [] ellA ellB (Bytes.be32 7) 0 (some hashBip324)).ret = 1 ∧
    (xdh [] ellA ellB (Bytes.be32 8) 1 (some hashBip324)).ret = 1 ∧
    (xdh [] ellA ellB (Bytes.be32 7) 0 (some hashBip324)).out =
      (xdh [] ellA ellB (Bytes.be32 8) 1 (some hashBip324)).out := by
  obtain ⟨vA, rA, hcA, huA⟩ := create_example 7 (Or.inl rfl)
  obtain ⟨vB, rB, hcB, huB⟩ := create_example 8 (Or.inr rfl)
  have hdA := decode_create_out vA hcA huA
  have hdB := decode_create_out vB hcB huB
  obtain ⟨r1, r2, o1, o2⟩ := xdh_agree_partial [] rA.out rB.out _ _ hashBip324 vA vB hdA hdB
  exact ⟨rA.out, rB.out, hdA, hdB, r1, r2, o1.trans o2.symm⟩

end C18
end SecpZkp
