import SecpZkp.Model.Ecdsa
import SecpZkp.Proofs.Bytes
import SecpZkp.Proofs.Der
import SecpZkp.Proofs.Codec
/-
  Property C03: "Key and signature encodings are strict, canonical and round-trip".

  Every theorem quantifies over ALL byte strings of ALL lengths (no bound, no sampling).

  The L0 specification of DER used below (`DerSpec.derInt`, `derLen`, `derTLV`, `derSig`, `MinimalInt`,
  `clamp`, `InRange`) is defined in `Proofs/Der.lean`, independently of the model's parser/serializer.
-/
namespace SecpZkp
namespace C03
open Bytes DerSpec CodecLemmas

theorem toNat_ofNat (len x : Nat) : Bytes.toNat (Bytes.ofNat len x) = x % 256 ^ len :=
  Bytes.toNat_ofNat len x

example : Bytes.toNat (Bytes.ofNat 2 0x12345) = 0x2345 := by decide

theorem ofNat_length (len x : Nat) : (Bytes.ofNat len x).length = len := Bytes.ofNat_length len x

example : (Bytes.ofNat 32 7).length = 32 := by decide

/-- So `toNat` is injective on strings of equal length: the fixed-width encoding is canonical. -/
theorem ofNat_toNat (bs : Bytes) (len : Nat) (h : bs.length = len) :
    Bytes.ofNat len (Bytes.toNat bs) = bs := Bytes.ofNat_toNat bs h

example : Bytes.ofNat 3 (Bytes.toNat [0x00, 0xAB, 0xFF]) = [0x00, 0xAB, 0xFF] := by decide

theorem toNat_lt (bs : Bytes) : Bytes.toNat bs < 256 ^ bs.length := Bytes.toNat_lt bs

example : Bytes.toNat [0xFF, 0xFF] = 256 ^ 2 - 1 := by decide

theorem derSig_unfold (rb sb : Bytes) :
    derSig rb sb =
      0x30 :: (derLen ((0x02 :: (derLen rb.length ++ rb)) ++ (0x02 :: (derLen sb.length ++ sb))).length ++
        ((0x02 :: (derLen rb.length ++ rb)) ++ (0x02 :: (derLen sb.length ++ sb)))) := rfl

example : derInt 0 = [0x00] := by decide +kernel
example : derInt 0x7F = [0x7F] := by decide +kernel
example : derInt 0x80 = [0x00, 0x80] := by decide +kernel
example : derInt 0x1234 = [0x12, 0x34] := by decide +kernel
example : derLen 70 = [70] := by decide +kernel
example : derLen 200 = [0x81, 200] := by decide +kernel
example : derLen 300 = [0x82, 0x01, 0x2C] := by decide +kernel
example : derSig (derInt 1) (derInt 0x80) = [0x30, 7, 0x02, 1, 1, 0x02, 2, 0, 0x80] := by decide +kernel

/-- `secp256k1_ecdsa_sig_serialize` strips the 33-byte buffer `00 ‖ x` down to the minimal encoding. -/
theorem intBody_spec (x : Nat) (h : x < 2 ^ 256) : Der.intBody x = derInt x := intBody_eq_derInt h

example : Der.intBody (2 ^ 255) = 0x00 :: 0x80 :: List.replicate 31 0 := by decide +kernel

/-- Clause "DER serialization reports the needed size when the buffer is too small": the triple is (return value, bytes
    written, `*size` on return) of `secp256k1_ecdsa_sig_serialize`; by the second conjunct the size reported is the number
    of bytes written. -/
theorem sigSerialize_spec (r s size : Nat) (hr : r < 2 ^ 256) (hs : s < 2 ^ 256) :
    Der.sigSerialize r s size =
      (if size < 6 + (derInt r).length + (derInt s).length
       then (0, [], 6 + (derInt r).length + (derInt s).length)
       else (1, derSig (derInt r) (derInt s), 6 + (derInt r).length + (derInt s).length)) ∧
    (derSig (derInt r) (derInt s)).length = 6 + (derInt r).length + (derInt s).length :=
  ⟨sigSerialize_eq hr hs size, derSig_derInt_length hr hs⟩

theorem sigSerialize_size (r s size : Nat) (hr : r < 2 ^ 256) (hs : s < 2 ^ 256) :
    ((Der.sigSerialize r s size).1 = 0 ↔ size < 6 + (derInt r).length + (derInt s).length) ∧
    (Der.sigSerialize r s size).2.2 = 6 + (derInt r).length + (derInt s).length ∧
    ((Der.sigSerialize r s size).1 = 1 →
      (Der.sigSerialize r s size).2.1.length = (Der.sigSerialize r s size).2.2) := by
  rw [sigSerialize_eq hr hs]
  split
  · rename_i h; simp [h]
  · rename_i h; simp [h, derSig_derInt_length hr hs]

example : Der.sigSerialize 1 0x80 8 = (0, [], 9) := by decide +kernel
example : Der.sigSerialize 1 0x80 9 = (1, [0x30, 7, 0x02, 1, 1, 0x02, 2, 0, 0x80], 9) := by decide +kernel
example : (Der.sigSerialize (N - 1) (N - 1) 71) = (0, [], 72) := by decide +kernel

/-- Clause "parsing any serialization yields an equal object", DER. -/
theorem parse_serialize (r s size : Nat) (hr : r < N) (hs : s < N)
    (hsize : 6 + (derInt r).length + (derInt s).length ≤ size) :
    Der.sigParse (Der.sigSerialize r s size).2.1 = some (r, s) := by
  have hr' : r < 2 ^ 256 := Nat.lt_trans hr N_lt
  have hs' : s < 2 ^ 256 := Nat.lt_trans hs N_lt
  have h1 := derInt_length_le_33 hr'
  have h2 := derInt_length_le_33 hs'
  rw [sigSerialize_eq hr' hs', if_neg (by omega),
    sigParse_derSig (minimalInt_derInt r) (minimalInt_derInt s) (by rw [(derSig_short h1 h2).2]; omega),
    clamp_derInt hr, clamp_derInt hs]

example : Der.sigParse (Der.sigSerialize (N - 1) 1 72).2.1 = some (N - 1, 1) :=
  parse_serialize (N - 1) 1 72 (by decide) (by decide) (by decide +kernel)

/-- Clause "strict DER with minimal lengths and no padding or trailing bytes": `secp256k1_ecdsa_sig_parse` accepts exactly
    `30 L 02 Lr R 02 Ls S` with every length in minimal definite form (`derLen`), `R` and `S` non-empty without excess
    0x00 / 0xFF padding (`MinimalInt`), and nothing after.  `… < 2^64` is the parser's `size_t` limit on the announced
    length. -/
theorem parse_canonical (bs : Bytes) (r s : Nat) :
    Der.sigParse bs = some (r, s) ↔
      ∃ rb sb, MinimalInt rb ∧ MinimalInt sb ∧
        (derTLV 0x02 rb ++ derTLV 0x02 sb).length < 2 ^ 64 ∧
        bs = derSig rb sb ∧ r = clamp rb ∧ s = clamp sb :=
  sigParse_iff bs r s

example : Der.sigParse [0x30, 7, 0x02, 1, 1, 0x02, 2, 0, 0x80] = some (1, 0x80) := by decide +kernel
/-- a legitimately long-form outer length (content 136 bytes); the oversize integer reads as 0 -/
example : Der.sigParse ([0x30, 0x81, 0x88, 0x02, 0x81, 0x82] ++ (1 :: List.replicate 129 0) ++ [2, 1, 1]) =
    some (0, 1) := by decide +kernel
/-- negative integer reads as 0 -/
example : Der.sigParse [0x30, 6, 0x02, 1, 0x80, 0x02, 1, 1] = some (0, 1) := by decide +kernel
/-- value `N` reads as 0, value `N - 1` is kept -/
example : Der.sigParse ([0x30, 38, 0x02, 33, 0] ++ be32 N ++ [0x02, 1, 1]) = some (0, 1) := by
  decide +kernel
example : Der.sigParse ([0x30, 38, 0x02, 33, 0] ++ be32 (N - 1) ++ [0x02, 1, 1]) = some (N - 1, 1) := by
  decide +kernel

/-- `secp256k1_der_read_len` accepts exactly the minimal definite lengths below `2^64`; only in the long form does it
    compare the length with the remaining input (`readLen_bounds`). -/
theorem readLen_canonical (bs rest : Bytes) (n : Nat) :
    Der.readLen bs = some (n, rest) ↔
      bs = derLen n ++ rest ∧ n < 2 ^ 64 ∧ (128 ≤ n → n ≤ rest.length) :=
  readLen_iff bs rest n

example : Der.readLen [0x05, 0xAA] = some (5, [0xAA]) := by decide +kernel
example : Der.readLen (0x81 :: 0x80 :: List.replicate 128 7) = some (128, List.replicate 128 7) := by
  decide +kernel

/-- Indefinite length (0x80) and the reserved octet 0xFF are rejected. -/
theorem readLen_indefinite (t : Bytes) : Der.readLen (0x80 :: t) = none ∧ Der.readLen (0xFF :: t) = none := by
  constructor <;> simp [Der.readLen]

/-- Non-minimal long form, first kind: the first length octet is 0. -/
theorem readLen_nonminimal (b : UInt8) (t : Bytes) (hb128 : 128 ≤ b.toNat) :
    Der.readLen (b :: 0x00 :: t) = none := by
  have hb : ¬ b.toNat < 128 := by omega
  simp [Der.readLen, byte_and80_eq_zero_iff, hb]

/-- Second kind: `81 n` with `n < 128`, which has a short form. -/
theorem readLen_long_small (n : UInt8) (t : Bytes) (h : n.toNat < 128) :
    Der.readLen (0x81 :: n :: t) = none := by
  have h80 : ¬ ((0x81 : UInt8) &&& 0x80 = 0) := by decide
  simp [Der.readLen, h, h80]

example : Der.readLen [0x81, 0x7F] = none := readLen_long_small _ _ (by decide)
example : Der.readLen [0x82, 0x00, 0x80] = none := readLen_nonminimal _ _ (by decide)
example : Der.sigParse [0x30, 0x81, 6, 0x02, 1, 1, 0x02, 1, 2] = none := by decide +kernel
example : Der.sigParse [0x30, 0x80, 0x02, 1, 1, 0x02, 1, 2, 0, 0] = none := by decide +kernel

/-- `secp256k1_der_parse_integer`, as `parse_canonical`. -/
theorem parseInteger_canonical (bs rest : Bytes) (v : Nat) :
    Der.parseInteger bs = some (v, rest) ↔
      ∃ c, MinimalInt c ∧ c.length < 2 ^ 64 ∧ bs = derTLV 0x02 c ++ rest ∧ v = clamp c :=
  parseInteger_iff bs rest v

/-- `¬ MinimalInt c` covers the empty integer and excess 0x00 / 0xFF padding (examples below). -/
theorem parseInteger_padding (c rest : Bytes) (hl : c.length < 2 ^ 64) :
    Der.parseInteger (derTLV 0x02 c ++ rest) = if MinimalInt c then some (clamp c, rest) else none :=
  parseInteger_derTLV_any c rest hl

example : Der.parseInteger [0x02, 2, 0x00, 0x80, 9] = some (0x80, [9]) := by decide +kernel
example : ¬ MinimalInt [0x00, 0x7F] := by decide
example : ¬ MinimalInt [0xFF, 0x80] := by decide
example : ¬ MinimalInt [] := by decide
example : Der.parseInteger [0x02, 2, 0x00, 0x7F] = none := by decide +kernel
example : Der.parseInteger [0x02, 2, 0xFF, 0x80] = none := by decide +kernel
example : Der.parseInteger [0x02, 0] = none := by decide +kernel

/-- The same for a whole signature: arbitrary `rb`, `sb` in a correct frame. -/
theorem parse_derSig_any (rb sb : Bytes) (hl : (derTLV 0x02 rb ++ derTLV 0x02 sb).length < 2 ^ 64) :
    Der.sigParse (derSig rb sb) =
      if MinimalInt rb ∧ MinimalInt sb then some (clamp rb, clamp sb) else none :=
  sigParse_derSig_any rb sb hl

example : Der.sigParse (derSig [0x00, 0x01] [0x01]) = none := by
  rw [parse_derSig_any _ _ (by decide +kernel)]; decide
example : Der.sigParse (derSig [0x01] [0xFF, 0xFF]) = none := by
  rw [parse_derSig_any _ _ (by decide +kernel)]; decide
example : derSig [0x00, 0x01] [0x01] = [0x30, 7, 0x02, 2, 0, 1, 0x02, 1, 1] := by decide +kernel

theorem parse_no_trailing (bs t : Bytes) (v : Nat × Nat) (h : Der.sigParse bs = some v) (ht : t ≠ []) :
    Der.sigParse (bs ++ t) = none := sigParse_append_none h ht

theorem parse_no_truncation (bs : Bytes) (k : Nat) (v : Nat × Nat) (h : Der.sigParse bs = some v)
    (hk : k < bs.length) : Der.sigParse (bs.take k) = none := sigParse_take_none h hk

example : Der.sigParse ([0x30, 6, 0x02, 1, 1, 0x02, 1, 2] ++ [0x00]) = none :=
  parse_no_trailing _ _ (1, 2) (by decide +kernel) (by decide)

/-- Makes the encoding unique: two accepted byte strings that carry in-range integers and parse to the same pair are
    equal.  72 = 6 + 33 + 33 bytes hold every DER signature of scalars below `2^256`. -/
theorem serialize_parse_inRange (rb sb : Bytes) (hmr : MinimalInt rb) (hms : MinimalInt sb)
    (hr : InRange rb) (hs : InRange sb) :
    (Der.sigSerialize (clamp rb) (clamp sb) 72).2.1 = derSig rb sb := by
  obtain ⟨er, _⟩ := eq_derInt_of_inRange hmr hr
  obtain ⟨es, _⟩ := eq_derInt_of_inRange hms hs
  have hr' : clamp rb < 2 ^ 256 := Nat.lt_trans (clamp_lt rb) N_lt
  have hs' : clamp sb < 2 ^ 256 := Nat.lt_trans (clamp_lt sb) N_lt
  have h1 := derInt_length_le_33 hr'
  have h2 := derInt_length_le_33 hs'
  rw [sigSerialize_eq hr' hs', if_neg (by omega), ← er, ← es]

/-- Clause "serializing any parsed object reproduces the accepted bytes", DER.  `hr`, `hs` cannot be dropped: a negative
    or oversize integer is accepted and reads as 0, which serializes as `02 01 00`.  For a literal zero see
    `serialize_parse_zero`. -/
theorem serialize_parse (bs : Bytes) (r s : Nat) (h : Der.sigParse bs = some (r, s))
    (hr : r ≠ 0) (hs : s ≠ 0) : (Der.sigSerialize r s 72).2.1 = bs := by
  obtain ⟨rb, sb, hmr, hms, -, rfl, rfl, rfl⟩ := sigParse_some h
  exact serialize_parse_inRange rb sb hmr hms (inRange_of_clamp_ne_zero hr) (inRange_of_clamp_ne_zero hs)

/-- The same with the value zero admitted (`02 01 00` is in range). -/
theorem serialize_parse_zero (rb sb : Bytes) (hmr : MinimalInt rb) (hms : MinimalInt sb)
    (hr : InRange rb) (hs : InRange sb) :
    Der.sigParse (derSig rb sb) = some (toNat rb, toNat sb) ∧
    (Der.sigSerialize (toNat rb) (toNat sb) 72).2.1 = derSig rb sb := by
  obtain ⟨er, cr⟩ := eq_derInt_of_inRange hmr hr
  obtain ⟨es, cs⟩ := eq_derInt_of_inRange hms hs
  have h1 := derInt_length_le_33 (Nat.lt_trans (clamp_lt rb) N_lt)
  have h2 := derInt_length_le_33 (Nat.lt_trans (clamp_lt sb) N_lt)
  rw [← er] at h1
  rw [← es] at h2
  refine ⟨?_, ?_⟩
  · rw [sigParse_derSig hmr hms (by rw [(derSig_short h1 h2).2]; omega), cr, cs]
  · rw [← cr, ← cs]; exact serialize_parse_inRange rb sb hmr hms hr hs

example : (Der.sigSerialize 1 0x80 72).2.1 = [0x30, 7, 0x02, 1, 1, 0x02, 2, 0, 0x80] :=
  serialize_parse _ 1 0x80 (by decide +kernel) (by decide) (by decide)
example : InRange [0x00] ∧ MinimalInt [0x00] := by decide

/-- In the short form `secp256k1_der_read_len` does NOT compare the length with the remaining input (the model follows the
    C code in this; the callers do the comparison). -/
theorem readLen_bounds (bs rest : Bytes) (n : Nat) (h : Der.readLen bs = some (n, rest)) :
    rest.length < bs.length ∧ (128 ≤ n → n ≤ rest.length) ∧ n < 2 ^ 64 ∧ ∃ pre, bs = pre ++ rest :=
  DerSpec.readLen_bounds h

/-- The statement `readLen bs = some (n, rest) → n ≤ rest.length` is FALSE in the short form. -/
example : Der.readLen [0x05] = some (5, []) := by decide +kernel

theorem parseInteger_bounds (bs rest : Bytes) (v : Nat) (h : Der.parseInteger bs = some (v, rest)) :
    rest.length + 3 ≤ bs.length ∧ v < N ∧ ∃ pre, bs = pre ++ rest :=
  DerSpec.parseInteger_bounds h

theorem sigParse_bounds (bs : Bytes) (r s : Nat) (h : Der.sigParse bs = some (r, s)) :
    r < N ∧ s < N ∧ 8 ≤ bs.length := DerSpec.sigParse_bounds h

example : Der.parseInteger [0x02, 1, 5, 0xAA, 0xBB] = some (5, [0xAA, 0xBB]) := by decide +kernel

theorem parseCompact_iff (b : Bytes) :
    (Ecdsa.parseCompact b).1 = 1 ↔ toNat (b.take 32) < N ∧ toNat (b.drop 32) < N := by
  rw [parseCompact_eq]; split <;> simp [*]

theorem parseCompact_value (b : Bytes) (h : (Ecdsa.parseCompact b).1 = 1) :
    (Ecdsa.parseCompact b).2 = (toNat (b.take 32), toNat (b.drop 32)) := by
  have := (parseCompact_iff b).1 h
  rw [parseCompact_eq, if_pos this]

theorem parseCompact_fail (b : Bytes) (h : (Ecdsa.parseCompact b).1 ≠ 1) :
    Ecdsa.parseCompact b = (0, (0, 0)) := by
  rw [parseCompact_eq] at h ⊢; split
  · rename_i h'; rw [if_pos h'] at h; exact absurd rfl h
  · rfl

theorem serializeCompact_parseCompact (b : Bytes) (hl : b.length = 64)
    (h : (Ecdsa.parseCompact b).1 = 1) : Ecdsa.serializeCompact (Ecdsa.parseCompact b).2 = b := by
  rw [parseCompact_value b h]
  simp only [Ecdsa.serializeCompact]
  rw [be32_toNat _ (by simp; omega), be32_toNat _ (by simp; omega), List.take_append_drop]

theorem parseCompact_serializeCompact (r s : Nat) (hr : r < N) (hs : s < N) :
    Ecdsa.parseCompact (Ecdsa.serializeCompact (r, s)) = (1, (r, s)) := by
  have h1 : (Ecdsa.serializeCompact (r, s)).take 32 = be32 r := List.take_left' (be32_length r)
  have h2 : (Ecdsa.serializeCompact (r, s)).drop 32 = be32 s := List.drop_left' (be32_length r)
  rw [parseCompact_eq, h1, h2, toNat_be32_of_lt_N hr, toNat_be32_of_lt_N hs, if_pos ⟨hr, hs⟩]

example : Ecdsa.parseCompact (be32 (N - 1) ++ be32 1) = (1, (N - 1, 1)) := by decide +kernel
example : Ecdsa.parseCompact (be32 N ++ be32 1) = (0, (0, 0)) := by decide +kernel
example : Ecdsa.parseCompact (be32 1 ++ be32 (2 ^ 256 - 1)) = (0, (0, 0)) := by decide +kernel
example : Ecdsa.serializeCompact (Ecdsa.parseCompact (be32 5 ++ be32 (N - 1))).2 = be32 5 ++ be32 (N - 1) :=
  serializeCompact_parseCompact _ (by decide) (by decide +kernel)

/-- Clause "a signature object left by a failed or out-of-range parse never verifies": a DER parse leaves the scalar 0
    for an integer that is negative or out of range, a failed parse leaves `(0, 0)`. -/
theorem verify_zero (sig : Nat × Nat) (h : sig.1 = 0 ∨ sig.2 = 0) (msg : Bytes) (pk : Pt) :
    (Ecdsa.verify sig msg pk).ret = 0 := by
  unfold Ecdsa.verify
  simp only
  split
  · rfl
  · split
    · rfl
    · simp [Ecdsa.sigVerify, h]

theorem parse_fail_never_verifies (msg : Bytes) (pk : Pt) : (Ecdsa.verify (0, 0) msg pk).ret = 0 :=
  verify_zero (0, 0) (Or.inl rfl) msg pk

theorem parseDer_fail (b : Bytes) (h : (Ecdsa.parseDer b).1 ≠ 1) : Ecdsa.parseDer b = (0, (0, 0)) := by
  unfold Ecdsa.parseDer at h ⊢
  split
  · rename_i heq; rw [heq] at h; exact absurd rfl h
  · rfl

theorem parseDer_iff (b : Bytes) (r s : Nat) :
    Ecdsa.parseDer b = (1, (r, s)) ↔ Der.sigParse b = some (r, s) := by
  unfold Ecdsa.parseDer
  split
  · rename_i rs heq; simp [heq]
  · rename_i heq; simp [heq]

theorem parseCompact_fail_never_verifies (b msg : Bytes) (pk : Pt) (h : (Ecdsa.parseCompact b).1 ≠ 1) :
    (Ecdsa.verify (Ecdsa.parseCompact b).2 msg pk).ret = 0 := by
  rw [parseCompact_fail b h]; exact parse_fail_never_verifies msg pk

theorem parseDer_fail_never_verifies (b msg : Bytes) (pk : Pt) (h : (Ecdsa.parseDer b).1 ≠ 1) :
    (Ecdsa.verify (Ecdsa.parseDer b).2 msg pk).ret = 0 := by
  rw [parseDer_fail b h]; exact parse_fail_never_verifies msg pk

theorem clamp_eq_zero_of_not_inRange (c : Bytes) (h : ¬ InRange c) : clamp c = 0 :=
  Classical.byContradiction fun hc => h (inRange_of_clamp_ne_zero hc)

/-- The out-of-range case: such a signature parses with return value 1. -/
theorem parseDer_out_of_range_never_verifies (rb sb msg : Bytes) (pk : Pt)
    (hmr : MinimalInt rb) (hms : MinimalInt sb)
    (hl : (derTLV 0x02 rb ++ derTLV 0x02 sb).length < 2 ^ 64)
    (hr : ¬ InRange rb ∨ ¬ InRange sb) :
    Ecdsa.parseDer (derSig rb sb) = (1, (clamp rb, clamp sb)) ∧
    (Ecdsa.verify (Ecdsa.parseDer (derSig rb sb)).2 msg pk).ret = 0 := by
  have hp : Ecdsa.parseDer (derSig rb sb) = (1, (clamp rb, clamp sb)) :=
    (parseDer_iff _ _ _).2 (sigParse_derSig hmr hms hl)
  refine ⟨hp, ?_⟩
  rw [hp]
  exact verify_zero _ (hr.imp (clamp_eq_zero_of_not_inRange _) (clamp_eq_zero_of_not_inRange _)) msg pk

example : (Ecdsa.verify (0, 0) (be32 1) Pt.G).ret = 0 := parse_fail_never_verifies _ _
example : Ecdsa.parseDer [0x30, 6, 0x02, 1, 1, 0x02, 1, 2, 0x00] = (0, (0, 0)) := by decide +kernel
example : Ecdsa.parseDer [0x30, 6, 0x02, 1, 0x80, 0x02, 1, 1] = (1, (0, 1)) := by decide +kernel
example : ¬ InRange [0x80] := by decide

theorem pubkeyParse_nil : Codec.pubkeyParse [] = none := rfl

/-- Clause "accepts exactly the byte strings its format admits" for `secp256k1_eckey_pubkey_parse`: the first disjunct is
    the compressed form, the second the uncompressed and hybrid ones (tags 6 / 7 announce the parity of `Y`). -/
theorem pubkeyParse_iff (pub : Bytes) (p : Pt) :
    Codec.pubkeyParse pub = some p ↔
      (∃ tag xb, pub = tag :: xb ∧ xb.length = 32 ∧ (tag = 0x02 ∨ tag = 0x03) ∧ toNat xb < P ∧
          Pt.liftX (toNat xb) (decide (tag = 0x03)) = some p) ∨
      (∃ tag xb yb, pub = tag :: (xb ++ yb) ∧ xb.length = 32 ∧ yb.length = 32 ∧
          (tag = 0x04 ∨ tag = 0x06 ∨ tag = 0x07) ∧ toNat xb < P ∧ toNat yb < P ∧
          (tag = 0x06 → toNat yb % 2 = 0) ∧ (tag = 0x07 → toNat yb % 2 = 1) ∧
          Pt.onCurveXY (toNat xb) (toNat yb) = true ∧ p = Pt.aff (toNat xb) (toNat yb)) := by
  constructor
  · intro h
    cases pub with
    | nil => cases h
    | cons tag rest =>
      rw [pubkeyParse_cons] at h
      split at h
      · rename_i h33
        split at h
        · rename_i hx
          exact Or.inl ⟨tag, rest, rfl, h33.1, h33.2, hx, h⟩
        · cases h
      · split at h
        · rename_i h65
          split at h
          · rename_i hc
            obtain ⟨hx, hy, hp, hon⟩ := hc
            cases h
            refine Or.inr ⟨tag, rest.take 32, rest.drop 32, by rw [List.take_append_drop], ?_, ?_, h65.2,
              hx, hy, hp.1, hp.2, hon, rfl⟩
            · simp; omega
            · simp; omega
          · cases h
        · cases h
  · rintro (⟨tag, xb, rfl, hl, ht, hx, hlift⟩ | ⟨tag, xb, yb, rfl, hlx, hly, ht, hx, hy, h6, h7, hon, rfl⟩)
    · rw [pubkeyParse_cons, if_pos ⟨hl, ht⟩, if_pos hx, hlift]
    · have hne : ¬ ((xb ++ yb).length = 32 ∧ (tag = 0x02 ∨ tag = 0x03)) := by
        simp; omega
      have h64 : (xb ++ yb).length = 64 := by simp; omega
      rw [pubkeyParse_cons, if_neg hne, if_pos ⟨h64, ht⟩, List.take_left' hlx, List.drop_left' hlx,
        if_pos ⟨hx, hy, ⟨h6, h7⟩, hon⟩]

example : Codec.pubkeyParse (0x02 :: be32 Pt.Gx) = some Pt.G := by decide +kernel
example : Codec.pubkeyParse (0x03 :: be32 Pt.Gx) = some (Pt.aff Pt.Gx (P - Pt.Gy)) := by decide +kernel
example : Codec.pubkeyParse (0x04 :: (be32 Pt.Gx ++ be32 Pt.Gy)) = some Pt.G := by decide +kernel
example : Codec.pubkeyParse (0x06 :: (be32 Pt.Gx ++ be32 Pt.Gy)) = some Pt.G := by decide +kernel
/-- hybrid prefix with the wrong parity -/
example : Codec.pubkeyParse (0x07 :: (be32 Pt.Gx ++ be32 Pt.Gy)) = none := by decide +kernel
/-- coordinate not below the field prime (`Gx + P < 2^256` would alias `Gx`) -/
example : Codec.pubkeyParse (0x04 :: (be32 (Pt.Gx + P) ++ be32 Pt.Gy)) = none := by decide +kernel
example : Codec.pubkeyParse (0x02 :: be32 P) = none := by decide +kernel
/-- not on the curve -/
example : Codec.pubkeyParse (0x04 :: (be32 Pt.Gx ++ be32 (Pt.Gy + 1))) = none := by decide +kernel
/-- abscissa with no point (x = 5: 5^3 + 7 = 132 is not a square mod P) -/
example : Codec.pubkeyParse (0x02 :: be32 5) = none := by decide +kernel

theorem pubkeyParse_bad_length (pub : Bytes) (h33 : pub.length ≠ 33) (h65 : pub.length ≠ 65) :
    Codec.pubkeyParse pub = none := by
  cases pub with
  | nil => rfl
  | cons tag rest =>
    simp only [List.length_cons] at h33 h65
    rw [pubkeyParse_cons, if_neg (fun h => h33 (by omega)), if_neg (fun h => h65 (by omega))]

example : Codec.pubkeyParse (0x02 :: be32 Pt.Gx ++ [0x00]) = none :=
  pubkeyParse_bad_length _ (by decide) (by decide)

theorem pubkeyParse_bad_prefix (tag : UInt8) (rest : Bytes)
    (h : ¬ (rest.length = 32 ∧ (tag = 0x02 ∨ tag = 0x03)) ∧
         ¬ (rest.length = 64 ∧ (tag = 0x04 ∨ tag = 0x06 ∨ tag = 0x07))) :
    Codec.pubkeyParse (tag :: rest) = none := by
  rw [pubkeyParse_cons, if_neg h.1, if_neg h.2]

example : Codec.pubkeyParse (0x05 :: (be32 Pt.Gx ++ be32 Pt.Gy)) = none :=
  pubkeyParse_bad_prefix _ _ (by decide +kernel)
example : Codec.pubkeyParse (0x04 :: be32 Pt.Gx) = none :=
  pubkeyParse_bad_prefix _ _ (by decide +kernel)

/-- The API wrapper `secp256k1_ec_pubkey_parse`: `.inf` is the zeroed object, the third component 0 says that the
    illegal-argument callback is not raised. -/
theorem ecPubkeyParse_spec (input : Bytes) :
    (∀ p, Codec.pubkeyParse input = some p → Codec.ecPubkeyParse input = ⟨1, p, 0⟩) ∧
    (Codec.pubkeyParse input = none → Codec.ecPubkeyParse input = ⟨0, .inf, 0⟩) := by
  unfold Codec.ecPubkeyParse
  constructor
  · intro p h; rw [h]
  · intro h; rw [h]

example : (Codec.ecPubkeyParse (0x02 :: be32 Pt.Gx)).ret = 1 := by decide +kernel

theorem serialize65_aff (x y : Nat) : Codec.serialize65 (Pt.aff x y) = 0x04 :: (be32 x ++ be32 y) := rfl

theorem pubkeyParse_serialize65 {x y : Nat} (h : Pt.onCurveXY x y = true) :
    Codec.pubkeyParse (Codec.serialize65 (Pt.aff x y)) = some (Pt.aff x y) := by
  obtain ⟨hx, hy⟩ := onCurveXY_lt h
  -- the 65-byte branch of `pubkeyParse_cons`; the tag 4 carries no parity condition
  rw [serialize65_aff, pubkeyParse_cons, if_neg (by simp), if_pos ⟨by simp, Or.inl rfl⟩,
    List.take_left' (be32_length x), List.drop_left' (be32_length x), toNat_be32_of_lt_P hx,
    toNat_be32_of_lt_P hy, if_pos ⟨hx, hy, by simp [parityOk], h⟩]

example : Codec.pubkeyParse (Codec.serialize65 Pt.G) = some Pt.G :=
  pubkeyParse_serialize65 (x := Pt.Gx) (y := Pt.Gy) (by decide +kernel)

/-- Clause "hybrid keys map to their uncompressed form". -/
theorem serialize65_pubkeyParse {tag : UInt8} {xy : Bytes} {p : Pt} (hl : xy.length = 64)
    (h : Codec.pubkeyParse (tag :: xy) = some p) : Codec.serialize65 p = 0x04 :: xy := by
  rw [pubkeyParse_iff] at h
  rcases h with ⟨tag', xb, he, hlx, -⟩ | ⟨tag', xb, yb, he, hlx, hly, -, -, -, -, -, -, rfl⟩
  · cases he; omega
  · cases he
    rw [serialize65_aff, be32_toNat _ hlx, be32_toNat _ hly]

example : Codec.serialize65 Pt.G = 0x04 :: (be32 Pt.Gx ++ be32 Pt.Gy) :=
  serialize65_pubkeyParse (tag := 0x06) (by decide) (by decide +kernel)

/-- Buffer-length contract of `secp256k1_ec_pubkey_serialize`: the `ARG_CHECK` on `*outputlen` comes before anything is
    touched, so nothing is written, `*outputlen` is unchanged and the illegal-argument callback is raised once. -/
theorem ecPubkeySerialize_short (pk : Pt) (outlen : Nat) (compressed : Bool)
    (h : outlen < (if compressed then 33 else 65)) :
    Codec.ecPubkeySerialize pk outlen compressed = ⟨0, ([], outlen), 1⟩ := by
  unfold Codec.ecPubkeySerialize
  simp only
  rw [if_pos h]

example : Codec.ecPubkeySerialize Pt.G 64 false = ⟨0, ([], 64), 1⟩ :=
  ecPubkeySerialize_short _ _ _ (by decide)

/-- The zeros after the serialization: the C function clears the whole buffer (`memset(output, 0, len)`) first. -/
theorem ecPubkeySerialize_ok (x y : Nat) (outlen : Nat) (compressed : Bool)
    (h : (if compressed then 33 else 65) ≤ outlen) :
    Codec.ecPubkeySerialize (Pt.aff x y) outlen compressed =
      ⟨1, ((if compressed then Codec.serialize33 (Pt.aff x y) else Codec.serialize65 (Pt.aff x y)) ++
            Bytes.zeros (outlen - (if compressed then 33 else 65)),
           if compressed then 33 else 65), 0⟩ := by
  unfold Codec.ecPubkeySerialize
  simp only
  rw [if_neg (by omega)]

example : (Codec.ecPubkeySerialize Pt.G 33 true).out = (0x02 :: be32 Pt.Gx, 33) := by decide +kernel

/-- Round trip parse → serialize for the compressed form.  `hy` holds for every point of the curve (`-7` is not a cube mod
    `P`: `valid_y_ne_zero` in `Proofs/GroupExtra.lean`, which needs Mathlib's field theory and is not imported here),
    hence `_partial`. -/
theorem serialize33_pubkeyParse_partial {tag : UInt8} {xb : Bytes} {p : Pt} (hl : xb.length = 32)
    (h : Codec.pubkeyParse (tag :: xb) = some p) (hy : p.yOf ≠ 0) :
    Codec.serialize33 p = tag :: xb := by
  rw [pubkeyParse_iff] at h
  rcases h with ⟨tag', xb', he, hlx, ht, hx, hlift⟩ | ⟨tag', xb', yb, he, hlx, hly, -⟩
  · cases he
    obtain ⟨y, hyP, rfl⟩ := liftX_some hlift
    have hP2 := P_odd
    replace hy : (if Fe.isOdd y = decide (tag = 3) then y else Fe.neg y) ≠ 0 := hy
    rw [Nat.mod_eq_of_lt hx]
    show (if Fe.isOdd (if Fe.isOdd y = decide (tag = 3) then y else Fe.neg y) = true then (0x03 : UInt8) else 0x02) ::
      be32 (toNat xb) = _
    rw [be32_toNat _ hlx]
    have key : Fe.isOdd (if Fe.isOdd y = decide (tag = 3) then y else Fe.neg y) = decide (tag = 3) := by
      by_cases hpar : Fe.isOdd y = decide (tag = 3)
      · rw [if_pos hpar]; exact hpar
      · rw [if_neg hpar] at hy ⊢
        have hy0 : y ≠ 0 := by
          intro h0; subst h0; simp [Fe.neg] at hy
        have hneg : Fe.neg y = P - y := by
          unfold Fe.neg; rw [Nat.mod_eq_of_lt hyP, Nat.mod_eq_of_lt (by omega)]
        rw [hneg]
        unfold Fe.isOdd at hpar ⊢
        by_cases h3 : tag = 3
        · simp only [h3, decide_true, decide_eq_true_eq] at hpar ⊢; omega
        · simp only [h3, decide_false, decide_eq_false_iff_not] at hpar ⊢; omega
    rw [key]
    rcases ht with rfl | rfl
    · rfl
    · rfl
  · cases he; simp at hl; omega

example : Codec.serialize33 Pt.G = 0x02 :: be32 Pt.Gx :=
  serialize33_pubkeyParse_partial (tag := 0x02) (by decide) (by decide +kernel) (by decide +kernel)

/-- Round trip serialize → parse for the compressed form.  `hlift` is square-root correctness (`liftX_of_valid` in
    `Proofs/GroupExtra.lean`); the statement without it is `AdaptorLemmas.pubkeyParse_serialize33`. -/
theorem pubkeyParse_serialize33_partial {x y : Nat} (h : Pt.onCurveXY x y = true)
    (hlift : Pt.liftX x (Fe.isOdd y) = some (Pt.aff x y)) :
    Codec.pubkeyParse (Codec.serialize33 (Pt.aff x y)) = some (Pt.aff x y) := by
  have hx := (onCurveXY_lt h).1
  show Codec.pubkeyParse ((if Fe.isOdd y = true then 0x03 else 0x02) :: be32 x) = _
  rw [pubkeyParse_cons, if_pos ⟨be32_length x, by split <;> simp⟩, toNat_be32_of_lt_P hx, if_pos hx, ← hlift]
  by_cases ho : Fe.isOdd y = true <;> simp [ho]

example : Codec.pubkeyParse (Codec.serialize33 Pt.G) = some Pt.G :=
  pubkeyParse_serialize33_partial (x := Pt.Gx) (y := Pt.Gy) (by decide +kernel) (by decide +kernel)

/-- `liftX x false`: the x-only parser requests even `y`. -/
theorem xonlyParse_iff (b : Bytes) (p : Pt) :
    Codec.xonlyParse b = ⟨1, p, 0⟩ ↔ toNat b < P ∧ Pt.liftX (toNat b) false = some p := by
  unfold Codec.xonlyParse
  rw [Codec.feLimit_eq]
  by_cases hx : toNat b < P
  · simp only [hx, if_true, true_and]
    cases hl : Pt.liftX (toNat b) false with
    | none => simp
    | some q => simp
  · simp [hx]

example : Codec.xonlyParse (be32 Pt.Gx) = ⟨1, Pt.G, 0⟩ :=
  (xonlyParse_iff _ _).2 ⟨by decide +kernel, by decide +kernel⟩

theorem xonlyParse_fail (b : Bytes) (h : (Codec.xonlyParse b).ret ≠ 1) :
    Codec.xonlyParse b = ⟨0, .inf, 0⟩ := by
  unfold Codec.xonlyParse at h ⊢
  split
  · rfl
  · split
    · rfl
    · rename_i h1 _ _ h2; rw [h1] at h; simp only [h2] at h; exact absurd rfl h

example : Codec.xonlyParse (be32 P) = ⟨0, .inf, 0⟩ := xonlyParse_fail _ (by decide +kernel)

end C03
end SecpZkp
