import SecpZkp.Proofs.FieldKernelStruct
import SecpZkp.Props.C05_field
/-
  C05 (field part, emulated 128-bit integer): the 5×52-limb field multiplication and squaring of the C library,
  compiled with `USE_FORCE_WIDEMUL_INT128_STRUCT` (the 128-bit accumulators `c`, `d` are structs `{lo, hi}` and every
  `secp256k1_u128_*` helper of `src/int128_struct_impl.h` is 64-bit code with explicit carry detection), are exact
  for ALL limb values within the documented magnitude bounds.

  Object of the theorems: `Gen.field5x52.fe_mul_inner_struct` / `fe_sqr_inner_struct`, the MiniC IR that
  `tools/c2lean_k.py` regenerates from the C sources (all helpers inlined: 522 / 384 statements), executed with the
  real wrap-around semantics `execL`.

  `*_sim` (one kernel evaluation each): the checker `liftCheck` of `Proofs/FieldKernelStruct.lean` accepts the pair
  (struct IR, native IR), both interned.  `*_simulates`: hence the two runs (both under `execL`: wrap-around at 64 bits
  there, at 128 bits here) leave the same `r[0..4]` for all 64-bit input limbs.  `*_struct_correct`: hence the
  post-conditions `C05.MulPost` / `C05.SqrPost` of the native kernels (`Props/C05_field.lean`) under the same bounds.
  A dropped carry `r->lo < lo`, a wrong shift amount in `secp256k1_u128_rshift`, a wrong partial product in
  `secp256k1_umul128` or an accumulation into the wrong variable makes `*_sim` fail: the block does not match its
  template, or the two programs do not compute the same expressions.  Renaming or renumbering temporaries changes nothing.
-/

namespace SecpZkp
namespace C05struct
open MiniC MiniC.Bounds FieldKernel FieldKernelStruct

def mulStructI : List IStmt := intern_body% Gen.field5x52.fe_mul_inner_struct
def sqrStructI : List IStmt := intern_body% Gen.field5x52.fe_sqr_inner_struct

theorem mulStructI_dec : decode nmr mulStructI = Gen.field5x52.fe_mul_inner_struct.body := by kernel_rfl

theorem sqrStructI_dec : decode nmr sqrStructI = Gen.field5x52.fe_sqr_inner_struct.body := by kernel_rfl

/-- `a[0..4]`, `b[0..4]`: 97, 98, 114 are the keys of `a`, `b`, `r` (`nmr_a`, …) -/
def mulIn : List Cell := [(97, 0), (97, 1), (97, 2), (97, 3), (97, 4), (98, 0), (98, 1), (98, 2), (98, 3), (98, 4)]

def sqrIn : List Cell := [(97, 0), (97, 1), (97, 2), (97, 3), (97, 4)]

def outR : List Cell := [(114, 0), (114, 1), (114, 2), (114, 3), (114, 4)]

theorem simulates_r {I : List Cell} {ps pn : List IStmt} {Ps Pn : List Stmt}
    (hc : liftCheck I ps pn outR = true) (hps : decode nmr ps = Ps) (hpn : decode nmr pn = Pn) (env : Env)
    (h0 : ∀ c ∈ I, cell nmr env c < 2 ^ 64) (i : Nat) (hi : i < 5) :
    (execL env Ps).env.get "r" i = (execL env Pn).env.get "r" i := by
  have h := liftCheck_sound nmr_injective hc h0 (114, i)
    (by have : i = 0 ∨ i = 1 ∨ i = 2 ∨ i = 3 ∨ i = 4 := by omega
        rcases this with rfl | rfl | rfl | rfl | rfl <;> decide)
  rwa [hps, hpn, cell, cell, nmr_r] at h

/-- The struct IR and the native IR of `secp256k1_fe_mul_inner` compute the same expressions in `r[0..4]`. -/
theorem fe_mul_inner_struct_sim : liftCheck mulIn mulStructI mulNativeI outR = true := by decide +kernel

def Limbs64 (env : Env) (x : String) : Prop :=
  env.get x 0 < 2 ^ 64 ∧ env.get x 1 < 2 ^ 64 ∧ env.get x 2 < 2 ^ 64 ∧ env.get x 3 < 2 ^ 64 ∧ env.get x 4 < 2 ^ 64

instance (env : Env) (x : String) : Decidable (Limbs64 env x) := inferInstanceAs (Decidable (_ ∧ _))

/-- `secp256k1_fe_mul_inner`: the emulated 128-bit integer computes what `unsigned __int128` computes, for all 64-bit
    limbs (no magnitude bound). -/
theorem fe_mul_inner_struct_simulates (env : Env) (ha : Limbs64 env "a") (hb : Limbs64 env "b") (i : Nat) (hi : i < 5) :
    (execL env Gen.field5x52.fe_mul_inner_struct.body).env.get "r" i =
      (execL env Gen.field5x52.fe_mul_inner.body).env.get "r" i := by
  refine simulates_r fe_mul_inner_struct_sim mulStructI_dec mulNativeI_dec env ?_ i hi
  obtain ⟨a0, a1, a2, a3, a4⟩ := ha
  obtain ⟨b0, b1, b2, b3, b4⟩ := hb
  simp only [mulIn, List.forall_mem_cons, List.not_mem_nil, false_imp_iff, implies_true, and_true, cell, nmr_a, nmr_b]
  exact ⟨a0, a1, a2, a3, a4, b0, b1, b2, b3, b4⟩

/-- `secp256k1_fe_mul_inner` is exact in the struct configuration, under the bounds of the native kernel. -/
theorem fe_mul_inner_struct_correct (env : Env) (hr : Respects env mulB) :
    C05.MulPost env (execL env Gen.field5x52.fe_mul_inner_struct.body).env := by
  have A0 := hr "a" 0 _ rfl; have A1 := hr "a" 1 _ rfl; have A2 := hr "a" 2 _ rfl; have A3 := hr "a" 3 _ rfl
  have A4 := hr "a" 4 _ rfl
  have B0 := hr "b" 0 _ rfl; have B1 := hr "b" 1 _ rfl; have B2 := hr "b" 2 _ rfl; have B3 := hr "b" 3 _ rfl
  have B4 := hr "b" 4 _ rfl
  simp only [Nat.reducePow, Nat.reduceSub] at A0 A1 A2 A3 A4 B0 B1 B2 B3 B4
  have ha : Limbs64 env "a" := by simp only [Limbs64, Nat.reducePow]; omega
  have hb : Limbs64 env "b" := by simp only [Limbs64, Nat.reducePow]; omega
  have hn := C05.fe_mul_inner_correct env hr
  unfold C05.MulPost at hn ⊢
  rw [fe_mul_inner_struct_simulates env ha hb 0 (by decide), fe_mul_inner_struct_simulates env ha hb 1 (by decide),
    fe_mul_inner_struct_simulates env ha hb 2 (by decide), fe_mul_inner_struct_simulates env ha hb 3 (by decide),
    fe_mul_inner_struct_simulates env ha hb 4 (by decide)]
  exact hn

example : Respects C05.onesEnv mulB ∧
    C05.MulPost C05.onesEnv (execL C05.onesEnv Gen.field5x52.fe_mul_inner_struct.body).env :=
  ⟨respects_of_all (by decide +kernel), fe_mul_inner_struct_correct _ (respects_of_all (by decide +kernel))⟩

example : (Limbs64 C05.onesEnv "a" ∧ Limbs64 C05.onesEnv "b") ∧
    (execL C05.onesEnv Gen.field5x52.fe_mul_inner_struct.body).env.get "r" 4 =
      (execL C05.onesEnv Gen.field5x52.fe_mul_inner.body).env.get "r" 4 :=
  ⟨by decide +kernel, fe_mul_inner_struct_simulates _ (by decide +kernel) (by decide +kernel) 4 (by decide)⟩

theorem fe_sqr_inner_struct_sim : liftCheck sqrIn sqrStructI sqrNativeI outR = true := by decide +kernel

theorem fe_sqr_inner_struct_simulates (env : Env) (ha : Limbs64 env "a") (i : Nat) (hi : i < 5) :
    (execL env Gen.field5x52.fe_sqr_inner_struct.body).env.get "r" i =
      (execL env Gen.field5x52.fe_sqr_inner.body).env.get "r" i := by
  refine simulates_r fe_sqr_inner_struct_sim sqrStructI_dec sqrNativeI_dec env ?_ i hi
  obtain ⟨a0, a1, a2, a3, a4⟩ := ha
  simp only [sqrIn, List.forall_mem_cons, List.not_mem_nil, false_imp_iff, implies_true, and_true, cell, nmr_a]
  exact ⟨a0, a1, a2, a3, a4⟩

theorem fe_sqr_inner_struct_correct (env : Env) (hr : Respects env sqrB) :
    C05.SqrPost env (execL env Gen.field5x52.fe_sqr_inner_struct.body).env := by
  have A0 := hr "a" 0 _ rfl; have A1 := hr "a" 1 _ rfl; have A2 := hr "a" 2 _ rfl; have A3 := hr "a" 3 _ rfl
  have A4 := hr "a" 4 _ rfl
  simp only [Nat.reducePow, Nat.reduceSub] at A0 A1 A2 A3 A4
  have ha : Limbs64 env "a" := by simp only [Limbs64, Nat.reducePow]; omega
  have hn := C05.fe_sqr_inner_correct env hr
  unfold C05.SqrPost at hn ⊢
  rw [fe_sqr_inner_struct_simulates env ha 0 (by decide), fe_sqr_inner_struct_simulates env ha 1 (by decide),
    fe_sqr_inner_struct_simulates env ha 2 (by decide), fe_sqr_inner_struct_simulates env ha 3 (by decide),
    fe_sqr_inner_struct_simulates env ha 4 (by decide)]
  exact hn

example : Respects C05.onesEnv sqrB ∧
    C05.SqrPost C05.onesEnv (execL C05.onesEnv Gen.field5x52.fe_sqr_inner_struct.body).env :=
  ⟨respects_of_all (by decide +kernel), fe_sqr_inner_struct_correct _ (respects_of_all (by decide +kernel))⟩

end C05struct
end SecpZkp
