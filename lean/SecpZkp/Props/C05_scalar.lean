import SecpZkp.Proofs.Accumulator
import SecpZkp.Gen.K_scalar4x64
/-
  C05 (scalar part): the 4×64-limb scalar arithmetic of the C library (`src/scalar_4x64_impl.h`, portable C path,
  native `unsigned __int128`) is exact for ALL limb values.

  Object of the theorems: the MiniC IR `Gen.scalar4x64.*` that `tools/c2lean_k.py` regenerates from the C sources
  (callees and the macros `muladd`, `muladd_fast`, `sumadd`, `sumadd_fast`, `extract`, `extract_fast` inlined).
  Semantics: `execL`, i.e. C's WRAP-AROUND arithmetic (uint64 mod 2^64, uint32 mod 2^32, uint128 mod 2^128).
  The code uses the add-with-carry idiom (`c0 += tl; th += (c0 < tl); c1 += th; c2 += (c1 < th)`) on purpose,
  so the interval checker of `Props/C05_field.lean` does not apply; the proofs reason about `execL` directly.

  * `scalar_mul_512` and the two folding stages of `scalar_reduce_512` are sequences of calls of the accumulator macros.
    Each is written down as a list of `Op`s that follows the C function line by line (`mul512Ops`, `red1Ops`, `red2Ops`),
    for any prefix of the local variables and any number of the first inlined callee (`secp256k1_u128_mul` and the two
    accessors of its result are inlined at every `muladd`, and the translator numbers inlined callees through; inside
    `scalar_mul` it also prefixes the locals).  That the generated IR is the compiled list is checked by evaluation
    (`*_body`); `mul_run` and `fold_run` of `Proofs/Accumulator.lean` execute it, PROVIDED the decidable check `ok` accepts
    the list (this is what makes the `_fast` variants and the 32-bit `c2` of `scalar_mul_512` safe).  What remains is
    arithmetic on the sums (`total_mul512`, `total_red1`, `total_red2`, by `ring`).
  * The short functions, stage 3 of the reduction (`red3L`: two limbs add a product through the temporaries of the inlined
    `secp256k1_u128_accum_mul`; the carry out is the high word of the accumulator) and the final
    `scalar_reduce(r, c + scalar_check_overflow(r))` are instances (`*_body`, by evaluation) of the chain program of
    `Proofs/LimbChain.lean`; the constants of this width are at the end of that file, the bridge `sval = valL` is here
    (`sval_eq`, `limbs64_iff`).

  A change of the C code that breaks the arithmetic (a dropped `muladd`, a swapped index, a wrong constant, a
  `_fast` macro where the accumulator may overflow) makes the comparison with the compiled list, the check `ok` or
  the final identity fail.
-/

namespace SecpZkp
namespace C05sc
open MiniC MiniC.Bounds ScalarKernel Accumulator LimbList LimbChain
open ScalarKernel32 (nil_rule ev_idx_lit)

def Limbs64 (env : Env) (x : String) : Prop :=
  env.get x 0 < 2 ^ 64 ∧ env.get x 1 < 2 ^ 64 ∧ env.get x 2 < 2 ^ 64 ∧ env.get x 3 < 2 ^ 64

instance (env : Env) (x : String) : Decidable (Limbs64 env x) := by unfold Limbs64; infer_instance

def Limbs64x8 (env : Env) (x : String) : Prop :=
  env.get x 0 < 2 ^ 64 ∧ env.get x 1 < 2 ^ 64 ∧ env.get x 2 < 2 ^ 64 ∧ env.get x 3 < 2 ^ 64 ∧
  env.get x 4 < 2 ^ 64 ∧ env.get x 5 < 2 ^ 64 ∧ env.get x 6 < 2 ^ 64 ∧ env.get x 7 < 2 ^ 64

instance (env : Env) (x : String) : Decidable (Limbs64x8 env x) := by unfold Limbs64x8; infer_instance

def sval (env : Env) (x : String) : Nat := val4 (env.get x 0) (env.get x 1) (env.get x 2) (env.get x 3)

def lval8 (env : Env) (x : String) : Nat :=
  val8 (env.get x 0) (env.get x 1) (env.get x 2) (env.get x 3) (env.get x 4) (env.get x 5) (env.get x 6) (env.get x 7)

theorem sval_eq (env : Env) (x : String) : sval env x = valL 64 (readL env x 0 4) := val4_valL ..

theorem limbs64_iff (env : Env) (x : String) : Limbs64 env x ↔ ∀ d ∈ readL env x 0 4, d < 2 ^ 64 := by
  simp only [Limbs64, readL, Nat.reduceAdd, List.forall_mem_cons, List.not_mem_nil, false_imp_iff, implies_true, and_true]

theorem lval8_eq (env : Env) (x : String) : lval8 env x = valL 64 (readL env x 0 8) := by
  simp only [lval8, val8, readL, valL, Nat.reduceAdd]; omega

theorem limbs8_iff (env : Env) (x : String) : Limbs64x8 env x ↔ ∀ d ∈ readL env x 0 8, d < 2 ^ 64 := by
  simp only [Limbs64x8, readL, Nat.reduceAdd, List.forall_mem_cons, List.not_mem_nil, false_imp_iff, implies_true, and_true]

def abEnv (a0 a1 a2 a3 b0 b1 b2 b3 : Nat) : Env :=
  [(("a.d", 0), a0), (("a.d", 1), a1), (("a.d", 2), a2), (("a.d", 3), a3),
   (("b.d", 0), b0), (("b.d", 1), b1), (("b.d", 2), b2), (("b.d", 3), b3)]

/-- `a = b = 2^256 - 1` (all limbs all-ones; NOT reduced modulo `N`) -/
def onesEnv : Env :=
  abEnv 18446744073709551615 18446744073709551615 18446744073709551615 18446744073709551615
        18446744073709551615 18446744073709551615 18446744073709551615 18446744073709551615

/-- `a = b = N - 1` -/
def nm1Env : Env :=
  abEnv 13822214165235122496 13451932020343611451 18446744073709551614 18446744073709551615
        13822214165235122496 13451932020343611451 18446744073709551614 18446744073709551615

/-! ### `secp256k1_scalar_add` -/

def AddPost (env : Env) (out : Env × Option Nat) : Prop :=
  sval out.1 "r.d" = (sval env "a.d" + sval env "b.d") % N ∧
  out.2 = some (if N ≤ sval env "a.d" + sval env "b.d" then 1 else 0) ∧ Limbs64 out.1 "r.d"

theorem add_body : Gen.scalar4x64.scalar_add.body =
    (c64 "t").prog true id
      (.assign "u128_to_u64_19.ret" (.cast 64 (.var "t")) ::
       (c64 "scalar_reduce_21.t").reduceTail "scalar_check_overflow_20.yes" "scalar_check_overflow_20.no"
        "scalar_check_overflow_20.ret" "u128_to_u64_19.ret" "overflow" "scalar_reduce_21.overflow" "scalar_reduce_21.ret" id
        ovLimbs64 13822214165235122497 (limbs64 true 22 (redAtoms "r.d" 0 (scaleE "scalar_reduce_21.overflow" false redE64)))
        [.ret (.var "overflow")])
      (limbs64 true 3 (addAtoms "a.d" "b.d" 0 4)) := same_eq (by decide +kernel)

/-- `N_C = 2^256 - N` -/
def NC : Nat := 4624529908474429119 + 4994812053365940164 * 2 ^ 64 + 2 ^ 128

theorem scalar_add_run (env : Env) (ha : Limbs64 env "a.d") (hb : Limbs64 env "b.d")
    (hA : sval env "a.d" < N) (hB : sval env "b.d" < N) :
    AddPost env (runR env Gen.scalar4x64.scalar_add.body) := by
  rw [limbs64_iff] at ha hb
  rw [sval_eq] at hA hB
  rw [add_body]
  refine chain_run (c64 "t") (S := written "t" (limbs64 true 3 (addAtoms "a.d" "b.d" 0 4))) (k := 1) List.mem_cons_self
    (by decide +kernel) ⟨_, _, _, _, _, rfl⟩ (goodB_sound _ _ (by decide +kernel)) (fun env x h => ev_id64 env x (h (limbs64_out _ _ _)))
    (by rw [map_sum_eq, atoms_limbs64, addAtoms_sum]) (c64_aw (by decide) _) (fun s hs => ?_) fun env1 cc hag hd hcc hv ht _ => ?_
  · have := zipWith_add_le (X := 2 ^ 64 - 1) (Y := 2 ^ 64 - 1) (fun x hx => by have := ha x hx; omega)
      (fun y hy => by have := hb y hy; omega) s hs
    show s + 2 ≤ 2 * 2 ^ 64
    omega
  replace ht : env1.get "t" 0 = cc := ht rfl
  replace hv : valL 64 (readL env1 "r.d" 0 4) + 2 ^ (64 * 4) * cc = valL 64 (readL env "a.d" 0 4) + valL 64 (readL env "b.d" 0 4) :=
    hv.trans (valL_zipWith_add _ _ _ (by rw [readL_length, readL_length]))
  rw [runR_assign, ev_cast, ev_var, ht, Nat.mod_eq_of_lt (by omega)]
  refine reduce_tail_run (c64 "scalar_reduce_21.t")
    (S := written "scalar_reduce_21.t" (limbs64 true 22 (redAtoms "r.d" 0 (scaleE "scalar_reduce_21.overflow" false redE64)))) (NC := NC)
    (V := valL 64 (readL env "a.d" 0 4) + valL 64 (readL env "b.d" 0 4)) List.mem_cons_self (by decide +kernel) (by decide +kernel) (c64_aw (by decide) _)
    (ovLimbs64_ok _).1 (ovLimbs64_ok _).2.1 (ovLimbs64_ok _).2.2 rfl ⟨_, _, _, _, _, rfl⟩ (goodB_sound _ _ (by decide +kernel))
    (fun env x h => ev_id64 env x (h (limbs64_out _ _ _))) (atoms_limbs64 ..) (fun env h => scaleE_sum h _ _ (redE64_ok env)) rfl
    (ncLimbs64_ok _).1 (ncLimbs64_ok _).2.1 (ncLimbs64_ok _).2.2
    (show ∀ d ∈ readL _ "r.d" 0 4, d < 2 ^ 64 from ?_)
    (show valL 64 (readL _ "r.d" 0 4) + 2 ^ (64 * 4) * Env.get _ "u128_to_u64_19.ret" 0 = _ from ?_) (by omega)
    fun env2 h1 h2 h3 => ?_
  · reads [readL, Nat.reduceAdd]; exact hd
  · reads [readL, Nat.reduceAdd]; exact hv
  rw [runR_ret, ev_var, h3]
  exact ⟨by rw [sval_eq, sval_eq, sval_eq]; exact h2, by rw [sval_eq, sval_eq], (limbs64_iff ..).2 h1⟩

/-- **`secp256k1_scalar_add` is exact.**  For EVERY memory in which `a` and `b` are reduced scalars (64-bit limbs,
    value `< N`), running the translated C function with wrap-around semantics leaves in `r` the limbs of
    `(a + b) mod N`, and the function returns `1` if `a + b ≥ N` and `0` otherwise. -/
theorem scalar_add_correct (env : Env) (ha : Limbs64 env "a.d") (hb : Limbs64 env "b.d")
    (hA : sval env "a.d" < N) (hB : sval env "b.d" < N) :
    sval (execL env Gen.scalar4x64.scalar_add.body).env "r.d" = (sval env "a.d" + sval env "b.d") % N ∧
    (execL env Gen.scalar4x64.scalar_add.body).ret = some (if N ≤ sval env "a.d" + sval env "b.d" then 1 else 0) ∧
    Limbs64 (execL env Gen.scalar4x64.scalar_add.body).env "r.d" := by
  -- `runR env b` is by definition the pair `((execL env b).env, (execL env b).ret)`
  exact scalar_add_run env ha hb hA hB

/-- Non-vacuity: `a = b = N - 1` satisfies the hypotheses; the theorem then says `r = N - 2` and the flag is `1`. -/
example : Limbs64 nm1Env "a.d" ∧ Limbs64 nm1Env "b.d" ∧ sval nm1Env "a.d" < N ∧ sval nm1Env "b.d" < N ∧
    sval (execL nm1Env Gen.scalar4x64.scalar_add.body).env "r.d" = N - 2 ∧
    (execL nm1Env Gen.scalar4x64.scalar_add.body).ret = some 1 := by
  have ha : Limbs64 nm1Env "a.d" := by decide +kernel
  have hb : Limbs64 nm1Env "b.d" := by decide +kernel
  have hA : sval nm1Env "a.d" < N := by decide +kernel
  have hB : sval nm1Env "b.d" < N := by decide +kernel
  obtain ⟨h1, h2, _⟩ := scalar_add_correct nm1Env ha hb hA hB
  have e1 : (sval nm1Env "a.d" + sval nm1Env "b.d") % N = N - 2 := by decide +kernel
  have e2 : (if N ≤ sval nm1Env "a.d" + sval nm1Env "b.d" then 1 else 0) = 1 := by decide +kernel
  rw [e1] at h1; rw [e2] at h2
  exact ⟨ha, hb, hA, hB, h1, h2⟩

/-! ### `secp256k1_scalar_negate` -/

/-- the limbs of `N + 1` -/
def negK : List (List Nat) := [[13822214165235122498], [13451932020343611451], [18446744073709551614], [18446744073709551615]]

theorem negate_body : Gen.scalar4x64.scalar_negate.body =
    .assign "scalar_is_zero_1.ret" (isZeroE 64 "a.d" 3) :: .assign "nonzero" (nzMask64 "scalar_is_zero_1.ret") ::
      (c64 "t").prog false (maskG64 "nonzero") [] (limbs64 true 4 (negAtoms 64 "a.d" 0 negK)) := same_eq (by decide +kernel)

theorem scalar_negate_run (env : Env) (ha : Limbs64 env "a.d") (hA : sval env "a.d" < N) :
    sval (runR env Gen.scalar4x64.scalar_negate.body).1 "r.d" = (N - sval env "a.d") % N ∧
    Limbs64 (runR env Gen.scalar4x64.scalar_negate.body).1 "r.d" := by
  rw [negate_body]
  rw [sval_eq] at hA
  refine negate_run (c64 "t") (P := fun out => sval out.1 "r.d" = (N - sval env "a.d") % N ∧ Limbs64 out.1 "r.d")
    (S := written "t" (limbs64 true 4 (negAtoms 64 "a.d" 0 negK))) (M := N) List.mem_cons_self (by decide +kernel) (by decide)
    (by decide) ⟨_, _, _, _, _, rfl⟩ (goodB_sound _ _ (by decide +kernel)) (by decide +kernel) (by decide) (ev_maskG64 _)
    (ev_nzMask64 _) (atoms_limbs64 ..) rfl (by decide) (by decide) ((limbs64_iff ..).1 ha) hA (by decide) fun env' h1 h2 => ?_
  rw [runR_nil]
  exact ⟨by rw [sval_eq, sval_eq]; exact h2, (limbs64_iff ..).2 h1⟩

/-- **`secp256k1_scalar_negate` is exact.**  For every memory in which `a` is a reduced scalar, the translated C
    function leaves in `r` the limbs of `(N - a) mod N` (so `0` for `a = 0`, via the `nonzero` mask). -/
theorem scalar_negate_correct (env : Env) (ha : Limbs64 env "a.d") (hA : sval env "a.d" < N) :
    sval (execL env Gen.scalar4x64.scalar_negate.body).env "r.d" = (N - sval env "a.d") % N ∧
    Limbs64 (execL env Gen.scalar4x64.scalar_negate.body).env "r.d" := by
  exact scalar_negate_run env ha hA

/-- on memories and decidable, for closed evaluation -/
def NegPostEnv (env out : Env) : Prop :=
  sval out "r.d" = (N - sval env "a.d") % N ∧ Limbs64 out "r.d"

instance (env out : Env) : Decidable (NegPostEnv env out) := by unfold NegPostEnv; infer_instance

/-- Non-vacuity: `a = N - 1` satisfies the hypotheses, and the conclusion, evaluated by running the wrap-around
    interpreter in the kernel, holds (with `r = 1`); so does `a = 0` (`r = 0`, the masked case). -/
example : Limbs64 nm1Env "a.d" ∧ sval nm1Env "a.d" < N ∧
    (NegPostEnv nm1Env (execL nm1Env Gen.scalar4x64.scalar_negate.body).env ∧
     sval (execL nm1Env Gen.scalar4x64.scalar_negate.body).env "r.d" = 1) :=
  ⟨by decide +kernel, by decide +kernel,
   of_decide_eq_true (FieldKernel.checkRun_sound
     (post := fun out => decide (NegPostEnv nm1Env out ∧ sval out "r.d" = 1)) (by decide +kernel))⟩

example : Limbs64 [] "a.d" ∧ sval [] "a.d" < N ∧
    sval (execL [] Gen.scalar4x64.scalar_negate.body).env "r.d" = 0 :=
  ⟨by decide +kernel, by decide +kernel,
   of_decide_eq_true (FieldKernel.checkRun_sound (post := fun out => decide (sval out "r.d" = 0)) (by decide +kernel))⟩

/-! ### `secp256k1_scalar_mul_512` -/

/-- `c2` is an `unsigned int` in `scalar_mul_512` -/
def L32 : Layout (2 ^ 64) (2 ^ 32) := layout64 32 (.inl rfl)
/-- `c2` is a `uint64_t` in `scalar_reduce_512` -/
def L64 : Layout (2 ^ 64) (2 ^ 64) := layout64 64 (.inr rfl)

private def a (i : Nat) : Src := .loc (.idx "a.d" i)
private def b (i : Nat) : Src := .loc (.idx "b.d" i)
private def m (i j : Nat) : Op := .muladd (a i) (b j)

/-- the macro calls of `secp256k1_scalar_mul_512`, column by column -/
def mul512Ops (l : String) : List Op := [
  .muladdFast (a 0) (b 0), .extractFast (.idx l 0),
  m 0 1, m 1 0, .extract (.idx l 1),
  m 0 2, m 1 1, m 2 0, .extract (.idx l 2),
  m 0 3, m 1 2, m 2 1, m 3 0, .extract (.idx l 3),
  m 1 3, m 2 2, m 3 1, .extract (.idx l 4),
  m 2 3, m 3 2, .extract (.idx l 5),
  .muladdFast (a 3) (b 3), .extractFast (.idx l 6)]

def mul512 (p l : String) (k : Nat) (r : List Stmt) : List Stmt :=
  .assign (p ++ "c0") (.lit 0) :: .assign (p ++ "c1") (.lit 0) :: .assign (p ++ "c2") (.lit 0) ::
  L32.compile (stdNames p) k (mul512Ops l) (.store l (.lit 7) (.var (p ++ "c0")) :: r)

theorem mul512_body : Gen.scalar4x64.scalar_mul_512.body = mul512 "" "l8" 1 [] := same_eq (by decide +kernel)

/-- three inlined callees per `muladd`, and `mul512Ops` has 16 of them -/
def mulS (p : String) (k : Nat) : List String := (stdNames p).S ++ tmps k 16

theorem total_mul512 (env : Env) (l : String) :
    total (2 ^ 64) env (mul512Ops l) = sval env "a.d" * sval env "b.d" := by
  simp only [mul512Ops, total, m, a, b, Src.val, Src.expr, Loc.read, ev_idx_lit, sval, val4]
  ring

def Mul512Ok (p l : String) (k : Nat) : Prop :=
  (stdNames p).S.Nodup ∧ L32.Distinct (stdNames p) k (mul512Ops l) ∧ Wf (mulS p k) (mul512Ops l) ∧
  l ∉ mulS p k

instance (p l : String) (k : Nat) : Decidable (Mul512Ok p l k) := by unfold Mul512Ok; infer_instance

theorem mul512_run {P : Env × Option Nat → Prop} (p l : String) (k : Nat) (hp : Mul512Ok p l k) {env : Env}
    (ha : Limbs64 env "a.d") (hb : Limbs64 env "b.d") {r : List Stmt}
    (k' : ∀ env', (∀ x i, x ∉ mulS p k → x ≠ l → env'.get x i = env.get x i) → Limbs64x8 env' l →
      lval8 env' l = sval env "a.d" * sval env "b.d" → P (runR env' r)) :
    P (runR env (mul512 p l k r)) :=
  mul_run L32 hp.1 (fun _ h => List.mem_append_left _ h) ((limbs64_iff ..).1 ha) ((limbs64_iff ..).1 hb)
    (layout64_scratch _ _ _ (fun _ h => List.mem_append_right _ h) hp.2.1) hp.2.2.1 rfl hp.2.2.2 rfl
    fun env' hf hd hv => k' env' hf ((limbs8_iff ..).2 hd) ((lval8_eq ..).trans (hv.trans (total_mul512 env l)))

def Mul512Post (env : Env) (out : Env × Option Nat) : Prop :=
  lval8 out.1 "l8" = sval env "a.d" * sval env "b.d" ∧ Limbs64x8 out.1 "l8"

/-- **`secp256k1_scalar_mul_512` is exact.**  For ALL 64-bit limb values of `a` and `b` (no reduction assumed),
    the eight output limbs `l8[0..7]` are 64-bit values representing the full 512-bit product `a · b`. -/
theorem scalar_mul_512_correct (env : Env) (ha : Limbs64 env "a.d") (hb : Limbs64 env "b.d") :
    lval8 (execL env Gen.scalar4x64.scalar_mul_512.body).env "l8" = sval env "a.d" * sval env "b.d" ∧
    Limbs64x8 (execL env Gen.scalar4x64.scalar_mul_512.body).env "l8" := by
  have h : Mul512Post env (runR env Gen.scalar4x64.scalar_mul_512.body) := by
    rw [mul512_body]
    exact mul512_run "" "l8" 1 (by decide +kernel) ha hb fun env' _ h8 hv => nil_rule ⟨hv, h8⟩
  exact h

/-- Non-vacuity: the all-ones operands `a = b = 2^256 - 1` satisfy the hypotheses; the theorem then gives the
    512-bit value `(2^256 - 1)^2` for `l8`. -/
example : Limbs64 onesEnv "a.d" ∧ Limbs64 onesEnv "b.d" ∧
    lval8 (execL onesEnv Gen.scalar4x64.scalar_mul_512.body).env "l8" = (2 ^ 256 - 1) * (2 ^ 256 - 1) := by
  have ha : Limbs64 onesEnv "a.d" := by decide +kernel
  have hb : Limbs64 onesEnv "b.d" := by decide +kernel
  obtain ⟨h, _⟩ := scalar_mul_512_correct onesEnv ha hb
  have e : sval onesEnv "a.d" * sval onesEnv "b.d" = (2 ^ 256 - 1) * (2 ^ 256 - 1) := by decide +kernel
  exact ⟨ha, hb, e ▸ h⟩

/-! ### `secp256k1_scalar_reduce_512` -/

def RedPost (v : Nat) (out : Env × Option Nat) : Prop := sval out.1 "r.d" = v % N ∧ Limbs64 out.1 "r.d"

/-- the constants `SECP256K1_N_C_0`, `SECP256K1_N_C_1` as the C code spells them (`~N_0 + 1`, `~N_1`) -/
def nc0 : Src := .const (.bin .add 64 (.not 64 (.lit 13822214165235122497)) (.lit 1))
def nc1 : Src := .const (.not 64 (.lit 13451932020343611451))

theorem val_nc0 (env : Env) : nc0.val env = 4624529908474429119 := ev_nc0_64 env
theorem val_nc1 (env : Env) : nc1.val env = 4994812053365940164 := ev_nc1_64 env

/-- `m[0..6] = l[0..3] + n[0..3] * N_C` -/
def red1Ops (p : String) : List Op :=
  let v (s : String) : Loc := .var (p ++ s)
  let ma (s : String) (c : Src) : Op := .muladd (.loc (v s)) c
  [.muladdFast (.loc (v "n0")) nc0, .extractFast (v "m0"),
   .sumaddFast (.idx "l" 1), ma "n1" nc0, ma "n0" nc1, .extract (v "m1"),
   .sumadd (.idx "l" 2), ma "n2" nc0, ma "n1" nc1, .sumadd (v "n0"), .extract (v "m2"),
   .sumadd (.idx "l" 3), ma "n3" nc0, ma "n2" nc1, .sumadd (v "n1"), .extract (v "m3"),
   ma "n3" nc1, .sumadd (v "n2"), .extract (v "m4"),
   .sumaddFast (v "n3"), .extractFast (v "m5")]

/-- `p[0..4] = m[0..3] + m[4..6] * N_C` -/
def red2Ops (p : String) : List Op :=
  let v (s : String) : Loc := .var (p ++ s)
  let ma (s : String) (c : Src) : Op := .muladd (.loc (v s)) c
  [.muladdFast (.loc (v "m4")) nc0, .extractFast (v "p0"),
   .sumaddFast (v "m1"), ma "m5" nc0, ma "m4" nc1, .extract (v "p1"),
   .sumadd (v "m2"), ma "m6" nc0, ma "m5" nc1, .sumadd (v "m4"), .extract (v "p2"),
   .sumaddFast (v "m3"), .muladdFast (.loc (v "m6")) nc1, .sumaddFast (v "m5"), .extractFast (v "p3")]

def nCopies (p : String) : List (String × Loc) :=
  [(p ++ "n0", .idx "l" 4), (p ++ "n1", .idx "l" 5), (p ++ "n2", .idx "l" 6), (p ++ "n3", .idx "l" 7)]

/-- three inlined callees per `muladd`: `red1Ops` has 8 of them (callees `k … k+23`), `red2Ops` 6 (`k+24 … k+41`), so stage 3
    starts at `k + 42` -/
def red512 (p : String) (k : Nat) (r : List Stmt) : List Stmt :=
  copies (nCopies p)
  (.assign (p ++ "c0") (.idx "l" (.lit 0)) :: .assign (p ++ "c1") (.lit 0) :: .assign (p ++ "c2") (.lit 0) ::
   L64.compile (stdNames p) k (red1Ops p) (.assign (p ++ "m6") (.cast 32 (.var (p ++ "c0"))) ::
   .assign (p ++ "c0") (.var (p ++ "m0")) :: .assign (p ++ "c1") (.lit 0) :: .assign (p ++ "c2") (.lit 0) ::
   L64.compile (stdNames p) (k + 24) (red2Ops p)
     (.assign (p ++ "p4") (.cast 32 (.bin .add 64 (.var (p ++ "c0")) (.var (p ++ "m6")))) :: r)))

/-- the variables of the inlined `secp256k1_u128_*` callee number `k` -/
def fromA (k : Nat) : String := "u128_from_u64_" ++ toString k ++ ".a"
def accA (k : Nat) : String := "u128_accum_u64_" ++ toString k ++ ".a"
def mulA (k : Nat) : String := "u128_accum_mul_" ++ toString k ++ ".a"
def mulB (k : Nat) : String := "u128_accum_mul_" ++ toString k ++ ".b"
def toR (k : Nat) : String := "u128_to_u64_" ++ toString k ++ ".ret"
def hiR (k : Nat) : String := "u128_hi_u64_" ++ toString k ++ ".ret"
/-- the local `s` of the inlined `secp256k1_scalar_check_overflow` / `secp256k1_scalar_reduce` number `k` -/
def co (k : Nat) (s : String) : String := "scalar_check_overflow_" ++ toString k ++ s
def rd (k : Nat) (s : String) : String := "scalar_reduce_" ++ toString k ++ s

/-- the chain `r += overflow · N_C` of the inlined `secp256k1_scalar_reduce` number `k + 15` -/
def red3T (k : Nat) : List Limb :=
  limbs64 true (k + 17) (redAtoms "r.d" 0 (scaleE (rd (k + 15) ".overflow") false redE64))

/-- the limbs of the last stage `r = p[0..3] + p4·N_C` (128-bit accumulator `c128`), the inlined `secp256k1_u128_*`
    accessors numbered from `k` -/
def red3L (p : String) (k : Nat) : List Limb :=
  let v (s : String) : Expr := .var (p ++ s)
  [⟨[(some (fromA k), [v "p0"])], some (toR (k + 2)), some ⟨mulA (k + 1), mulB (k + 1), 128, nc0.expr, v "p4"⟩⟩,
   ⟨[(some (accA (k + 4)), [v "p1"])], some (toR (k + 6)), some ⟨mulA (k + 5), mulB (k + 5), 128, nc1.expr, v "p4"⟩⟩,
   ⟨[(some (accA (k + 8)), [v "p2"]), (some (accA (k + 9)), [v "p4"])], some (toR (k + 10)), none⟩,
   ⟨[(some (accA (k + 12)), [v "p3"])], some (toR (k + 13)), none⟩]

/-- the last stage of `secp256k1_scalar_reduce_512` and the final `scalar_reduce(r, c + scalar_check_overflow(r))` -/
def red3 (p : String) (k : Nat) : List Stmt :=
  (c64 (p ++ "c128")).prog false id
    (.assign (hiR (k + 14)) (.cast 64 (.bin .shr 128 (.var (p ++ "c128")) (.lit 64))) :: .assign (p ++ "c") (.var (hiR (k + 14))) ::
     (c64 (rd (k + 15) ".t")).reduceTail (co (k + 16) ".yes") (co (k + 16) ".no") (co (k + 16) ".ret") (p ++ "c")
       (rd (k + 15) ".overflow") (rd (k + 15) ".overflow") (rd (k + 15) ".ret") id ovLimbs64 13822214165235122497 (red3T k) [])
    (red3L p k)

def Red3Ok (p : String) (k : Nat) : Prop :=
  "r.d" ∉ written (p ++ "c128") (red3L p k) ∧ goodB (written (p ++ "c128") (red3L p k)) (p ++ "c128") "r.d" 0 (red3L p k) = true ∧
  ("r.d" ≠ hiR (k + 14) ∧ "r.d" ≠ p ++ "c") ∧ "r.d" ∉ written (rd (k + 15) ".t") (red3T k) ∧
  TailNames (written (rd (k + 15) ".t") (red3T k)) "r.d" (co (k + 16) ".yes") (co (k + 16) ".no") (co (k + 16) ".ret")
    (p ++ "c") (rd (k + 15) ".overflow") (rd (k + 15) ".overflow") (rd (k + 15) ".ret") ∧
  goodB (written (rd (k + 15) ".t") (red3T k)) (rd (k + 15) ".t") "r.d" 0 (red3T k) = true

instance (p : String) (k : Nat) : Decidable (Red3Ok p k) := by unfold Red3Ok; infer_instance

theorem red3_run {p : String} {k : Nat} (hn : Red3Ok p k) {env : Env} {q v : Nat}
    (hlt : ∀ c ∈ dests (red2Ops p), env.get c.1 c.2 < 2 ^ 64) (P4 : env.get (p ++ "p4") 0 ≤ 3)
    (hq : digitsAt (2 ^ 64) env (dests (red2Ops p)) + env.get (p ++ "p4") 0 * (2 ^ 64) ^ 4 + N * q = v) :
    RedPost v (runR env (red3 p k)) := by
  obtain ⟨hd1, hg1, hR, hd2, hnm, hg2⟩ := hn
  rw [digitsAt_eq] at hq
  generalize hps : (dests (red2Ops p)).map (fun c => env.get c.1 c.2) = ps at hq
  have hpl : ∀ x ∈ ps, x < 2 ^ 64 := hps ▸ List.forall_mem_map.2 hlt
  have hlen : ps.length = 4 := by rw [← hps]; rfl
  rw [red3]
  have hs : (red3L p k).map (Limb.sum env) = List.zipWith (· + ·) ps (ncLimbs64.map (env.get (p ++ "p4") 0 * ·)) := by
    rw [map_sum_eq, show (red3L p k).map Limb.atoms = List.zipWith (· :: ·) (["p0", "p1", "p2", "p3"].map fun s => .var (p ++ s))
      (scaleE (p ++ "p4") true red3E64) from rfl,
      zipCons_sum, scaleE_sum P4 _ _ (red3E64_ok env), ← hps]; rfl
  refine chain_run (c64 (p ++ "c128")) (k := 3) List.mem_cons_self hd1 ⟨_, _, _, _, _, rfl⟩ (goodB_sound _ _ hg1)
    (fun env x h => ev_id64 env x (h (by simp [red3L]))) hs (c64_aw (by decide) _) (fun s hs => ?_)
    fun env1 cc _ hd hcc hv _ hT => ?_
  · have := zipWith_add_le (X := 2 ^ 64 - 1) (Y := 3 * (2 ^ 64 - 1)) (fun x hx => by have := hpl x hx; omega)
      (fun y hy => by
        obtain ⟨z, hz, rfl⟩ := List.mem_map.1 hy
        exact Nat.mul_le_mul P4 (Nat.le_sub_one_of_lt ((ncLimbs64_ok "").2.2 z hz))) s hs
    show s + 4 ≤ 4 * 2 ^ 64
    omega
  replace hT : env1.get (p ++ "c128") 0 / 2 ^ 64 = cc := hT rfl
  replace hv : valL 64 (readL env1 "r.d" 0 4) + 2 ^ (64 * 4) * cc = valL 64 ps + env.get (p ++ "p4") 0 * valL 64 ncLimbs64 :=
    hv.trans (by rw [valL_zipWith_add _ _ _ (by rw [hlen]; rfl), valL_map_mul]; rfl)
  rw [runR_assign, runR_assign, ev_cast, ev_bin, ev_var, ev_lit, binWrap_shr, hT, ev_var, Env.get_set_same,
    Nat.mod_eq_of_lt (by omega)]
  have hR4 := valL_lt_pow hpl
  rw [hlen] at hR4
  have hNC : valL 64 ncLimbs64 + N = 2 ^ (64 * 4) := (ncLimbs64_ok "").1 ▸ (ncLimbs64_ok "").2.1
  generalize valL 64 ncLimbs64 = NC' at hv hNC
  refine reduce_tail_run (c64 (rd (k + 15) ".t")) (NC := NC) (V := valL 64 ps + env.get (p ++ "p4") 0 * NC') List.mem_cons_self hd2 hnm (c64_aw (by decide) _) (ovLimbs64_ok _).1
    (ovLimbs64_ok _).2.1 (ovLimbs64_ok _).2.2 rfl ⟨_, _, _, _, _, rfl⟩ (goodB_sound _ _ hg2)
    (fun env x h => ev_id64 env x (h (limbs64_out _ _ _))) (atoms_limbs64 ..) (fun env h => scaleE_sum h _ _ (redE64_ok env)) rfl
    (ncLimbs64_ok _).1 (ncLimbs64_ok _).2.1 (ncLimbs64_ok _).2.2
    (show ∀ d ∈ readL _ "r.d" 0 4, d < 2 ^ 64 from ?_)
    (show valL 64 (readL _ "r.d" 0 4) + 2 ^ (64 * 4) * Env.get _ (p ++ "c") 0 = _ from ?_)
    (by have := Nat.mul_le_mul_right NC' P4; clear * - this hR4 hNC; simp only [N] at *; omega) fun env3 h1 h2 _ => ?_
  · reads [readL, Nat.reduceAdd, hR]; exact hd
  · reads [readL, Nat.reduceAdd, hR]; exact hv
  rw [runR_nil]
  refine ⟨(sval_eq env3 "r.d").trans (h2.trans ?_), (limbs64_iff ..).2 h1⟩
  rw [← hq,
    show valL 64 ps + env.get (p ++ "p4") 0 * (2 ^ 64) ^ 4 + N * q =
      valL 64 ps + env.get (p ++ "p4") 0 * NC' + N * (env.get (p ++ "p4") 0 + q) by
        rw [← Nat.pow_mul, ← hNC]; ring,
    Nat.add_mul_mod_self_left]

theorem red512_body : Gen.scalar4x64.scalar_reduce_512.body = red512 "" 1 (red3 "" 43) := same_eq (by decide +kernel)

def redS (p : String) (k : Nat) : List String := (stdNames p).S ++ tmps k 14

theorem total_red1 (env : Env) (p : String) : env.get "l" 0 + total (2 ^ 64) env (red1Ops p) =
    digitsAt (2 ^ 64) env (cellsOf "l" 0 4) + digitsAt (2 ^ 64) env (copyCells (nCopies p)) * NC := by
  simp only [red1Ops, total, val_nc0, val_nc1]
  simp only [Src.val, Src.expr, Loc.read, Loc.key, ev_var, cellsOf, copyCells, nCopies, List.map, digitsAt, NC]
  ring

theorem total_red2 (env : Env) (p : String) :
    (Src.loc (.var (p ++ "m0"))).val env + total (2 ^ 64) env (red2Ops p) + env.get (p ++ "m6") 0 * (2 ^ 64) ^ 4 =
      digitsAt (2 ^ 64) env ((dests (red1Ops p)).take 4) +
        digitsAt (2 ^ 64) env ((dests (red1Ops p)).drop 4 ++ [(p ++ "m6", 0)]) * NC := by
  simp only [red2Ops, total, val_nc0, val_nc1]
  simp only [Src.val, Src.expr, Loc.read, Loc.key, ev_var, red1Ops, dests, List.flatMap_cons, List.flatMap_nil, Op.dest,
    List.nil_append, List.cons_append, List.take, List.drop, digitsAt, NC]
  ring

def Red512Ok (p : String) (k : Nat) : Prop :=
  FoldOk 64 (2 ^ 64) (stdNames p) (redS p k) 4 "l" (p ++ "m6") (p ++ "p4") (nCopies p) (red1Ops p) (red2Ops p)
    (.loc (.var (p ++ "m0"))) ∧
  L64.Distinct (stdNames p) k (red1Ops p) ∧ L64.Distinct (stdNames p) (k + 24) (red2Ops p)

instance (p : String) (k : Nat) : Decidable (Red512Ok p k) := by unfold Red512Ok; infer_instance

theorem reduce512_run {p : String} {k : Nat} (hp : Red512Ok p k) (h3 : Red3Ok p (k + 42)) {env : Env}
    (hl : Limbs64x8 env "l") : RedPost (lval8 env "l") (runR env (red512 p k (red3 p (k + 42)))) :=
  have ht : tmps k 14 = tmps k 8 ++ tmps (k + 24) 6 := tmps_add 8 k 6
  fold_run L64 (fun _ h => List.mem_append_left _ h) hp.1
    (layout64_scratch _ _ _ (fun _ h => List.mem_append_right _ (ht ▸ List.mem_append_left _ h)) hp.2.1)
    (layout64_scratch _ _ _ (fun _ h => List.mem_append_right _ (ht ▸ List.mem_append_right _ h)) hp.2.2)
    (fun env A (h : env.get (p ++ "c0") 0 = A) hA => by rw [ev_cast, ev_var, h]; exact Nat.mod_eq_of_lt (by omega))
    (fun env A2 A (h2 : env.get (p ++ "c0") 0 = A2) h1 hA2 hA => by
      rw [ev_cast, ev_bin, ev_var, ev_var, h2, h1, binWrap_add]; omega)
    (total_red1 · p) (total_red2 · p) (ncLimbs64_ok "").2.1 ((limbs8_iff ..).1 hl)
    fun _ hlt h4 ⟨_, hq⟩ => red3_run h3 hlt h4 (hq.trans (lval8_eq ..).symm)

theorem scalar_reduce_512_run (env : Env) (hl : Limbs64x8 env "l") :
    RedPost (lval8 env "l") (runR env Gen.scalar4x64.scalar_reduce_512.body) := by
  rw [red512_body]
  exact reduce512_run (by decide +kernel) (by decide +kernel) hl

/-- **`secp256k1_scalar_reduce_512` is exact.**  For ALL 64-bit values of the eight input limbs, the four output
    limbs are 64-bit values representing `l mod N`; in particular the result is fully reduced (`< N`). -/
theorem scalar_reduce_512_correct (env : Env) (hl : Limbs64x8 env "l") :
    sval (execL env Gen.scalar4x64.scalar_reduce_512.body).env "r.d" = lval8 env "l" % N ∧
    sval (execL env Gen.scalar4x64.scalar_reduce_512.body).env "r.d" < N ∧
    Limbs64 (execL env Gen.scalar4x64.scalar_reduce_512.body).env "r.d" := by
  obtain ⟨h, hq⟩ := scalar_reduce_512_run env hl
  refine ⟨h, ?_, hq⟩
  have : sval (execL env Gen.scalar4x64.scalar_reduce_512.body).env "r.d" = lval8 env "l" % N := h
  rw [this]; exact Nat.mod_lt _ (by decide)

def ones8Env : Env :=
  [(("l", 0), 18446744073709551615), (("l", 1), 18446744073709551615), (("l", 2), 18446744073709551615),
   (("l", 3), 18446744073709551615), (("l", 4), 18446744073709551615), (("l", 5), 18446744073709551615),
   (("l", 6), 18446744073709551615), (("l", 7), 18446744073709551615)]

/-- Non-vacuity: the all-ones input satisfies the hypothesis; the theorem then gives `(2^512 - 1) mod N`. -/
example : Limbs64x8 ones8Env "l" ∧
    sval (execL ones8Env Gen.scalar4x64.scalar_reduce_512.body).env "r.d" = (2 ^ 512 - 1) % N := by
  have hl : Limbs64x8 ones8Env "l" := by decide +kernel
  obtain ⟨h, _, _⟩ := scalar_reduce_512_correct ones8Env hl
  have e : lval8 ones8Env "l" % N = (2 ^ 512 - 1) % N := by decide +kernel
  exact ⟨hl, e ▸ h⟩

/-! ### `secp256k1_scalar_mul` (= `scalar_mul_512` followed by `scalar_reduce_512`, inlined)

The translator inlines both callees with prefixed locals and goes on numbering the callees of the macros: the inlined
`scalar_mul_512` has the callees 4 … 51 (3·16), 52 is the inlined `scalar_reduce_512`, its callees start at 53 and its
stage 3 at 53 + 42 = 95. -/

/-- post-condition of the first 204 statements of `secp256k1_scalar_mul` (the inlined `scalar_mul_512`):
    no return, `l[0..7]` are 64-bit limbs of `a · b`; the cell `shift` keeps its value (the same 204
    statements begin `secp256k1_scalar_mul_shift_var`, where `shift` is a parameter) -/
def MulPart1Post (env : Env) (out : Env × Option Nat) : Prop :=
  out.2 = none ∧ out.1.get "shift" 0 = env.get "shift" 0 ∧ lval8 out.1 "l" = sval env "a.d" * sval env "b.d" ∧
  Limbs64x8 out.1 "l"

theorem mul_body : Gen.scalar4x64.scalar_mul.body =
    mul512 "scalar_mul_512_3." "l" 4 (red512 "scalar_reduce_512_52." 53 (red3 "scalar_reduce_512_52." 95)) :=
  same_eq (by decide +kernel)

theorem mul_part1_body : Gen.scalar4x64.scalar_mul.body.take 204 = mul512 "scalar_mul_512_3." "l" 4 [] :=
  same_eq (by decide +kernel)

theorem mul_ok : Mul512Ok "scalar_mul_512_3." "l" 4 := by decide +kernel

theorem scalar_mul_part1 (env : Env) (ha : Limbs64 env "a.d") (hb : Limbs64 env "b.d") :
    MulPart1Post env (runR env (Gen.scalar4x64.scalar_mul.body.take 204)) := by
  rw [mul_part1_body]
  exact mul512_run "scalar_mul_512_3." "l" 4 mul_ok ha hb fun env' hfr h8 hv =>
    nil_rule ⟨rfl, hfr "shift" 0 (by decide +kernel) (by decide), hv, h8⟩

theorem scalar_mul_run (env : Env) (ha : Limbs64 env "a.d") (hb : Limbs64 env "b.d") :
    RedPost (sval env "a.d" * sval env "b.d") (runR env Gen.scalar4x64.scalar_mul.body) := by
  rw [mul_body]
  refine mul512_run "scalar_mul_512_3." "l" 4 mul_ok ha hb fun env1 _ h8 hv => ?_
  exact hv ▸ reduce512_run (by decide +kernel) (by decide +kernel) h8

/-- **`secp256k1_scalar_mul` is exact.**  For ALL 64-bit limb values of `a` and `b` (reduced or not), the four
    output limbs are 64-bit values representing `a · b mod N`; in particular the result is fully reduced. -/
theorem scalar_mul_correct (env : Env) (ha : Limbs64 env "a.d") (hb : Limbs64 env "b.d") :
    sval (execL env Gen.scalar4x64.scalar_mul.body).env "r.d" = (sval env "a.d" * sval env "b.d") % N ∧
    sval (execL env Gen.scalar4x64.scalar_mul.body).env "r.d" < N ∧
    Limbs64 (execL env Gen.scalar4x64.scalar_mul.body).env "r.d" := by
  obtain ⟨h, hq⟩ := scalar_mul_run env ha hb
  refine ⟨h, ?_, hq⟩
  have : sval (execL env Gen.scalar4x64.scalar_mul.body).env "r.d" = (sval env "a.d" * sval env "b.d") % N := h
  rw [this]; exact Nat.mod_lt _ (by decide)

/-- Non-vacuity: `a = b = N - 1` satisfy the hypotheses; the theorem then gives `r = 1` (`(-1)·(-1) = 1`).
    The all-ones operands (not reduced) satisfy them as well. -/
example : Limbs64 nm1Env "a.d" ∧ Limbs64 nm1Env "b.d" ∧
    sval (execL nm1Env Gen.scalar4x64.scalar_mul.body).env "r.d" = 1 := by
  have ha : Limbs64 nm1Env "a.d" := by decide +kernel
  have hb : Limbs64 nm1Env "b.d" := by decide +kernel
  obtain ⟨h, _, _⟩ := scalar_mul_correct nm1Env ha hb
  have e : (sval nm1Env "a.d" * sval nm1Env "b.d") % N = 1 := by decide +kernel
  exact ⟨ha, hb, e ▸ h⟩

example : Limbs64 onesEnv "a.d" ∧ Limbs64 onesEnv "b.d" := ⟨by decide +kernel, by decide +kernel⟩

/-! ### `secp256k1_scalar_half` -/

/-- the limbs of `(N + 1) / 2` below the top one `0x7FFFFFFFFFFFFFFF` -/
def halfK : List Nat := [16134479119472337057, 6725966010171805725, 18446744073709551615]

theorem half_body : Gen.scalar4x64.scalar_half.body =
    .assign "mask" (.neg 64 (.bin .and 64 (.idx "a.d" (.lit 0)) (.lit 1))) ::
      (c64 "t").prog true id ((c64 "t").halfTop "a.d" "mask" 3 9223372036854775807 (some "u128_to_u64_14.ret"))
        (limbs64 true 2 (halfAtoms 64 "a.d" "mask" 0 halfK)) := same_eq (by decide +kernel)

theorem scalar_half_run (env : Env) (ha : Limbs64 env "a.d") :
    sval (runR env Gen.scalar4x64.scalar_half.body).1 "r.d" = sval env "a.d" / 2 + sval env "a.d" % 2 * ((N + 1) / 2) ∧
    Limbs64 (runR env Gen.scalar4x64.scalar_half.body).1 "r.d" := by
  rw [half_body]
  refine half_run (c64 "t")
    (P := fun out => sval out.1 "r.d" = sval env "a.d" / 2 + sval env "a.d" % 2 * ((N + 1) / 2) ∧ Limbs64 out.1 "r.d")
    (S := written "t" (limbs64 true 2 (halfAtoms 64 "a.d" "mask" 0 halfK))) (k := 63) List.mem_cons_self (by decide +kernel)
    rfl (by decide) ⟨_, _, _, _, _, rfl⟩ (goodB_sound _ _ (by decide +kernel)) (by decide +kernel) (by decide +kernel)
    (fun _ h => by cases h; decide) (fun env x h => ev_id64 env x (h (limbs64_out _ _ _))) (atoms_limbs64 ..) rfl (by decide)
    (by decide) ((limbs64_iff ..).1 ha) fun env' h1 h2 => ?_
  exact ⟨by rw [sval_eq, sval_eq]; exact h2, (limbs64_iff ..).2 h1⟩

/-- **`secp256k1_scalar_half` is exact.**  For every memory in which `a` is a reduced scalar, the translated C
    function leaves in `r` 64-bit limbs of the number `a/2 + (a mod 2)·(N+1)/2`, which is the unique `r < N`
    with `2·r ≡ a (mod N)`, i.e. `a · 2⁻¹ mod N`. -/
theorem scalar_half_correct (env : Env) (ha : Limbs64 env "a.d") (hA : sval env "a.d" < N) :
    2 * sval (execL env Gen.scalar4x64.scalar_half.body).env "r.d" % N = sval env "a.d" ∧
    sval (execL env Gen.scalar4x64.scalar_half.body).env "r.d" < N ∧
    sval (execL env Gen.scalar4x64.scalar_half.body).env "r.d" =
      sval env "a.d" / 2 + sval env "a.d" % 2 * ((N + 1) / 2) ∧
    Limbs64 (execL env Gen.scalar4x64.scalar_half.body).env "r.d" := by
  obtain ⟨h, hq⟩ := scalar_half_run env ha
  obtain ⟨h1, h2⟩ := half_spec _ _ hA h
  exact ⟨h1, h2, h, hq⟩

def HalfPostEnv (env out : Env) : Prop :=
  2 * sval out "r.d" % N = sval env "a.d" ∧ sval out "r.d" < N ∧ Limbs64 out "r.d"

instance (env out : Env) : Decidable (HalfPostEnv env out) := by unfold HalfPostEnv; infer_instance

/-- Non-vacuity: the even scalar `a = N - 1` and the odd scalar `a = 1` satisfy the hypotheses, and the
    conclusion, evaluated by running the wrap-around interpreter in the kernel, holds for both. -/
example : Limbs64 nm1Env "a.d" ∧ sval nm1Env "a.d" < N ∧
    HalfPostEnv nm1Env (execL nm1Env Gen.scalar4x64.scalar_half.body).env :=
  ⟨by decide +kernel, by decide +kernel,
   of_decide_eq_true (FieldKernel.checkRun_sound (post := fun out => decide (HalfPostEnv nm1Env out)) (by decide +kernel))⟩

example : Limbs64 [(("a.d", 0), 1)] "a.d" ∧ sval [(("a.d", 0), 1)] "a.d" < N ∧
    HalfPostEnv [(("a.d", 0), 1)] (execL [(("a.d", 0), 1)] Gen.scalar4x64.scalar_half.body).env :=
  ⟨by decide +kernel, by decide +kernel,
   of_decide_eq_true (FieldKernel.checkRun_sound (post := fun out => decide (HalfPostEnv [(("a.d", 0), 1)] out))
     (by decide +kernel))⟩

/-! ### `secp256k1_scalar_cadd_bit` -/

theorem cadd_body : Gen.scalar4x64.scalar_cadd_bit.body =
    .assign "vflag" (.var "flag") ::
      .assign "bit" (.bin .add 32 (.var "bit") (.bin .and 32 (.bin .sub 32 (.var "vflag") (.lit 1)) (.lit 256))) ::
      (c64 "t").prog false id [] (limbs64 true 2 (caddAtoms "r.d" (caddInc64 "bit") 0 4)) := same_eq (by decide +kernel)

theorem scalar_cadd_bit_run (env : Env) (hr : Limbs64 env "r.d") (hbit : env.get "bit" 0 < 256)
    (hflag : env.get "flag" 0 ≤ 1) (hno : sval env "r.d" + env.get "flag" 0 * 2 ^ env.get "bit" 0 < 2 ^ 256) :
    sval (runR env Gen.scalar4x64.scalar_cadd_bit.body).1 "r.d" = sval env "r.d" + env.get "flag" 0 * 2 ^ env.get "bit" 0 ∧
    Limbs64 (runR env Gen.scalar4x64.scalar_cadd_bit.body).1 "r.d" := by
  rw [cadd_body]
  rw [sval_eq] at hno
  refine cadd_run (c64 "t")
    (P := fun out => sval out.1 "r.d" = sval env "r.d" + env.get "flag" 0 * 2 ^ env.get "bit" 0 ∧ Limbs64 out.1 "r.d")
    (S := written "t" (limbs64 true 2 (caddAtoms "r.d" (caddInc64 "bit") 0 4))) List.mem_cons_self (by decide +kernel)
    (by decide) rfl ⟨_, _, _, _, _, rfl⟩ (goodB_sound _ _ (by decide +kernel)) (by decide +kernel) (by decide)
    (fun env x h => ev_id64 env x (h (limbs64_out _ _ _))) (ev_caddInc64 _) (atoms_limbs64 ..) ((limbs64_iff ..).1 hr) hbit hflag hno
    fun env' h1 h2 => ?_
  exact ⟨by rw [sval_eq, sval_eq]; exact h2, (limbs64_iff ..).2 h1⟩

/-- **`secp256k1_scalar_cadd_bit` is exact.**  For every memory in which `r` has 64-bit limbs, `bit < 256`,
    `flag ∈ {0, 1}` and `r + flag·2^bit` does not overflow 256 bits (the C function's documented contract: "the
    result is not allowed to overflow"), the translated C function leaves in `r` the limbs of `r + flag·2^bit`. -/
theorem scalar_cadd_bit_correct (env : Env) (hr : Limbs64 env "r.d") (hbit : env.get "bit" 0 < 256)
    (hflag : env.get "flag" 0 ≤ 1) (hno : sval env "r.d" + env.get "flag" 0 * 2 ^ env.get "bit" 0 < 2 ^ 256) :
    sval (execL env Gen.scalar4x64.scalar_cadd_bit.body).env "r.d" =
      sval env "r.d" + env.get "flag" 0 * 2 ^ env.get "bit" 0 ∧
    Limbs64 (execL env Gen.scalar4x64.scalar_cadd_bit.body).env "r.d" := by
  exact scalar_cadd_bit_run env hr hbit hflag hno

/-- `r = 2^128 - 1`, `bit = 70`, `flag = 1`: the addition of `2^70` carries from limb 1 into limb 2 -/
def caddEnv : Env :=
  [(("r.d", 0), 18446744073709551615), (("r.d", 1), 18446744073709551615), (("r.d", 2), 0), (("r.d", 3), 0),
   (("bit", 0), 70), (("flag", 0), 1)]

/-- the same with `flag = 0`: nothing is added -/
def caddEnv0 : Env :=
  [(("r.d", 0), 18446744073709551615), (("r.d", 1), 18446744073709551615), (("r.d", 2), 0), (("r.d", 3), 0),
   (("bit", 0), 70), (("flag", 0), 0)]

def CaddPostEnv (env out : Env) : Prop :=
  sval out "r.d" = sval env "r.d" + env.get "flag" 0 * 2 ^ env.get "bit" 0 ∧ Limbs64 out "r.d"

instance (env out : Env) : Decidable (CaddPostEnv env out) := by unfold CaddPostEnv; infer_instance

/-- Non-vacuity: both memories satisfy the hypotheses, and the conclusion, evaluated by running the wrap-around
    interpreter in the kernel, holds. -/
example : Limbs64 caddEnv "r.d" ∧ caddEnv.get "bit" 0 < 256 ∧ caddEnv.get "flag" 0 ≤ 1 ∧
    sval caddEnv "r.d" + caddEnv.get "flag" 0 * 2 ^ caddEnv.get "bit" 0 < 2 ^ 256 ∧
    CaddPostEnv caddEnv (execL caddEnv Gen.scalar4x64.scalar_cadd_bit.body).env :=
  ⟨by decide +kernel, by decide +kernel, by decide +kernel, by decide +kernel,
   of_decide_eq_true (FieldKernel.checkRun_sound (post := fun out => decide (CaddPostEnv caddEnv out)) (by decide +kernel))⟩

example : Limbs64 caddEnv0 "r.d" ∧ caddEnv0.get "bit" 0 < 256 ∧ caddEnv0.get "flag" 0 ≤ 1 ∧
    CaddPostEnv caddEnv0 (execL caddEnv0 Gen.scalar4x64.scalar_cadd_bit.body).env :=
  ⟨by decide +kernel, by decide +kernel, by decide +kernel,
   of_decide_eq_true (FieldKernel.checkRun_sound (post := fun out => decide (CaddPostEnv caddEnv0 out)) (by decide +kernel))⟩

end C05sc
end SecpZkp
