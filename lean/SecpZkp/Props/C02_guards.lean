import SecpZkp.Gen.Guards
/-! # C02 — the argument checks the model assumes are present at the C call sites (translator mode G)

How to read a fact, and what a mismatch means: `Props/C01_guards.lean`. -/
namespace SecpZkp.Props.C02_guards
open SecpZkp.Gen

theorem schnorrsig_verify_sites : Facts.schnorrsig_verify = [
    ⟨.fe_impl_set_b32_limit, 1, true, none⟩,
    ⟨.scalar_set_b32, 1, false, some true⟩,
    ⟨.xonly_pubkey_load, 1, true, none⟩,
    ⟨.ge_is_infinity, 1, true, none⟩
  ] := by decide

theorem xonly_pubkey_parse_sites : Facts.xonly_pubkey_parse = [
    ⟨.fe_impl_set_b32_limit, 1, true, none⟩,
    ⟨.ge_set_xo_var, 1, true, none⟩
  ] := by decide

theorem schnorrsig_challenge_sites : Facts.schnorrsig_challenge = [
    ⟨.scalar_set_b32, 1, false, none⟩
  ] := by decide

theorem schnorrsig_sign_internal_sites : Facts.schnorrsig_sign_internal = [
    ⟨.ecmult_gen_context_is_built, 1, true, none⟩,
    ⟨.keypair_load, 1, true, none⟩,
    ⟨.scalar_set_b32, 1, false, none⟩,
    ⟨.scalar_is_zero, 1, true, none⟩
  ] := by decide

def all : List CallFact := Facts.schnorrsig_verify ++ Facts.xonly_pubkey_parse ++ Facts.schnorrsig_challenge ++ Facts.schnorrsig_sign_internal

/-- No overflow flag written by a scalar decoding in these functions is ignored (overwritten or never read). -/
theorem no_flag_dropped : ∀ f ∈ all, f.flag ≠ some false := by decide

/-- non-vacuity: the regenerated fact lists are not empty -/
example : all.length = 11 := by decide

end SecpZkp.Props.C02_guards
