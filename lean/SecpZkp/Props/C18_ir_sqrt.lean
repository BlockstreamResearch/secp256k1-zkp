import SecpZkp.Proofs.EllswiftIR
/-
  C18 (IR level), second part: `secp256k1_ellswift_xswiftec_inv_var` and `secp256k1_ellswift_swiftec_var`
  (src/modules/ellswift/main_impl.h) as regenerated into `Gen/F_ellswift.lean` compute exactly what the hand-written model
  (`Ellswift.xswiftecInvVar`, `Ellswift.swiftecVar` of `Model/Ellswift.lean`) says.  See `Props/C18_ir.lean` for the
  reading guide.

  Both functions contain inlined copies of `secp256k1_fe_sqrt` (a `.scope` of 530 statements), which are not executed
  symbolically.  The generated body is shown (by `rfl`, i.e. by the kernel) to be an explicit program text with the
  `fe_sqrt` bodies as parameters (`invFn S1 S2`, `swPre ++ [swPost S]`); the theorems are proved for ARBITRARY `S`
  satisfying the contract `SqrtSpec`, and the contract is discharged for the generated `S` by `sqrt_fn` of
  `Proofs/SqrtIR.lean` (whose side condition is evaluated by the kernel, in `*_spec`).
  `invFn`, `swPre`, `swPost` are COPIES of generated text: a renumbering of the translator's temporaries (`z_15`,
  `fe_sqrt_17`) breaks `*_body_eq` although nothing has changed; paste the text again from `Gen/F_ellswift.lean`.
-/
namespace SecpZkp.C18ir
open SecpZkp SecpZkp.FeIR SecpZkp.MiniC

-- see `Props/C18_ir.lean`
attribute [local irreducible] Fe.add Fe.mul Fe.sqr Fe.neg Fe.inv Fe.isSquare Fe.half Fe.sqrtCand FeIR.canon

def invFn (S1 S2 : List FeIR.Stmt) : List FeIR.Stmt := [
    .const "g.secp256k1_ellswift_c4" 60197513588986302554485582024885075108884032450952339817679072026166228089409,
    .const "g.secp256k1_ellswift_c3" 55594575648329892869085402983802832744385952214688224221778511981742606582255,
    .set "x" "x_in",
    .set "u" "u_in",
    .norm "x",
    .norm "u",
    .ite (.lnot (.bin .and 32 (.var "c") (.lit 2))) [
      .set "m" "x",
      .add "m" "u",
      .neg "m" "m" 2,
      .scope [
        .sqr "ge_x_on_curve_var_1.c" "m",
        .mul "ge_x_on_curve_var_1.c" "ge_x_on_curve_var_1.c" "m",
        .addInt "ge_x_on_curve_var_1.c" 7,
        .isSquare "sq_2" "ge_x_on_curve_var_1.c",
        .int "ge_x_on_curve_var_1.ret" (.var "sq_2"),
        .ret
      ],
      .ite (.var "ge_x_on_curve_var_1.ret") [
        .int "ret" (.lit 0),
        .ret
      ] [

      ],
      .sqr "s" "m",
      .neg "s" "s" 1,
      .mul "m" "u" "x",
      .add "s" "m",
      .sqr "g" "u",
      .mul "g" "g" "u",
      .addInt "g" 7,
      .mul "m" "s" "g",
      .isSquare "sq_3" "m",
      .ite (.lnot (.var "sq_3")) [
        .int "ret" (.lit 0),
        .ret
      ] [

      ],
      .inv "s" "s",
      .mul "s" "s" "g",
      .set "v" "x"
    ] [
      .neg "m" "u" 1,
      .set "s" "m",
      .add "s" "x",
      .isSquare "sq_4" "s",
      .ite (.lnot (.var "sq_4")) [
        .int "ret" (.lit 0),
        .ret
      ] [

      ],
      .sqr "g" "u",
      .mul "q" "s" "g",
      .mulInt "q" 3,
      .mul "g" "g" "u",
      .mulInt "g" 4,
      .addInt "g" 28,
      .add "q" "g",
      .mul "q" "q" "s",
      .neg "q" "q" 1,
      .isSquare "sq_5" "q",
      .ite (.lnot (.var "sq_5")) [
        .int "ret" (.lit 0),
        .ret
      ] [

      ],
      .scope S1,
      .int "ret" (.var "fe_sqrt_6.ret"),
      .isZero "z_15" "r",
      .ite (.bin .sub 64 (.bin .xor 64 (.cond (.bin .ne 32 (.bin .and 32 (.var "c") (.lit 1)) (.lit 0)) (.bin .ne 32 (.var "z_15") (.lit 0)) (.lit 0)) (.lit 2147483648)) (.lit 2147483648)) [
        .int "ret" (.lit 0),
        .ret
      ] [

      ],
      .isZero "z_16" "s",
      .ite (.bin .sub 64 (.bin .xor 64 (.var "z_16") (.lit 2147483648)) (.lit 2147483648)) [
        .int "ret" (.lit 0),
        .ret
      ] [

      ],
      .inv "v" "s",
      .mul "v" "v" "r",
      .add "v" "m",
      .half "v"
    ],
    .scope S2,
    .int "ret" (.var "fe_sqrt_17.ret"),
    .ite (.cond (.bin .ne 32 (.bin .eq 32 (.bin .and 32 (.var "c") (.lit 5)) (.lit 0)) (.lit 0)) (.lit 1) (.bin .ne 32 (.bin .eq 32 (.bin .and 32 (.var "c") (.lit 5)) (.lit 5)) (.lit 0))) [
      .neg "m" "m" 1
    ] [

    ],
    .ite (.bin .and 32 (.var "c") (.lit 1)) [
      .set "sel_26" "g.secp256k1_ellswift_c4"
    ] [
      .set "sel_26" "g.secp256k1_ellswift_c3"
    ],
    .mul "u" "u" "sel_26",
    .add "u" "v",
    .mul "t" "m" "u",
    .int "ret" (.lit 1),
    .ret
  ]

/-- the first inlined `fe_sqrt` (`r = sqrt(q)`) of the generated function -/
def invS1 : List FeIR.Stmt :=
  match Gen.ellswift.xswiftec_inv_var.body.drop 6 with
  | .ite _ _ B :: _ => (match B.drop 16 with | .scope S :: _ => S | _ => [])
  | _ => []
/-- the second inlined `fe_sqrt` (`m = sqrt(s)`) -/
def invS2 : List FeIR.Stmt :=
  match Gen.ellswift.xswiftec_inv_var.body.drop 7 with
  | .scope S :: _ => S
  | _ => []

theorem inv_body_eq : Gen.ellswift.xswiftec_inv_var.body = invFn invS1 invS2 := by rfl

example : invS1.length = 530 ∧ invS2.length = 530 := by decide +kernel

/-- what `xswiftec_inv_var` leaves behind, against the model's result `m`: the model's `none` is the C `return 0`;
    `some t` is `return 1` with the output variable `t` holding exactly `t` (magnitude 1) -/
def InvPost (m : Option ℕ) (st' : State) : Prop :=
  match m with
  | none => st'.ints.get "ret" 0 = 0
  | some t => st'.ints.get "ret" 0 = 1 ∧ st'.fe.get "t" = ⟨t, 1⟩

/-- the variables that are live across the first / second inlined `fe_sqrt` -/
def keep1 : List String := ["s", "m", "u", "g.secp256k1_ellswift_c4", "g.secp256k1_ellswift_c3"]
def keep2 : List String := ["u", "v", "g.secp256k1_ellswift_c4", "g.secp256k1_ellswift_c3"]

set_option hygiene false in
local macro "inv_leaf" : tactic => `(tactic|
  (subst hm
   first
   | (fe_get [InvPost, sel_def, and_self, true_and, and_true]; done)
   | (fe_get [InvPost, sel_def, and_self, true_and, and_true]; with_reducible rfl)))

set_option hygiene false in
local macro "inv_tail" "[" ts:Lean.Parser.Tactic.simpLemma,* "]" : tactic => `(tactic|
  (frame_facts [keep2] at hkf hki
   fe_get [hcv, $ts,*] at hr hkf hki
   fe_run [hr, hkf, hki, binIdeal_and, binIdeal_ne, binIdeal_eq, ite_ite_zero, ite_one_ite,
     and_one_ne_zero, Bool.not_eq_true, Bool.not_eq_false]
   repeat' fe_split1 hm
   all_goals inv_leaf))

/-- `xswiftec_inv_var` with ARBITRARY statement lists `S1`, `S2` in place of the two inlined `fe_sqrt` bodies, assuming only
    their contract `SqrtSpec`.  `x_in`, `u_in` have magnitude ≤ 32 and arbitrary values (the function normalizes them);
    `c` is any integer (the C code is called with `0 ≤ c < 8`; nothing depends on that).  `ret = 0` covers each of the
    five `return 0` of the C code. -/
theorem xswiftec_inv_var_fn_of_sqrt (S1 S2 : List FeIR.Stmt)
    (h1 : SqrtSpec S1 "r" "q" "fe_sqrt_6.ret" keep1 ["c"]) (h2 : SqrtSpec S2 "m" "s" "fe_sqrt_17.ret" keep2 ["c"])
    (st : State) (hret : st.returned = false)
    (hx : (st.fe.get "x_in").mag ≤ 32) (hu : (st.fe.get "u_in").mag ≤ 32) :
    ∃ st', FeIR.execL st (invFn S1 S2) = some st' ∧
      InvPost (Ellswift.xswiftecInvVar (st.fe.get "x_in").val (st.fe.get "u_in").val (st.ints.get "c" 0)) st' := by
  obtain ⟨fe, ints, ret⟩ := st
  simp only at hret hx hu; subst hret
  generalize hxv : fe.get "x_in" = xv at hx; obtain ⟨X, mx⟩ := xv
  generalize huv : fe.get "u_in" = uv at hu; obtain ⟨U, mu⟩ := uv
  generalize hcv : ints.get "c" 0 = c
  simp only at hx hu
  have hm : Ellswift.xswiftecInvVar X U c =
    (match (if c &&& 2 = 0 then Ellswift.invA (canon X) (canon U) else Ellswift.invB (canon X) (canon U) c) with
     | none => none | some (s, v) => some (Ellswift.invTail (canon U) c s v)) := xswiftecInvVar_raw X U c
  simp only [Ellswift.invA, Ellswift.invB, Ellswift.invTail, Ellswift.geXOnCurveVar, Bool.not_eq_true'] at hm
  generalize Ellswift.xswiftecInvVar X U c = m at hm ⊢
  apply Post.elim
  fe_run [invFn, hxv, huv, hcv, binIdeal_and, binIdeal_ne, binIdeal_eq, ite_ite_zero, ite_one_ite, and_one_ne_zero,
    Bool.not_eq_true, Bool.not_eq_false]
  fe_split1 hm
  · -- `c ∈ {0, 1, 4, 5}`
    fe_split1 hm
    · inv_leaf
    · fe_split1 hm
      · inv_leaf
      · generalize hE : FeIR.execL _ S2 = o
        refine h2.elim hE ?_ (fun fe' ints' ho hr _ hkf hki => ?_)
        · fe_get []; decide
        · subst ho
          inv_tail []
  · -- `c ∈ {2, 3, 6, 7}`
    fe_split1 hm
    · inv_leaf
    · fe_split1 hm
      · inv_leaf
      · generalize hE : FeIR.execL _ S1 = o
        refine h1.elim hE ?_ (fun fe1 ints1 ho hr1 _ hkf1 hki1 => ?_)
        · fe_get []; decide
        · subst ho
          frame_facts [keep1] at hkf1 hki1
          fe_get [hcv] at hr1 hkf1 hki1
          fe_run [hr1, hkf1, hki1, binIdeal_and, binIdeal_ne, binIdeal_eq, ite_ite_zero,
            ite_one_ite, and_one_ne_zero, Bool.not_eq_true, Bool.not_eq_false]
          fe_split1 hm
          · inv_leaf
          · fe_split1 hm
            · inv_leaf
            · generalize hE : FeIR.execL _ S2 = o
              refine h2.elim hE ?_ (fun fe' ints' ho hr _ hkf hki => ?_)
              · fe_get [hkf1]; decide
              · subst ho
                inv_tail [hkf1, hki1]

/-- the addition chains of the two inlined `fe_sqrt` (everything before `secp256k1_fe_sqr(r, &t1)`) -/
def invChain1 : List FeIR.Stmt := invS1.take 524
def invChain2 : List FeIR.Stmt := invS2.take 524

set_option maxRecDepth 100000 in
theorem invS1_eq : invS1 = invChain1 ++
    sqrtTail "r" "fe_sqrt_6.t1" "fe_equal_9.na" "q" "z_14" "fe_equal_9.ret" "fe_sqrt_6.ret" := by rfl
theorem invS1_spec : SqrtSpec invS1 "r" "q" "fe_sqrt_6.ret" keep1 ["c"] := by
  rw [invS1_eq]; exact sqrt_fn _ _ _ _ _ _ _ _ _ _ (by decide +kernel)
set_option maxRecDepth 100000 in
theorem invS2_eq : invS2 = invChain2 ++
    sqrtTail "m" "fe_sqrt_17.t1" "fe_equal_20.na" "s" "z_25" "fe_equal_20.ret" "fe_sqrt_17.ret" := by rfl
theorem invS2_spec : SqrtSpec invS2 "m" "s" "fe_sqrt_17.ret" keep2 ["c"] := by
  rw [invS2_eq]; exact sqrt_fn _ _ _ _ _ _ _ _ _ _ (by decide +kernel)

/-- `secp256k1_ellswift_xswiftec_inv_var(t, x_in, u_in, c)`, the generated body as it stands (both inlined square roots
    included), agrees with `Ellswift.xswiftecInvVar`; hypotheses as in `xswiftec_inv_var_fn_of_sqrt`. -/
theorem xswiftec_inv_var_eq (st : State) (hret : st.returned = false)
    (hx : (st.fe.get "x_in").mag ≤ 32) (hu : (st.fe.get "u_in").mag ≤ 32) :
    ∃ st', FeIR.execL st Gen.ellswift.xswiftec_inv_var.body = some st' ∧
      InvPost (Ellswift.xswiftecInvVar (st.fe.get "x_in").val (st.fe.get "u_in").val (st.ints.get "c" 0)) st' := by
  rw [inv_body_eq]
  exact xswiftec_inv_var_fn_of_sqrt _ _ invS1_spec invS2_spec st hret hx hu

def invAgrees (x u c : ℕ) : Bool :=
  (FeIR.execL ⟨[("x_in", ⟨x, 1⟩), ("u_in", ⟨u, 1⟩)], [(("c", 0), c)], false⟩ Gen.ellswift.xswiftec_inv_var.body).map
    (fun st' => (st'.ints.get "ret" 0, if st'.ints.get "ret" 0 = 1 then (st'.fe.get "t").val else 0)) =
  some (match Ellswift.xswiftecInvVar x u c with | none => (0, 0) | some t => (1, t))

theorem invAgrees_all (x u c : ℕ) : invAgrees x u c = true := by
  obtain ⟨st', h, hp⟩ := xswiftec_inv_var_eq ⟨[("x_in", ⟨x, 1⟩), ("u_in", ⟨u, 1⟩)], [(("c", 0), c)], false⟩ rfl
    (show 1 ≤ 32 by decide) (show 1 ≤ 32 by decide)
  unfold invAgrees
  rw [h, Option.map_some]
  change InvPost (Ellswift.xswiftecInvVar x u c) st' at hp
  cases hm : Ellswift.xswiftecInvVar x u c with
  | none => rw [hm] at hp; change _ = 0 at hp; simp [hp]
  | some t => rw [hm] at hp; obtain ⟨h1, h2⟩ := hp; simp [h1, h2]

set_option maxRecDepth 100000 in
/-- non-vacuity: `x = Gx`; with `u = 9` all branch values `c` succeed (`c = 0, 5`: the `x1/x2` inverse with both signs and
    both constants; `c = 3, 6`: the `x3` inverse through both square roots); with `u = 8` both kinds fail -/
example : invAgrees Pt.Gx 9 0 = true ∧ invAgrees Pt.Gx 9 3 = true ∧ invAgrees Pt.Gx 9 5 = true ∧
    invAgrees Pt.Gx 9 6 = true ∧ invAgrees Pt.Gx 8 0 = true ∧ invAgrees Pt.Gx 8 2 = true ∧
    (Ellswift.xswiftecInvVar Pt.Gx 9 3).isSome = true ∧ (Ellswift.xswiftecInvVar Pt.Gx 8 2).isSome = false :=
  ⟨invAgrees_all _ _ _, invAgrees_all _ _ _, invAgrees_all _ _ _, invAgrees_all _ _ _, invAgrees_all _ _ _,
    invAgrees_all _ _ _, by decide +kernel, by decide +kernel⟩

/-- the first part of `swiftec_var`: the constants and the inlined `xswiftec_var(&x, u, t)` -/
def swPre : List FeIR.Stmt := [
    .const "g.secp256k1_fe_one" 1,
    .const "g.secp256k1_ellswift_c1" 60197513588986302554485582024885075108884032450952339817679072026166228089408,
    .const "g.secp256k1_ellswift_c2" 55594575648329892869085402983802832744385952214688224221778511981742606582254,
    .scope [
      .scope [
        .set "ellswift_xswiftec_frac_var_2.u1" "u",
        .isZero "z_3" "ellswift_xswiftec_frac_var_2.u1",
        .ite (.bin .sub 64 (.bin .xor 64 (.var "z_3") (.lit 2147483648)) (.lit 2147483648)) [
          .set "ellswift_xswiftec_frac_var_2.u1" "g.secp256k1_fe_one"
        ] [

        ],
        .sqr "ellswift_xswiftec_frac_var_2.s" "t",
        .isZero "z_4" "t",
        .ite (.bin .sub 64 (.bin .xor 64 (.var "z_4") (.lit 2147483648)) (.lit 2147483648)) [
          .set "ellswift_xswiftec_frac_var_2.s" "g.secp256k1_fe_one"
        ] [

        ],
        .sqr "ellswift_xswiftec_frac_var_2.l" "ellswift_xswiftec_frac_var_2.u1",
        .mul "ellswift_xswiftec_frac_var_2.g" "ellswift_xswiftec_frac_var_2.l" "ellswift_xswiftec_frac_var_2.u1",
        .addInt "ellswift_xswiftec_frac_var_2.g" 7,
        .set "ellswift_xswiftec_frac_var_2.p" "ellswift_xswiftec_frac_var_2.g",
        .add "ellswift_xswiftec_frac_var_2.p" "ellswift_xswiftec_frac_var_2.s",
        .isZero "z_5" "ellswift_xswiftec_frac_var_2.p",
        .ite (.bin .sub 64 (.bin .xor 64 (.var "z_5") (.lit 2147483648)) (.lit 2147483648)) [
          .mulInt "ellswift_xswiftec_frac_var_2.s" 4,
          .set "ellswift_xswiftec_frac_var_2.p" "ellswift_xswiftec_frac_var_2.g",
          .add "ellswift_xswiftec_frac_var_2.p" "ellswift_xswiftec_frac_var_2.s"
        ] [

        ],
        .mul "ellswift_xswiftec_frac_var_2.d" "ellswift_xswiftec_frac_var_2.s" "ellswift_xswiftec_frac_var_2.l",
        .mulInt "ellswift_xswiftec_frac_var_2.d" 3,
        .sqr "ellswift_xswiftec_frac_var_2.l" "ellswift_xswiftec_frac_var_2.p",
        .neg "ellswift_xswiftec_frac_var_2.l" "ellswift_xswiftec_frac_var_2.l" 1,
        .mul "ellswift_xswiftec_frac_var_2.n" "ellswift_xswiftec_frac_var_2.d" "ellswift_xswiftec_frac_var_2.u1",
        .add "ellswift_xswiftec_frac_var_2.n" "ellswift_xswiftec_frac_var_2.l",
        .scope [
          .mul "ge_x_frac_on_curve_var_6.r" "ellswift_xswiftec_frac_var_2.d" "ellswift_xswiftec_frac_var_2.n",
          .sqr "ge_x_frac_on_curve_var_6.t" "ellswift_xswiftec_frac_var_2.n",
          .mul "ge_x_frac_on_curve_var_6.r" "ge_x_frac_on_curve_var_6.r" "ge_x_frac_on_curve_var_6.t",
          .sqr "ge_x_frac_on_curve_var_6.t" "ellswift_xswiftec_frac_var_2.d",
          .sqr "ge_x_frac_on_curve_var_6.t" "ge_x_frac_on_curve_var_6.t",
          .mulInt "ge_x_frac_on_curve_var_6.t" 7,
          .add "ge_x_frac_on_curve_var_6.r" "ge_x_frac_on_curve_var_6.t",
          .isSquare "sq_7" "ge_x_frac_on_curve_var_6.r",
          .int "ge_x_frac_on_curve_var_6.ret" (.var "sq_7"),
          .ret
        ],
        .ite (.var "ge_x_frac_on_curve_var_6.ret") [
          .set "ellswift_xswiftec_var_1.xn" "ellswift_xswiftec_frac_var_2.n",
          .set "ellswift_xswiftec_var_1.xd" "ellswift_xswiftec_frac_var_2.d",
          .ret
        ] [

        ],
        .set "ellswift_xswiftec_var_1.xd" "ellswift_xswiftec_frac_var_2.p",
        .mul "ellswift_xswiftec_frac_var_2.l" "g.secp256k1_ellswift_c1" "ellswift_xswiftec_frac_var_2.s",
        .mul "ellswift_xswiftec_frac_var_2.n" "g.secp256k1_ellswift_c2" "ellswift_xswiftec_frac_var_2.g",
        .add "ellswift_xswiftec_frac_var_2.n" "ellswift_xswiftec_frac_var_2.l",
        .mul "ellswift_xswiftec_frac_var_2.n" "ellswift_xswiftec_frac_var_2.n" "ellswift_xswiftec_frac_var_2.u1",
        .scope [
          .mul "ge_x_frac_on_curve_var_8.r" "ellswift_xswiftec_frac_var_2.p" "ellswift_xswiftec_frac_var_2.n",
          .sqr "ge_x_frac_on_curve_var_8.t" "ellswift_xswiftec_frac_var_2.n",
          .mul "ge_x_frac_on_curve_var_8.r" "ge_x_frac_on_curve_var_8.r" "ge_x_frac_on_curve_var_8.t",
          .sqr "ge_x_frac_on_curve_var_8.t" "ellswift_xswiftec_frac_var_2.p",
          .sqr "ge_x_frac_on_curve_var_8.t" "ge_x_frac_on_curve_var_8.t",
          .mulInt "ge_x_frac_on_curve_var_8.t" 7,
          .add "ge_x_frac_on_curve_var_8.r" "ge_x_frac_on_curve_var_8.t",
          .isSquare "sq_9" "ge_x_frac_on_curve_var_8.r",
          .int "ge_x_frac_on_curve_var_8.ret" (.var "sq_9"),
          .ret
        ],
        .ite (.var "ge_x_frac_on_curve_var_8.ret") [
          .set "ellswift_xswiftec_var_1.xn" "ellswift_xswiftec_frac_var_2.n",
          .ret
        ] [

        ],
        .mul "ellswift_xswiftec_frac_var_2.l" "ellswift_xswiftec_frac_var_2.p" "ellswift_xswiftec_frac_var_2.u1",
        .add "ellswift_xswiftec_frac_var_2.n" "ellswift_xswiftec_frac_var_2.l",
        .neg "ellswift_xswiftec_var_1.xn" "ellswift_xswiftec_frac_var_2.n" 2
      ],
      .inv "ellswift_xswiftec_var_1.xd" "ellswift_xswiftec_var_1.xd",
      .mul "x" "ellswift_xswiftec_var_1.xn" "ellswift_xswiftec_var_1.xd"
    ]
  ]

/-- the second part: the inlined `ge_set_xo_var(p, &x, fe_is_odd(t))`, with the inlined `fe_sqrt` as a parameter.  The inner
    `.scope` is an `xquadFn`; its five short statements are run by `fe_run`, since stepping over it with `xquad_fn` would
    take a second contract beside `SqrtSpec`. -/
def swPost (S : List FeIR.Stmt) : FeIR.Stmt :=
  .scope [
    .isOdd "odd_11" "t",
    .int "ge_set_xo_var_10.odd" (.var "odd_11"),
    .scope [
      .set "p.x" "x",
      .sqr "ge_set_xquad_12.x2" "x",
      .mul "ge_set_xquad_12.x3" "x" "ge_set_xquad_12.x2",
      .int "p.infinity" (.lit 0),
      .addInt "ge_set_xquad_12.x3" 7,
      .scope S,
      .int "ge_set_xquad_12.ret" (.var "fe_sqrt_14.ret"),
      .int "ge_set_xquad_12.ret" (.var "ge_set_xquad_12.ret"),
      .ret
    ],
    .int "ge_set_xo_var_10.ret" (.var "ge_set_xquad_12.ret"),
    .norm "p.y",
    .isOdd "odd_28" "p.y",
    .ite (.bin .ne 32 (.var "odd_28") (.var "ge_set_xo_var_10.odd")) [
      .neg "p.y" "p.y" 1
    ] [
  
    ],
    .int "ge_set_xo_var_10.ret" (.var "ge_set_xo_var_10.ret"),
    .ret
  ]

/-- the inlined `fe_sqrt` (`p.y = sqrt(x³ + 7)`) of the generated function -/
def swS : List FeIR.Stmt :=
  match Gen.ellswift.swiftec_var.body.drop 4 with
  | .scope B :: _ =>
    (match B.drop 2 with
     | .scope C :: _ => (match C.drop 5 with | .scope S :: _ => S | _ => [])
     | _ => [])
  | _ => []

theorem sw_body_eq : Gen.ellswift.swiftec_var.body = swPre ++ [swPost swS] := by rfl

example : swS.length = 530 := by decide +kernel

theorem swiftec_pre (fe : FeEnv) (ints : Env) (U mu T mt : ℕ) (huv : fe.get "u" = ⟨U, mu⟩) (htv : fe.get "t" = ⟨T, mt⟩)
    (hu : mu ≤ 8) (ht : mt ≤ 8) :
    Post (FeIR.execL ⟨fe, ints, false⟩ swPre) (fun st1 => st1.returned = false ∧
      st1.fe.get "x" = ⟨Ellswift.xswiftecVar U T, 1⟩ ∧ st1.fe.get "t" = ⟨T, mt⟩) := by
  have hv : Ellswift.xswiftecVar U T =
      Fe.mul (Ellswift.xswiftecFracVar U T).1 (Fe.inv (Ellswift.xswiftecFracVar U T).2) := rfl
  rw [hv]
  have hm := xswiftecFracVar_raw U T
  simp only [Ellswift.fracCore, ite_prod_sel, sel_self] at hm
  generalize Ellswift.xswiftecFracVar U T = m at hm
  fe_run [swPre, huv, htv]
  subst hm
  rfl

theorem swiftec_post (S : List FeIR.Stmt)
    (hS : SqrtSpec S "p.y" "ge_set_xquad_12.x3" "fe_sqrt_14.ret" ["p.x"] ["p.infinity", "ge_set_xo_var_10.odd"])
    (fe : FeEnv) (ints : Env) (xv T mt : ℕ) (hx : fe.get "x" = ⟨xv, 1⟩) (ht : fe.get "t" = ⟨T, mt⟩) (hmt : mt ≤ 1)
    (hxlt : xv < P) :
    Post (FeIR.execL ⟨fe, ints, false⟩ [swPost S])
      (fun st' => RepA st' "p" (Ellswift.geSetXoVar xv (Fe.isOdd (T % P))).1 1 2) := by
  fe_run [swPost, hx, ht]
  generalize hE : FeIR.execL _ S = o
  refine hS.elim hE ?_ (fun fe' ints' ho hr _ hkf hki => ?_)
  · fe_get []; decide
  · subst ho
    frame_facts [] at hkf hki
    fe_get [] at hr hkf hki
    fe_run [hr, hkf, hki, binIdeal_ne]
    have hmod : xv % P = xv := Nat.mod_eq_of_lt hxlt
    rw [sel_def]
    split <;> rename_i h <;> rw [canon_def] at h
    · have hg : (Ellswift.geSetXoVar xv (Fe.isOdd (T % P))).1 =
          .aff xv (Fe.neg (Fe.sqrtCand (Fe.add (Fe.mul xv (Fe.sqr xv)) 7))) := by
        unfold Ellswift.geSetXoVar
        simp only [hmod, Fe.mul_comm' (Fe.sqr xv) xv]
        rw [if_pos ((isOdd_bne_iff _ _).2 h)]
      rw [hg]
      fe_get [hkf, hki]
      refine ⟨by mg, by mg, Or.inr ⟨rfl, ?_⟩⟩
      dsimp only; rw [hmod, Nat.mod_eq_of_lt (Fe.neg_lt_P _)]
    · have hg : (Ellswift.geSetXoVar xv (Fe.isOdd (T % P))).1 =
          .aff xv (Fe.sqrtCand (Fe.add (Fe.mul xv (Fe.sqr xv)) 7)) := by
        unfold Ellswift.geSetXoVar
        simp only [hmod, Fe.mul_comm' (Fe.sqr xv) xv]
        rw [if_neg fun hh => h ((isOdd_bne_iff _ _).1 hh)]
      rw [hg]
      fe_get [hkf, hki]
      refine ⟨by mg, by mg, Or.inr ⟨rfl, ?_⟩⟩
      dsimp only; rw [hmod, Nat.mod_eq_of_lt (Fe.sqrtCand_lt_P _)]

def swChain : List FeIR.Stmt := swS.take 524

set_option maxRecDepth 100000 in
theorem swS_eq : swS = swChain ++
    sqrtTail "p.y" "fe_sqrt_14.t1" "fe_equal_17.na" "ge_set_xquad_12.x3" "z_22" "fe_equal_17.ret" "fe_sqrt_14.ret" := by
  rfl
theorem swS_spec : SqrtSpec swS "p.y" "ge_set_xquad_12.x3" "fe_sqrt_14.ret" ["p.x"]
    ["p.infinity", "ge_set_xo_var_10.odd"] := by
  rw [swS_eq]; exact sqrt_fn _ _ _ _ _ _ _ _ _ _ (by decide +kernel)

/-- `secp256k1_ellswift_swiftec_var(p, u, t)`, the generated body as it stands (inlined `xswiftec_var`, then inlined
    `ge_set_xo_var` with its square root), computes `Ellswift.swiftecVar u t`.  `t` must be NORMALIZED (magnitude ≤ 1:
    the C code calls `fe_is_odd(t)`, whose precondition this is; the callers normalize `t`). -/
theorem swiftec_var_eq (st : State) (hret : st.returned = false)
    (hu : (st.fe.get "u").mag ≤ 8) (ht : (st.fe.get "t").mag ≤ 1) :
    ∃ st', FeIR.execL st Gen.ellswift.swiftec_var.body = some st' ∧
      RepA st' "p" (Ellswift.swiftecVar (st.fe.get "u").val (st.fe.get "t").val) 1 2 := by
  obtain ⟨fe, ints, ret⟩ := st
  simp only at hret hu ht; subst hret
  generalize huv : fe.get "u" = uv at hu; obtain ⟨U, mu⟩ := uv
  generalize htv : fe.get "t" = tv at ht; obtain ⟨T, mt⟩ := tv
  simp only at hu ht
  rw [sw_body_eq]
  apply Post.elim
  refine post_append _ (swiftec_pre fe ints U mu T mt huv htv hu (by omega)) ?_
  rintro ⟨fe1, ints1, r1⟩ ⟨hr1, hx1, ht1⟩
  simp only at hr1 hx1 ht1; subst hr1
  exact swiftec_post swS swS_spec fe1 ints1 _ T mt hx1 ht1 ht (Ellswift.xswiftecVar_lt U T)

def swiftecAgrees (u t : ℕ) : Bool :=
  (FeIR.execL ⟨[("u", ⟨u, 1⟩), ("t", ⟨t, 1⟩)], [], false⟩ Gen.ellswift.swiftec_var.body).map
    (fun st' => decide (RepA st' "p" (Ellswift.swiftecVar u t) 1 2)) = some true

theorem swiftecAgrees_all (u t : ℕ) : swiftecAgrees u t = true := by
  obtain ⟨st', h, hp⟩ := swiftec_var_eq ⟨[("u", ⟨u, 1⟩), ("t", ⟨t, 1⟩)], [], false⟩ rfl (show 1 ≤ 8 by decide)
    (show 1 ≤ 1 by decide)
  unfold swiftecAgrees
  rw [h, Option.map_some]
  exact decide_eq_true (congrArg some (decide_eq_true hp))

set_option maxRecDepth 100000 in
/-- non-vacuity: the three candidates `x3`, `x2`, `x1`, both parities of `t`, an unreduced input; the points are valid -/
example : swiftecAgrees 2 1 = true ∧ swiftecAgrees 0 0 = true ∧ swiftecAgrees 0 2 = true ∧ swiftecAgrees 3 5 = true ∧
    swiftecAgrees (P + 2) (P + 1) = true ∧ (Ellswift.swiftecVar 2 1).valid = true ∧
    Fe.isOdd (Pt.yOf (Ellswift.swiftecVar 2 1)) = true ∧ Fe.isOdd (Pt.yOf (Ellswift.swiftecVar 0 2)) = false :=
  ⟨swiftecAgrees_all _ _, swiftecAgrees_all _ _, swiftecAgrees_all _ _, swiftecAgrees_all _ _, swiftecAgrees_all _ _,
    by decide +kernel, by decide +kernel, by decide +kernel⟩

end SecpZkp.C18ir
