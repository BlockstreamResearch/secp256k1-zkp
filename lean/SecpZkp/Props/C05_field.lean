import SecpZkp.Proofs.LimbPolyI
import SecpZkp.Gen.K_field5x52
/-
  C05 (field part): the 5×52-limb field multiplication and squaring of the C library are exact for ALL
  limb values within the documented magnitude bounds.

  Object of the theorems: `Gen.field5x52.fe_mul_inner` / `fe_sqr_inner`, the MiniC IR that
  `tools/c2lean_k.py` generates from `secp256k1_fe_mul_inner` / `secp256k1_fe_sqr_inner`
  (src/field_5x52_int128_impl.h, with the `secp256k1_u128_*` helpers of int128_native_impl.h inlined); the
  translation is tied to the compiled C functions by the `k_run` correspondence ops.  Nothing in this file
  re-types the algorithm: the proofs EVALUATE the generated term.

  Two kernel evaluations per function, on the interned copy of the program.  `*_no_wrap_out`: the interval analysis
  accepts it under `mulB` / `sqrB` (magnitude 8) — no 128-bit accumulation, 64-bit product or shift wraps for ANY
  admissible input, so `execL` coincides with the ideal semantics `execLI` — and derives the output bounds.  `*_poly`:
  `LimbPolyI.mulCheck` accepts it: `val5 r - Σ 2^(52(i+j)) a_i b_j` is a linear form whose coefficients are all divisible
  by p (`2^260 - 0x1000003D10 = 16 p`, `2^256 - 0x1000003D1 = p`).  A dropped mask, a wrong shift, a wrong coefficient or
  a missing doubling in the C code makes one of the two evaluate to `false`; renaming or renumbering temporaries changes
  nothing: they are substituted away.

  The `USE_FORCE_WIDEMUL_INT128_STRUCT` configuration, whose emulation wraps ON PURPOSE so that `Bounds.checkL` rejects
  it by design, is reduced to the kernels of this file in `Props/C05_field_struct.lean`; the 10×26 layout is in
  `Props/C05_field10x26.lean`.
-/

namespace SecpZkp
-- in `C05struct` because `Props/C05_field_struct.lean` compares the struct kernels against these copies
namespace C05struct
open MiniC FieldKernelStruct

def mulNativeI : List IStmt := intern_body% Gen.field5x52.fe_mul_inner
def sqrNativeI : List IStmt := intern_body% Gen.field5x52.fe_sqr_inner

theorem mulNativeI_dec : decode nmr mulNativeI = Gen.field5x52.fe_mul_inner.body := by kernel_rfl

theorem sqrNativeI_dec : decode nmr sqrNativeI = Gen.field5x52.fe_sqr_inner.body := by kernel_rfl

-- the keys of `r`, `a`, `b` are their character codes 114, 97, 98
theorem nmr_a : nmr 97 = "a" := by kernel_rfl
theorem nmr_b : nmr 98 = "b" := by kernel_rfl
theorem nmr_r : nmr 114 = "r" := by kernel_rfl

end C05struct
namespace C05
open MiniC MiniC.Bounds FieldKernel FieldKernelStruct Rename LimbPolyI C05struct

theorem valN5 (env : Env) (x : Nat) :
    valN nmr env x (2 ^ 52) 5 = val5 (cell nmr env (x, 0)) (cell nmr env (x, 1)) (cell nmr env (x, 2))
      (cell nmr env (x, 3)) (cell nmr env (x, 4)) := by
  simp only [valN, val5]; omega

theorem mulB_dec : decB nmr (internB mulB) = mulB := by kernel_rfl

theorem sqrB_dec : decB nmr (internB sqrB) = sqrB := by kernel_rfl

theorem outB_dec : decB nmr (internB outB) = outB := by kernel_rfl

/-- No arithmetic node of `secp256k1_fe_mul_inner` wraps for inputs of magnitude ≤ 8, and the output has magnitude 1. -/
theorem fe_mul_inner_no_wrap_out :
    checkOut mulB Gen.field5x52.fe_mul_inner.body outB = true := by
  rw [← mulB_dec, ← outB_dec, ← mulNativeI_dec]
  exact icheckOut_sound nmr_injective (by decide +kernel)

theorem fe_mul_inner_no_wrap : (checkL mulB Gen.field5x52.fe_mul_inner.body).isSome = true :=
  checkOut_isSome fe_mul_inner_no_wrap_out

/-- the carry chain of `secp256k1_fe_mul_inner` telescopes to the school-book product modulo `P` -/
theorem fe_mul_inner_poly : mulCheck (internB mulB) mulNativeI 114 97 98 (2 ^ 52) 5 P = true := by decide +kernel

def MulPost (env out : Env) : Prop :=
  val5 (out.get "r" 0) (out.get "r" 1) (out.get "r" 2) (out.get "r" 3) (out.get "r" 4) % P =
    (val5 (env.get "a" 0) (env.get "a" 1) (env.get "a" 2) (env.get "a" 3) (env.get "a" 4) *
     val5 (env.get "b" 0) (env.get "b" 1) (env.get "b" 2) (env.get "b" 3) (env.get "b" 4)) % P ∧
  out.get "r" 0 < 2 ^ 52 ∧ out.get "r" 1 < 2 ^ 52 ∧ out.get "r" 2 < 2 ^ 52 ∧ out.get "r" 3 < 2 ^ 52 ∧
  out.get "r" 4 < 2 ^ 49

instance (env out : Env) : Decidable (MulPost env out) := inferInstanceAs (Decidable (_ ∧ _))

/-- `secp256k1_fe_mul_inner` is exact under C's wrap-around semantics, for EVERY memory within the documented bounds. -/
theorem fe_mul_inner_correct (env : Env) (hr : Respects env mulB) :
    MulPost env (execL env Gen.field5x52.fe_mul_inner.body).env := by
  obtain ⟨heq, hb⟩ := checkOut_sound hr fe_mul_inner_no_wrap_out
  simp only [outB, List.forall_mem_cons, List.not_mem_nil, false_imp_iff, implies_true, and_true] at hb
  obtain ⟨b0, b1, b2, b3, b4⟩ := hb
  refine ⟨?_, by omega, by omega, by omega, by omega, by omega⟩
  rw [heq]
  simpa only [valN5, mulNativeI_dec, cell, nmr_a, nmr_b, nmr_r] using
    mulCheck_sound nmr_injective (mulB_dec ▸ hr) fe_mul_inner_poly

def onesEnv : Env :=
  [(("a", 0), 2 ^ 56 - 1), (("a", 1), 2 ^ 56 - 1), (("a", 2), 2 ^ 56 - 1), (("a", 3), 2 ^ 56 - 1), (("a", 4), 2 ^ 52 - 1),
   (("b", 0), 2 ^ 56 - 1), (("b", 1), 2 ^ 56 - 1), (("b", 2), 2 ^ 56 - 1), (("b", 3), 2 ^ 56 - 1), (("b", 4), 2 ^ 52 - 1)]

example : Respects onesEnv mulB ∧ MulPost onesEnv (execL onesEnv Gen.field5x52.fe_mul_inner.body).env :=
  ⟨respects_of_all (by decide +kernel), fe_mul_inner_correct _ (respects_of_all (by decide +kernel))⟩

/-- As `fe_mul_inner_no_wrap_out`; the nodes include the 64-bit doublings `a0*2`, `a1*2`, `a2*2`, `a4*2`. -/
theorem fe_sqr_inner_no_wrap_out :
    checkOut sqrB Gen.field5x52.fe_sqr_inner.body outB = true := by
  rw [← sqrB_dec, ← outB_dec, ← sqrNativeI_dec]
  exact icheckOut_sound nmr_injective (by decide +kernel)

theorem fe_sqr_inner_no_wrap : (checkL sqrB Gen.field5x52.fe_sqr_inner.body).isSome = true :=
  checkOut_isSome fe_sqr_inner_no_wrap_out

theorem fe_sqr_inner_poly : mulCheck (internB sqrB) sqrNativeI 114 97 97 (2 ^ 52) 5 P = true := by decide +kernel

def SqrPost (env out : Env) : Prop :=
  val5 (out.get "r" 0) (out.get "r" 1) (out.get "r" 2) (out.get "r" 3) (out.get "r" 4) % P =
    (val5 (env.get "a" 0) (env.get "a" 1) (env.get "a" 2) (env.get "a" 3) (env.get "a" 4) ^ 2) % P ∧
  out.get "r" 0 < 2 ^ 52 ∧ out.get "r" 1 < 2 ^ 52 ∧ out.get "r" 2 < 2 ^ 52 ∧ out.get "r" 3 < 2 ^ 52 ∧
  out.get "r" 4 < 2 ^ 49

instance (env out : Env) : Decidable (SqrPost env out) := inferInstanceAs (Decidable (_ ∧ _))

theorem fe_sqr_inner_correct (env : Env) (hr : Respects env sqrB) :
    SqrPost env (execL env Gen.field5x52.fe_sqr_inner.body).env := by
  obtain ⟨heq, hb⟩ := checkOut_sound hr fe_sqr_inner_no_wrap_out
  simp only [outB, List.forall_mem_cons, List.not_mem_nil, false_imp_iff, implies_true, and_true] at hb
  obtain ⟨b0, b1, b2, b3, b4⟩ := hb
  refine ⟨?_, by omega, by omega, by omega, by omega, by omega⟩
  rw [heq]
  simpa only [valN5, sqrNativeI_dec, cell, nmr_a, nmr_r, ← Nat.pow_two] using
    mulCheck_sound nmr_injective (sqrB_dec ▸ hr) fe_sqr_inner_poly

example : Respects onesEnv sqrB ∧ SqrPost onesEnv (execL onesEnv Gen.field5x52.fe_sqr_inner.body).env :=
  ⟨respects_of_all (by decide +kernel), fe_sqr_inner_correct _ (respects_of_all (by decide +kernel))⟩

end C05
end SecpZkp
