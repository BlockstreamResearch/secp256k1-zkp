/-
  C19 / C07 (part "round trips"): the 33-byte generator and commitment encodings round-trip exactly, for
  EVERY finite curve point and EVERY accepted byte string, and therefore so do generator lists of every
  length.  This is the only part of the parser theorems that needs number theory (`P` prime, `P ≡ 3 mod 4`,
  `-7` is not a cube mod `P`); they are the round trips of `Props/C08.lean`, restated for `FinValid` objects.
-/
import SecpZkp.Props.C08
import SecpZkp.Props.C19_codec

namespace SecpZkp
namespace C19

open Bppp Parsers

theorem ne_inf_of_finValid {p : Pt} (h : FinValid p) : p ≠ .inf := fun e => by simp [e, FinValid, Pt.isInf] at h

/-- `secp256k1_generator_parse ∘ secp256k1_generator_serialize = id` on all generator objects (finite points on the curve with
reduced coordinates). -/
theorem generator_serialize_parse (g : Pt) (h : FinValid g) :
    Generator.parse (Generator.serialize g) = some g := C08.parse_serialize g h.1 (ne_inf_of_finValid h)

/-- `secp256k1_generator_serialize ∘ secp256k1_generator_parse = id` on all accepted 33-byte strings: the generator encoding is
canonical. -/
theorem generator_parse_serialize' (c : Bytes) (g : Pt) (hlen : c.length = 33)
    (h : Generator.parse c = some g) : Generator.serialize g = c := C08.serialize_parse c g hlen h

example : FinValid Generator.H := by decide +kernel
example : FinValid Pt.G := by decide +kernel

/-- `gens_serialize_parse` (`Props/C19_codec.lean`) with its hypothesis, the round trip of the single generator, discharged. -/
theorem gens_serialize_parse_valid (gs : List Pt) (b : Bytes) (dataLen : Nat) (hlen : 33 * gs.length ≤ dataLen)
    (hv : ∀ g ∈ gs, FinValid g) :
    ∃ out, gensSerialize (some gs) (some b) dataLen = ⟨1, (some out, 33 * gs.length), 0⟩ ∧
      gensParse (some (out.take (33 * gs.length))) = ⟨1, some gs, 0⟩ :=
  gens_serialize_parse gs b dataLen hlen (fun g hg => generator_serialize_parse g (hv g hg))

example : ∀ g ∈ [Generator.H, Pt.G, Generator.H], FinValid g := by decide +kernel

/-- `gens_parse_serialize` likewise: the list encoding is canonical. -/
theorem gens_parse_serialize_bytes (d : Bytes) (l : List Pt) (h : gensParse (some d) = ⟨1, some l, 0⟩) :
    l.flatMap Generator.serialize = d :=
  gens_parse_serialize d l h generator_parse_serialize'

/-- The two round trips of the Pedersen commitment object (`secp256k1_pedersen_commitment_parse`). -/
theorem commitment_roundtrip :
    (∀ p, FinValid p → Generator.commitLoad (Generator.commitSave p) = p) ∧
    (∀ c o, c.length = 33 → Generator.commitParse c = some o →
      Generator.commitSave (Generator.commitLoad o) = c) :=
  ⟨fun p h => C08.commitLoad_commitSave p h.1 (ne_inf_of_finValid h), fun c o hlen h => by
    obtain rfl : o = c := ((C08.commitParse_iff c o).1 h).1
    exact (C08.commitSave_commitLoad o hlen h).1⟩

end C19
end SecpZkp
