import SecpZkp.Gen.Guards
/-! # C08 — the argument checks the model assumes are present at the C call sites (translator mode G)

How to read a fact, and what a mismatch means: `Props/C01_guards.lean`. -/
namespace SecpZkp.Props.C08_guards
open SecpZkp.Gen

theorem generator_parse_sites : Facts.generator_parse = [
    ⟨.fe_impl_set_b32_limit, 1, true, none⟩,
    ⟨.ge_set_xquad, 1, true, none⟩
  ] := by decide

theorem pedersen_commitment_parse_sites : Facts.pedersen_commitment_parse = [
    ⟨.fe_impl_set_b32_limit, 1, true, none⟩
  ] := by decide

theorem pedersen_commit_sites : Facts.pedersen_commit = [
    ⟨.ecmult_gen_context_is_built, 1, true, none⟩,
    ⟨.scalar_set_b32, 1, false, some true⟩,
    ⟨.gej_is_infinity, 1, true, none⟩
  ] := by decide

theorem pedersen_blind_sum_sites : Facts.pedersen_blind_sum = [
    ⟨.scalar_set_b32, 1, false, some true⟩
  ] := by decide

theorem pedersen_blind_generator_blind_sum_sites : Facts.pedersen_blind_generator_blind_sum = [
    ⟨.scalar_set_b32, 1, false, some true⟩,
    ⟨.scalar_set_b32, 2, false, some true⟩
  ] := by decide

theorem generator_generate_internal_sites : Facts.generator_generate_internal = [
    ⟨.scalar_set_b32, 1, false, some true⟩,
    ⟨.fe_impl_set_b32_limit, 1, true, none⟩,
    ⟨.fe_impl_set_b32_limit, 2, true, none⟩
  ] := by decide

theorem generator_load_sites : Facts.generator_load = [
    ⟨.fe_impl_set_b32_limit, 1, true, none⟩,
    ⟨.fe_impl_set_b32_limit, 2, true, none⟩
  ] := by decide

theorem pedersen_scalar_set_u64_sites : Facts.pedersen_scalar_set_u64 = [
    ⟨.scalar_set_b32, 1, false, none⟩
  ] := by decide

def all : List CallFact := Facts.generator_parse ++ Facts.pedersen_commitment_parse ++ Facts.pedersen_commit ++ Facts.pedersen_blind_sum ++ Facts.pedersen_blind_generator_blind_sum ++ Facts.generator_generate_internal ++ Facts.generator_load ++ Facts.pedersen_scalar_set_u64

/-- No overflow flag written by a scalar decoding in these functions is ignored (overwritten or never read). -/
theorem no_flag_dropped : ∀ f ∈ all, f.flag ≠ some false := by decide

/-- non-vacuity: the regenerated fact lists are not empty -/
example : all.length = 15 := by decide

end SecpZkp.Props.C08_guards
