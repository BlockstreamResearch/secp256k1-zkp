import SecpZkp.Proofs.BorromeanRange
import SecpZkp.Proofs.GroupLawProved
/-
  C09, the ring-signature part of completeness (used by `Props/C09_complete.lean`): the proof assembly
  `Rangeproof.signCore` (C lines 290-336 of `secp256k1_rangeproof_sign_impl`) hands the Borromean signer consistent
  `(pubs, sec, secidx)`, hence the ring signature it embeds in the proof verifies against the key array that
  `secp256k1_rangeproof_pub_expand` derives from the digit commitments written into the proof.
  On its own `rangeproof_ring_complete_partial` is only a part of C09; the full statement `rangeproof_complete` is in
  `Props/C09_complete.lean`.
-/
namespace SecpZkp
namespace Rangeproof
open SecpZkp.Algebra

/-- C09, the part on the embedded ring signature (head of this file).  `hnoinf` and the last conjunct of `hring` cannot be
    dropped, for the reason given at `Borromean.borromean_complete`: the prover tests neither, the verifier rejects a zero
    scalar or an infinite key at any position. -/
theorem rangeproof_ring_complete_partial
    (hdr : Bytes) (sha : Sha256.State) (exp : Int) (scale : Nat) (rsizes secidx sec k s : List Nat) (genp : Pt)
    (extra : Option Bytes) (bytes : Bytes)
    (hgen : genp.valid = true)
    (hscale : scale = 10 ^ (if exp < 0 then 0 else exp.toNat))
    (hrs : ∀ r ∈ rsizes, 1 ≤ r)
    (hl1 : secidx.length = rsizes.length) (hl2 : sec.length = rsizes.length) (hl3 : k.length = rsizes.length)
    (hls : rsizes.sum ≤ s.length)
    (hring : ∀ i, i < rsizes.length →
      secidx.getD i 0 < rsizes.getD i 0 ∧ sec.getD i 0 < N ∧ k.getD i 0 < N ∧
      digitValue (secidx.getD i 0) scale i = secidx.getD i 0 * scale * 4 ^ i ∧
      ∀ j, j < rsizes.getD i 0 → j ≠ secidx.getD i 0 → s[Borromean.offset rsizes i + j]? ≠ some 0)
    (hnoinf : ∀ p ∈ pubExpand (digitPts scale genp sec secidx 0) exp rsizes genp, p ≠ .inf)
    (h : signCore hdr sha exp scale rsizes secidx sec k s genp extra = some bytes) :
    ∃ (sha1 : Sha256.State) (signs xs e0 : Bytes) (sOut : List Nat),
      digitLoop rsizes.length scale genp sec secidx 0 sha (Bytes.zeros ((rsizes.length + 6) >>> 3)) [] [] =
        some (digitPts scale genp sec secidx 0, sha1, signs, xs) ∧
      bytes = hdr ++ signs ++ xs ++ e0 ++ sOut.flatMap Bytes.be32 ∧
      Borromean.sign s (pubExpand (digitPts scale genp sec secidx 0) exp rsizes genp) k sec rsizes secidx
        (Sha256.finalize (absorbExtra sha1 extra)) = some (e0, sOut) ∧
      (Borromean.verify e0 sOut (pubExpand (digitPts scale genp sec secidx 0) exp rsizes genp) rsizes
        (Sha256.finalize (absorbExtra sha1 extra))).1 = true := by
  have : HasGroupLaw := ⟨groupLaw⟩
  rw [signCore] at h
  simp only [] at h
  split at h
  · simp at h
  next firsts sha1 signs xs hdl =>
  split at h
  · simp at h
  next e0 sOut hsig =>
  simp only [Option.some.injEq] at h
  obtain ⟨_, hfirsts⟩ := digitLoop_spec _ _ _ _ _ _ _ _ _ _ _ _ _ _ hdl
  simp only [List.nil_append] at hfirsts
  subst hfirsts
  refine ⟨sha1, signs, xs, e0, sOut, hdl, h.symm, by cases extra <;> exact hsig, ?_⟩
  have hplen : (pubExpand (digitPts scale genp sec secidx 0) exp rsizes genp).length = rsizes.sum := by
    rw [pubExpand]
    exact pubExpandGo_length _ _ _ (by rw [digitPts_length _ _ _ _ _ (by omega)]; exact hl2) hrs
  have hver := Borromean.borromean_complete_index _ rsizes secidx k sec s _ e0 sOut hl1 hl3 hl2 (by omega) hls hnoinf
    (by
      intro i hi
      obtain ⟨a1, a2, a3, a4, a5⟩ := hring i hi
      refine ⟨a1, a2, a3, ?_, a5⟩
      exact pubExpand_secret_key genp hgen exp scale hscale rsizes secidx sec hrs hl1 hl2
        (fun j hj => (hring j hj).2.1) (fun j hj => (hring j hj).2.2.2.1) i hi a1) hsig
  cases extra <;> exact hver

/-- example instance: generator `2•G`, two rings of sizes 4 and 2 (mantissa 3), digits `1, 1`, blinding factors `5, 7`,
    nonces `9, 13`, forged scalars `3, 4, 6, 8` (zeros at the two secret positions, as `takeNonces` leaves them) -/
def exGen : Pt := Pt.mulG 2
def exHdr : Bytes := [0x40, 2]
def exS : List Nat := [3, 0, 4, 6, 8, 0]

theorem ex_signCore :
    (signCore exHdr (shaPrefix (Pt.mulG 99) exGen exHdr) 0 1 [4, 2] [1, 1] [5, 7] [9, 13] exS exGen none).isSome = true := by
  decide +kernel
theorem ex_noinf : ∀ p ∈ pubExpand (digitPts 1 exGen [5, 7] [1, 1] 0) 0 [4, 2] exGen, p ≠ .inf := by decide +kernel
theorem ex_ring : ∀ i, i < [4, 2].length →
    [1, 1].getD i 0 < [4, 2].getD i 0 ∧ [5, 7].getD i 0 < N ∧ [9, 13].getD i 0 < N ∧
    digitValue ([1, 1].getD i 0) 1 i = [1, 1].getD i 0 * 1 * 4 ^ i ∧
    ∀ j, j < [4, 2].getD i 0 → j ≠ [1, 1].getD i 0 → exS[Borromean.offset [4, 2] i + j]? ≠ some 0 := by decide +kernel

/-- Non-vacuity of `rangeproof_ring_complete_partial`: its hypotheses hold for the example instance, on which `signCore`
    (evaluated by the kernel) succeeds. -/
example : ∃ bytes, signCore exHdr (shaPrefix (Pt.mulG 99) exGen exHdr) 0 1 [4, 2] [1, 1] [5, 7] [9, 13] exS exGen none
      = some bytes ∧
    ∃ (sha1 : Sha256.State) (signs xs e0 : Bytes) (sOut : List Nat),
      bytes = exHdr ++ signs ++ xs ++ e0 ++ sOut.flatMap Bytes.be32 ∧
      (Borromean.verify e0 sOut (pubExpand (digitPts 1 exGen [5, 7] [1, 1] 0) 0 [4, 2] exGen) [4, 2]
        (Sha256.finalize (absorbExtra sha1 none))).1 = true := by
  obtain ⟨bytes, hb⟩ := Option.isSome_iff_exists.mp ex_signCore
  obtain ⟨sha1, signs, xs, e0, sOut, _, h2, _, h3⟩ := rangeproof_ring_complete_partial exHdr _ 0 1 [4, 2] [1, 1] [5, 7]
    [9, 13] exS exGen none bytes (by decide +kernel) (by decide) (by decide) (by decide) (by decide) (by decide)
    (by decide) ex_ring ex_noinf hb
  exact ⟨bytes, hb, sha1, signs, xs, e0, sOut, h2, h3⟩

end Rangeproof
end SecpZkp
