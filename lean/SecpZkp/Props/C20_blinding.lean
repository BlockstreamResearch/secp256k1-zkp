import SecpZkp.Model.Context
import SecpZkp.Proofs.Algebra
import SecpZkp.Proofs.GroupLawProved
/-
  C20, clause "every result is independent of the context's randomization history".

  The only state of a context that a computation reads is the blinding of the fixed-base multiplication
  (`secp256k1_ecmult_gen_context`): a scalar offset `so`, a point offset `go` and a projective blinding
  factor.  `Context.ecmultGen c k = (k + so)·G + go`.  The blinding is correct iff the two offsets
  cancel (`Context.Balanced c : so·G + go = ∞`).  We prove that this invariant holds initially, is
  preserved by every re-blinding (the new point offset is computed WITH THE OLD context, so the proof of
  the step uses the invariant of the old context), hence holds after every finite history of context
  operations and every value of `COMB_BITS`; and that it implies `ecmultGen c k = k·G`.

  No hypothesis about the curve: the group law is `groupLaw` (`Proofs/GroupLawProved.lean`).
-/
namespace SecpZkp
namespace C20

open SecpZkp.Algebra SecpZkp.Context

def Inv (c : GenCtx) : Prop := Balanced c ∧ c.so < N ∧ c.go.valid = true

local instance : HasGroupLaw := ⟨groupLaw⟩

theorem go_eq_of_inv {c : GenCtx} (h : Inv c) : c.go = gmul (-(c.so : ZMod N)) := by
  obtain ⟨hb, hso, hv⟩ := h
  rw [Balanced, mulG_eq_gmul (lt_mulBound_of_lt_N hso)] at hb
  have h : gmulV (c.so : ZMod N) + (⟨c.go, hv⟩ : VPt) = 0 := Subtype.ext hb
  rw [← neg_gmul]
  exact congrArg Subtype.val (eq_neg_of_add_eq_zero_right h)

/-- `mulBound = 2^264`: every scalar the double-and-add model accepts, in particular every reduced one. -/
theorem ecmultGen_of_inv {c : GenCtx} (h : Inv c) {k : Nat} (hk : k < mulBound) :
    ecmultGen c k = Pt.mulG k := by
  rw [ecmultGen, go_eq_of_inv h, mulG_eq_gmul (lt_mulBound_of_lt_N (Sc.add_lt _ _)), cast_add, add_gmul,
    mulG_eq_gmul hk]
  exact gmul_congr (by ring)

/-- `b` is derived from the seed and the old offset by RFC 6979; of it only `0 < b < N` is used. -/
theorem blind_some_shape (cb : Nat) (c : GenCtx) (s : Bytes) :
    ∃ b f, blind cb c (some s) = ⟨Sc.neg b, ecmultGen c b, f⟩ ∧ 0 < b ∧ b < N := by
  have key : ∀ x : Nat, 0 < (if x % N = 0 then 1 else x % N) ∧ (if x % N = 0 then 1 else x % N) < N := by
    intro x
    have := Nat.mod_lt x N_pos
    have := two_le_N
    split <;> omega
  exact ⟨_, _, rfl, key _⟩

/-- `secp256k1_ecmult_gen_context_build` installs the offsets `so = 1`, `go = -G`. -/
theorem balanced_fresh : Balanced fresh ∧ fresh.so < N ∧ fresh.go.valid = true := by
  refine ⟨?_, two_le_N, gl.valid_neg _ gl.valid_G⟩
  show Pt.add (Pt.mulG 1) (Pt.neg Pt.G) = .inf
  rw [mulG_eq_gmul (by decide +kernel), G_eq_gmul, neg_gmul, add_gmul, Nat.cast_one]
  simp

/-- Non-vacuity: the fresh context really has the offsets `(1, -G)` and they cancel by computation. -/
example : Pt.add (Pt.mulG fresh.so) fresh.go = Pt.inf := by decide +kernel

theorem blind_offsets (combBits : Nat) (c : GenCtx) (s : Bytes)
    (hv : c.go.valid = true) (hb : Balanced c) (hso : c.so < N) :
    ∃ b, 0 < b ∧ b < N ∧ (blind combBits c (some s)).so = Sc.neg b ∧
      (blind combBits c (some s)).go = Pt.mulG b := by
  obtain ⟨b, f, e, hb0, hbN⟩ := blind_some_shape combBits c s
  rw [e]
  exact ⟨b, hb0, hbN, rfl, ecmultGen_of_inv ⟨hb, hso, hv⟩ (lt_mulBound_of_lt_N hbN)⟩

/-- Re-blinding preserves the invariant, for every seed: 32 bytes, any other length, or NULL. -/
theorem balanced_blind (combBits : Nat) (c : GenCtx) (seed : Option Bytes)
    (hv : c.go.valid = true) (hb : Balanced c) (hso : c.so < N) :
    Balanced (blind combBits c seed) ∧ (blind combBits c seed).so < N ∧
      (blind combBits c seed).go.valid = true := by
  cases seed with
  | none => exact balanced_fresh
  | some s =>
    obtain ⟨b, _, hbN, hso', hgo'⟩ := blind_offsets combBits c s hv hb hso
    rw [Balanced, hso', hgo']
    refine ⟨?_, Sc.neg_lt_N _, mulG_valid (lt_mulBound_of_lt_N hbN)⟩
    rw [mulG_eq_gmul (lt_mulBound_of_lt_N (Sc.neg_lt_N _)), mulG_eq_gmul (lt_mulBound_of_lt_N hbN), cast_neg,
      add_gmul]
    simp

/-- Non-vacuity of the hypotheses of `balanced_blind`: the fresh context satisfies them (that re-blinding changes the
offsets is shown by the last example of the file). -/
example : fresh.go.valid = true ∧ Balanced fresh ∧ fresh.so < N :=
  ⟨balanced_fresh.2.2, balanced_fresh.1, balanced_fresh.2.1⟩

theorem inv_step (cb : Nat) {c : GenCtx} (h : Inv c) (op : Op) : Inv (step cb c op) := by
  cases op with
  | create | prealloc => exact balanced_fresh
  | randomize seed => exact balanced_blind cb c seed h.2.2 h.1 h.2.1
  | _ => exact h

/-- Every reachable context satisfies the invariant.  A history is a list of `Op` (`Model/Context.lean`): (preallocated) create
and clone, randomize with any seed or NULL, set/reset of the SHA-256 compression function, API calls, destroy. -/
theorem balanced_run (combBits : Nat) (ops : List Op) :
    Balanced (run combBits ops) ∧ (run combBits ops).so < N ∧ (run combBits ops).go.valid = true := by
  suffices h : ∀ c, Inv c → Inv (ops.foldl (step combBits) c) from h _ balanced_fresh
  induction ops with
  | nil => exact fun _ h => h
  | cons op ops ih => exact fun c h => ih _ (inv_step combBits h op)

/-- The clause itself: the blinded `secp256k1_ecmult_gen` of any reachable context returns `k·G`, as with no blinding at all. -/
theorem ecmultGen_eq (combBits : Nat) (ops : List Op) (k : Nat) (hk : k < N) :
    ecmultGen (run combBits ops) k = Pt.mulG k :=
  ecmultGen_of_inv (balanced_run combBits ops) (lt_mulBound_of_lt_N hk)

theorem ecmultGen_history_independent (cb₁ cb₂ : Nat) (ops₁ ops₂ : List Op) (k : Nat) (hk : k < N) :
    ecmultGen (run cb₁ ops₁) k = ecmultGen (run cb₂ ops₂) k := by
  rw [ecmultGen_eq cb₁ ops₁ k hk, ecmultGen_eq cb₂ ops₂ k hk]

/-- Non-vacuity: a concrete history (create, randomize with a 32-byte seed, clone, randomize(NULL),
randomize with another seed) with `COMB_BITS = 11` produces a context whose offsets differ from the fresh
ones, and the blinded multiplication of `k = 5` with it is `5·G` (evaluated by the kernel, independently of
the theorem). -/
example :
    let c := run 11 [.create, .randomize (some (Bytes.be32 7)), .clone, .randomize none,
      .randomize (some (Bytes.be32 12345))]
    c.so ≠ fresh.so ∧ c.go ≠ fresh.go ∧ ecmultGen c 5 = Pt.mulG 5 := by decide +kernel

end C20
end SecpZkp
