import SecpZkp.Gen.Guards
/-
  Property C11 (part "loops", translator mode G): loop facts regenerated from clang's AST of the current sources.
  Surjection-proof initialization samples subsets until one contains the output tag.  What such a fact ties, and
  `retryOnly`: `Props/C01_loops.lean`.
-/
namespace SecpZkp.Props.C11_loops
open SecpZkp.Gen

def retryOnly (l : List LoopFact) : Prop := (∀ f ∈ l, f.kind = LoopKind.while → f.unconditional = true) ∧ (∃ f ∈ l, f.kind = LoopKind.while)

instance (l : List LoopFact) : Decidable (retryOnly l) := by unfold retryOnly; infer_instance

/-- `secp256k1_surjectionproof_initialize` and its CSPRNG: the sampling loops have no bound in their conditions (the
    iteration limit `n_max_iterations` is an explicit return inside the body, mirrored by the model) -/
theorem initialize_retry : retryOnly Loops.surjectionproof_initialize ∧ retryOnly Loops.surjectionproof_csprng_next := by decide

example : ¬ retryOnly [⟨.while, true⟩, ⟨.for, false⟩, ⟨.while, false⟩] := by decide

end SecpZkp.Props.C11_loops
