import SecpZkp.Gen.Guards
/-! # C09 — the argument checks the model assumes are present at the C call sites (translator mode G)

How to read a fact, and what a mismatch means: `Props/C01_guards.lean`. -/
namespace SecpZkp.Props.C09_guards
open SecpZkp.Gen

theorem borromean_sign_sites : Facts.borromean_sign = [
    ⟨.gej_is_infinity, 1, true, none⟩,
    ⟨.scalar_set_b32, 1, false, some true⟩,
    ⟨.scalar_is_zero, 1, true, none⟩,
    ⟨.gej_is_infinity, 2, true, none⟩,
    ⟨.scalar_set_b32, 2, false, some true⟩,
    ⟨.scalar_is_zero, 2, true, none⟩,
    ⟨.gej_is_infinity, 3, true, none⟩,
    ⟨.scalar_set_b32, 3, false, some true⟩,
    ⟨.scalar_is_zero, 3, true, none⟩,
    ⟨.scalar_is_zero, 4, true, none⟩
  ] := by decide

theorem rangeproof_genrand_sites : Facts.rangeproof_genrand = [
    ⟨.scalar_set_b32, 1, false, some true⟩,
    ⟨.scalar_is_zero, 1, true, none⟩,
    ⟨.scalar_set_b32, 2, false, some true⟩,
    ⟨.scalar_is_zero, 2, true, none⟩
  ] := by decide

theorem rangeproof_sign_impl_sites : Facts.rangeproof_sign_impl = [
    ⟨.scalar_set_b32, 1, false, some true⟩,
    ⟨.scalar_is_zero, 1, true, none⟩,
    ⟨.gej_is_infinity, 1, true, none⟩
  ] := by decide

def all : List CallFact := Facts.borromean_sign ++ Facts.rangeproof_genrand ++ Facts.rangeproof_sign_impl

/-- No overflow flag written by a scalar decoding in these functions is ignored (overwritten or never read). -/
theorem no_flag_dropped : ∀ f ∈ all, f.flag ≠ some false := by decide

/-- non-vacuity: the regenerated fact lists are not empty -/
example : all.length = 17 := by decide

end SecpZkp.Props.C09_guards
