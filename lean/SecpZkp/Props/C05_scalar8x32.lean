import SecpZkp.Proofs.Accumulator
import SecpZkp.Gen.K_scalar8x32
/-
  C05 (scalar part, 32-bit limbs): the 8×32-limb scalar arithmetic of the C library (`src/scalar_8x32_impl.h`) is
  exact for ALL limb values.

  Object of the theorems: the MiniC IR `Gen.scalar8x32.*` that `tools/c2lean_k.py` regenerates from the C sources
  (callees and the macros `muladd`, `muladd_fast`, `sumadd`, `sumadd_fast`, `extract`, `extract_fast` inlined).
  Semantics: `execL`, i.e. C's WRAP-AROUND arithmetic (uint32 mod 2^32, uint64 mod 2^64).  The code uses the
  add-with-carry idiom (`c0 += tl; th += (c0 < tl); c1 += th; c2 += (c1 < th)`) on purpose, so the interval checker
  of `Props/C05_field.lean` does not apply; the proofs reason about `execL` directly.

  The method is that of `Props/C05_scalar.lean`: operation lists for `scalar_mul_512` and the two folding stages of
  `scalar_reduce_512`, run by `mul_run` and `fold_run` of `Proofs/Accumulator.lean` with the layout `layout32` (nothing is
  inlined at a `muladd`, so there are no callee numbers, only the prefix of the locals); the short functions, stage 3 and
  the final `scalar_reduce(r, c + scalar_check_overflow(r))` are instances of the chain program of
  `Proofs/LimbChain.lean`, with the constants of this width from the end of `Proofs/ScalarKernel32.lean`.
  `scalar_reduce_512` and the second half of `scalar_mul` are both `red512 p (red3 p co rd)`.

  A change of the C code that breaks the arithmetic (a dropped `muladd`, a swapped index, a wrong constant, a
  `_fast` macro where the accumulator may overflow) makes the comparison with the compiled list, the check `ok` or
  the final identity fail.
-/

namespace SecpZkp
namespace C05sc32
open MiniC MiniC.Bounds ScalarKernel ScalarKernel32 Accumulator LimbList LimbChain

def Limbs32 (env : Env) (x : String) : Prop :=
  env.get x 0 < 2 ^ 32 ∧ env.get x 1 < 2 ^ 32 ∧ env.get x 2 < 2 ^ 32 ∧ env.get x 3 < 2 ^ 32 ∧
  env.get x 4 < 2 ^ 32 ∧ env.get x 5 < 2 ^ 32 ∧ env.get x 6 < 2 ^ 32 ∧ env.get x 7 < 2 ^ 32

instance (env : Env) (x : String) : Decidable (Limbs32 env x) := by unfold Limbs32; infer_instance

def Limbs32x16 (env : Env) (x : String) : Prop :=
  env.get x 0 < 2 ^ 32 ∧ env.get x 1 < 2 ^ 32 ∧ env.get x 2 < 2 ^ 32 ∧ env.get x 3 < 2 ^ 32 ∧
  env.get x 4 < 2 ^ 32 ∧ env.get x 5 < 2 ^ 32 ∧ env.get x 6 < 2 ^ 32 ∧ env.get x 7 < 2 ^ 32 ∧
  env.get x 8 < 2 ^ 32 ∧ env.get x 9 < 2 ^ 32 ∧ env.get x 10 < 2 ^ 32 ∧ env.get x 11 < 2 ^ 32 ∧
  env.get x 12 < 2 ^ 32 ∧ env.get x 13 < 2 ^ 32 ∧ env.get x 14 < 2 ^ 32 ∧ env.get x 15 < 2 ^ 32

instance (env : Env) (x : String) : Decidable (Limbs32x16 env x) := by unfold Limbs32x16; infer_instance

def sval (env : Env) (x : String) : Nat :=
  val8x32 (env.get x 0) (env.get x 1) (env.get x 2) (env.get x 3) (env.get x 4) (env.get x 5) (env.get x 6) (env.get x 7)

def lval16 (env : Env) (x : String) : Nat :=
  val16x32 (env.get x 0) (env.get x 1) (env.get x 2) (env.get x 3) (env.get x 4) (env.get x 5) (env.get x 6)
    (env.get x 7) (env.get x 8) (env.get x 9) (env.get x 10) (env.get x 11) (env.get x 12) (env.get x 13)
    (env.get x 14) (env.get x 15)

theorem sval_eq (env : Env) (x : String) : sval env x = valL 32 (readL env x 0 8) := val8x32_valL ..

theorem limbs32_iff (env : Env) (x : String) : Limbs32 env x ↔ ∀ d ∈ readL env x 0 8, d < 2 ^ 32 := by
  simp only [Limbs32, readL, Nat.reduceAdd, List.forall_mem_cons, List.not_mem_nil, false_imp_iff, implies_true, and_true]

theorem lval16_eq (env : Env) (x : String) : lval16 env x = valL 32 (readL env x 0 16) := by
  simp only [lval16, val16x32, readL, valL, Nat.reduceAdd]; omega

theorem limbs16_iff (env : Env) (x : String) : Limbs32x16 env x ↔ ∀ d ∈ readL env x 0 16, d < 2 ^ 32 := by
  simp only [Limbs32x16, readL, Nat.reduceAdd, List.forall_mem_cons, List.not_mem_nil, false_imp_iff, implies_true, and_true]

def abEnv (a0 a1 a2 a3 a4 a5 a6 a7 b0 b1 b2 b3 b4 b5 b6 b7 : Nat) : Env :=
  [(("a.d", 0), a0), (("a.d", 1), a1), (("a.d", 2), a2), (("a.d", 3), a3), (("a.d", 4), a4), (("a.d", 5), a5),
   (("a.d", 6), a6), (("a.d", 7), a7),
   (("b.d", 0), b0), (("b.d", 1), b1), (("b.d", 2), b2), (("b.d", 3), b3), (("b.d", 4), b4), (("b.d", 5), b5),
   (("b.d", 6), b6), (("b.d", 7), b7)]

/-- `a = b = 2^256 - 1`, NOT reduced modulo `N` -/
def onesEnv : Env :=
  abEnv 4294967295 4294967295 4294967295 4294967295 4294967295 4294967295 4294967295 4294967295
        4294967295 4294967295 4294967295 4294967295 4294967295 4294967295 4294967295 4294967295

/-- `a = b = N - 1` -/
def nm1Env : Env :=
  abEnv 3493216576 3218235020 2940772411 3132021990 4294967294 4294967295 4294967295 4294967295
        3493216576 3218235020 2940772411 3132021990 4294967294 4294967295 4294967295 4294967295

/-! ### the constants `SECP256K1_N_C_0..3` as operands of `muladd`, and `N_C` -/

def nc0 : Src := .const (.bin .add 32 (.not 32 (.lit 3493216577)) (.lit 1))
def nc1 : Src := .const (.not 32 (.lit 3218235020))
def nc2 : Src := .const (.not 32 (.lit 2940772411))
def nc3 : Src := .const (.not 32 (.lit 3132021990))

/-- `N_C = 2^256 - N` -/
def NC : Nat := 801750719 + 1076732275 * 2 ^ 32 + 1354194884 * 2 ^ 64 + 1162945305 * 2 ^ 96 + 2 ^ 128

/-! ### `secp256k1_scalar_add` -/

def AddPost (env : Env) (out : Env × Option Nat) : Prop :=
  sval out.1 "r.d" = (sval env "a.d" + sval env "b.d") % N ∧
  out.2 = some (if N ≤ sval env "a.d" + sval env "b.d" then 1 else 0) ∧ Limbs32 out.1 "r.d"

theorem add_body : Gen.scalar8x32.scalar_add.body =
    (c32 "t").prog true lowG
      ((c32 "scalar_reduce_4.t").reduceTail "scalar_check_overflow_3.yes" "scalar_check_overflow_3.no"
        "scalar_check_overflow_3.ret" "t" "overflow" "scalar_reduce_4.overflow" "scalar_reduce_4.ret" lowG ovLimbs 3493216577
        (limbs32 (redAtoms "r.d" 0 (scaleE "scalar_reduce_4.overflow" false redE))) [.ret (.var "overflow")])
      (limbs32 (addAtoms "a.d" "b.d" 0 8)) := same_eq (by decide +kernel)

theorem scalar_add_run (env : Env) (ha : Limbs32 env "a.d") (hb : Limbs32 env "b.d")
    (hA : sval env "a.d" < N) (hB : sval env "b.d" < N) :
    AddPost env (runR env Gen.scalar8x32.scalar_add.body) := by
  rw [limbs32_iff] at ha hb
  rw [sval_eq] at hA hB
  rw [add_body]
  refine chain_run (c32 "t") (S := ["t"]) (k := 1) (by decide) (by decide) ⟨_, _, _, _, _, rfl⟩ (goodB_sound _ _ (by decide))
    (fun env x _ => ev_lowG env x) (by rw [map_sum_eq, atoms_limbs32, addAtoms_sum]) (c32_aw (by decide) _) (fun s hs => ?_)
    fun env1 cc _ hd hcc hv ht _ => ?_
  · have := zipWith_add_le (X := 2 ^ 32 - 1) (Y := 2 ^ 32 - 1) (fun x hx => by have := ha x hx; omega)
      (fun y hy => by have := hb y hy; omega) s hs
    show s + 2 ≤ 2 * 2 ^ 32
    omega
  replace ht : env1.get "t" 0 = cc := ht rfl
  replace hv : valL 32 (readL env1 "r.d" 0 8) + 2 ^ (32 * 8) * cc = valL 32 (readL env "a.d" 0 8) + valL 32 (readL env "b.d" 0 8) :=
    hv.trans (valL_zipWith_add _ _ _ (by rw [readL_length, readL_length]))
  refine reduce_tail_run (c32 "scalar_reduce_4.t") (S := ["scalar_reduce_4.t"])
    (V := valL 32 (readL env "a.d" 0 8) + valL 32 (readL env "b.d" 0 8)) (by decide) (by decide)
    (by decide +kernel) (c32_aw (by decide) _) (ovLimbs_ok _).1 (ovLimbs_ok _).2.1 (ovLimbs_ok _).2.2 rfl ⟨_, _, _, _, _, rfl⟩
    (goodB_sound _ _ (by decide +kernel))
    (fun env x _ => ev_lowG env x) (atoms_limbs32 _) (fun env h => scaleE_sum h _ _ (redE_ok env)) rfl rfl (ncLimbs_ok _).1
    (ncLimbs_ok _).2 hd (by rw [ht]; exact hv) (by omega) fun env2 h1 h2 h3 => ?_
  rw [runR_ret, ev_var, h3]
  exact ⟨by rw [sval_eq, sval_eq, sval_eq]; exact h2, by rw [sval_eq, sval_eq], (limbs32_iff ..).2 h1⟩

/-- **`secp256k1_scalar_add` (8×32) is exact** on reduced scalars; the returned value is the overflow flag
    `a + b ≥ N`. -/
theorem scalar_add_correct (env : Env) (ha : Limbs32 env "a.d") (hb : Limbs32 env "b.d")
    (hA : sval env "a.d" < N) (hB : sval env "b.d" < N) :
    sval (execL env Gen.scalar8x32.scalar_add.body).env "r.d" = (sval env "a.d" + sval env "b.d") % N ∧
    (execL env Gen.scalar8x32.scalar_add.body).ret = some (if N ≤ sval env "a.d" + sval env "b.d" then 1 else 0) ∧
    Limbs32 (execL env Gen.scalar8x32.scalar_add.body).env "r.d" :=
  -- `runR env b` is by definition the pair `((execL env b).env, (execL env b).ret)`
  scalar_add_run env ha hb hA hB

example : Limbs32 nm1Env "a.d" ∧ Limbs32 nm1Env "b.d" ∧ sval nm1Env "a.d" < N ∧ sval nm1Env "b.d" < N ∧
    sval (execL nm1Env Gen.scalar8x32.scalar_add.body).env "r.d" = N - 2 ∧
    (execL nm1Env Gen.scalar8x32.scalar_add.body).ret = some 1 := by
  have ha : Limbs32 nm1Env "a.d" := by decide +kernel
  have hb : Limbs32 nm1Env "b.d" := by decide +kernel
  have hA : sval nm1Env "a.d" < N := by decide +kernel
  have hB : sval nm1Env "b.d" < N := by decide +kernel
  obtain ⟨h1, h2, _⟩ := scalar_add_correct nm1Env ha hb hA hB
  have e1 : (sval nm1Env "a.d" + sval nm1Env "b.d") % N = N - 2 := by decide +kernel
  have e2 : (if N ≤ sval nm1Env "a.d" + sval nm1Env "b.d" then 1 else 0) = 1 := by decide +kernel
  rw [e1] at h1; rw [e2] at h2
  exact ⟨ha, hb, hA, hB, h1, h2⟩

/-! ### `secp256k1_scalar_negate` -/

/-- on memories and decidable, for closed evaluation -/
def NegPostEnv (env out : Env) : Prop :=
  sval out "r.d" = (N - sval env "a.d") % N ∧ Limbs32 out "r.d"

instance (env out : Env) : Decidable (NegPostEnv env out) := by unfold NegPostEnv; infer_instance

def NegPost (env : Env) (out : Env × Option Nat) : Prop := NegPostEnv env out.1

/-- the limbs of `N`; the code adds `1` to the first -/
def negK : List (List Nat) :=
  [[3493216577, 1], [3218235020], [2940772411], [3132021990], [4294967294], [4294967295], [4294967295], [4294967295]]

theorem negate_body : Gen.scalar8x32.scalar_negate.body =
    .assign "scalar_is_zero_1.ret" (isZeroE 32 "a.d" 7) :: .assign "nonzero" (nzMask "scalar_is_zero_1.ret") ::
      (c32 "t").prog false (maskG "nonzero") [] (limbs32 (negAtoms 32 "a.d" 0 negK)) := same_eq (by decide +kernel)

theorem scalar_negate_run (env : Env) (ha : Limbs32 env "a.d") (hA : sval env "a.d" < N) :
    NegPost env (runR env Gen.scalar8x32.scalar_negate.body) := by
  rw [negate_body]
  rw [sval_eq] at hA
  refine negate_run (c32 "t") (S := ["t"]) (M := N) (by decide) (by decide) (by decide) (by decide) ⟨_, _, _, _, _, rfl⟩
    (goodB_sound _ _ (by decide)) (by decide) (by decide) (ev_maskG _) (ev_nzMask _) (atoms_limbs32 _) rfl (by decide)
    (by decide) ((limbs32_iff ..).1 ha) hA (by decide) fun env' h1 h2 => ?_
  rw [runR_nil]
  exact ⟨by rw [sval_eq, sval_eq]; exact h2, (limbs32_iff ..).2 h1⟩

/-- **`secp256k1_scalar_negate` (8×32) is exact** on reduced scalars (`0` for `a = 0`, via the `nonzero` mask). -/
theorem scalar_negate_correct (env : Env) (ha : Limbs32 env "a.d") (hA : sval env "a.d" < N) :
    sval (execL env Gen.scalar8x32.scalar_negate.body).env "r.d" = (N - sval env "a.d") % N ∧
    Limbs32 (execL env Gen.scalar8x32.scalar_negate.body).env "r.d" :=
  scalar_negate_run env ha hA

/-- non-vacuity by closed evaluation: `a = N - 1` (`r = 1`) and `a = 0` (`r = 0`, the masked case) -/
example : Limbs32 nm1Env "a.d" ∧ sval nm1Env "a.d" < N ∧
    (NegPostEnv nm1Env (execL nm1Env Gen.scalar8x32.scalar_negate.body).env ∧
     sval (execL nm1Env Gen.scalar8x32.scalar_negate.body).env "r.d" = 1) :=
  ⟨by decide +kernel, by decide +kernel,
   of_decide_eq_true (FieldKernel.checkRun_sound
     (post := fun out => decide (NegPostEnv nm1Env out ∧ sval out "r.d" = 1)) (by decide +kernel))⟩

example : Limbs32 [] "a.d" ∧ sval [] "a.d" < N ∧
    sval (execL [] Gen.scalar8x32.scalar_negate.body).env "r.d" = 0 :=
  ⟨by decide +kernel, by decide +kernel,
   of_decide_eq_true (FieldKernel.checkRun_sound (post := fun out => decide (sval out "r.d" = 0)) (by decide +kernel))⟩

/-! ### `secp256k1_scalar_mul_512` -/

private def a (i : Nat) : Src := .loc (.idx "a.d" i)
private def b (i : Nat) : Src := .loc (.idx "b.d" i)
private def m (i j : Nat) : Op := .muladd (a i) (b j)

/-- the macro calls of `secp256k1_scalar_mul_512`, column by column -/
def mul512Ops (l : String) : List Op := [
  .muladdFast (a 0) (b 0), .extractFast (.idx l 0),
  m 0 1, m 1 0, .extract (.idx l 1),
  m 0 2, m 1 1, m 2 0, .extract (.idx l 2),
  m 0 3, m 1 2, m 2 1, m 3 0, .extract (.idx l 3),
  m 0 4, m 1 3, m 2 2, m 3 1, m 4 0, .extract (.idx l 4),
  m 0 5, m 1 4, m 2 3, m 3 2, m 4 1, m 5 0, .extract (.idx l 5),
  m 0 6, m 1 5, m 2 4, m 3 3, m 4 2, m 5 1, m 6 0, .extract (.idx l 6),
  m 0 7, m 1 6, m 2 5, m 3 4, m 4 3, m 5 2, m 6 1, m 7 0, .extract (.idx l 7),
  m 1 7, m 2 6, m 3 5, m 4 4, m 5 3, m 6 2, m 7 1, .extract (.idx l 8),
  m 2 7, m 3 6, m 4 5, m 5 4, m 6 3, m 7 2, .extract (.idx l 9),
  m 3 7, m 4 6, m 5 5, m 6 4, m 7 3, .extract (.idx l 10),
  m 4 7, m 5 6, m 6 5, m 7 4, .extract (.idx l 11),
  m 5 7, m 6 6, m 7 5, .extract (.idx l 12),
  m 6 7, m 7 6, .extract (.idx l 13),
  .muladdFast (a 7) (b 7), .extractFast (.idx l 14)]

def mul512 (p l : String) (r : List Stmt) : List Stmt :=
  .assign (p ++ "c0") (.lit 0) :: .assign (p ++ "c1") (.lit 0) :: .assign (p ++ "c2") (.lit 0) ::
  layout32.compile (stdNames p) 0 (mul512Ops l) (.store l (.lit 15) (.var (p ++ "c0")) :: r)

theorem mul512_body : Gen.scalar8x32.scalar_mul_512.body = mul512 "" "l" [] := same_eq (by decide +kernel)

theorem total_mul512 (env : Env) (l : String) :
    total (2 ^ 32) env (mul512Ops l) = sval env "a.d" * sval env "b.d" := by
  simp only [mul512Ops, total, m, a, b, Src.val, Src.expr, Loc.read, ev_idx_lit, sval, val8x32]
  ring

theorem mul512_run {P : Env × Option Nat → Prop} (p l : String) (hn : (stdNames p).S.Nodup)
    (hwf : Wf (stdNames p).S (mul512Ops l)) (hl : l ∉ (stdNames p).S) {env : Env} (ha : Limbs32 env "a.d")
    (hb : Limbs32 env "b.d") {r : List Stmt}
    (k : ∀ env', (∀ x i, x ∉ (stdNames p).S → x ≠ l → env'.get x i = env.get x i) → Limbs32x16 env' l →
      lval16 env' l = sval env "a.d" * sval env "b.d" → P (runR env' r)) :
    P (runR env (mul512 p l r)) :=
  mul_run layout32 hn (fun _ h => h) ((limbs32_iff ..).1 ha) ((limbs32_iff ..).1 hb) (layout32_scratch hn _ _) hwf rfl hl rfl
    fun env' hf hd hv =>
      k env' hf ((limbs16_iff ..).2 hd) ((lval16_eq ..).trans (hv.trans (total_mul512 env l)))

def Mul512Post (env : Env) (out : Env × Option Nat) : Prop :=
  lval16 out.1 "l" = sval env "a.d" * sval env "b.d" ∧ Limbs32x16 out.1 "l"

/-- **`secp256k1_scalar_mul_512` (8×32) is exact** for ALL 32-bit limb values (no reduction assumed). -/
theorem scalar_mul_512_correct (env : Env) (ha : Limbs32 env "a.d") (hb : Limbs32 env "b.d") :
    lval16 (execL env Gen.scalar8x32.scalar_mul_512.body).env "l" = sval env "a.d" * sval env "b.d" ∧
    Limbs32x16 (execL env Gen.scalar8x32.scalar_mul_512.body).env "l" := by
  have h : Mul512Post env (runR env Gen.scalar8x32.scalar_mul_512.body) := by
    rw [mul512_body]
    exact mul512_run "" "l" (by decide +kernel) (by decide +kernel) (by decide +kernel) ha hb
      fun env' _ h16 hv => nil_rule ⟨hv, h16⟩
  exact h

example : Limbs32 onesEnv "a.d" ∧ Limbs32 onesEnv "b.d" ∧
    lval16 (execL onesEnv Gen.scalar8x32.scalar_mul_512.body).env "l" = (2 ^ 256 - 1) * (2 ^ 256 - 1) := by
  have ha : Limbs32 onesEnv "a.d" := by decide +kernel
  have hb : Limbs32 onesEnv "b.d" := by decide +kernel
  obtain ⟨h, _⟩ := scalar_mul_512_correct onesEnv ha hb
  have e : sval onesEnv "a.d" * sval onesEnv "b.d" = (2 ^ 256 - 1) * (2 ^ 256 - 1) := by decide +kernel
  exact ⟨ha, hb, e ▸ h⟩

/-! ### `secp256k1_scalar_reduce_512` -/

def RedPost (v : Nat) (out : Env × Option Nat) : Prop := sval out.1 "r.d" = v % N ∧ Limbs32 out.1 "r.d"

/-- `m[0..12] = l[0..7] + n[0..7] * N_C` -/
def red1Ops (p : String) : List Op :=
  let v (s : String) : Loc := .var (p ++ s)
  let ma (s : String) (c : Src) : Op := .muladd (.loc (v s)) c
  [.muladdFast (.loc (v "n0")) nc0, .extractFast (v "m0"),
   .sumaddFast (.idx "l" 1), ma "n1" nc0, ma "n0" nc1, .extract (v "m1"),
   .sumadd (.idx "l" 2), ma "n2" nc0, ma "n1" nc1, ma "n0" nc2, .extract (v "m2"),
   .sumadd (.idx "l" 3), ma "n3" nc0, ma "n2" nc1, ma "n1" nc2, ma "n0" nc3, .extract (v "m3"),
   .sumadd (.idx "l" 4), ma "n4" nc0, ma "n3" nc1, ma "n2" nc2, ma "n1" nc3, .sumadd (v "n0"), .extract (v "m4"),
   .sumadd (.idx "l" 5), ma "n5" nc0, ma "n4" nc1, ma "n3" nc2, ma "n2" nc3, .sumadd (v "n1"), .extract (v "m5"),
   .sumadd (.idx "l" 6), ma "n6" nc0, ma "n5" nc1, ma "n4" nc2, ma "n3" nc3, .sumadd (v "n2"), .extract (v "m6"),
   .sumadd (.idx "l" 7), ma "n7" nc0, ma "n6" nc1, ma "n5" nc2, ma "n4" nc3, .sumadd (v "n3"), .extract (v "m7"),
   ma "n7" nc1, ma "n6" nc2, ma "n5" nc3, .sumadd (v "n4"), .extract (v "m8"),
   ma "n7" nc2, ma "n6" nc3, .sumadd (v "n5"), .extract (v "m9"),
   ma "n7" nc3, .sumadd (v "n6"), .extract (v "m10"),
   .sumaddFast (v "n7"), .extractFast (v "m11")]

/-- `p[0..8] = m[0..7] + m[8..12] * N_C` -/
def red2Ops (p : String) : List Op :=
  let v (s : String) : Loc := .var (p ++ s)
  let ma (s : String) (c : Src) : Op := .muladd (.loc (v s)) c
  [.muladdFast (.loc (v "m8")) nc0, .extractFast (v "p0"),
   .sumaddFast (v "m1"), ma "m9" nc0, ma "m8" nc1, .extract (v "p1"),
   .sumadd (v "m2"), ma "m10" nc0, ma "m9" nc1, ma "m8" nc2, .extract (v "p2"),
   .sumadd (v "m3"), ma "m11" nc0, ma "m10" nc1, ma "m9" nc2, ma "m8" nc3, .extract (v "p3"),
   .sumadd (v "m4"), ma "m12" nc0, ma "m11" nc1, ma "m10" nc2, ma "m9" nc3, .sumadd (v "m8"), .extract (v "p4"),
   .sumadd (v "m5"), ma "m12" nc1, ma "m11" nc2, ma "m10" nc3, .sumadd (v "m9"), .extract (v "p5"),
   .sumadd (v "m6"), ma "m12" nc2, ma "m11" nc3, .sumadd (v "m10"), .extract (v "p6"),
   .sumaddFast (v "m7"), .muladdFast (.loc (v "m12")) nc3, .sumaddFast (v "m11"), .extractFast (v "p7")]

def nCopies (p : String) : List (String × Loc) :=
  [(p ++ "n0", .idx "l" 8), (p ++ "n1", .idx "l" 9), (p ++ "n2", .idx "l" 10), (p ++ "n3", .idx "l" 11),
   (p ++ "n4", .idx "l" 12), (p ++ "n5", .idx "l" 13), (p ++ "n6", .idx "l" 14), (p ++ "n7", .idx "l" 15)]

def red512 (p : String) (r : List Stmt) : List Stmt :=
  copies (nCopies p)
  (.assign (p ++ "c0") (.idx "l" (.lit 0)) :: .assign (p ++ "c1") (.lit 0) :: .assign (p ++ "c2") (.lit 0) ::
   layout32.compile (stdNames p) 0 (red1Ops p) (.assign (p ++ "m12") (.var (p ++ "c0")) ::
   .assign (p ++ "c0") (.var (p ++ "m0")) :: .assign (p ++ "c1") (.lit 0) :: .assign (p ++ "c2") (.lit 0) ::
   layout32.compile (stdNames p) 0 (red2Ops p)
     (.assign (p ++ "p8") (.bin .add 32 (.var (p ++ "c0")) (.var (p ++ "m12"))) :: r)))

theorem total_red1 (env : Env) (p : String) : env.get "l" 0 + total (2 ^ 32) env (red1Ops p) =
    digitsAt (2 ^ 32) env (cellsOf "l" 0 8) + digitsAt (2 ^ 32) env (copyCells (nCopies p)) * NC := by
  simp only [red1Ops, total, nc0, nc1, nc2, nc3, Src.val, Src.expr, Loc.read, Loc.key, ev_var, ev_nc0, ev_nc1, ev_nc2,
    ev_nc3, cellsOf, copyCells, nCopies, List.map, digitsAt, NC]
  ring

theorem total_red2 (env : Env) (p : String) :
    (Src.loc (.var (p ++ "m0"))).val env + total (2 ^ 32) env (red2Ops p) + env.get (p ++ "m12") 0 * (2 ^ 32) ^ 8 =
      digitsAt (2 ^ 32) env ((dests (red1Ops p)).take 8) +
        digitsAt (2 ^ 32) env ((dests (red1Ops p)).drop 8 ++ [(p ++ "m12", 0)]) * NC := by
  simp only [red2Ops, red1Ops, total, nc0, nc1, nc2, nc3, Src.val, Src.expr, Loc.read, Loc.key, ev_var, ev_nc0, ev_nc1,
    ev_nc2, ev_nc3, dests, List.flatMap_cons, List.flatMap_nil, Op.dest, List.nil_append, List.cons_append,
    List.take, List.drop, digitsAt, NC]
  ring

/-- atoms of limb `i` of stage 3: `p_i` and what the limb gets of `p8 · N_C` -/
def p3Atoms (p : String) : List (List Expr) :=
  List.zipWith (· :: ·) (["p0", "p1", "p2", "p3", "p4", "p5", "p6", "p7"].map fun s => .var (p ++ s)) (scaleE (p ++ "p8") true red3E)

def red3Tail (rd : String) : List Limb := limbs32 (redAtoms "r.d" 0 (scaleE (rd ++ "overflow") false redE))

/-- stage 3 of `secp256k1_scalar_reduce_512`, `r = p[0..7] + p8 · N_C` (accumulator `c`), and the final
    `scalar_reduce(r, c + scalar_check_overflow(r))`; the translator prefixes the locals of the three functions -/
def red3 (p co rd : String) : List Stmt :=
  (c32 (p ++ "c")).prog true lowG
    ((c32 (rd ++ "t")).reduceTail (co ++ "yes") (co ++ "no") (co ++ "ret") (p ++ "c") (rd ++ "overflow") (rd ++ "overflow")
      (rd ++ "ret") lowG ovLimbs 3493216577 (red3Tail rd) [])
    (limbs32 (p3Atoms p))

def Red3Ok (p co rd : String) : Prop :=
  "r.d" ∉ [p ++ "c"] ∧ goodB [p ++ "c"] (p ++ "c") "r.d" 0 (limbs32 (p3Atoms p)) = true ∧ "r.d" ∉ [rd ++ "t"] ∧
  TailNames [rd ++ "t"] "r.d" (co ++ "yes") (co ++ "no") (co ++ "ret") (p ++ "c") (rd ++ "overflow") (rd ++ "overflow")
    (rd ++ "ret") ∧
  goodB [rd ++ "t"] (rd ++ "t") "r.d" 0 (red3Tail rd) = true

instance (p co rd : String) : Decidable (Red3Ok p co rd) := by unfold Red3Ok; infer_instance

theorem red3_run {p co rd : String} (hn : Red3Ok p co rd) {env : Env} {q v : Nat}
    (hlt : ∀ c ∈ dests (red2Ops p), env.get c.1 c.2 < 2 ^ 32) (P8 : env.get (p ++ "p8") 0 ≤ 3)
    (hq : digitsAt (2 ^ 32) env (dests (red2Ops p)) + env.get (p ++ "p8") 0 * (2 ^ 32) ^ 8 + N * q = v) :
    RedPost v (runR env (red3 p co rd)) := by
  obtain ⟨hd1, hg1, hd2, hnm, hg2⟩ := hn
  rw [digitsAt_eq] at hq
  generalize hps : (dests (red2Ops p)).map (fun c => env.get c.1 c.2) = ps at hq
  have hpl : ∀ x ∈ ps, x < 2 ^ 32 := hps ▸ List.forall_mem_map.2 hlt
  have hlen : ps.length = 8 := by rw [← hps]; rfl
  rw [red3]
  have hs : (limbs32 (p3Atoms p)).map (Limb.sum env) =
      List.zipWith (· + ·) ps (ncLimbs.map (env.get (p ++ "p8") 0 * ·)) := by
    rw [map_sum_eq, atoms_limbs32, p3Atoms, zipCons_sum, scaleE_sum P8 _ _ (red3E_ok env), ← hps]; rfl
  refine chain_run (c32 (p ++ "c")) (S := [p ++ "c"]) (k := 3) List.mem_cons_self hd1 ⟨_, _, _, _, _, rfl⟩ (goodB_sound _ _ hg1)
    (fun env x _ => ev_lowG env x) hs (c32_aw (by decide) _) (fun s hs => ?_) fun env1 cc _ hd hcc hv ht _ => ?_
  · have := zipWith_add_le (X := 2 ^ 32 - 1) (Y := 3 * (2 ^ 32 - 1)) (fun x hx => by have := hpl x hx; omega)
      (fun y hy => by
        obtain ⟨z, hz, rfl⟩ := List.mem_map.1 hy
        exact Nat.mul_le_mul P8 (Nat.le_sub_one_of_lt ((ncLimbs_ok "").2 z hz))) s hs
    show s + 4 ≤ 4 * 2 ^ 32
    omega
  replace ht : env1.get (p ++ "c") 0 = cc := ht rfl
  replace hv : valL 32 (readL env1 "r.d" 0 8) + 2 ^ (32 * 8) * cc = valL 32 ps + env.get (p ++ "p8") 0 * valL 32 ncLimbs :=
    hv.trans (by rw [valL_zipWith_add _ _ _ (by rw [hlen]; rfl), valL_map_mul]; rfl)
  have hR := valL_lt_pow hpl
  rw [hlen] at hR
  have hNC : valL 32 ncLimbs + N = 2 ^ (32 * 8) := (ncLimbs_ok "").1
  generalize valL 32 ncLimbs = NC' at hv hNC
  refine reduce_tail_run (c32 (rd ++ "t")) (S := [rd ++ "t"]) (V := valL 32 ps + env.get (p ++ "p8") 0 * NC') List.mem_cons_self hd2 hnm (c32_aw (by decide) _) (ovLimbs_ok _).1
    (ovLimbs_ok _).2.1 (ovLimbs_ok _).2.2 rfl ⟨_, _, _, _, _, rfl⟩ (goodB_sound _ _ hg2) (fun env x _ => ev_lowG env x)
    (atoms_limbs32 _) (fun env h => scaleE_sum h _ _ (redE_ok env)) rfl rfl (ncLimbs_ok _).1 (ncLimbs_ok _).2 hd
    (by rw [ht]; exact hv)
    (by have := Nat.mul_le_mul_right NC' P8; clear * - this hR hNC; simp only [N] at *; omega) fun env2 h1 h2 _ => ?_
  rw [runR_nil]
  refine ⟨(sval_eq env2 "r.d").trans (h2.trans ?_), (limbs32_iff ..).2 h1⟩
  rw [← hq,
    show valL 32 ps + env.get (p ++ "p8") 0 * (2 ^ 32) ^ 8 + N * q =
      valL 32 ps + env.get (p ++ "p8") 0 * NC' + N * (env.get (p ++ "p8") 0 + q) by
        rw [← Nat.pow_mul, ← hNC]; ring,
    Nat.add_mul_mod_self_left]

abbrev Red512Ok (p : String) : Prop :=
  FoldOk 32 (2 ^ 32) (stdNames p) (stdNames p).S 8 "l" (p ++ "m12") (p ++ "p8") (nCopies p) (red1Ops p) (red2Ops p)
    (.loc (.var (p ++ "m0")))

theorem reduce512_run {p co rd : String} (hp : Red512Ok p) (h3 : Red3Ok p co rd) {env : Env}
    (hl : Limbs32x16 env "l") : RedPost (lval16 env "l") (runR env (red512 p (red3 p co rd))) :=
  fold_run layout32 (fun _ h => h) hp (layout32_scratch hp.2.1 _ _) (layout32_scratch hp.2.1 _ _)
    (fun env A h _ => (ev_var ..).trans h)
    (fun env A2 A (h2 : env.get (p ++ "c0") 0 = A2) h1 hA2 hA => by
      rw [ev_bin, ev_var, ev_var, h2, h1, binWrap_add]; exact Nat.mod_eq_of_lt (by omega))
    (total_red1 · p) (total_red2 · p) nc_limbs32 ((limbs16_iff ..).1 hl)
    fun _ hlt h8 ⟨_, hq⟩ => red3_run h3 hlt h8 (hq.trans (lval16_eq ..).symm)

theorem red512_body : Gen.scalar8x32.scalar_reduce_512.body =
    red512 "" (red3 "" "scalar_check_overflow_2." "scalar_reduce_1.") := same_eq (by decide +kernel)

theorem scalar_reduce_512_run (env : Env) (hl : Limbs32x16 env "l") :
    RedPost (lval16 env "l") (runR env Gen.scalar8x32.scalar_reduce_512.body) := by
  rw [red512_body]
  exact reduce512_run (by decide +kernel) (by decide +kernel) hl

/-- **`secp256k1_scalar_reduce_512` (8×32) is exact** for ALL 32-bit values of the sixteen input limbs; the result
    is fully reduced. -/
theorem scalar_reduce_512_correct (env : Env) (hl : Limbs32x16 env "l") :
    sval (execL env Gen.scalar8x32.scalar_reduce_512.body).env "r.d" = lval16 env "l" % N ∧
    sval (execL env Gen.scalar8x32.scalar_reduce_512.body).env "r.d" < N ∧
    Limbs32 (execL env Gen.scalar8x32.scalar_reduce_512.body).env "r.d" := by
  obtain ⟨h, hq⟩ := scalar_reduce_512_run env hl
  refine ⟨h, ?_, hq⟩
  have : sval (execL env Gen.scalar8x32.scalar_reduce_512.body).env "r.d" = lval16 env "l" % N := h
  rw [this]; exact Nat.mod_lt _ (by decide)

def ones16Env : Env :=
  [(("l", 0), 4294967295), (("l", 1), 4294967295), (("l", 2), 4294967295), (("l", 3), 4294967295),
   (("l", 4), 4294967295), (("l", 5), 4294967295), (("l", 6), 4294967295), (("l", 7), 4294967295),
   (("l", 8), 4294967295), (("l", 9), 4294967295), (("l", 10), 4294967295), (("l", 11), 4294967295),
   (("l", 12), 4294967295), (("l", 13), 4294967295), (("l", 14), 4294967295), (("l", 15), 4294967295)]

example : Limbs32x16 ones16Env "l" ∧
    sval (execL ones16Env Gen.scalar8x32.scalar_reduce_512.body).env "r.d" = (2 ^ 512 - 1) % N := by
  have hl : Limbs32x16 ones16Env "l" := by decide +kernel
  obtain ⟨h, _, _⟩ := scalar_reduce_512_correct ones16Env hl
  have e : lval16 ones16Env "l" % N = (2 ^ 512 - 1) % N := by decide +kernel
  exact ⟨hl, e ▸ h⟩

/-! ### `secp256k1_scalar_mul` (= `scalar_mul_512` followed by `scalar_reduce_512`, inlined)

The translator inlines both callees with prefixed locals. -/

theorem mul_body : Gen.scalar8x32.scalar_mul.body = mul512 "scalar_mul_512_3." "l"
    (red512 "scalar_reduce_512_4." (red3 "scalar_reduce_512_4." "scalar_check_overflow_6." "scalar_reduce_5.")) :=
  same_eq (by decide +kernel)

theorem scalar_mul_run (env : Env) (ha : Limbs32 env "a.d") (hb : Limbs32 env "b.d") :
    RedPost (sval env "a.d" * sval env "b.d") (runR env Gen.scalar8x32.scalar_mul.body) := by
  rw [mul_body]
  refine mul512_run "scalar_mul_512_3." "l" (by decide +kernel) (by decide +kernel) (by decide +kernel) ha hb
    fun env1 _ h16 hv => ?_
  exact hv ▸ reduce512_run (by decide +kernel) (by decide +kernel) h16

/-- **`secp256k1_scalar_mul` (8×32) is exact** for ALL 32-bit limb values of `a` and `b` (reduced or not); the
    result is fully reduced. -/
theorem scalar_mul_correct (env : Env) (ha : Limbs32 env "a.d") (hb : Limbs32 env "b.d") :
    sval (execL env Gen.scalar8x32.scalar_mul.body).env "r.d" = (sval env "a.d" * sval env "b.d") % N ∧
    sval (execL env Gen.scalar8x32.scalar_mul.body).env "r.d" < N ∧
    Limbs32 (execL env Gen.scalar8x32.scalar_mul.body).env "r.d" := by
  obtain ⟨h, hq⟩ := scalar_mul_run env ha hb
  refine ⟨h, ?_, hq⟩
  have : sval (execL env Gen.scalar8x32.scalar_mul.body).env "r.d" = (sval env "a.d" * sval env "b.d") % N := h
  rw [this]; exact Nat.mod_lt _ (by decide)

/-- non-vacuity: `a = b = N - 1` gives `r = 1`; the all-ones operands (not reduced) satisfy the hypotheses as well -/
example : Limbs32 nm1Env "a.d" ∧ Limbs32 nm1Env "b.d" ∧
    sval (execL nm1Env Gen.scalar8x32.scalar_mul.body).env "r.d" = 1 := by
  have ha : Limbs32 nm1Env "a.d" := by decide +kernel
  have hb : Limbs32 nm1Env "b.d" := by decide +kernel
  obtain ⟨h, _, _⟩ := scalar_mul_correct nm1Env ha hb
  have e : (sval nm1Env "a.d" * sval nm1Env "b.d") % N = 1 := by decide +kernel
  exact ⟨ha, hb, e ▸ h⟩

example : Limbs32 onesEnv "a.d" ∧ Limbs32 onesEnv "b.d" := ⟨by decide +kernel, by decide +kernel⟩

/-! ### `secp256k1_scalar_half` -/

def HalfPost (env : Env) (out : Env × Option Nat) : Prop :=
  sval out.1 "r.d" = sval env "a.d" / 2 + sval env "a.d" % 2 * ((N + 1) / 2) ∧ Limbs32 out.1 "r.d"

/-- the limbs of `(N + 1) / 2` below the top one `0x7FFFFFFF` -/
def halfK : List Nat := [1746608289, 3756601158, 1470386205, 1566010995, 4294967295, 4294967295, 4294967295]

theorem half_body : Gen.scalar8x32.scalar_half.body =
    .assign "mask" (.neg 32 (.bin .and 32 (.idx "a.d" (.lit 0)) (.lit 1))) ::
      (c32 "t").prog true (.cast 32) ((c32 "t").halfTop "a.d" "mask" 7 2147483647 none)
        (limbs32s (halfAtoms 32 "a.d" "mask" 0 halfK)) := same_eq (by decide +kernel)

theorem scalar_half_run (env : Env) (ha : Limbs32 env "a.d") :
    HalfPost env (runR env Gen.scalar8x32.scalar_half.body) := by
  rw [half_body]
  refine half_run (c32 "t") (S := ["t"]) (k := 31) (by decide) (by decide) rfl (by decide) ⟨_, _, _, _, _, rfl⟩
    (goodB_sound _ _ (by decide)) (by decide) (by decide) (fun _ h => nomatch h) (fun env x _ => by rw [ev_cast, ev_var]; rfl)
    (atoms_limbs32s _) rfl (by decide) (by decide) ((limbs32_iff ..).1 ha) fun env' h1 h2 => ?_
  exact ⟨by rw [sval_eq, sval_eq]; exact h2, (limbs32_iff ..).2 h1⟩

/-- **`secp256k1_scalar_half` (8×32) is exact** on reduced scalars: `r = a/2 + (a mod 2)·(N+1)/2` is the unique
    `r < N` with `2·r ≡ a (mod N)`. -/
theorem scalar_half_correct (env : Env) (ha : Limbs32 env "a.d") (hA : sval env "a.d" < N) :
    2 * sval (execL env Gen.scalar8x32.scalar_half.body).env "r.d" % N = sval env "a.d" ∧
    sval (execL env Gen.scalar8x32.scalar_half.body).env "r.d" < N ∧
    sval (execL env Gen.scalar8x32.scalar_half.body).env "r.d" =
      sval env "a.d" / 2 + sval env "a.d" % 2 * ((N + 1) / 2) ∧
    Limbs32 (execL env Gen.scalar8x32.scalar_half.body).env "r.d" := by
  obtain ⟨h, hq⟩ := scalar_half_run env ha
  obtain ⟨h1, h2⟩ := half_spec _ _ hA h
  exact ⟨h1, h2, h, hq⟩

def HalfPostEnv (env out : Env) : Prop :=
  2 * sval out "r.d" % N = sval env "a.d" ∧ sval out "r.d" < N ∧ Limbs32 out "r.d"

instance (env out : Env) : Decidable (HalfPostEnv env out) := by unfold HalfPostEnv; infer_instance

/-- non-vacuity by closed evaluation: the even scalar `a = N - 1` and the odd scalar `a = 1` -/
example : Limbs32 nm1Env "a.d" ∧ sval nm1Env "a.d" < N ∧
    HalfPostEnv nm1Env (execL nm1Env Gen.scalar8x32.scalar_half.body).env :=
  ⟨by decide +kernel, by decide +kernel,
   of_decide_eq_true (FieldKernel.checkRun_sound (post := fun out => decide (HalfPostEnv nm1Env out)) (by decide +kernel))⟩

example : Limbs32 [(("a.d", 0), 1)] "a.d" ∧ sval [(("a.d", 0), 1)] "a.d" < N ∧
    HalfPostEnv [(("a.d", 0), 1)] (execL [(("a.d", 0), 1)] Gen.scalar8x32.scalar_half.body).env :=
  ⟨by decide +kernel, by decide +kernel,
   of_decide_eq_true (FieldKernel.checkRun_sound (post := fun out => decide (HalfPostEnv [(("a.d", 0), 1)] out))
     (by decide +kernel))⟩

/-! ### `secp256k1_scalar_cadd_bit` -/

def CaddPostEnv (env out : Env) : Prop :=
  sval out "r.d" = sval env "r.d" + env.get "flag" 0 * 2 ^ env.get "bit" 0 ∧ Limbs32 out "r.d"

instance (env out : Env) : Decidable (CaddPostEnv env out) := by unfold CaddPostEnv; infer_instance

def CaddPost (env : Env) (out : Env × Option Nat) : Prop := CaddPostEnv env out.1

theorem cadd_body : Gen.scalar8x32.scalar_cadd_bit.body =
    .assign "vflag" (.var "flag") ::
      .assign "bit" (.bin .add 32 (.var "bit") (.bin .and 32 (.bin .sub 32 (.var "vflag") (.lit 1)) (.lit 256))) ::
      (c32 "t").prog false lowG [] (limbs32 (caddAtoms "r.d" (caddInc "bit") 0 8)) := same_eq (by decide +kernel)

theorem scalar_cadd_bit_run (env : Env) (hr : Limbs32 env "r.d") (hbit : env.get "bit" 0 < 256)
    (hflag : env.get "flag" 0 ≤ 1) (hno : sval env "r.d" + env.get "flag" 0 * 2 ^ env.get "bit" 0 < 2 ^ 256) :
    CaddPost env (runR env Gen.scalar8x32.scalar_cadd_bit.body) := by
  rw [cadd_body]
  rw [sval_eq] at hno
  refine cadd_run (c32 "t") (S := ["t"]) (by decide) (by decide) (by decide) rfl ⟨_, _, _, _, _, rfl⟩
    (goodB_sound _ _ (by decide)) (by decide) (by decide) (fun env x _ => ev_lowG env x) (ev_caddInc _) (atoms_limbs32 _)
    ((limbs32_iff ..).1 hr) hbit hflag hno fun env' h1 h2 => ?_
  exact ⟨by rw [sval_eq, sval_eq]; exact h2, (limbs32_iff ..).2 h1⟩

/-- **`secp256k1_scalar_cadd_bit` (8×32) is exact** under the C function's documented contract ("the result is not
    allowed to overflow"). -/
theorem scalar_cadd_bit_correct (env : Env) (hr : Limbs32 env "r.d") (hbit : env.get "bit" 0 < 256)
    (hflag : env.get "flag" 0 ≤ 1) (hno : sval env "r.d" + env.get "flag" 0 * 2 ^ env.get "bit" 0 < 2 ^ 256) :
    sval (execL env Gen.scalar8x32.scalar_cadd_bit.body).env "r.d" =
      sval env "r.d" + env.get "flag" 0 * 2 ^ env.get "bit" 0 ∧
    Limbs32 (execL env Gen.scalar8x32.scalar_cadd_bit.body).env "r.d" :=
  scalar_cadd_bit_run env hr hbit hflag hno

/-- `r = 2^64 - 1`, `bit = 38`, `flag = 1`: the addition of `2^38` carries from limb 1 into limb 2 -/
def caddEnv : Env :=
  [(("r.d", 0), 4294967295), (("r.d", 1), 4294967295), (("r.d", 2), 0), (("r.d", 3), 0), (("r.d", 4), 0),
   (("r.d", 5), 0), (("r.d", 6), 0), (("r.d", 7), 0), (("bit", 0), 38), (("flag", 0), 1)]

/-- the same with `flag = 0`: nothing is added -/
def caddEnv0 : Env :=
  [(("r.d", 0), 4294967295), (("r.d", 1), 4294967295), (("r.d", 2), 0), (("r.d", 3), 0), (("r.d", 4), 0),
   (("r.d", 5), 0), (("r.d", 6), 0), (("r.d", 7), 0), (("bit", 0), 38), (("flag", 0), 0)]

example : Limbs32 caddEnv "r.d" ∧ caddEnv.get "bit" 0 < 256 ∧ caddEnv.get "flag" 0 ≤ 1 ∧
    sval caddEnv "r.d" + caddEnv.get "flag" 0 * 2 ^ caddEnv.get "bit" 0 < 2 ^ 256 ∧
    CaddPostEnv caddEnv (execL caddEnv Gen.scalar8x32.scalar_cadd_bit.body).env :=
  ⟨by decide +kernel, by decide +kernel, by decide +kernel, by decide +kernel,
   of_decide_eq_true (FieldKernel.checkRun_sound (post := fun out => decide (CaddPostEnv caddEnv out)) (by decide +kernel))⟩

example : Limbs32 caddEnv0 "r.d" ∧ caddEnv0.get "bit" 0 < 256 ∧ caddEnv0.get "flag" 0 ≤ 1 ∧
    CaddPostEnv caddEnv0 (execL caddEnv0 Gen.scalar8x32.scalar_cadd_bit.body).env :=
  ⟨by decide +kernel, by decide +kernel, by decide +kernel,
   of_decide_eq_true (FieldKernel.checkRun_sound (post := fun out => decide (CaddPostEnv caddEnv0 out)) (by decide +kernel))⟩

end C05sc32
end SecpZkp
