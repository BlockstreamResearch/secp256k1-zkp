import SecpZkp.Proofs.Schnorr
/-
  Property C02: BIP-340 Schnorr verification is exact, signing produces signatures that verify.

  `schnorr_verify_iff` needs no group law (pure unfolding of the model); `schnorr_sign_verifies` depends on the
  curve only through the explicit hypothesis `gl : GroupLaw`.
-/
namespace SecpZkp
namespace C02
open SecpZkp.Algebra

/-- C02 (verification is exact): `secp256k1_schnorrsig_verify` is BIP-340 Verify, for every byte string `sig64`, every
    message length and every non-zero key object; nothing else is assumed about the key. -/
theorem schnorr_verify_iff (sig64 msg : Bytes) (px py : Nat) :
    (Schnorr.verify sig64 msg (Pt.aff px py)).ret = 1 ↔
      Bytes.toNat (sig64.take 32) < P ∧ Bytes.toNat (sig64.drop 32) < N ∧
      verifyPoint sig64 msg (Pt.aff px py) ≠ Pt.inf ∧
      (verifyPoint sig64 msg (Pt.aff px py)).hasEvenY = true ∧
      (verifyPoint sig64 msg (Pt.aff px py)).xOf = Bytes.toNat (sig64.take 32) := by
  simp only [verify_eq, ← and_assoc]
  split_ifs <;> simp [*]

theorem schnorr_verify_ret_le (sig64 msg : Bytes) (pk : Pt) : (Schnorr.verify sig64 msg pk).ret ≤ 1 := by
  rw [verify_eq]
  cases pk <;> split_ifs <;> simp

theorem schnorr_verify_r_ge_P (sig64 msg : Bytes) (pk : Pt) (h : P ≤ Bytes.toNat (sig64.take 32)) :
    (Schnorr.verify sig64 msg pk).ret = 0 := by
  rw [verify_eq, if_neg fun h' => Nat.not_lt.mpr h h'.1]

theorem schnorr_verify_s_ge_N (sig64 msg : Bytes) (pk : Pt) (h : N ≤ Bytes.toNat (sig64.drop 32)) :
    (Schnorr.verify sig64 msg pk).ret = 0 := by
  rw [verify_eq, if_neg fun h' => Nat.not_lt.mpr h h'.2]

/-- The zero key object: the illegal-argument callback fires only when the range checks on `r` and `s`, which come
    first in the C code, passed. -/
theorem schnorr_verify_inf (sig64 msg : Bytes) :
    (Schnorr.verify sig64 msg Pt.inf).ret = 0 ∧
    (Schnorr.verify sig64 msg Pt.inf).illegal =
      if Bytes.toNat (sig64.take 32) < P ∧ Bytes.toNat (sig64.drop 32) < N then 1 else 0 := by
  rw [verify_eq]
  split_ifs <;> exact ⟨rfl, rfl⟩

section
variable [HasGroupLaw]

/-- The BIP-340 identity with no parity sign involved.  Nothing below uses it: the theorems go through `verify_of_gmul`
    (`Proofs/Schnorr.lean`), which states it with the two signs. -/
theorem sign_core (e sk k : Nat) :
    Pt.add (Pt.mul (Sc.neg e) (gmul (sk : ZMod N))) (Pt.mulG (Sc.add (Sc.mul e sk) k)) = gmul (k : ZMod N) := by
  rw [mul_gmul (lt_mulBound_of_lt_N (Sc.neg_lt_N e)), mulG_eq_gmul (lt_mulBound_of_lt_N (Sc.add_lt _ _)),
    add_gmul]
  apply gmul_congr
  simp only [cast_neg, cast_add, cast_mul]
  ring

end

/-- C02 (signatures verify): `secp256k1_schnorrsig_sign_internal` on a valid keypair of either parity, with any message
    length, nonce function (`none` = the default BIP-340 one) and auxiliary data; whichever parity the nonce point has. -/
theorem schnorr_sign_verifies (gl : GroupLaw) (d : Nat) (hd0 : 0 < d) (hdN : d < N)
    (msg : Bytes) (noncefp : Option Schnorr.NonceFnH) (ndata : Option Bytes) :
    let kp : Keys.Keypair := ⟨Bytes.be32 d, Pt.mulG d⟩
    let r := Schnorr.signInternal msg kp noncefp ndata
    r.ret = 1 → (Schnorr.verify r.out msg (Keys.evenY kp.pk).1).ret = 1 := by
  have : HasGroupLaw := ⟨gl⟩
  obtain ⟨px, py, hpk⟩ := mulG_eq_aff hd0 hdN
  simp only [hpk, signInternal_valid hd0 hdN]
  generalize noncefp.getD _ msg _ _ _ ndata = nonce
  cases nonce with
  | none => simp
  | some n =>
    by_cases hk0 : Bytes.toNat n % N = 0
    · simp [hk0]
    · have hkN := Nat.mod_lt (Bytes.toNat n) N_pos
      obtain ⟨rx, ry, hR⟩ := mulG_eq_aff (Nat.pos_of_ne_zero hk0) hkN
      simp only [hk0, if_false, hR, xOf_aff, yOf_aff]
      refine fun _ => verify_of_gmul (Sc.add_lt _ _) (hpk ▸ mulG_gmul hdN) (hR ▸ mulG_gmul hkN) ?_
      rw [cast_add, cast_mul, apply_ite Nat.cast, apply_ite Nat.cast, cast_neg, cast_neg]

theorem schnorr_sign_ret_iff (gl : GroupLaw) (d : Nat) (hd0 : 0 < d) (hdN : d < N)
    (msg : Bytes) (noncefp : Option Schnorr.NonceFnH) (ndata : Option Bytes) :
    let kp : Keys.Keypair := ⟨Bytes.be32 d, Pt.mulG d⟩
    let pk := (Keys.evenY kp.pk).1
    let d' := if Fe.isOdd kp.pk.yOf then Sc.neg d else d
    (Schnorr.signInternal msg kp noncefp ndata).ret = 1 ↔
      ∃ n, (noncefp.getD Schnorr.nonceBip340) msg (Bytes.be32 d') (Bytes.be32 pk.xOf) Schnorr.bip340Algo ndata
          = some n ∧ Bytes.toNat n % N ≠ 0 := by
  have : HasGroupLaw := ⟨gl⟩
  obtain ⟨px, py, hpk⟩ := mulG_eq_aff hd0 hdN
  simp only [hpk, signInternal_valid hd0 hdN, evenY_fst_aff, xOf_aff, yOf_aff]
  generalize noncefp.getD _ msg _ _ _ ndata = nonce
  cases nonce with
  | none => simp
  | some n => by_cases hk0 : Bytes.toNat n % N = 0 <;> simp [hk0]

/-- C02 (failure output): any keypair object, valid or not, any nonce function. -/
theorem sign_failure_zero (msg : Bytes) (kp : Keys.Keypair) (noncefp : Option Schnorr.NonceFnH)
    (ndata : Option Bytes) :
    let r := Schnorr.signInternal msg kp noncefp ndata
    (r.ret = 0 ∨ r.ret = 1) ∧ (r.ret = 0 → r.out = Bytes.zeros 64) := by
  intro r
  simp only [r, Schnorr.signInternal]
  split
  · split <;> simp
  · simp

/-- C02 (absent aux = 32 zero bytes).  `rfl` in the model; the C code uses a precomputed constant for the hash of 32 zero
    bytes, which is tied to this model by the correspondence check, not by this theorem. -/
theorem aux_null_eq_zero_aux (msg key32 pk32 algo : Bytes) :
    Schnorr.nonceBip340 msg key32 pk32 algo none
      = Schnorr.nonceBip340 msg key32 pk32 algo (some (Bytes.zeros 32)) := rfl

theorem sign_aux_null_eq_zero_aux (msg : Bytes) (kp : Keys.Keypair) :
    Schnorr.signInternal msg kp none none = Schnorr.signInternal msg kp none (some (Bytes.zeros 32)) := rfl

/-- `schnorr_sign_verifies` for keypair objects as `secp256k1_keypair_create` makes them. -/
theorem schnorr_sign_verifies_keypair (gl : GroupLaw) (sk32 msg : Bytes)
    (noncefp : Option Schnorr.NonceFnH) (ndata : Option Bytes) (hkp : (Keys.keypairCreate sk32).1 = 1) :
    let kp := (Keys.keypairCreate sk32).2
    let r := Schnorr.signInternal msg kp noncefp ndata
    r.ret = 1 → (Schnorr.verify r.out msg (Keys.evenY kp.pk).1).ret = 1 := by
  rw [KeysLemmas.keypairCreate_eq] at hkp ⊢
  split at hkp
  · next h => rw [if_pos h]; exact schnorr_sign_verifies gl _ h.1 h.2 msg noncefp ndata
  · cases hkp

/-- BIP-340 `hash_tag(chunk₁ ‖ chunk₂ ‖ …)` -/
def taggedChunks (tag : String) (chunks : List Bytes) : Bytes :=
  Sha256.finalize (Sha256.writeAll (Sha256.initTagged tag.toUTF8.toList) chunks)

/-- BIP-340 "Default Signing", transcribed from the specification text: secret key `d`, message `msg`,
    auxiliary random data `a`.  `none` = the spec's "Fail if k' = 0". -/
def bip340Sign (d : Nat) (msg a : Bytes) : Option Bytes :=
  let Pk := Pt.mulG d
  let d' := if Pk.hasEvenY then d else N - d
  let t := Bytes.xor (Bytes.be32 d') (taggedChunks "BIP0340/aux" [a])
  let k' := Bytes.toNat (taggedChunks "BIP0340/nonce" [t, Bytes.be32 Pk.xOf, msg]) % N
  if k' = 0 then none else
  let R := Pt.mulG k'
  let k := if R.hasEvenY then k' else N - k'
  let e := Bytes.toNat (taggedChunks "BIP0340/challenge" [Bytes.be32 R.xOf, Bytes.be32 Pk.xOf, msg]) % N
  some (Bytes.be32 R.xOf ++ Bytes.be32 ((k + e * d') % N))

theorem scAdd_scMul (a b c : Nat) : Sc.add (Sc.mul a b) c = (c + a * b) % N := by
  rw [Sc.add, Sc.mul, Nat.mod_add_mod, Nat.add_comm]

theorem nonce_eq (msg key pk : Bytes) (aux : Option Bytes) :
    Schnorr.nonceBip340 msg key pk Schnorr.bip340Algo aux =
      some (taggedChunks "BIP0340/nonce"
        [Bytes.xor key (taggedChunks "BIP0340/aux" [aux.getD (Bytes.zeros 32)]), pk, msg]) := by
  simp only [Schnorr.nonceBip340, if_true]
  rfl

theorem challenge_eq (r msg pk : Bytes) :
    Schnorr.challenge r msg pk = Bytes.toNat (taggedChunks "BIP0340/challenge" [r, pk, msg]) % N := rfl

/-- C02 (signing is BIP-340 default signing), byte for byte, for both public-key parities and every message length;
    the spec's failure `k' = 0` (cryptographically unreachable) is return value 0 with 64 zero bytes. -/
theorem schnorr_sign_eq_bip340 (gl : GroupLaw) (d : Nat) (hd0 : 0 < d) (hdN : d < N) (msg : Bytes)
    (aux : Option Bytes) :
    Schnorr.signInternal msg ⟨Bytes.be32 d, Pt.mulG d⟩ none aux =
      match bip340Sign d msg (aux.getD (Bytes.zeros 32)) with
      | some sig => ⟨1, sig, 0⟩
      | none => ⟨0, Bytes.zeros 64, 0⟩ := by
  have : HasGroupLaw := ⟨gl⟩
  obtain ⟨px, py, hpk⟩ := mulG_eq_aff hd0 hdN
  simp only [hpk, signInternal_valid hd0 hdN, bip340Sign, xOf_aff, Option.getD_none,
    nonce_eq, challenge_eq, hasEvenY_iff, ite_not, Sc.neg_eq_of_pos hd0 hdN]
  generalize hk : Bytes.toNat (taggedChunks "BIP0340/nonce" _) % N = k0
  by_cases hk0 : k0 = 0
  · simp [hk0]
  · have hkN : k0 < N := hk ▸ Nat.mod_lt _ N_pos
    obtain ⟨rx, ry, hR⟩ := mulG_eq_aff (Nat.pos_of_ne_zero hk0) hkN
    simp only [hk0, if_false, hR, xOf_aff, yOf_aff, hasEvenY_iff, ite_not, Sc.neg_eq_of_pos (Nat.pos_of_ne_zero hk0) hkN,
      scAdd_scMul]

/-- Secret key 6 has a public key with odd y. -/
example : Fe.isOdd (Pt.mulG 6).yOf = true := by decide +kernel

/-- The premise `ret = 1` of `schnorr_sign_verifies` holds for this instance. -/
example : (Schnorr.signInternal [2] ⟨Bytes.be32 6, Pt.mulG 6⟩ none none).ret = 1 := by decide +kernel

/-- …so the theorem yields a concrete accepted signature (given the group law). -/
example (gl : GroupLaw) :
    (Schnorr.verify (Schnorr.signInternal [2] ⟨Bytes.be32 6, Pt.mulG 6⟩ none none).out [2]
      (Keys.evenY (Pt.mulG 6)).1).ret = 1 :=
  schnorr_sign_verifies gl 6 (by decide) (by decide +kernel) [2] none none (by decide +kernel)

/-- Even-y key (secret key 3), with explicit 32-byte aux. -/
example : (Schnorr.signInternal [1, 2, 3] ⟨Bytes.be32 3, Pt.mulG 3⟩ none (some (Bytes.be32 7))).ret = 1 := by
  decide +kernel

/-- Both sides of `schnorr_verify_iff` are inhabited: an accepted triple, computed directly by the kernel
    without the group law … -/
example : (Schnorr.verify (Schnorr.signInternal [2] ⟨Bytes.be32 6, Pt.mulG 6⟩ none none).out [2]
    (Keys.evenY (Pt.mulG 6)).1).ret = 1 := by decide +kernel

/-- … and rejected ones: `r = p` (hypothesis of `schnorr_verify_r_ge_P`) and `s = n`. -/
example : P ≤ Bytes.toNat ((Bytes.be32 P ++ Bytes.be32 1).take 32) := by decide +kernel
example : N ≤ Bytes.toNat ((Bytes.be32 1 ++ Bytes.be32 N).drop 32) := by decide +kernel
example : (Schnorr.verify (Bytes.be32 P ++ Bytes.be32 1) [] Pt.G).ret = 0 :=
  schnorr_verify_r_ge_P _ _ _ (by decide +kernel)

/-- `sign_failure_zero` is exercised by the zero keypair object: return 0, one callback, zero output. -/
example : (Schnorr.signInternal [] Keys.Keypair.zero none none).ret = 0 ∧
    (Schnorr.signInternal [] Keys.Keypair.zero none none).illegal = 1 := by decide +kernel

end C02
end SecpZkp
