import SecpZkp.Gen.Guards
/-
  Property C01 (part "loops", translator mode G): loop facts regenerated from clang's AST of the current sources.
  ECDSA signing asks the nonce function again (counter + 1) until the nonce gives a valid signature.
  The model runs these loops with fuel and the property theorems are about runs in which the loop finished; that the C loop
  itself has no other way out than a successful candidate (no iteration bound in its condition) is what is stated here.
-/
namespace SecpZkp.Props.C01_loops
open SecpZkp.Gen

/-- `unconditional`: the loop condition is a non-zero literal (`while (1)`), so the loop is left only from inside -/
def retryOnly (l : List LoopFact) : Prop := (∀ f ∈ l, f.kind = LoopKind.while → f.unconditional = true) ∧ (∃ f ∈ l, f.kind = LoopKind.while)

instance (l : List LoopFact) : Decidable (retryOnly l) := by unfold retryOnly; infer_instance

/-- `secp256k1_ecdsa_sign_inner`: the nonce retry loop (counter passed to the nonce function) has no bound of its own:
    signing with a valid key ends only with a signature or with a failing nonce callback -/
theorem sign_retry_unbounded : retryOnly Loops.ecdsa_sign_inner := by decide

example : ¬ retryOnly [⟨.while, false⟩] := by decide

end SecpZkp.Props.C01_loops
