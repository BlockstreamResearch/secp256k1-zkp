import SecpZkp.Gen.Guards
/-! # C17 — the argument checks the model assumes are present at the C call sites (translator mode G)

How to read a fact, and what a mismatch means: `Props/C01_guards.lean`. -/
namespace SecpZkp.Props.C17_guards
open SecpZkp.Gen

theorem schnorrsig_aggverify_sites : Facts.schnorrsig_aggverify = [
    ⟨.ecmult_gen_context_is_built, 1, true, none⟩,
    ⟨.xonly_pubkey_load, 1, true, none⟩,
    ⟨.scalar_set_b32, 1, false, none⟩,
    ⟨.fe_impl_set_b32_limit, 1, true, none⟩,
    ⟨.ge_set_xo_var, 1, true, none⟩,
    ⟨.scalar_set_b32, 2, false, some true⟩,
    ⟨.gej_is_infinity, 1, true, none⟩
  ] := by decide

theorem schnorrsig_inc_aggregate_sites : Facts.schnorrsig_inc_aggregate = [
    ⟨.scalar_set_b32, 1, false, none⟩,
    ⟨.scalar_set_b32, 2, false, none⟩,
    ⟨.scalar_set_b32, 3, false, none⟩
  ] := by decide

def all : List CallFact := Facts.schnorrsig_aggverify ++ Facts.schnorrsig_inc_aggregate

/-- No overflow flag written by a scalar decoding in these functions is ignored (overwritten or never read). -/
theorem no_flag_dropped : ∀ f ∈ all, f.flag ≠ some false := by decide

/-- non-vacuity: the regenerated fact lists are not empty -/
example : all.length = 10 := by decide

end SecpZkp.Props.C17_guards
