import SecpZkp.Proofs.Adaptor
import SecpZkp.Props.C01
/-
  Property C15, "Sign-to-contract commitments and the anti-exfil protocol are sound and complete", for `Model/S2c.lean`
  (`src/modules/ecdsa_s2c/main_impl.h`), the hook inside `Ecdsa.signInner` (`secp256k1.c`) and `Ecdsa.ecCommitTweak`,
  `ecCommit` (`eccommit_impl.h`): completeness of `ecdsa_s2c_sign`; the signer's commitment is the opening of the later
  signature; host verification is the commitment check and `ecdsa_verify`; what the commitment check looks at.
  The group law is the proved one (`groupLaw`).

  Not claimed, because not a property of this code: that commitment verification fails for every other datum, opening
  or signature.  That is collision resistance of the tagged SHA-256.  `verify_commit_iff` states what the check is,
  `verify_commit_ignores_s` that `s` plays no role.
-/
namespace SecpZkp
namespace AdaptorLemmas
open SecpZkp.Algebra SecpZkp.C01
attribute [local instance] instGL

/-! The lemma of `AdaptorLemmas` that rests on a theorem of C01, hence here and not in `Proofs/Adaptor.lean`. -/

theorem ecCommit_of_tweak {sha : Sha256.State} {data tw : Bytes} {k0 k : Nat} (hk0N : k0 < N)
    (htw : Ecdsa.ecCommitTweak sha (Pt.mulG k0) data = some tw)
    (hadd : Ecdsa.seckeyTweakAddHelper k0 tw = some k) :
    0 < k ∧ k < N ∧ Pt.add (Pt.mulG k0) (Pt.mulG (Sc.setB32 tw).1) = Pt.mulG k ∧
    Ecdsa.ecCommit sha (Pt.mulG k0) data = some (Pt.mulG k) := by
  obtain ⟨hk0', hkN⟩ := seckeyTweakAddHelper_some hadd
  unfold Ecdsa.seckeyTweakAddHelper at hadd
  have htN := Sc.setB32_fst_lt tw
  cases hst : Sc.setB32 tw with
  | mk t ov =>
  rw [hst] at hadd htN
  simp only [] at hadd htN
  split at hadd
  · cases hadd
  · next hn =>
    simp only [Option.some.injEq] at hadd
    have hov : ov = false := by
      cases ov
      · rfl
      · exact absurd (Or.inl rfl) hn
    subst hov
    have hsum : Pt.add (Pt.mulG k0) (Pt.mulG t) = Pt.mulG k := by
      rw [mulG_gmul hk0N, mulG_gmul htN, mulG_gmul hkN, add_gmul, ← hadd, cast_add]
    refine ⟨hk0', hkN, hsum, ?_⟩
    unfold Ecdsa.ecCommit
    rw [htw]
    unfold Ecdsa.pubkeyTweakAddHelper
    simp only [hst, Bool.false_eq_true, if_false, hsum]
    obtain ⟨x, y, hxy⟩ := mulG_eq_aff hk0' hkN
    rw [hxy]

end AdaptorLemmas

namespace C15
open SecpZkp.Algebra SecpZkp.C01 SecpZkp.AdaptorLemmas

attribute [local instance] AdaptorLemmas.instGL

def commitHash (R : Pt) (data32 : Bytes) : Bytes :=
  Sha256.finalize (Sha256.write (Sha256.write S2c.tagPoint (Codec.serialize33 R)) data32)

theorem ecCommitTweak_eq {k0 : Nat} (hk0 : 0 < k0) (hk0N : k0 < N) (sha : Sha256.State) (data : Bytes) :
    Ecdsa.ecCommitTweak sha (Pt.mulG k0) data =
      some (Sha256.finalize (Sha256.write (Sha256.write sha (Codec.serialize33 (Pt.mulG k0))) data)) := by
  obtain ⟨x, y, h⟩ := mulG_eq_aff hk0 hk0N
  rw [h]; rfl

/-- `s2c_complete` one level down, for `secp256k1_ecdsa_sign_inner` with a sign-to-contract hook: any retry bound, any
    hook `(sha, data)`, default or custom nonce function. -/
theorem signInner_s2c_complete (fuel : Nat) (hook : Ecdsa.S2cHook) (msg32 seckey : Bytes)
    (noncefp : Option Ecdsa.NonceFn) (ndata : Option Bytes)
    (h : (Ecdsa.signInner fuel (some hook) msg32 seckey noncefp ndata).ret = 1) :
    let o := Ecdsa.signInner fuel (some hook) msg32 seckey noncefp ndata
    ¬ Sc.isHigh o.s = true ∧ (Keys.pubkeyCreate seckey).1 = 1 ∧
    (Ecdsa.verify (o.r, o.s) msg32 (Keys.pubkeyCreate seckey).2).ret = 1 ∧
    ∃ k0, 0 < k0 ∧ k0 < N ∧ o.opening = some (Pt.mulG k0) ∧
      let t := Bytes.toNat (Sha256.finalize
        (Sha256.write (Sha256.write hook.sha (Codec.serialize33 (Pt.mulG k0))) hook.data)) % N
      o.r = (Pt.add (Pt.mulG k0) (Pt.mulG t)).xOf % N ∧
      ∃ c, Ecdsa.ecCommit hook.sha (Pt.mulG k0) hook.data = some c ∧ c ≠ Pt.inf ∧ o.r = c.xOf % N := by
  simp only []
  obtain ⟨hlow, hpk, hver⟩ := signInner_verifies groupLaw h
  refine ⟨hlow, hpk, hver, ?_⟩
  rcases signInner_spec fuel (some hook) msg32 seckey noncefp ndata with ⟨h0, _⟩ | ⟨_, _, k, _, _, hsig, hh⟩
  · rw [h0] at h; cases h
  obtain ⟨k0, tw, hk0, hk0N, hop, htw, hadd⟩ := hh hook rfl
  obtain ⟨hk, hkN, hsum, hcom⟩ := ecCommit_of_tweak hk0N htw hadd
  have hr := sigSign_r hsig
  rw [ecCommitTweak_eq hk0 hk0N] at htw
  cases htw
  refine ⟨k0, hk0, hk0N, hop, ?_, Pt.mulG k, hcom, mulG_ne_inf hk hkN, hr⟩
  -- the `t` of the statement is `(Sc.setB32 tw).1` by definition, the form in which `hsum` has it
  show _ = (Pt.add (Pt.mulG k0) (Pt.mulG (Sc.setB32 _).1)).xOf % N
  rw [hsum]; exact hr

/-- `s2c_complete` for an arbitrary retry bound of the model (see `signWith` in `Proofs/Adaptor.lean`). -/
theorem signWith_complete (fuel : Nat) (msg32 seckey data32 : Bytes)
    (h : (signWith fuel msg32 seckey data32).ret = 1) :
    let res := signWith fuel msg32 seckey data32
    ¬ Sc.isHigh res.sig.2 = true ∧ (Keys.pubkeyCreate seckey).1 = 1 ∧
    (Ecdsa.verify res.sig msg32 (Keys.pubkeyCreate seckey).2).ret = 1 ∧
    ∃ k0, 0 < k0 ∧ k0 < N ∧ res.opening = some (Pt.mulG k0) ∧
      res.sig.1 = (Pt.add (Pt.mulG k0) (Pt.mulG (Bytes.toNat (commitHash (Pt.mulG k0) data32) % N))).xOf % N ∧
      S2c.verifyCommit res.sig data32 (Pt.mulG k0) = ⟨1, (), 0⟩ := by
  simp only []
  have h' : (Ecdsa.signInner fuel (some ⟨S2c.tagPoint, data32⟩) msg32 seckey none
      (some (S2c.dataHash data32))).ret = 1 := by
    unfold signWith at h
    simpa only [] using h
  have hc := signInner_s2c_complete fuel ⟨S2c.tagPoint, data32⟩ msg32 seckey none (some (S2c.dataHash data32)) h'
  simp only [] at hc
  obtain ⟨hlow, hpk, hver, k0, hk0, hk0N, hop, hr, c, hcom, hcne, hrc⟩ := hc
  unfold signWith
  simp only [h', if_true]
  refine ⟨hlow, hpk, hver, k0, hk0, hk0N, hop, hr, ?_⟩
  obtain ⟨x, y, hxy⟩ := mulG_eq_aff hk0 hk0N
  unfold S2c.verifyCommit
  rw [hxy] at hcom ⊢
  simp only [hcom, hrc, if_true]

/-- First sentence of the property, the half that is claimed (see the head), for `secp256k1_ecdsa_s2c_sign`,
    `secp256k1_ecdsa_verify` and `secp256k1_ecdsa_s2c_verify_commit`; `k₀` is the untweaked nonce.  `h` is satisfiable:
    `s2c_sign_succeeds` and the example after it. -/
theorem s2c_complete (msg32 seckey data32 : Bytes) (h : (S2c.sign msg32 seckey data32).ret = 1) :
    let res := S2c.sign msg32 seckey data32
    ¬ Sc.isHigh res.sig.2 = true ∧ (Keys.pubkeyCreate seckey).1 = 1 ∧
    (Ecdsa.verify res.sig msg32 (Keys.pubkeyCreate seckey).2).ret = 1 ∧
    ∃ k0, 0 < k0 ∧ k0 < N ∧ res.opening = some (Pt.mulG k0) ∧
      res.sig.1 = (Pt.add (Pt.mulG k0) (Pt.mulG (Bytes.toNat (commitHash (Pt.mulG k0) data32) % N))).xOf % N ∧
      S2c.verifyCommit res.sig data32 (Pt.mulG k0) = ⟨1, (), 0⟩ := by
  rw [sign_eq_signWith] at h ⊢
  exact signWith_complete 64 msg32 seckey data32 h

/-- `(exR, exS)` is the signature that `sign_inner` returns in the next example. -/
def exR : Nat := 71118317325764650215335854893413795562220947073498829286638635515031952017774
def exS : Nat := 14122517961466133685742426394918669500595422331946843693013286179223389212915

/-- `h` of `signInner_s2c_complete` is satisfiable (constant custom nonce 6, so that no RFC 6979 runs in the kernel). -/
example :
    let o := Ecdsa.signInner 64 (some ⟨S2c.tagPoint, Bytes.be32 99⟩) (Bytes.be32 12345) (Bytes.be32 7)
      (some fun _ _ _ _ _ => some (Bytes.be32 6)) none
    o.ret = 1 ∧ o.r = exR ∧ o.s = exS ∧ o.opening = some (Pt.mulG 6) := by decide +kernel

/-- The commitment check on that instance, for the datum and for another one; a theorem because the host-verification
    examples reuse the evaluation. -/
theorem ex_commit : (S2c.verifyCommit (exR, exS) (Bytes.be32 99) (Pt.mulG 6)).ret = 1 ∧
    (S2c.verifyCommit (exR, exS) (Bytes.be32 98) (Pt.mulG 6)).ret = 0 := by decide +kernel

example : (S2c.verifyCommit (exR, exS) (Bytes.be32 99) (Pt.mulG 6)).ret = 1 ∧
    (S2c.verifyCommit (exR, exS) (Bytes.be32 98) (Pt.mulG 6)).ret = 0 := ex_commit

/-- The nonce candidate for retry counter `c` as `secp256k1_ecdsa_anti_exfil_signer_commit` derives it from
    `host_commit rho` (left) and as the signing loop of `ecdsa_s2c_sign msg key rho` derives it (right): in the model the
    same term, RFC 6979 seeded with `key ‖ be32(msg mod n) ‖ H_data(rho)`, no algo16, output block `c + 1`. -/
theorem nonce_derivation_same_term (msg32 seckey rho : Bytes) (c : Nat) :
    Ecdsa.rfc6979Nonce msg32 seckey none (some (S2c.hostCommit rho)) c =
      Ecdsa.rfc6979Nonce msg32 seckey none (some (S2c.dataHash rho)) c ∧
    Ecdsa.rfc6979Nonce msg32 seckey none (some (S2c.dataHash rho)) c =
      some (Ecdsa.rfc6979Nonce.gen (c + 1)
        (Sha256.rfc6979Init (seckey ++ Bytes.be32 (Bytes.toNat msg32 % N) ++ S2c.dataHash rho ++ [])) []) :=
  ⟨rfl, rfl⟩

theorem signer_commit_eq_fuel (fuel : Nat) (msg32 seckey rho : Bytes) (c k0 : Nat) (hc : c < fuel)
    (hinv : ∀ c', c' < c → InvalidAt msg32 seckey (S2c.hostCommit rho) c')
    (hval : ValidAt msg32 seckey (S2c.hostCommit rho) c k0)
    (hnoretry : retries ⟨S2c.tagPoint, rho⟩
      (if (Sc.setB32Seckey seckey).2 = true then (Sc.setB32Seckey seckey).1 else 1)
      (Bytes.toNat msg32 % N) k0 = false) :
    S2c.signerCommit fuel msg32 seckey (S2c.hostCommit rho) = some (Pt.mulG k0) ∧
    (signWith fuel msg32 seckey rho).opening = some (Pt.mulG k0) :=
  ⟨signerCommit_first fuel _ _ _ c k0 hc hinv hval,
    (signInner_first fuel ⟨S2c.tagPoint, rho⟩ msg32 seckey _ c k0 hc hinv hval).1 hnoretry⟩

/-- "The opening the signer commits to from the host's hash commitment equals the opening of the later signature":
    `secp256k1_ecdsa_anti_exfil_signer_commit msg key (host_commit rho)` and `secp256k1_ecdsa_s2c_sign msg key rho`,
    whether or not the key string is valid (the commit step does not validate it) and whether or not signing then
    succeeds.  `c` is the first retry counter whose RFC 6979 candidate is a valid nonce, `k₀` that nonce (`hinv`, `hval`;
    cryptographically `c = 0`).  `hnoretry` cannot be dropped: when the attempt with `k₀` gives `r = 0` or `s = 0`
    (cryptographically unreachable) the signing loop goes on to later candidates, the commit step does not. -/
theorem signer_commit_eq (msg32 seckey rho : Bytes) (c k0 : Nat) (hc : c < 64)
    (hinv : ∀ c', c' < c → InvalidAt msg32 seckey (S2c.hostCommit rho) c')
    (hval : ValidAt msg32 seckey (S2c.hostCommit rho) c k0)
    (hnoretry : retries ⟨S2c.tagPoint, rho⟩
      (if (Sc.setB32Seckey seckey).2 = true then (Sc.setB32Seckey seckey).1 else 1)
      (Bytes.toNat msg32 % N) k0 = false) :
    S2c.signerCommit 64 msg32 seckey (S2c.hostCommit rho) = some (Pt.mulG k0) ∧
    (S2c.sign msg32 seckey rho).opening = some (Pt.mulG k0) := by
  rw [sign_eq_signWith]
  exact signer_commit_eq_fuel 64 msg32 seckey rho c k0 hc hinv hval hnoretry

/-- For the non-vacuity of `signer_commit_eq` (`ex_nonce` … `ex_noretry`); the only kernel evaluation of RFC 6979 in this
    file.  The candidate for counter 0 is a valid nonce, so `c = 0` and `hinv` is void. -/
theorem ex_nonce :
    Ecdsa.rfc6979Nonce (Bytes.be32 12345) (Bytes.be32 7) none (some (S2c.hostCommit (Bytes.be32 99))) 0 =
      some (Bytes.be32 51637110390147555639876509188187713740489434758212273339531669650936732941647) := by
  decide +kernel

theorem ex_valid : ValidAt (Bytes.be32 12345) (Bytes.be32 7) (S2c.hostCommit (Bytes.be32 99)) 0
    51637110390147555639876509188187713740489434758212273339531669650936732941647 :=
  ⟨_, ex_nonce, by decide +kernel⟩

theorem ex_attemptOk : attemptOk ⟨S2c.tagPoint, Bytes.be32 99⟩ (Sc.setB32Seckey (Bytes.be32 7)).1
    (Bytes.toNat (Bytes.be32 12345) % N)
    51637110390147555639876509188187713740489434758212273339531669650936732941647 = true := by
  decide +kernel

theorem ex_key : (Sc.setB32Seckey (Bytes.be32 7)).2 = true := by decide +kernel

theorem ex_noretry : retries ⟨S2c.tagPoint, Bytes.be32 99⟩
    (if (Sc.setB32Seckey (Bytes.be32 7)).2 = true then (Sc.setB32Seckey (Bytes.be32 7)).1 else 1)
    (Bytes.toNat (Bytes.be32 12345) % N)
    51637110390147555639876509188187713740489434758212273339531669650936732941647 = false := by
  rw [if_pos ex_key]; exact retries_of_attemptOk ex_attemptOk

/-- The hypotheses of `signer_commit_eq` are satisfiable together. -/
example : S2c.signerCommit 64 (Bytes.be32 12345) (Bytes.be32 7) (S2c.hostCommit (Bytes.be32 99)) =
    (S2c.sign (Bytes.be32 12345) (Bytes.be32 7) (Bytes.be32 99)).opening := by
  obtain ⟨h1, h2⟩ := signer_commit_eq (Bytes.be32 12345) (Bytes.be32 7) (Bytes.be32 99) 0 _ (by decide)
    (fun c' h => absurd h (Nat.not_lt_zero _)) ex_valid ex_noretry
  rw [h1, h2]

/-- Through this, `h` of `s2c_complete` is shown satisfiable for the API function with its default (RFC 6979) nonce
    function (the example below). -/
theorem s2c_sign_succeeds (msg32 seckey rho : Bytes) (c k0 : Nat) (hc : c < 64)
    (hkey : (Sc.setB32Seckey seckey).2 = true)
    (hinv : ∀ c', c' < c → InvalidAt msg32 seckey (S2c.hostCommit rho) c')
    (hval : ValidAt msg32 seckey (S2c.hostCommit rho) c k0)
    (hok : attemptOk ⟨S2c.tagPoint, rho⟩ (Sc.setB32Seckey seckey).1 (Bytes.toNat msg32 % N) k0 = true) :
    (S2c.sign msg32 seckey rho).ret = 1 := by
  -- for a variable bound first: with the literal 64 the elaborator unfolds the loop (see `signWith`)
  have h : ∀ fuel, c < fuel → (signWith fuel msg32 seckey rho).ret = 1 := fun fuel hc =>
    (signInner_first fuel ⟨S2c.tagPoint, rho⟩ msg32 seckey _ c k0 hc hinv hval).2 (by rw [if_pos hkey]; exact hok) hkey
  rw [sign_eq_signWith]
  exact h 64 hc

example : (S2c.sign (Bytes.be32 12345) (Bytes.be32 7) (Bytes.be32 99)).ret = 1 :=
  s2c_sign_succeeds _ _ _ 0 _ (by decide) ex_key (fun c' h => absurd h (Nat.not_lt_zero _))
    ex_valid ex_attemptOk

theorem verifyCommit_ret (sig : Nat × Nat) (data32 : Bytes) (opening : Pt) :
    (S2c.verifyCommit sig data32 opening).ret = 0 ∨ (S2c.verifyCommit sig data32 opening).ret = 1 := by
  unfold S2c.verifyCommit
  cases opening with
  | inf => exact Or.inl rfl
  | aff x y =>
    simp only []
    cases Ecdsa.ecCommit S2c.tagPoint (Pt.aff x y) data32 with
    | none => exact Or.inl rfl
    | some c =>
      simp only []
      split
      · exact Or.inr rfl
      · exact Or.inl rfl

theorem hostVerify_ret (sig : Nat × Nat) (msg32 : Bytes) (pk : Pt) (rho : Bytes) (opening : Pt) :
    (S2c.hostVerify sig msg32 pk rho opening).ret =
      if (S2c.verifyCommit sig rho opening).ret = 0 then 0 else (Ecdsa.verify sig msg32 pk).ret := by
  unfold S2c.hostVerify
  dsimp only
  split <;> rfl

/-- "Host verification accepts exactly when both the commitment check and ordinary ECDSA verification accept"
    (`secp256k1_anti_exfil_host_verify`). -/
theorem host_verify_iff (sig : Nat × Nat) (msg32 : Bytes) (pk : Pt) (rho : Bytes) (opening : Pt) :
    (S2c.hostVerify sig msg32 pk rho opening).ret = 1 ↔
      (S2c.verifyCommit sig rho opening).ret = 1 ∧ (Ecdsa.verify sig msg32 pk).ret = 1 := by
  rw [hostVerify_ret]
  rcases verifyCommit_ret sig rho opening with h | h <;> simp [h]

/-- Illegal-argument callbacks of `anti_exfil_host_verify`: `ecdsa_verify` runs, and may raise its own for a zero
    public-key object, only when the commitment check returned non-zero (the short-circuit `&&` of the C code). -/
theorem host_verify_illegal (sig : Nat × Nat) (msg32 : Bytes) (pk : Pt) (rho : Bytes) (opening : Pt) :
    (S2c.hostVerify sig msg32 pk rho opening).illegal =
      (S2c.verifyCommit sig rho opening).illegal +
        (if (S2c.verifyCommit sig rho opening).ret = 0 then 0 else (Ecdsa.verify sig msg32 pk).illegal) ∧
    (S2c.verifyCommit sig rho opening).illegal = (if opening = Pt.inf then 1 else 0) := by
  constructor
  · unfold S2c.hostVerify
    simp only []
    split <;> rfl
  · unfold S2c.verifyCommit
    cases opening with
    | inf => rfl
    | aff x y => simp only [reduceCtorEq, if_false]; split <;> rfl

/-- "Same randomness must give the same opening" (the property's quantifier over histories).  True of every Lean
    function: what it records is that the model of `signer_commit` and `anti_exfil_sign` has no hidden state.  That
    different randomness gives a different nonce is not claimed (the hash again). -/
theorem signer_commit_functional (fuel : Nat) (msg32 seckey rho rho' : Bytes) (h : rho = rho') :
    S2c.signerCommit fuel msg32 seckey (S2c.hostCommit rho) = S2c.signerCommit fuel msg32 seckey (S2c.hostCommit rho') ∧
    S2c.antiExfilSign msg32 seckey rho = S2c.antiExfilSign msg32 seckey rho' := by
  subst h; exact ⟨rfl, rfl⟩

/-- Both sides of `host_verify_iff` occur: accepted; rejected by the commitment check; rejected by `ecdsa_verify`. -/
example : (S2c.hostVerify (exR, exS) (Bytes.be32 12345) (Pt.mulG 7) (Bytes.be32 99) (Pt.mulG 6)).ret = 1 := by
  rw [hostVerify_ret, ex_commit.1]; decide +kernel
example : (S2c.hostVerify (exR, exS) (Bytes.be32 12345) (Pt.mulG 7) (Bytes.be32 98) (Pt.mulG 6)).ret = 0 := by
  rw [hostVerify_ret, ex_commit.2]; rfl
example : (S2c.hostVerify (exR, exS) (Bytes.be32 12346) (Pt.mulG 7) (Bytes.be32 99) (Pt.mulG 6)).ret = 0 := by
  rw [hostVerify_ret, ex_commit.1]; decide +kernel

/-- What `secp256k1_ecdsa_s2c_verify_commit` checks; stands in for "fails for any other datum, opening or signature",
    which is not claimed (see the head). -/
theorem verify_commit_iff (sig : Nat × Nat) (data32 : Bytes) (opening : Pt) :
    (S2c.verifyCommit sig data32 opening).ret = 1 ↔
      opening ≠ Pt.inf ∧ ∃ c, Ecdsa.ecCommit S2c.tagPoint opening data32 = some c ∧ sig.1 = c.xOf % N := by
  unfold S2c.verifyCommit
  cases opening with
  | inf => simp
  | aff x y =>
    simp only [ne_eq, reduceCtorEq, not_false_eq_true, true_and]
    cases hc : Ecdsa.ecCommit S2c.tagPoint (Pt.aff x y) data32 with
    | none => simp
    | some c =>
      simp only [Option.some.injEq, exists_eq_left']
      split <;> simp [*]

/-- So "commitment verification fails for any other signature" can only mean one with a different `r`: every `(r, s')`,
    valid signature or not, passes `ecdsa_s2c_verify_commit` if `(r, s)` does.  Rejecting those is left to `ecdsa_verify`
    (`host_verify_iff`). -/
theorem verify_commit_ignores_s (r s s' : Nat) (data32 : Bytes) (opening : Pt) :
    S2c.verifyCommit (r, s) data32 opening = S2c.verifyCommit (r, s') data32 opening := rfl

/-- With `s = 0`, never a valid signature, the commitment check still returns 1; `host_verify` returns 0. -/
example :
    (S2c.verifyCommit (exR, 0) (Bytes.be32 99) (Pt.mulG 6)).ret = 1 ∧
    (S2c.hostVerify (exR, 0) (Bytes.be32 12345) (Pt.mulG 7) (Bytes.be32 99) (Pt.mulG 6)).ret = 0 := by
  rw [hostVerify_ret, verify_commit_ignores_s exR 0 exS, ex_commit.1]; decide +kernel

end C15
end SecpZkp
