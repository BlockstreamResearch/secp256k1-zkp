/-
  C16 (part "codec"): the whitelist-signature encoding and the argument checks of verification.

  * `secp256k1_whitelist_signature_parse` (`Whitelist.parse`) accepts EXACTLY the byte strings
    `n ‖ data` with `data.length = 32 * (n + 1)`; `n` is one byte, so `n ≤ 255` always holds.
  * `secp256k1_whitelist_signature_serialize` (`Whitelist.serialize`) round-trips with it and obeys
    the `*output_len` contract.
  * `secp256k1_whitelist_verify` (`Whitelist.verify`) returns 0 for an empty key list,
    for a key-count mismatch and whenever one of the `n` scalars is zero or `≥ N`.

  All statements are for ALL byte strings / objects; nothing is bounded or sampled.
-/
import SecpZkp.Proofs.Parsers

namespace SecpZkp
namespace C16

open Whitelist

/-- C16 `parse_iff`.  The middle conjunct is the test against `SECP256K1_WHITELIST_MAX_N_KEYS`, always true of a byte. -/
theorem wl_parse_iff (bs : Bytes) :
    (parse bs).1 = 1 ↔
      bs ≠ [] ∧ (bs.headD 0).toNat ≤ 255 ∧ bs.length = 1 + 32 * ((bs.headD 0).toNat + 1) := by
  cases bs with
  | nil => simp [parse]
  | cons b rest =>
    have hb := UInt8.toNat_lt b
    have hm : maxKeys = 255 := rfl
    simp only [parse, List.headD_cons, ne_eq, reduceCtorEq, not_false_eq_true, true_and]
    by_cases h : b.toNat > maxKeys ∨ (b :: rest).length ≠ 1 + 32 * (b.toNat + 1)
    · rw [if_pos h]; simp only [Nat.zero_ne_one, false_iff]; omega
    · rw [if_neg h]; simp only [true_iff]; omega

theorem wl_parse_result (bs : Bytes) :
    ((parse bs).1 = 1 → ∃ b rest, bs = b :: rest ∧ rest.length = 32 * (b.toNat + 1) ∧
        parse bs = (1, some b.toNat, some ⟨b.toNat, rest⟩)) ∧
    ((parse bs).1 = 0 → (parse bs).2.2 = none) := by
  cases bs with
  | nil => simp [parse]
  | cons b rest =>
    simp only [parse]
    split <;> rename_i h
    · simp
    · simp only [List.length_cons] at h
      refine ⟨fun _ => ⟨b, rest, rfl, by omega, rfl⟩, by simp⟩

/-- In C `sig->n_keys = input[0]` stands before the length check: a rejected non-empty input still overwrites the field.
Only the empty input leaves the object untouched. -/
theorem wl_parse_writes_nkeys (b : UInt8) (rest : Bytes) :
    (parse (b :: rest)).2.1 = some b.toNat := by
  simp only [parse]; split <;> rfl

/-- Both sides of `wl_parse_iff` are inhabited. -/
example : (parse (0 :: List.replicate 32 7)).1 = 1 := by decide
example : (parse (1 :: List.replicate 64 7)).1 = 1 := by decide
example : (parse (1 :: List.replicate 63 7)) = (0, some 1, none) := by decide
example : (parse (1 :: List.replicate 65 7)) = (0, some 1, none) := by decide
example : parse [] = (0, none, none) := by decide
example : (parse (255 :: List.replicate (32 * 256) 1)).1 = 1 :=
  (wl_parse_iff _).2 ⟨List.cons_ne_nil _ _, Nat.le_of_lt_succ (UInt8.toNat_lt _),
    by rw [List.length_cons, List.length_replicate]; rfl⟩

/-- The `*output_len` contract of `secp256k1_whitelist_signature_serialize`.  The hypothesis of the last conjunct holds
of the C array (32·256 bytes) whenever `n_keys ≤ 255`. -/
theorem wl_serialize_len (sig : Sig) (outputLen : Nat) :
    (outputLen < 1 + 32 * (sig.nKeys + 1) → serialize sig outputLen = (0, [], outputLen)) ∧
    (1 + 32 * (sig.nKeys + 1) ≤ outputLen →
        (serialize sig outputLen).1 = 1 ∧ (serialize sig outputLen).2.2 = 1 + 32 * (sig.nKeys + 1) ∧
        (32 * (sig.nKeys + 1) ≤ sig.data.length →
          (serialize sig outputLen).2.1.length = 1 + 32 * (sig.nKeys + 1))) := by
  refine ⟨fun h => by simp [serialize, h], fun h => ?_⟩
  have h' : ¬ outputLen < 1 + 32 * (sig.nKeys + 1) := by omega
  simp only [serialize, h', if_false, true_and]
  intro hd
  simp only [List.length_cons, List.length_take]
  omega

theorem wl_serialize_ret01 (sig : Sig) (outputLen : Nat) :
    (serialize sig outputLen).1 = 0 ∨ (serialize sig outputLen).1 = 1 := by
  simp only [serialize]; split <;> simp

example : serialize ⟨1, List.replicate 64 7⟩ 64 = (0, [], 64) := by decide
example : serialize ⟨1, List.replicate 64 7⟩ 65 = (1, 1 :: List.replicate 64 7, 65) := by decide
example : serialize ⟨1, List.replicate 64 7⟩ 100 = (1, 1 :: List.replicate 64 7, 65) := by decide

/-- C16 round trip, `serialize ∘ parse = id`. -/
theorem wl_serialize_parse (bs : Bytes) (sig : Sig) (outputLen : Nat)
    (hp : parse bs = (1, some sig.nKeys, some sig)) (hlen : bs.length ≤ outputLen) :
    serialize sig outputLen = (1, bs, bs.length) := by
  have h1 : (parse bs).1 = 1 := by rw [hp]
  obtain ⟨b, rest, rfl, hrest, heq⟩ := (wl_parse_result bs).1 h1
  rw [heq] at hp
  have hs : sig = ⟨b.toNat, rest⟩ := by
    have := congrArg (fun t => t.2.2) hp
    simpa using this.symm
  subst hs
  simp only [List.length_cons] at hlen ⊢
  have h' : ¬ outputLen < 1 + 32 * (b.toNat + 1) := by omega
  simp only [serialize, h', if_false, UInt8.ofNat_toNat]
  rw [← hrest, List.take_length]
  simp [Nat.add_comm]

/-- C16 round trip, `parse ∘ serialize`: `n_keys` and the `32 * (n_keys + 1)` data bytes that belong to it come back. -/
theorem wl_parse_serialize (sig : Sig) (outputLen : Nat) (hn : sig.nKeys ≤ 255)
    (hd : 32 * (sig.nKeys + 1) ≤ sig.data.length) (hlen : 1 + 32 * (sig.nKeys + 1) ≤ outputLen) :
    parse (serialize sig outputLen).2.1 =
      (1, some sig.nKeys, some ⟨sig.nKeys, sig.data.take (32 * (sig.nKeys + 1))⟩) := by
  have h' : ¬ outputLen < 1 + 32 * (sig.nKeys + 1) := by omega
  have hto : (UInt8.ofNat sig.nKeys).toNat = sig.nKeys := by
    simp only [UInt8.toNat_ofNat']; omega
  simp only [serialize, h', if_false, parse, hto, maxKeys, List.length_cons, List.length_take]
  have : ¬ (sig.nKeys > 255 ∨ min (32 * (sig.nKeys + 1)) sig.data.length + 1 ≠ 1 + 32 * (sig.nKeys + 1)) := by
    omega
  simp [this]

example : parse (serialize ⟨2, List.replicate 96 9 ++ [1, 2, 3]⟩ 200).2.1
    = (1, some 2, some ⟨2, List.replicate 96 9⟩) := by decide

/-- C16 `verify_empty_false` (finding F1): `secp256k1_whitelist_verify` rejects `sig->n_keys == 0` first.  Without this
test no scalar would be inspected, the Borromean ring check would degenerate to `e0 == SHA256(msg32)`, and a 33-byte
string computable from public data alone would verify. -/
theorem wl_verify_empty_false : ∀ (sig : Sig) (sub : Pt), verify sig [] [] sub = 0 := by
  intro sig sub
  simp only [verify, List.length_nil]
  split
  · rfl
  · rename_i h; omega

theorem wl_verify_empty_false' (sig : Sig) (online offline : List Pt) (sub : Pt)
    (h : online = [] ∨ sig.nKeys = 0) : verify sig online offline sub = 0 := by
  simp only [verify]
  split
  · rfl
  · rename_i h'
    rcases h with h | h
    · subst h; simp only [List.length_nil] at h'; omega
    · omega

/-- The forgery candidate (count byte 0 followed by 32 arbitrary bytes) still PARSES - the parser
is not where the empty ring is refused - but verification of the parsed object returns 0. -/
example : ∃ sig, parse (0 :: List.replicate 32 0xAB) = (1, some 0, some sig) ∧
    ∀ sub, verify sig [] [] sub = 0 :=
  ⟨⟨0, List.replicate 32 0xAB⟩, by decide, fun sub => wl_verify_empty_false _ sub⟩

theorem wl_verify_count_mismatch (sig : Sig) (online offline : List Pt) (sub : Pt)
    (h : sig.nKeys ≠ online.length) : verify sig online offline sub = 0 := by
  simp only [verify]
  split
  · rfl
  · omega

example : verify ⟨2, List.replicate 96 1⟩ [Pt.G] [Pt.G] Pt.G = 0 :=
  wl_verify_count_mismatch _ _ _ _ (by decide)

theorem wl_verify_too_many (sig : Sig) (online offline : List Pt) (sub : Pt)
    (h : 255 < sig.nKeys) : verify sig online offline sub = 0 := by
  have hc : sig.nKeys = 0 ∨ sig.nKeys > maxKeys ∨ sig.nKeys ≠ online.length := by
    simp only [maxKeys]; omega
  simp only [verify, if_pos hc]

def scalarValue (sig : Sig) (i : Nat) : Nat := Bytes.toNat (sig.sBytes i)

theorem readScalars_eq_none_iff (sig : Sig) (todo i : Nat) :
    readScalars sig todo i = none ↔
      ∃ j, j < todo ∧ (scalarValue sig (i + j) = 0 ∨ N ≤ scalarValue sig (i + j)) := by
  induction todo generalizing i with
  | zero => simp [readScalars]
  | succ k ih =>
    have hiff := Sc.setB32_bad_iff (sig.sBytes i)
    simp only [readScalars]
    by_cases hb : (Sc.setB32 (sig.sBytes i)).2 = true ∨ (Sc.setB32 (sig.sBytes i)).1 = 0
    · rw [if_pos hb]
      simp only [true_iff]
      exact ⟨0, by omega, by simpa [scalarValue] using hiff.1 hb⟩
    · rw [if_neg hb]
      have hgood : ¬ (scalarValue sig i = 0 ∨ N ≤ scalarValue sig i) := fun h => hb (hiff.2 h)
      constructor
      · intro h
        have hrec : readScalars sig k (i + 1) = none := by
          cases hr : readScalars sig k (i + 1) with
          | none => rfl
          | some r => rw [hr] at h; simp at h
        obtain ⟨j, hj, hbadj⟩ := (ih (i + 1)).1 hrec
        exact ⟨j + 1, by omega, by rwa [show i + (j + 1) = i + 1 + j by omega]⟩
      · rintro ⟨j, hj, hbadj⟩
        cases j with
        | zero => exact absurd hbadj hgood
        | succ j' =>
          have : readScalars sig k (i + 1) = none :=
            (ih (i + 1)).2 ⟨j', by omega, by rwa [show i + 1 + j' = i + (j' + 1) by omega]⟩
          rw [this]

theorem wl_verify_scalar_range (sig : Sig) (online offline : List Pt) (sub : Pt) (i : Nat)
    (hi : i < sig.nKeys) (hbad : scalarValue sig i = 0 ∨ N ≤ scalarValue sig i) :
    verify sig online offline sub = 0 := by
  have hnone : readScalars sig sig.nKeys 0 = none :=
    (readScalars_eq_none_iff sig sig.nKeys 0).2 ⟨i, hi, by simpa using hbad⟩
  simp only [verify]
  split
  · rfl
  · rw [hnone]

/-- Non-vacuity: a 2-key signature whose second scalar is 0, one whose first scalar is exactly `N`,
and one whose scalars are all `0x0101…01` (in range). -/
example : (1 : Nat) < (⟨2, List.replicate 64 1 ++ List.replicate 32 0⟩ : Sig).nKeys ∧
    scalarValue ⟨2, List.replicate 64 1 ++ List.replicate 32 0⟩ 1 = 0 := by decide
example : scalarValue ⟨1, List.replicate 32 1 ++ Bytes.be32 N⟩ 0 = N := by decide +kernel
example : ¬ (scalarValue ⟨1, List.replicate 64 1⟩ 0 = 0 ∨ N ≤ scalarValue ⟨1, List.replicate 64 1⟩ 0) := by
  decide +kernel

end C16
end SecpZkp
