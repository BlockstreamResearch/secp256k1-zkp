import SecpZkp.Proofs.Adaptor
import SecpZkp.Props.C01
import SecpZkp.Props.C03
import SecpZkp.Proofs.Parsers
/-
  Property C14, "ECDSA adaptor signatures are consistent end-to-end and verified exactly", for `Model/Adaptor.lean`
  (`src/modules/ecdsa_adaptor/main_impl.h`, `dleq_impl.h`): completeness of the DLEQ proof and of the pipeline
  encrypt, verify, decrypt, recover; `ecdsa_adaptor_verify` as an equivalence; when `ecdsa_adaptor_recover` returns 0.

  The group law is the proved one (`groupLaw`, `Proofs/GroupLawProved.lean`): no theorem carries a hypothesis about the
  curve.  In `dleq_complete`, `adaptor_complete` and `recover_writes_before_failing` the encryption key is `Y = y•G`
  (`Pt.mulG y`, `0 < y < n`): that every valid point is such a multiple (cofactor 1) is not assumed.  The other theorems
  hold for every key object.

  Not proved: that every altered signature, key or message is rejected (for the DLEQ part that is a property of the hash).
  `adaptor_verify_iff_closed` says what is checked, `adaptor_verify_rejects_codec` what the codec refuses; the examples
  reject particular alterations.
-/
namespace SecpZkp
namespace AdaptorLemmas
open SecpZkp.Algebra SecpZkp.C01 Adaptor
attribute [local instance] instGL

/-! The lemmas of `AdaptorLemmas` that rest on a theorem of C03 or C01, hence here and not in `Proofs/Adaptor.lean`. -/

theorem pubkeyParse_serialize33 {x y : Nat} (hv : (Pt.aff x y).valid = true) :
    Codec.pubkeyParse (Codec.serialize33 (Pt.aff x y)) = some (Pt.aff x y) :=
  C03.pubkeyParse_serialize33_partial hv (liftX_of_valid hv)

theorem deser_full {rx ry px py sp e s : Nat} (hr : (Pt.aff rx ry).valid = true)
    (hp : (Pt.aff px py).valid = true) (hsigr : rx % N ≠ 0) (hsp0 : 0 < sp) (hsp : sp < N) (he : e < N)
    (hs : s < N) :
    sigDeserialize true (sigSerialize (Pt.aff rx ry) (Pt.aff px py) sp e s) =
      some ⟨Pt.aff rx ry, rx % N, Pt.aff px py, sp, e, s⟩ := by
  obtain ⟨h1, h2, h3, h4, h5⟩ := slices (Codec.serialize33 (Pt.aff rx ry)) (Codec.serialize33 (Pt.aff px py))
    (Bytes.be32 sp) (Bytes.be32 e) (Bytes.be32 s) (serialize33_aff_length _ _) (serialize33_aff_length _ _)
    (Bytes.be32_length _) (Bytes.be32_length _) (Bytes.be32_length _)
  have hrx : rx < 2 ^ 256 := lt_pow_of_lt_P (valid_aff_lt hr).1
  unfold sigDeserialize
  simp only [if_true]
  rw [sigSerialize_sigr]
  unfold sigSerialize
  rw [h1, h2, h3, h4, h5, pubkeyParse_serialize33 hr, pubkeyParse_serialize33 hp, toNat_be32 hrx,
    Sc.setB32Seckey_be32 hsp0 hsp, Sc.setB32_be32 hs, Bytes.toNat_be32_of_lt_N he, Nat.mod_eq_of_lt he]
  simp [hsigr]

theorem adaptor_point {k d m r : Nat} (hk : k < N) (hd : d < N) (hsp : spOf k d m r ≠ 0) :
    verifyPoint r (spOf k d m r) m (Pt.mulG d) = Pt.mulG k := by
  have hsz : ((spOf k d m r : Nat) : ZMod N) ≠ 0 := fun h => hsp ((cast_eq_zero (spOf_lt _ _ _ _)).1 h)
  have hc : ((spOf k d m r : Nat) : ZMod N) = (k : ZMod N)⁻¹ * ((r : ZMod N) * d + m) := by
    simp only [spOf, cast_mul, cast_inv, cast_add]
  have := verify_field (r : ZMod N) (d : ZMod N) (m : ZMod N) (k : ZMod N) _ false (by simpa using hc) hsz
  simp only [Bool.false_eq_true, if_false] at this
  rw [verifyPoint_mulG _ _ _ hd, mulG_gmul hk, this]

/-- `dleqProve` returns `(s, e)`, `sigSerialize` takes `… e s`: hence `some (ds, de)` and `… de ds`. -/
theorem verify_honest {x y k ds de yx yy rx ry px py qx qy : Nat} {msg32 : Bytes} {nf : Option NonceFnA}
    {nd : Option Bytes} (hx : x < N) (hy0 : 0 < y) (hy : y < N) (hk : k < N)
    (hY : Pt.mulG y = Pt.aff yx yy) (hR : Pt.mul k (Pt.aff yx yy) = Pt.aff rx ry)
    (hRp : Pt.mulG k = Pt.aff px py) (hX : Pt.mulG x = Pt.aff qx qy)
    (hp : dleqProve k (Pt.aff px py) (Pt.aff yx yy) (Pt.aff rx ry) nf nd = some (ds, de))
    (hr : rx % N ≠ 0) (hs : spOf k x (Bytes.toNat msg32 % N) (rx % N) ≠ 0) :
    verify (sigSerialize (Pt.aff rx ry) (Pt.aff px py) (spOf k x (Bytes.toNat msg32 % N) (rx % N)) de ds)
      (Pt.aff qx qy) msg32 (Pt.aff yx yy) = ⟨1, (), 0⟩ := by
  have hRv : (Pt.aff rx ry).valid = true := by
    rw [← hR, ← hY, mulG_gmul hy, mul_gmul' hk]; exact valid_gmul _
  have hRpv : (Pt.aff px py).valid = true := by rw [← hRp, mulG_gmul hk]; exact valid_gmul _
  obtain ⟨k', hk'0, hk'N, -, hde, hds⟩ := dleqProve_some hp
  have hdv : dleqVerify ds de (Pt.aff px py) (Pt.aff yx yy) (Pt.aff rx ry) = true := by
    have := dleqVerify_complete (x := k) (y := y) (k := k') hk hy0 hy hk'0 hk'N
    rw [hY, hR, hRp] at this
    rw [hds, hde]; exact this
  have hdeN : de < N := hde ▸ dleqChallenge_lt _ _ _ _ _
  have hdsN : ds < N := hds ▸ Sc.add_lt _ _
  have hsp0 : 0 < spOf k x (Bytes.toNat msg32 % N) (rx % N) := Nat.pos_of_ne_zero hs
  have hpt := adaptor_point (k := k) (d := x) (m := Bytes.toNat msg32 % N) (r := rx % N) hk hx hs
  rw [verifyPoint, hX, hRp] at hpt
  unfold verify
  rw [deser_full hRv hRpv hr hsp0 (spOf_lt _ _ _ _) hdeN hdsN]
  simp only [hdv, Bool.not_true, Bool.false_eq_true, if_false, hpt, Pt.isInf]
  have : Pt.add (Pt.neg (Pt.aff px py)) (Pt.aff px py) = Pt.inf := by
    rw [gl.add_comm _ _ (gl.valid_neg _ hRpv) hRpv]; exact gl.add_neg _ hRpv
  rw [this]; rfl

theorem decrypted_verifies {x y k yx yy rx ry : Nat} {msg32 : Bytes} (hx0 : 0 < x) (hx : x < N) (hy0 : 0 < y)
    (hy : y < N) (hk0 : 0 < k) (hk : k < N) (hY : Pt.mulG y = Pt.aff yx yy)
    (hR : Pt.mul k (Pt.aff yx yy) = Pt.aff rx ry) (hr : rx % N ≠ 0)
    (hs : spOf k x (Bytes.toNat msg32 % N) (rx % N) ≠ 0) :
    let s0 := Sc.mul (Sc.inv y) (spOf k x (Bytes.toNat msg32 % N) (rx % N))
    let s := if Sc.isHigh s0 then Sc.neg s0 else s0
    s ≠ 0 ∧ s < N ∧ ¬ Sc.isHigh s = true ∧ (Ecdsa.verify (rx % N, s) msg32 (Pt.mulG x)).ret = 1 := by
  intro s0 s
  have hkz := cast_ne_zero hk0 hk
  have hyz := cast_ne_zero hy0 hy
  -- the decrypted signature is the ECDSA signature for the nonce `k·y`: its nonce point is `R = k•Y` (`hkyG`) and `s0`
  -- is the `s` that `ecdsa_sig_sign` computes (`hs0`); then `ecdsa_sign_verifies`
  have hkyN : Sc.mul k y < N := Sc.mul_lt _ _
  have hky0 : 0 < Sc.mul k y :=
    Nat.pos_of_ne_zero fun h => mul_ne_zero hkz hyz (by rw [← cast_mul, h, Nat.cast_zero])
  have hkyG : Pt.mulG (Sc.mul k y) = Pt.aff rx ry := by
    rw [← hR, ← hY, mulG_gmul hkyN, mulG_gmul hy, mul_gmul' hk, cast_mul]
  have hs0 : Sc.mul (Sc.inv (Sc.mul k y)) (Sc.add (Sc.mul (rx % N) x) (Bytes.toNat msg32 % N)) = s0 :=
    (Field.cast_eq_iff (Sc.mul_lt _ _) (Sc.mul_lt _ _)).1
      (by simp only [spOf, cast_mul, cast_inv, cast_add, mul_inv]; ring)
  have hs0z : (s0 : ZMod N) ≠ 0 := by
    simp only [s0, cast_mul, cast_inv]
    exact mul_ne_zero (inv_ne_zero hyz) fun h => hs ((cast_eq_zero (spOf_lt _ _ _ _)).1 h)
  have hsne : s ≠ 0 := fun h => by
    have : (s : ZMod N) = 0 := by rw [h, Nat.cast_zero]
    revert this
    show ((if _ then _ else _ : Nat) : ZMod N) = 0 → False
    split <;> simpa only [cast_neg, neg_eq_zero] using hs0z
  have hv := ecdsa_sign_verifies groupLaw x (Bytes.toNat msg32 % N) (Sc.mul k y) hx hky0 hkyN
  simp only [Ecdsa.sigSign, hkyG, hs0, decide_eq_true_eq] at hv
  obtain ⟨hlow, hver⟩ := hv ⟨hr, hsne⟩
  exact ⟨hsne, ite_neg_lt _ (Sc.mul_lt _ _), hlow, (verify_ret_iff _ _ _).mpr ⟨hlow, mulG_ne_inf hx0 hx, hver⟩⟩

end AdaptorLemmas

namespace C14
open SecpZkp.Algebra SecpZkp.C01 SecpZkp.AdaptorLemmas Adaptor

attribute [local instance] AdaptorLemmas.instGL

/-- Constant nonces, so that the kernel evaluations of the examples skip the nonce derivation. -/
def exNonce : NonceFnA := fun _ _ _ algo _ =>
  if algo = dleqAlgo then some (Bytes.be32 9) else some (Bytes.be32 5)

/-- What `encrypt` writes for signing key 7, encryption key `3•G`, message `be32 12345` and `exNonce` (the example after
    `adaptor_complete`). -/
def exSig : Bytes := [
  0x02, 0xd7, 0x92, 0x4d, 0x4f, 0x7d, 0x43, 0xea, 0x96, 0x5a, 0x46, 0x5a, 0xe3, 0x09, 0x5f, 0xf4, 0x11, 0x31,
  0xe5, 0x94, 0x6f, 0x3c, 0x85, 0xf7, 0x9e, 0x44, 0xad, 0xbc, 0xf8, 0xe2, 0x7e, 0x08, 0x0e, 0x02, 0x2f, 0x8b,
  0xde, 0x4d, 0x1a, 0x07, 0x20, 0x93, 0x55, 0xb4, 0xa7, 0x25, 0x0a, 0x5c, 0x51, 0x28, 0xe8, 0x8b, 0x84, 0xbd,
  0xdc, 0x61, 0x9a, 0xb7, 0xcb, 0xa8, 0xd5, 0x69, 0xb2, 0x40, 0xef, 0xe4, 0xfa, 0x99, 0x9f, 0x6f, 0x48, 0xf8,
  0xae, 0xd2, 0x7e, 0x62, 0x7f, 0x3d, 0xd9, 0xec, 0xbc, 0x18, 0x53, 0xb8, 0x0a, 0x07, 0x31, 0xad, 0x07, 0x6b,
  0x39, 0xc9, 0x28, 0xd9, 0xe0, 0x3f, 0x3b, 0x12, 0x17, 0xe1, 0x59, 0x30, 0x8b, 0xa5, 0x35, 0xd0, 0xbd, 0xa6,
  0x95, 0x8d, 0xac, 0xcb, 0x03, 0xbc, 0xa8, 0x1c, 0xbe, 0x3b, 0x09, 0xd8, 0xf2, 0xca, 0xf9, 0x1c, 0xe4, 0xde,
  0xea, 0x6c, 0xee, 0xc4, 0x77, 0x66, 0xbd, 0xf2, 0xba, 0x3a, 0x0d, 0x13, 0xb4, 0x40, 0xeb, 0xc4, 0x5f, 0xf7,
  0x12, 0xaf, 0x48, 0x8f, 0xb7, 0x27, 0x31, 0x3c, 0xbd, 0xf6, 0xdd, 0x90, 0x78, 0x5a, 0x94, 0x20, 0xa9, 0xdd]

/-- Completeness of the DLEQ proof inside an adaptor signature: what `secp256k1_dleq_prove` returns for `P1 = x•G`,
    `P2 = x•Y`, `secp256k1_dleq_verify` accepts, and the commitments it recomputes are `k•G`, `k•Y` for the prover's nonce.
    `h` holds iff the nonce function returned a value that is non-zero mod `n`.  `x = 0` is not excluded. -/
theorem dleq_complete (x y : Nat) (hx : x < N) (hy0 : 0 < y) (hy : y < N)
    (nf : Option NonceFnA) (nd : Option Bytes) (s e : Nat)
    (h : dleqProve x (Pt.mulG x) (Pt.mulG y) (Pt.mul x (Pt.mulG y)) nf nd = some (s, e)) :
    dleqVerify s e (Pt.mulG x) (Pt.mulG y) (Pt.mul x (Pt.mulG y)) = true ∧
    ∃ k, 0 < k ∧ k < N ∧
      Pt.add (Pt.mulG s) (Pt.neg (Pt.mul e (Pt.mulG x))) = Pt.mulG k ∧
      Pt.add (Pt.mul s (Pt.mulG y)) (Pt.neg (Pt.mul e (Pt.mul x (Pt.mulG y)))) = Pt.mul k (Pt.mulG y) := by
  obtain ⟨k, hk0, hkN, -, he, hs⟩ := dleqProve_some h
  have heN : e < N := he ▸ dleqChallenge_lt _ _ _ _ _
  refine ⟨?_, k, hk0, hkN, ?_, ?_⟩
  · rw [hs, he]; exact dleqVerify_complete hx hy0 hy hk0 hkN
  · rw [hs, mulG_gmul (Sc.add_lt _ _), mulG_gmul hx, mul_gmul' heN, neg_gmul, add_gmul, mulG_gmul hkN]
    apply gmul_congr; simp only [cast_add, cast_mul]; ring
  · rw [hs, mulG_gmul hy, mul_gmul' (Sc.add_lt _ _), mul_gmul' hx, mul_gmul' heN, neg_gmul, add_gmul,
      mul_gmul' hkN]
    apply gmul_congr; simp only [cast_add, cast_mul]; ring

/-- `h` of `dleq_complete` is satisfiable; the next example evaluates its conclusion on the same instance. -/
example : dleqProve 7 (Pt.mulG 7) (Pt.mulG 3) (Pt.mul 7 (Pt.mulG 3)) (some exNonce) none =
    some (108650029743920681411317167993469824629853645338758614973964711129829976890270,
          98230067990071665504167441862415623413434495247733305269570075262488683480278) := by
  decide +kernel

example : dleqVerify 108650029743920681411317167993469824629853645338758614973964711129829976890270
    98230067990071665504167441862415623413434495247733305269570075262488683480278
    (Pt.mulG 7) (Pt.mulG 3) (Pt.mul 7 (Pt.mulG 3)) = true := by
  decide +kernel

/-- First sentence of the property, for `secp256k1_ecdsa_adaptor_encrypt`, `_verify`, `_decrypt`, `_recover` and
    `secp256k1_ecdsa_verify`; the last conjunct is recovery from the negated-s twin.  `henc` cannot be dropped: `encrypt`
    returns 0 when a nonce output is 0 mod `n`, when `R.x mod n = 0` or when `s' = 0`. -/
theorem adaptor_complete (x y : Nat) (hx0 : 0 < x) (hx : x < N) (hy0 : 0 < y) (hy : y < N) (msg32 : Bytes)
    (nf : Option NonceFnA) (nd : Option Bytes)
    (henc : (encrypt (Bytes.be32 x) (Pt.mulG y) msg32 nf nd).ret = 1) :
    ∃ a r s, encrypt (Bytes.be32 x) (Pt.mulG y) msg32 nf nd = ⟨1, some a, 0⟩ ∧ a.length = 162 ∧
      verify a (Pt.mulG x) msg32 (Pt.mulG y) = ⟨1, (), 0⟩ ∧
      decrypt (Bytes.be32 y) a = (1, (r, s)) ∧ 0 < s ∧ s < N ∧ ¬ Sc.isHigh s = true ∧
      (Ecdsa.verify (r, s) msg32 (Pt.mulG x)).ret = 1 ∧
      recover (r, s) a (Pt.mulG y) = ⟨1, some (Bytes.be32 y), 0⟩ ∧
      recover (r, N - s) a (Pt.mulG y) = ⟨1, some (Bytes.be32 y), 0⟩ := by
  obtain ⟨yx, yy, hY⟩ := mulG_eq_aff hy0 hy
  rw [hY] at henc ⊢
  obtain ⟨k, ds, de, nonce32, hk0, hkN, -, -, hp, -, hr, hs, heq⟩ := encrypt_one henc
  rw [Sc.setB32Seckey_be32 hx0 hx] at hs heq
  simp only [] at hs heq
  -- `encrypt_one` gives the closed form of `a`; then one helper per conjunct: `verify_honest`; `decrypt_honest` with
  -- `decrypted_verifies`; `recover_core` twice, the candidate `s⁻¹·s'` being `±y` for `s` and for `n − s` alike
  -- (`recover_field`).  The helpers are stated for points in affine form, hence `hR`, `hRp`, `hX`
  have hkz := cast_ne_zero hk0 hkN
  have hyz := cast_ne_zero hy0 hy
  have hRg : Pt.mul k (Pt.aff yx yy) = gmul ((k : ZMod N) * y) := by rw [← hY, mulG_gmul hy, mul_gmul' hkN]
  obtain ⟨rx, ry, hR⟩ : ∃ rx ry, Pt.mul k (Pt.aff yx yy) = Pt.aff rx ry := by
    rw [hRg]; exact gmul_eq_aff (mul_ne_zero hkz hyz)
  obtain ⟨px, py, hRp⟩ := mulG_eq_aff hk0 hkN
  obtain ⟨qx, qy, hX⟩ := mulG_eq_aff hx0 hx
  have hRv : (Pt.aff rx ry).valid = true := by rw [← hR, hRg]; exact valid_gmul _
  have hrx : rx < 2 ^ 256 := lt_pow_of_lt_P (valid_aff_lt hRv).1
  rw [hR, hRp] at hp heq
  rw [hR] at hr hs
  simp only [xOf_aff] at hr hs heq
  generalize hsp : spOf k x (Bytes.toNat msg32 % N) (rx % N) = sp at hs heq
  have hspN : sp < N := hsp ▸ spOf_lt _ _ _ _
  have hsp0 : 0 < sp := Nat.pos_of_ne_zero hs
  have hdec := decrypt_honest (ry := ry) (px := px) (py := py) (e := de) (s := ds) hy0 hy hrx hr hsp0 hspN
  have hver := decrypted_verifies (msg32 := msg32) hx0 hx hy0 hy hk0 hkN hY hR hr (by rw [hsp]; exact hs)
  simp only [] at hver
  rw [hsp] at hver
  obtain ⟨hsne, hsN, hlow, hverify⟩ := hver
  have hdes := deser_part (ry := ry) (px := px) (py := py) (e := de) (s := ds) hrx hr hsp0 hspN
  generalize hs0 : Sc.mul (Sc.inv y) sp = s0 at hdec hsne hsN hlow hverify
  generalize hsdef : (if Sc.isHigh s0 = true then Sc.neg s0 else s0) = s at hdec hsne hsN hlow hverify
  have hspz : (sp : ZMod N) ≠ 0 := fun h => hs ((cast_eq_zero hspN).1 h)
  have hscast : (s : ZMod N) = (y : ZMod N)⁻¹ * sp ∨ (s : ZMod N) = -((y : ZMod N)⁻¹ * sp) := by
    rw [← hsdef, ← hs0]; split
    · right; simp only [cast_neg, cast_mul, cast_inv]
    · left; simp only [cast_mul, cast_inv]
  have hs0' : 0 < s := Nat.pos_of_ne_zero hsne
  have hc1 : ((Sc.mul (Sc.inv s) sp : Nat) : ZMod N) = y ∨ ((Sc.mul (Sc.inv s) sp : Nat) : ZMod N) = -(y : ZMod N) := by
    rw [cast_mul, cast_inv]; exact recover_field hyz hspz hscast
  have hc2 : ((Sc.mul (Sc.inv (N - s)) sp : Nat) : ZMod N) = y ∨
      ((Sc.mul (Sc.inv (N - s)) sp : Nat) : ZMod N) = -(y : ZMod N) := by
    rw [← Sc.neg_eq_of_pos hs0' hsN, cast_mul, cast_inv, cast_neg]
    exact recover_field hyz hspz (hscast.symm.imp (fun h => by rw [h, neg_neg]) (congrArg _))
  have hrec1 := recover_core (r := rx % N) (s := s) hdes hy hY hc1
  have hrec2 := recover_core (r := rx % N) (s := N - s) hdes hy hY hc2
  have hb1 : (((rx % N) == (rx % N)) && (s != 0)) = true := by simp [hsne]
  have hb2 : (((rx % N) == (rx % N)) && (N - s != 0)) = true := by
    have : N - s ≠ 0 := by omega
    simp [this]
  simp only [hb1, if_true] at hrec1
  simp only [hb2, if_true] at hrec2
  refine ⟨_, rx % N, s, heq, sigSerialize_length _ _ _ _ _ _ _, ?_, hdec, hs0', hsN, hlow, hverify, hrec1, hrec2⟩
  rw [hX]
  subst hsp
  exact verify_honest hx hy0 hy hkN hY hR hRp hX hp hr hs

/-- `henc` of `adaptor_complete` is satisfiable. -/
example : (encrypt (Bytes.be32 7) (Pt.mulG 3) (Bytes.be32 12345) (some exNonce) none).ret = 1 := by
  decide +kernel
example : (encrypt (Bytes.be32 7) (Pt.mulG 3) (Bytes.be32 12345) (some exNonce) none).out = some exSig := by
  decide +kernel

/-- `(exR, exS)` is `exSig` decrypted under `y = 3` (example below); on this instance `decrypt` negates `s`. -/
def exR : Nat := 97505755694356382817881959832717013755620551362654128955029190924747025549326
def exS : Nat := 39411512783332231328940474417769859339457956502083003034896830538898039838672

/-- For the examples: deserialization and DLEQ proof of `exSig` are evaluated once (`exDes`, `exDleq`), not in every
    `decide +kernel`. -/
theorem verify_of_dleq {a : Bytes} {p : Parts} (hdes : sigDeserialize true a = some p) (X : Pt) (msg32 : Bytes)
    {Y : Pt} (hY : Y ≠ Pt.inf) (hd : dleqVerify p.s p.e p.rp Y p.r = true) :
    verify a X msg32 Y =
      match X with
      | .inf => ⟨0, (), 1⟩
      | x =>
        if (verifyPoint p.sigr p.sp (Bytes.toNat msg32 % N) x).isInf then ⟨0, (), 0⟩
        else ⟨if (Pt.add (Pt.neg (verifyPoint p.sigr p.sp (Bytes.toNat msg32 % N) x)) p.rp).isInf then 1 else 0,
          (), 0⟩ := by
  unfold verify verifyPoint
  rw [hdes]
  cases Y with
  | inf => exact absurd rfl hY
  | aff yx yy =>
    simp only [hd, Bool.not_true, Bool.false_eq_true, if_false]
    cases X <;> rfl

def exParts : Parts := (sigDeserialize true exSig).getD {}

theorem des_getD {a : Bytes} (h : (sigDeserialize true a).isSome = true) :
    sigDeserialize true a = some ((sigDeserialize true a).getD {}) := by
  cases hd : sigDeserialize true a with
  | none => rw [hd] at h; cases h
  | some p => rfl

theorem exDes : sigDeserialize true exSig = some exParts := des_getD (by decide +kernel)

theorem exDleq : dleqVerify exParts.s exParts.e exParts.rp (Pt.mulG 3) exParts.r = true := by decide +kernel

theorem exY : Pt.mulG 3 ≠ Pt.inf := mulG_ne_inf (by decide) (by decide +kernel)

/-- The conclusions of `adaptor_complete` evaluated on that instance (four examples). -/
example : (verify exSig (Pt.mulG 7) (Bytes.be32 12345) (Pt.mulG 3)).ret = 1 := by
  rw [verify_of_dleq exDes _ _ exY exDleq]; decide +kernel

example : decrypt (Bytes.be32 3) exSig = (1, (exR, exS)) ∧
    (Ecdsa.verify (exR, exS) (Bytes.be32 12345) (Pt.mulG 7)).ret = 1 := by decide +kernel

example : (recover (exR, exS) exSig (Pt.mulG 3)).out = some (Bytes.be32 3) ∧
    (recover (exR, exS) exSig (Pt.mulG 3)).ret = 1 := by decide +kernel

example : (recover (exR, N - exS) exSig (Pt.mulG 3)).out = some (Bytes.be32 3) ∧
    (recover (exR, N - exS) exSig (Pt.mulG 3)).ret = 1 := by decide +kernel

/-- `secp256k1_ecdsa_adaptor_sig_deserialize` as `ecdsa_adaptor_verify` calls it.  `e` is reduced mod `n` and not
    range-checked, as in the C code: bytes 98..130 holding `e + n` are read as `e`. -/
theorem sigDeserialize_full_iff (a : Bytes) (p : Parts) :
    sigDeserialize true a = some p ↔
      Codec.pubkeyParse (a.take 33) = some p.r ∧
      p.sigr = Bytes.toNat ((a.drop 1).take 32) % N ∧ p.sigr ≠ 0 ∧
      Codec.pubkeyParse ((a.drop 33).take 33) = some p.rp ∧
      p.sp = Bytes.toNat ((a.drop 66).take 32) ∧ 0 < p.sp ∧ p.sp < N ∧
      p.e = Bytes.toNat ((a.drop 98).take 32) % N ∧
      p.s = Bytes.toNat ((a.drop 130).take 32) ∧ p.s < N := by
  obtain ⟨pr, psigr, prp, psp, pe, ps⟩ := p
  unfold sigDeserialize
  simp only [if_true]
  cases h1 : Codec.pubkeyParse (a.take 33) with
  | none => simp
  | some r =>
    simp only []
    by_cases h2 : Bytes.toNat ((a.drop 1).take 32) % N = 0
    · simp only [h2, if_true, reduceCtorEq, false_iff]
      rintro ⟨-, e1, e2, -⟩
      exact e2 e1
    · simp only [h2, if_false]
      cases h3 : Codec.pubkeyParse ((a.drop 33).take 33) with
      | none => simp
      | some rp =>
        simp only []
        by_cases h4 : (Sc.setB32Seckey ((a.drop 66).take 32)).2 = true
        · have h4' := (setB32Seckey_true_iff _).1 h4
          have h4'' := (Sc.setB32Seckey_of_true (Prod.ext rfl h4)).2.2
          simp only [h4, Bool.not_true, Bool.false_eq_true, if_false, Sc.setB32]
          by_cases h5 : Bytes.toNat ((a.drop 130).take 32) < N
          · have : ¬ (Bytes.toNat ((a.drop 130).take 32) ≥ N) := by omega
            simp only [this, decide_false, Bool.false_eq_true, if_false, Option.some.injEq, Parts.mk.injEq,
              Nat.mod_eq_of_lt h5, h4'']
            constructor
            · rintro ⟨rfl, rfl, rfl, rfl, rfl, rfl⟩
              exact ⟨rfl, rfl, h2, rfl, rfl, h4'.1, h4'.2, rfl, rfl, h5⟩
            · rintro ⟨e1, e2, -, e3, e4, -, -, e5, e6, -⟩
              exact ⟨e1, e2.symm, e3, e4.symm, e5.symm, e6.symm⟩
          · have : Bytes.toNat ((a.drop 130).take 32) ≥ N := by omega
            simp only [this, decide_true, if_true, reduceCtorEq, false_iff]
            rintro ⟨-, -, -, -, -, -, -, -, e1, e2⟩
            omega
        · have h4f : (Sc.setB32Seckey ((a.drop 66).take 32)).2 = false := by simpa using h4
          simp only [h4f, Bool.not_false, if_true, reduceCtorEq, false_iff]
          rintro ⟨-, -, -, -, e1, e2, e3, -⟩
          exact h4 ((setB32Seckey_true_iff _).2 ⟨e1 ▸ e2, e1 ▸ e3⟩)

/-- What `secp256k1_dleq_verify` checks.  `he` holds for every deserialized `e` (`sigDeserialize_full_iff`); without it
    `Sc.add c (Sc.neg e) = 0` does not give `c = e`. -/
theorem dleqVerify_iff' (s e : Nat) (p1 g2 p2 : Pt) (he : e < N) :
    dleqVerify s e p1 g2 p2 = true ↔
      Pt.add (Pt.mul (Sc.neg e) p1) (Pt.mulG s) ≠ Pt.inf ∧
      Pt.add (Pt.mul s g2) (Pt.mul (Sc.neg e) p2) ≠ Pt.inf ∧
      dleqChallenge g2 (Pt.add (Pt.mul (Sc.neg e) p1) (Pt.mulG s))
        (Pt.add (Pt.mul s g2) (Pt.mul (Sc.neg e) p2)) p1 p2 = e := by
  unfold dleqVerify
  simp only []
  generalize Pt.add (Pt.mul (Sc.neg e) p1) (Pt.mulG s) = r1
  generalize Pt.add (Pt.mul s g2) (Pt.mul (Sc.neg e) p2) = r2
  cases r1 with
  | inf => simp [Pt.isInf]
  | aff a b =>
    cases r2 with
    | inf => simp [Pt.isInf]
    | aff c d =>
      simp only [Pt.isInf, Bool.or_self, Bool.false_eq_true, if_false, decide_eq_true_eq, ne_eq, reduceCtorEq,
        not_false_eq_true, true_and]
      exact scAdd_neg_eq_zero (dleqChallenge_lt _ _ _ _ _) he

/-- "Adaptor verification returns 1 exactly when …", in the form `secp256k1_ecdsa_adaptor_verify` computes it:
    `D = (r/s')•X + (m/s')•G` is finite and `−D + R' = ∞`.  No group law is used; with it, `adaptor_verify_iff_closed`. -/
theorem adaptor_verify_iff_spec (a : Bytes) (X Y : Pt) (msg32 : Bytes) :
    (verify a X msg32 Y).ret = 1 ↔
      ∃ p, sigDeserialize true a = some p ∧ Y ≠ Pt.inf ∧ X ≠ Pt.inf ∧
        dleqVerify p.s p.e p.rp Y p.r = true ∧
        verifyPoint p.sigr p.sp (Bytes.toNat msg32 % N) X ≠ Pt.inf ∧
        Pt.add (Pt.neg (verifyPoint p.sigr p.sp (Bytes.toNat msg32 % N) X)) p.rp = Pt.inf := by
  unfold verify verifyPoint
  cases hdes : sigDeserialize true a with
  | none => simp
  | some p =>
    simp only [Option.some.injEq, exists_eq_left']
    cases Y with
    | inf => simp
    | aff yx yy =>
      simp only []
      by_cases hd : dleqVerify p.s p.e p.rp (Pt.aff yx yy) p.r = true
      · simp only [hd, Bool.not_true, Bool.false_eq_true, if_false, ne_eq, reduceCtorEq, not_false_eq_true,
          true_and]
        cases X with
        | inf => simp
        | aff qx qy =>
          simp only [reduceCtorEq, not_false_eq_true, true_and]
          generalize Pt.add (Pt.mul (Sc.mul (Sc.inv p.sp) p.sigr) (Pt.aff qx qy))
            (Pt.mulG (Sc.mul (Sc.inv p.sp) (Bytes.toNat msg32 % N))) = D
          cases D with
          | inf => simp [Pt.isInf]
          | aff dx dy =>
            simp only [Pt.isInf, Bool.false_eq_true, if_false, reduceCtorEq, not_false_eq_true, true_and]
            generalize Pt.add (Pt.neg (Pt.aff dx dy)) p.rp = E
            cases E <;> simp
      · have hd' : dleqVerify p.s p.e p.rp (Pt.aff yx yy) p.r = false := by simpa using hd
        simp [hd']

theorem pubkeyParse_valid {b : Bytes} {q : Pt} (h : Codec.pubkeyParse b = some q) :
    q.valid = true ∧ q ≠ Pt.inf :=
  let ⟨hv, hi⟩ := (Parsers.pubkeyParse_valid b q h).1
  ⟨hv, fun e => by rw [e] at hi; cases hi⟩

/-- "Adaptor verification returns 1 exactly when the DLEQ proof and the adaptor equation of the specification hold":
    the last conjunct is `R' = s'⁻¹·(m•G + r•X)`.  `hX` makes `D` a valid point, which `−D + R' = ∞ ⇔ R' = D` needs. -/
theorem adaptor_verify_iff_closed (a : Bytes) (X Y : Pt) (msg32 : Bytes) (hX : X.valid = true) :
    (verify a X msg32 Y).ret = 1 ↔
      ∃ p, sigDeserialize true a = some p ∧ Y ≠ Pt.inf ∧ X ≠ Pt.inf ∧
        dleqVerify p.s p.e p.rp Y p.r = true ∧
        p.rp = Pt.add (Pt.mul (Sc.mul (Sc.inv p.sp) p.sigr) X)
          (Pt.mulG (Sc.mul (Sc.inv p.sp) (Bytes.toNat msg32 % N))) := by
  rw [adaptor_verify_iff_spec]
  apply exists_congr
  intro p
  constructor
  -- `R'` is a parsed point (fourth conjunct of `sigDeserialize_full_iff`), hence valid and finite
  · rintro ⟨hdes, hY, hXi, hd, -, hE⟩
    refine ⟨hdes, hY, hXi, hd, ?_⟩
    obtain ⟨hrpv, -⟩ := pubkeyParse_valid ((sigDeserialize_full_iff a p).1 hdes).2.2.2.1
    have hDv : (verifyPoint p.sigr p.sp (Bytes.toNat msg32 % N) X).valid = true :=
      gl.valid_add _ _ (SecpZkp.Algebra.valid_mul (lt_mulBound_of_lt_N (Sc.mul_lt _ _)) hX)
        (mulG_valid (lt_mulBound_of_lt_N (Sc.mul_lt _ _)))
    have := (add_eq_inf_iff (gl.valid_neg _ hDv) hrpv).1 hE
    rw [neg_neg_valid hDv] at this
    exact this
  · rintro ⟨hdes, hY, hXi, hd, hE⟩
    obtain ⟨hrpv, hrpi⟩ := pubkeyParse_valid ((sigDeserialize_full_iff a p).1 hdes).2.2.2.1
    have hD : verifyPoint p.sigr p.sp (Bytes.toNat msg32 % N) X = p.rp := hE.symm
    refine ⟨hdes, hY, hXi, hd, by rw [hD]; exact hrpi, ?_⟩
    rw [hD, gl.add_comm _ _ (gl.valid_neg _ hrpv) hrpv]
    exact gl.add_neg _ hrpv

/-- "… a zero or out-of-range scalar, or an invalid point is rejected" by `ecdsa_adaptor_verify`: for `R`, `R'`, `r`,
    `s'` and the DLEQ response `s`; `e` has no range check. -/
theorem adaptor_verify_rejects_codec (a : Bytes) (X Y : Pt) (msg32 : Bytes)
    (h : Codec.pubkeyParse (a.take 33) = none ∨ Codec.pubkeyParse ((a.drop 33).take 33) = none ∨
      Bytes.toNat ((a.drop 1).take 32) % N = 0 ∨ Bytes.toNat ((a.drop 66).take 32) = 0 ∨
      N ≤ Bytes.toNat ((a.drop 66).take 32) ∨ N ≤ Bytes.toNat ((a.drop 130).take 32)) :
    (verify a X msg32 Y).ret = 0 := by
  cases hdes : sigDeserialize true a with
  | none => unfold verify; rw [hdes]
  | some p =>
    exfalso
    obtain ⟨e1, e2, e3, e4, e5, e6, e7, -, e9, e10⟩ := (sigDeserialize_full_iff a p).1 hdes
    rcases h with h | h | h | h | h | h
    · rw [h] at e1; cases e1
    · rw [h] at e4; cases e4
    · exact e3 (e2 ▸ h)
    · omega
    · omega
    · omega

/-- Both sides of the equivalences occur: `exSig` deserializes and is accepted (example after `adaptor_complete`) … -/
example : (sigDeserialize true exSig).isSome = true := by decide +kernel

/-- … and is rejected with another message, signer key or encryption key, with one bit of `s'` flipped (byte 97), with
    `R` replaced by `−R` (byte 0, `02 ↔ 03`). -/
example : (verify exSig (Pt.mulG 7) (Bytes.be32 12346) (Pt.mulG 3)).ret = 0 := by
  rw [verify_of_dleq exDes _ _ exY exDleq]; decide +kernel
example : (verify exSig (Pt.mulG 8) (Bytes.be32 12345) (Pt.mulG 3)).ret = 0 := by
  rw [verify_of_dleq exDes _ _ exY exDleq]; decide +kernel
example : (verify exSig (Pt.mulG 7) (Bytes.be32 12345) (Pt.mulG 4)).ret = 0 := by decide +kernel
example : (verify (exSig.set 97 (exSig.getD 97 0 ^^^ 1)) (Pt.mulG 7) (Bytes.be32 12345) (Pt.mulG 3)).ret = 0 := by
  -- only `s'` differs from `exParts`: the DLEQ proof is the same
  have h : ∀ {p : Parts}, p.s = exParts.s → p.e = exParts.e → p.rp = exParts.rp → p.r = exParts.r →
      dleqVerify p.s p.e p.rp (Pt.mulG 3) p.r = true := fun h1 h2 h3 h4 => by rw [h1, h2, h3, h4]; exact exDleq
  rw [verify_of_dleq (des_getD (by decide +kernel)) _ _ exY
    (h (by decide +kernel) (by decide +kernel) (by decide +kernel) (by decide +kernel))]
  decide +kernel
example : (verify (exSig.set 0 (exSig.getD 0 0 ^^^ 1)) (Pt.mulG 7) (Bytes.be32 12345) (Pt.mulG 3)).ret = 0 := by
  decide +kernel

/-- `hX` of `adaptor_verify_iff_closed` on the instance. -/
example : (Pt.mulG 7).valid = true := by decide +kernel

/-- The hypothesis of `pubkeyParse_valid` is satisfiable. -/
example : Codec.pubkeyParse (Codec.serialize33 Pt.G) = some Pt.G :=
  pubkeyParse_serialize33 (x := Pt.Gx) (y := Pt.Gy) (by decide +kernel)

/-- `h` of `adaptor_verify_rejects_codec` (fifth disjunct) holds for `exSig` with `s'` replaced by `n`. -/
example : N ≤ Bytes.toNat (((exSig.take 66 ++ Bytes.be32 N ++ exSig.drop 98).drop 66).take 32) := by
  decide +kernel

/-- "Recovery refuses signatures that do not belong to the adaptor or to the encryption key": this theorem and the next
    two.  `h` holds iff `R.x mod n = 0` or `s'` is 0 or `≥ n`; the key buffer is not written. -/
theorem recover_refuses_bad_adaptor (sig : Nat × Nat) (a : Bytes) (Y : Pt)
    (h : sigDeserialize false a = none) : recover sig a Y = ⟨0, none, 0⟩ := by
  unfold recover; rw [h]

/-- The return value only: the key buffer may have been written (`recover_writes_before_failing`). -/
theorem recover_refuses_wrong_r (r s : Nat) (a : Bytes) (Y : Pt) (p : Parts)
    (hdes : sigDeserialize false a = some p) (hr : p.sigr ≠ r) : (recover (r, s) a Y).ret = 0 := by
  unfold recover
  rw [hdes]
  have : (p.sigr == r) = false := by simpa using hr
  cases Y with
  | inf => rfl
  | aff yx yy =>
    simp only [this, Bool.false_and, Bool.false_eq_true, if_false]
    split <;> (split <;> rfl)

/-- The encryption key is any valid finite point, not only a multiple of `G`; `s⁻¹·s'` is the candidate key that
    `ecdsa_adaptor_recover` computes. -/
theorem recover_refuses_wrong_key (r s : Nat) (a : Bytes) (yx yy : Nat) (p : Parts)
    (hdes : sigDeserialize false a = some p) (hYv : (Pt.aff yx yy).valid = true)
    (h1 : Pt.mulG (Sc.mul (Sc.inv s) p.sp) ≠ Pt.aff yx yy)
    (h2 : Pt.mulG (Sc.mul (Sc.inv s) p.sp) ≠ Pt.neg (Pt.aff yx yy)) :
    recover (r, s) a (Pt.aff yx yy) = ⟨0, none, 0⟩ := by
  -- `recover` compares bytes 1..33, i.e. abscissas; equal abscissas of valid points mean `Q = ±Y`; `∞` is serialized
  -- `02 ‖ 0…0`, and no curve point has abscissa 0
  unfold recover
  rw [hdes]
  simp only []
  have hQv : (Pt.mulG (Sc.mul (Sc.inv s) p.sp)).valid = true := mulG_valid (lt_mulBound_of_lt_N (Sc.mul_lt _ _))
  generalize Pt.mulG (Sc.mul (Sc.inv s) p.sp) = Q at h1 h2 hQv ⊢
  have hyx : yx < 2 ^ 256 := lt_pow_of_lt_P (valid_aff_lt hYv).1
  cases Q with
  | inf =>
    have : (Bytes.zeros 32) ≠ Bytes.be32 yx := by
      intro h
      have h0 : yx = 0 := by
        have := congrArg Bytes.toNat h
        rw [toNat_zeros, toNat_be32 hyx] at this
        exact this.symm
      subst h0
      exact no_point_x_zero _ hYv
    simp [serialize33_aff, this]
  | aff qx qy =>
    have hqx : qx < 2 ^ 256 := lt_pow_of_lt_P (valid_aff_lt hQv).1
    have : Bytes.be32 qx ≠ Bytes.be32 yx := by
      intro h
      have hx := be32_inj hqx hyx h
      subst hx
      rcases eq_or_eq_neg_of_x_eq hYv hQv with e | e
      · exact h1 (by rw [e])
      · exact h2 (by rw [e]; rfl)
    simp [serialize33_aff, this]

/-- As in the C code: when the candidate key is `±y` but `r` does not match or `s = 0`, `ecdsa_adaptor_recover` returns
    0 after having written `be32 y` into the key buffer. -/
theorem recover_writes_before_failing (r s y : Nat) (hy0 : 0 < y) (hy : y < N) (a : Bytes) (p : Parts)
    (hdes : sigDeserialize false a = some p)
    (hc : ((Sc.mul (Sc.inv s) p.sp : Nat) : ZMod N) = y ∨ ((Sc.mul (Sc.inv s) p.sp : Nat) : ZMod N) = -(y : ZMod N))
    (hbad : p.sigr ≠ r ∨ s = 0) :
    recover (r, s) a (Pt.mulG y) = ⟨0, some (Bytes.be32 y), 0⟩ := by
  obtain ⟨yx, yy, hY⟩ := mulG_eq_aff hy0 hy
  rw [hY, recover_core hdes hy hY hc]
  have : ((p.sigr == r) && (s != 0)) = false := by
    rcases hbad with h | h
    · have : (p.sigr == r) = false := by simpa using h
      simp [this]
    · simp [h]
  simp [this]

/-- `ecdsa_adaptor_encrypt` with the zero encryption-key object raises the illegal-argument callback and leaves the
    162-byte buffer untouched: on this path it is not zeroed. -/
theorem encrypt_invalid_enckey_untouched (seckey32 msg32 : Bytes) (nf : Option NonceFnA) (nd : Option Bytes) :
    encrypt seckey32 Pt.inf msg32 nf nd = ⟨0, none, 1⟩ := rfl

/-- `h` of `recover_refuses_bad_adaptor` is satisfiable. -/
example : sigDeserialize false (Bytes.zeros 162) = none := by decide +kernel

/-- `recover_refuses_wrong_r` and `recover_writes_before_failing` on the instance: a foreign `r` gives 0, yet `be32 3`
    has been written. -/
example : (recover (exR + 1, exS) exSig (Pt.mulG 3)).ret = 0 ∧
    (recover (exR + 1, exS) exSig (Pt.mulG 3)).out = some (Bytes.be32 3) := by decide +kernel

/-- `recover_refuses_wrong_key` on the instance, for the foreign encryption key `4•G`; the two examples after it show
    its hypotheses. -/
example : (recover (exR, exS) exSig (Pt.mulG 4)).ret = 0 ∧ (recover (exR, exS) exSig (Pt.mulG 4)).out = none := by
  decide +kernel

/-- The candidate key is `n − 3`, i.e. `−y`, since `decrypt` negated `s`. -/
example : Sc.mul (Sc.inv exS) ((sigDeserialize false exSig).getD {}).sp = N - 3 := by decide +kernel
example : Pt.mulG (N - 3) ≠ Pt.mulG 4 ∧ Pt.mulG (N - 3) ≠ Pt.neg (Pt.mulG 4) ∧ (Pt.mulG 4).valid = true := by
  decide +kernel

end C14
end SecpZkp
