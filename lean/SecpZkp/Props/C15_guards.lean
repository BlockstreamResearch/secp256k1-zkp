import SecpZkp.Gen.Guards
/-! # C15 — the argument checks the model assumes are present at the C call sites (translator mode G)

How to read a fact, and what a mismatch means: `Props/C01_guards.lean`. -/
namespace SecpZkp.Props.C15_guards
open SecpZkp.Gen

theorem ecdsa_s2c_verify_commit_sites : Facts.ecdsa_s2c_verify_commit = [
    ⟨.ec_commit, 1, true, none⟩,
    ⟨.scalar_set_b32, 1, false, none⟩
  ] := by decide

theorem ecdsa_anti_exfil_signer_commit_sites : Facts.ecdsa_anti_exfil_signer_commit = [
    ⟨.ecmult_gen_context_is_built, 1, true, none⟩,
    ⟨.scalar_set_b32_seckey, 1, true, none⟩
  ] := by decide

def all : List CallFact := Facts.ecdsa_s2c_verify_commit ++ Facts.ecdsa_anti_exfil_signer_commit

/-- No overflow flag written by a scalar decoding in these functions is ignored (overwritten or never read). -/
theorem no_flag_dropped : ∀ f ∈ all, f.flag ≠ some false := by decide

/-- non-vacuity: the regenerated fact lists are not empty -/
example : all.length = 4 := by decide

end SecpZkp.Props.C15_guards
