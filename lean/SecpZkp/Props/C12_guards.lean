import SecpZkp.Gen.Guards
/-! # C12 — the argument checks the model assumes are present at the C call sites (translator mode G)

How to read a fact, and what a mismatch means: `Props/C01_guards.lean`. -/
namespace SecpZkp.Props.C12_guards
open SecpZkp.Gen

theorem musig_partial_sig_parse_sites : Facts.musig_partial_sig_parse = [
    ⟨.scalar_set_b32, 1, false, some true⟩
  ] := by decide

theorem musig_pubnonce_parse_sites : Facts.musig_pubnonce_parse = [
    ⟨.eckey_pubkey_parse, 1, true, none⟩
  ] := by decide

theorem musig_partial_sign_sites : Facts.musig_partial_sign = [
    ⟨.musig_secnonce_load, 1, true, none⟩,
    ⟨.keypair_load, 1, true, none⟩,
    ⟨.keyagg_cache_load, 1, true, none⟩,
    ⟨.musig_session_load, 1, true, none⟩
  ] := by decide

theorem musig_partial_sig_verify_sites : Facts.musig_partial_sig_verify = [
    ⟨.musig_session_load, 1, true, none⟩,
    ⟨.musig_pubnonce_load, 1, true, none⟩,
    ⟨.pubkey_load, 1, true, none⟩,
    ⟨.keyagg_cache_load, 1, true, none⟩,
    ⟨.musig_partial_sig_load, 1, true, none⟩,
    ⟨.gej_is_infinity, 1, true, none⟩
  ] := by decide

theorem musig_pubkey_tweak_add_internal_sites : Facts.musig_pubkey_tweak_add_internal = [
    ⟨.keyagg_cache_load, 1, true, none⟩,
    ⟨.scalar_set_b32, 1, false, some true⟩
  ] := by decide

theorem keyagg_cache_load_sites : Facts.keyagg_cache_load = [
    ⟨.memcmp_var, 1, true, none⟩,
    ⟨.scalar_set_b32, 1, false, none⟩
  ] := by decide

theorem musig_adapt_sites : Facts.musig_adapt = [
    ⟨.scalar_set_b32, 1, false, some true⟩,
    ⟨.scalar_set_b32, 2, false, some true⟩
  ] := by decide

theorem musig_extract_adaptor_sites : Facts.musig_extract_adaptor = [
    ⟨.scalar_set_b32, 1, false, some true⟩,
    ⟨.scalar_set_b32, 2, false, some true⟩
  ] := by decide

theorem musig_keyaggcoef_internal_sites : Facts.musig_keyaggcoef_internal = [
    ⟨.ge_is_infinity, 1, true, none⟩,
    ⟨.scalar_set_b32, 1, false, none⟩
  ] := by decide

theorem musig_nonce_gen_internal_sites : Facts.musig_nonce_gen_internal = [
    ⟨.ecmult_gen_context_is_built, 1, true, none⟩,
    ⟨.scalar_set_b32_seckey, 1, true, none⟩,
    ⟨.keyagg_cache_load, 1, true, none⟩,
    ⟨.pubkey_load, 1, true, none⟩
  ] := by decide

theorem musig_nonce_process_internal_sites : Facts.musig_nonce_process_internal = [
    ⟨.scalar_set_b32, 1, false, none⟩,
    ⟨.ge_is_infinity, 1, true, none⟩
  ] := by decide

theorem musig_partial_sig_load_sites : Facts.musig_partial_sig_load = [
    ⟨.memcmp_var, 1, true, none⟩,
    ⟨.scalar_set_b32, 1, false, some false⟩
  ] := by decide

theorem musig_secnonce_load_sites : Facts.musig_secnonce_load = [
    ⟨.memcmp_var, 1, true, none⟩,
    ⟨.is_zero_array, 1, true, none⟩,
    ⟨.scalar_set_b32, 1, false, none⟩,
    ⟨.scalar_set_b32, 2, false, none⟩
  ] := by decide

theorem musig_session_load_sites : Facts.musig_session_load = [
    ⟨.memcmp_var, 1, true, none⟩,
    ⟨.scalar_set_b32, 1, false, none⟩,
    ⟨.scalar_set_b32, 2, false, none⟩,
    ⟨.scalar_set_b32, 3, false, none⟩
  ] := by decide

theorem nonce_function_musig_sites : Facts.nonce_function_musig = [
    ⟨.scalar_set_b32, 1, false, none⟩
  ] := by decide

/-- `secp256k1_musig_partial_sig_load` ignores the overflow flag outside VERIFY builds ON PURPOSE: the object can only come from secp256k1_musig_partial_sig_parse, which rejects s >= n (see above), or from partial_sign / save, which store a reduced scalar. -/
theorem musig_partial_sig_load_flag_verify_only : (Facts.musig_partial_sig_load.filter (fun f => f.flag = some false)).length = 1 := by decide

def all : List CallFact := Facts.musig_partial_sig_parse ++ Facts.musig_pubnonce_parse ++ Facts.musig_partial_sign ++ Facts.musig_partial_sig_verify ++ Facts.musig_pubkey_tweak_add_internal ++ Facts.keyagg_cache_load ++ Facts.musig_adapt ++ Facts.musig_extract_adaptor ++ Facts.musig_keyaggcoef_internal ++ Facts.musig_nonce_gen_internal ++ Facts.musig_nonce_process_internal ++ Facts.musig_secnonce_load ++ Facts.musig_session_load ++ Facts.nonce_function_musig

/-- No overflow flag written by a scalar decoding in these functions is ignored (overwritten or never read). -/
theorem no_flag_dropped : ∀ f ∈ all, f.flag ≠ some false := by decide

/-- non-vacuity: the regenerated fact lists are not empty -/
example : all.length = 37 := by decide

end SecpZkp.Props.C12_guards
