import SecpZkp.Proofs.Sha256
/-
  Property C05 (hashing part): the streaming SHA-256 object of `hash_impl.h`
  (`secp256k1_sha256_initialize / _write / _finalize`, modelled by `init / write / finalize`), the tagged
  hash, HMAC-SHA-256 and the RFC 6979 generator equal their one-shot specifications for EVERY message
  length and EVERY way of splitting the input into writes.

  Specification side (L0): `sha256 msg = hashFrom iv 0 msg` pads the whole message once
  (FIPS 180-4 5.1.1) and folds `compress` over the 64-byte blocks.

  No size hypothesis is needed in the model: `finalize` and `padding` both keep the low 64 bits of
  the bit length (`sizedesc_eq`), so the two sides agree for every length.  (SHA-256 itself is only
  defined for fewer than 2^61 bytes, and the C code has `VERIFY_CHECK(hash->bytes < 2^61)`.)
-/
namespace SecpZkp
namespace Sha256

/-- The streaming state `h` is what one gets after the bytes `pre` have been written, however they
    were split. -/
def Absorbed (h : State) (pre : Bytes) : Prop :=
  h.buf = pre.drop (pre.length / 64 * 64) ∧
  h.buf.length < 64 ∧
  h.s = compressBlocks (pre.length / 64) iv (pre.take (pre.length / 64 * 64)) ∧
  h.bytes = pre.length

instance (h : State) (pre : Bytes) : Decidable (Absorbed h pre) := by
  unfold Absorbed; infer_instance

theorem absorbed_iff (h : State) (pre : Bytes) : Absorbed h pre ↔ h = after iv 0 pre := by
  have hs : compressBlocks (pre.length / 64) iv (pre.take (pre.length / 64 * 64)) = absorb iv pre := by
    rw [compressBlocks_eq_absorb _ _ _ (by simp only [List.length_take]; omega), absorb_take]
  cases h
  simp only [Absorbed, after, hs, State.mk.injEq, Nat.zero_add]
  exact ⟨fun ⟨hb, _, hs', hn⟩ => ⟨hs', hb, hn⟩, fun ⟨hs', hb, hn⟩ => ⟨hb, hb ▸ length_tail64_lt pre, hs', hn⟩⟩

theorem absorbed_init : Absorbed init [] := (absorbed_iff _ _).2 rfl

/-- Clause "every way of splitting the input into writes", one `secp256k1_sha256_write`: `data` may be empty, shorter than
    the free space in the buffer, fill it exactly or span many blocks (`write_eq` in `Proofs/Sha256.lean` covers the three
    steps of the C function). -/
theorem write_invariant (h : State) (pre data : Bytes) (hp : Absorbed h pre) :
    Absorbed (write h data) (pre ++ data) :=
  (absorbed_iff _ _).2 ((absorbed_iff _ _).1 hp ▸ write_after ..)

theorem writeAll_invariant (h : State) (pre : Bytes) (chunks : List Bytes) (hp : Absorbed h pre) :
    Absorbed (writeAll h chunks) (pre ++ chunks.flatten) :=
  (absorbed_iff _ _).2 ((absorbed_iff _ _).1 hp ▸ writeAll_after ..)

/-- The buffer fill level the model keeps (`h.buf.length`) is the `hash->bytes & 0x3F` of the C code. -/
theorem absorbed_bufsize (h : State) (pre : Bytes) (hp : Absorbed h pre) :
    h.buf.length = h.bytes % 64 := by
  obtain ⟨hb, _, _, hn⟩ := hp
  rw [hb, hn, List.length_drop]; omega

/-- `hp` of `write_invariant` is satisfiable with a non-empty buffer (30 bytes); writing 40 more bytes then goes through
    step 1 and step 3 of `write` (second example, by evaluation). -/
example : Absorbed (write init (List.replicate 30 7)) (List.replicate 30 7) := by decide +kernel
example : Absorbed (write (write init (List.replicate 30 7)) (List.replicate 40 9))
    (List.replicate 30 7 ++ List.replicate 40 9) := by decide +kernel

/-- Clause "SHA-256 … equal[s its] standard for every message length and every way of splitting the input into writes"
    (empty chunks included). -/
theorem streaming_eq_oneshot (chunks : List Bytes) :
    finalize (writeAll init chunks) = sha256 chunks.flatten := by
  rw [init_eq, writeAll_after, finalize_after]; rfl

theorem split_independent (chunks₁ chunks₂ : List Bytes) (h : chunks₁.flatten = chunks₂.flatten) :
    finalize (writeAll init chunks₁) = finalize (writeAll init chunks₂) := by
  rw [streaming_eq_oneshot, streaming_eq_oneshot, h]

/-- Non-vacuity of `split_independent`: two different splittings of the same 5 bytes. -/
example : ([[1, 2], [], [3, 4, 5]] : List Bytes).flatten = ([[1], [2, 3, 4], [5]] : List Bytes).flatten := by
  decide

theorem streaming_cons (a : Bytes) (chunks : List Bytes) :
    finalize (writeAll (write init a) chunks) = sha256 (a ++ chunks.flatten) :=
  streaming_eq_oneshot (a :: chunks)

theorem write_finalize (msg : Bytes) : finalize (write init msg) = sha256 msg := by
  simpa [writeAll] using streaming_cons msg []

theorem finalize_of_absorbed (h : State) (pre : Bytes) (hp : Absorbed h pre) :
    finalize h = sha256 pre :=
  (absorbed_iff _ _).1 hp ▸ finalize_after ..

theorem sha256_length (msg : Bytes) : (sha256 msg).length = 32 := length_sha256 msg

theorem midstate_eq_hashFrom (n0 : Nat) (st : H8) (chunks : List Bytes) :
    finalize (writeAll (initMidstate n0 st) chunks) = hashFrom st n0 chunks.flatten := by
  rw [initMidstate_eq, writeAll_after, finalize_after]; rfl

/-- The hard-coded midstates of the C code (chaining value after one block, `hash->bytes = 64`) have this form; the one of
    `secp256k1_schnorrsig_sha256_tagged` is checked among the known answers below. -/
theorem midstate_eq (st : H8) (block : Bytes) (chunks : List Bytes)
    (hlen : block.length = 64) (hst : st = compress iv block) :
    finalize (writeAll (initMidstate 64 st) chunks) = sha256 (block ++ chunks.flatten) := by
  rw [midstate_eq_hashFrom, hst]
  have := hashFrom_compress iv 0 block chunks.flatten hlen
  simpa [sha256] using this

/-- The hypotheses of `midstate_eq` are satisfiable; its conclusion evaluated for one chunking. -/
example : (List.replicate 64 (0x11 : UInt8)).length = 64 := by decide
example :
    finalize (writeAll (initMidstate 64 (compress iv (List.replicate 64 0x11))) [[1, 2], [3]])
      = sha256 (List.replicate 64 0x11 ++ [1, 2, 3]) := by decide +kernel

theorem initTagged_eq_midstate (tag : Bytes) :
    initTagged tag = initMidstate 64 (compress iv (sha256 tag ++ sha256 tag)) := by
  have hl : (sha256 tag ++ sha256 tag).length = 64 := by simp [length_sha256]
  -- exactly one block has been written: it is compressed and the buffer is empty
  rw [initTagged, init_eq, write_after, write_after, List.nil_append, ← List.append_nil (_ ++ _), after,
    tail64_append _ _ (by rw [hl]), absorb_block_append _ _ _ hl, absorb_short _ _ (by simp), List.append_nil, hl]
  rfl

theorem tagged_chunks_spec (tag : Bytes) (chunks : List Bytes) :
    finalize (writeAll (initTagged tag) chunks) =
      sha256 (sha256 tag ++ sha256 tag ++ chunks.flatten) := by
  simpa [writeAll, initTagged, List.append_assoc] using streaming_eq_oneshot (sha256 tag :: sha256 tag :: chunks)

/-- Clause "equal their standards": the tagged hash of BIP-340. -/
theorem tagged_spec (tag msg : Bytes) :
    tagged tag msg = sha256 (sha256 tag ++ sha256 tag ++ msg) := by
  simpa [writeAll, tagged] using tagged_chunks_spec tag [msg]

/-- The 64-byte key block of RFC 2104: short keys are zero padded, long keys are hashed first. -/
def hmacKeyBlock (key : Bytes) : Bytes :=
  if key.length ≤ 64 then key ++ Bytes.zeros (64 - key.length) else sha256 key ++ Bytes.zeros 32

theorem hmacKeyBlock_length (key : Bytes) : (hmacKeyBlock key).length = 64 := by
  unfold hmacKeyBlock
  split
  · simp [Bytes.zeros]; omega
  · simp [Bytes.zeros, length_sha256]

/-- RFC 2104 over the one-shot `sha256`.  True by unfolding: the model's `hmac` is the specification, the content is
    `hmac_streaming`. -/
theorem hmac_spec (key msg : Bytes) :
    hmac key msg =
      sha256 ((hmacKeyBlock key).map (· ^^^ 0x5c) ++
        sha256 ((hmacKeyBlock key).map (· ^^^ 0x36) ++ msg)) := rfl

/-- Clause "HMAC-SHA-256 … every way of splitting the input into writes": the `let`s are
    `secp256k1_hmac_sha256_{initialize,write,finalize}` (two streaming objects `inner` and `outer`, a long key hashed by a
    third one). -/
theorem hmac_streaming (key : Bytes) (chunks : List Bytes) :
    let rkey := if key.length ≤ 64 then key ++ Bytes.zeros (64 - key.length)
                else finalize (write init key) ++ Bytes.zeros 32
    let outer := write init (rkey.map (· ^^^ 0x5c))
    let inner := write init (rkey.map (· ^^^ 0x36))
    finalize (write outer (finalize (writeAll inner chunks))) = hmac key chunks.flatten := by
  intro rkey outer inner
  have hr : rkey = hmacKeyBlock key := by
    simp only [rkey, hmacKeyBlock, write_finalize]
  -- through `streaming_cons`: unifying `streaming_eq_oneshot (_ :: chunks)` with `inner` directly makes the elaborator unfold the hash
  have hin : finalize (writeAll inner chunks) = _ := streaming_cons _ chunks
  have hout : ∀ d, finalize (writeAll outer [d]) = _ := fun d => streaming_cons _ [d]
  rw [hin, hmac_spec, ← hr]
  simpa [writeAll] using hout _

theorem hmac_length (key msg : Bytes) : (hmac key msg).length = 32 := length_hmac key msg

/-- RFC 6979 section 3.2, steps b–g (HMAC_DRBG instantiate); true by unfolding. -/
theorem rfc6979Init_spec (seed : Bytes) :
    let v0 : Bytes := List.replicate 32 1
    let k0 : Bytes := List.replicate 32 0
    let k1 := hmac k0 (v0 ++ [0] ++ seed)
    let v1 := hmac k1 v0
    let k2 := hmac k1 (v1 ++ [1] ++ seed)
    let v2 := hmac k2 v1
    (rfc6979Init seed).v = v2 ∧ (rfc6979Init seed).k = k2 ∧ (rfc6979Init seed).retry = false :=
  ⟨rfl, rfl, rfl⟩

/-- RFC 6979 section 3.2 step h, first call, at most one HMAC output requested. -/
theorem rfc6979Generate_first (seed : Bytes) (n : Nat) (hn : 0 < n) (hn' : n ≤ 32) :
    (rfc6979Generate (rfc6979Init seed) n).1 =
      (hmac (rfc6979Init seed).k (rfc6979Init seed).v).take n := by
  have hret : (rfc6979Init seed).retry = false := rfl
  -- one round of the loop produces the `n` bytes; the second call finds nothing left to do
  have hstop : ∀ fuel k v acc, rfc6979GenLoop fuel k v 0 acc = (acc, v) := by
    intro fuel k v acc
    cases fuel <;> simp [rfc6979GenLoop]
  simp [rfc6979Generate, hret, rfc6979GenLoop, Nat.ne_of_gt hn, Nat.not_lt.mpr hn', hstop]

theorem rfc6979Generate_length (r : Rfc6979) (n : Nat) : (rfc6979Generate r n).1.length = n := by
  unfold rfc6979Generate
  simp only
  split <;> (rw [length_rfc6979GenLoop _ _ _ _ _ (by omega)]; simp)

/-! Known answers, evaluated by the kernel: each vector is computed through the one-shot specification AND
through the streaming object with a non-trivial chunking. -/

section KnownAnswers

/-- "abcdbcdecdefdefgefghfghighijhijkijkljklmklmnlmnomnopnopq" (56 bytes, FIPS 180-4 / NIST two-block message). -/
def nist56 : Bytes :=
  [0x61, 0x62, 0x63, 0x64, 0x62, 0x63, 0x64, 0x65, 0x63, 0x64, 0x65, 0x66, 0x64, 0x65, 0x66, 0x67,
   0x65, 0x66, 0x67, 0x68, 0x66, 0x67, 0x68, 0x69, 0x67, 0x68, 0x69, 0x6a, 0x68, 0x69, 0x6a, 0x6b,
   0x69, 0x6a, 0x6b, 0x6c, 0x6a, 0x6b, 0x6c, 0x6d, 0x6b, 0x6c, 0x6d, 0x6e, 0x6c, 0x6d, 0x6e, 0x6f,
   0x6d, 0x6e, 0x6f, 0x70, 0x6e, 0x6f, 0x70, 0x71]

def kat_empty : Bytes :=
  [0xe3, 0xb0, 0xc4, 0x42, 0x98, 0xfc, 0x1c, 0x14, 0x9a, 0xfb, 0xf4, 0xc8, 0x99, 0x6f, 0xb9, 0x24,
   0x27, 0xae, 0x41, 0xe4, 0x64, 0x9b, 0x93, 0x4c, 0xa4, 0x95, 0x99, 0x1b, 0x78, 0x52, 0xb8, 0x55]

def kat_abc : Bytes :=
  [0xba, 0x78, 0x16, 0xbf, 0x8f, 0x01, 0xcf, 0xea, 0x41, 0x41, 0x40, 0xde, 0x5d, 0xae, 0x22, 0x23,
   0xb0, 0x03, 0x61, 0xa3, 0x96, 0x17, 0x7a, 0x9c, 0xb4, 0x10, 0xff, 0x61, 0xf2, 0x00, 0x15, 0xad]

def kat_nist56 : Bytes :=
  [0x24, 0x8d, 0x6a, 0x61, 0xd2, 0x06, 0x38, 0xb8, 0xe5, 0xc0, 0x26, 0x93, 0x0c, 0x3e, 0x60, 0x39,
   0xa3, 0x3c, 0xe4, 0x59, 0x64, 0xff, 0x21, 0x67, 0xf6, 0xec, 0xed, 0xd4, 0x19, 0xdb, 0x06, 0xc1]

-- SHA-256("")
example : sha256 [] = kat_empty := by decide +kernel
example : finalize init = kat_empty := by decide +kernel
example : finalize (writeAll init [[], [], []]) = kat_empty := by decide +kernel

-- SHA-256("abc")
example : sha256 [0x61, 0x62, 0x63] = kat_abc := by decide +kernel
example : finalize (writeAll init [[0x61], [], [0x62, 0x63]]) = kat_abc := by decide +kernel

-- SHA-256 of the 56-byte message (padding spills into a second block)
example : sha256 nist56 = kat_nist56 := by decide +kernel
example : finalize (writeAll init [nist56.take 1, (nist56.drop 1).take 30, nist56.drop 31]) = kat_nist56 := by
  decide +kernel

-- A 150-byte message written as 10 + 54 (completes the buffer exactly) + 80 (whole block from the
-- input plus a rest) + 6: all three steps of `write` are executed, and both computations agree.
example :
    finalize (writeAll init [List.replicate 10 1, List.replicate 54 2, List.replicate 80 3, List.replicate 6 4])
      = sha256 (List.replicate 10 1 ++ List.replicate 54 2 ++ List.replicate 80 3 ++ List.replicate 6 4) := by
  decide +kernel

/-- RFC 4231 test case 2: key "Jefe", data "what do ya want for nothing?". -/
def jefe : Bytes := [0x4a, 0x65, 0x66, 0x65]
def whatDoYaWant : Bytes :=
  [0x77, 0x68, 0x61, 0x74, 0x20, 0x64, 0x6f, 0x20, 0x79, 0x61, 0x20, 0x77, 0x61, 0x6e, 0x74, 0x20,
   0x66, 0x6f, 0x72, 0x20, 0x6e, 0x6f, 0x74, 0x68, 0x69, 0x6e, 0x67, 0x3f]
def kat_hmac2 : Bytes :=
  [0x5b, 0xdc, 0xc1, 0x46, 0xbf, 0x60, 0x75, 0x4e, 0x6a, 0x04, 0x24, 0x26, 0x08, 0x95, 0x75, 0xc7,
   0x5a, 0x00, 0x3f, 0x08, 0x9d, 0x27, 0x39, 0x83, 0x9d, 0xec, 0x58, 0xb9, 0x64, 0xec, 0x38, 0x43]

example : hmac jefe whatDoYaWant = kat_hmac2 := by decide +kernel

-- the same through the streaming objects, as `secp256k1_hmac_sha256_*` does it, message in 3 pieces
example :
    let rkey := jefe ++ Bytes.zeros 60
    let outer := write init (rkey.map (· ^^^ 0x5c))
    let inner := write init (rkey.map (· ^^^ 0x36))
    finalize (write outer (finalize (writeAll inner
      [whatDoYaWant.take 5, (whatDoYaWant.drop 5).take 20, whatDoYaWant.drop 25]))) = kat_hmac2 := by
  decide +kernel

/-- RFC 4231 test case 6: a 131-byte key (hashed first),
    data "Test Using Larger Than Block-Size Key - Hash Key First". -/
def hashKeyFirst : Bytes :=
  [0x54, 0x65, 0x73, 0x74, 0x20, 0x55, 0x73, 0x69, 0x6e, 0x67, 0x20, 0x4c, 0x61, 0x72, 0x67, 0x65,
   0x72, 0x20, 0x54, 0x68, 0x61, 0x6e, 0x20, 0x42, 0x6c, 0x6f, 0x63, 0x6b, 0x2d, 0x53, 0x69, 0x7a,
   0x65, 0x20, 0x4b, 0x65, 0x79, 0x20, 0x2d, 0x20, 0x48, 0x61, 0x73, 0x68, 0x20, 0x4b, 0x65, 0x79,
   0x20, 0x46, 0x69, 0x72, 0x73, 0x74]
def kat_hmac6 : Bytes :=
  [0x60, 0xe4, 0x31, 0x59, 0x1e, 0xe0, 0xb6, 0x7f, 0x0d, 0x8a, 0x26, 0xaa, 0xcb, 0xf5, 0xb7, 0x7f,
   0x8e, 0x0b, 0xc6, 0x21, 0x37, 0x28, 0xc5, 0x14, 0x05, 0x46, 0x04, 0x0f, 0x0e, 0xe3, 0x7f, 0x54]

example : hmac (List.replicate 131 0xaa) hashKeyFirst = kat_hmac6 := by decide +kernel

/-- BIP-340 tag "BIP0340/challenge" applied to "abc" (reference value from Python `hashlib`). -/
def tagChallenge : Bytes :=
  [0x42, 0x49, 0x50, 0x30, 0x33, 0x34, 0x30, 0x2f, 0x63, 0x68, 0x61, 0x6c, 0x6c, 0x65, 0x6e, 0x67, 0x65]

example : tagged tagChallenge [0x61, 0x62, 0x63] =
    [0x77, 0x0a, 0x5b, 0x7e, 0x7c, 0x30, 0x4b, 0xbc, 0xc3, 0xea, 0x10, 0x73, 0x43, 0xff, 0x95, 0x1d,
     0xd4, 0x04, 0x31, 0x2e, 0xf4, 0x18, 0xdb, 0x0c, 0x3b, 0x94, 0xe2, 0xeb, 0xfb, 0xb5, 0x00, 0x87] := by
  decide +kernel

/-- The midstate hard-coded in `secp256k1_schnorrsig_sha256_tagged`
    (`/repo/src/modules/schnorrsig/main_impl.h`) is the state `initTagged "BIP0340/challenge"`. -/
example :
    (initTagged tagChallenge).s =
      ⟨0x9cecba11, 0x23925381, 0x11679112, 0xd1627e0f, 0x97c87550, 0x003cc765, 0x90f61164, 0x33e9b66a⟩
    ∧ (initTagged tagChallenge).buf = [] ∧ (initTagged tagChallenge).bytes = 64 := by
  decide +kernel

/-- RFC 6979 appendix A.2.5 (P-256, SHA-256, message "sample"): the seed is
    `int2octets(x) ‖ bits2octets(SHA-256("sample"))`, and the first 32 bytes generated are the nonce
    `k = A6E3C57DD01ABE90086538398355DD4C3B17AA873382B0F24D6129493D8AAD60`. -/
def rfc6979Seed : Bytes :=
  [0xc9, 0xaf, 0xa9, 0xd8, 0x45, 0xba, 0x75, 0x16, 0x6b, 0x5c, 0x21, 0x57, 0x67, 0xb1, 0xd6, 0x93,
   0x4e, 0x50, 0xc3, 0xdb, 0x36, 0xe8, 0x9b, 0x12, 0x7b, 0x8a, 0x62, 0x2b, 0x12, 0x0f, 0x67, 0x21,
   0xaf, 0x2b, 0xdb, 0xe1, 0xaa, 0x9b, 0x6e, 0xc1, 0xe2, 0xad, 0xe1, 0xd6, 0x94, 0xf4, 0x1f, 0xc7,
   0x1a, 0x83, 0x1d, 0x02, 0x68, 0xe9, 0x89, 0x15, 0x62, 0x11, 0x3d, 0x8a, 0x62, 0xad, 0xd1, 0xbf]

example : (rfc6979Generate (rfc6979Init rfc6979Seed) 32).1 =
    [0xa6, 0xe3, 0xc5, 0x7d, 0xd0, 0x1a, 0xbe, 0x90, 0x08, 0x65, 0x38, 0x39, 0x83, 0x55, 0xdd, 0x4c,
     0x3b, 0x17, 0xaa, 0x87, 0x33, 0x82, 0xb0, 0xf2, 0x4d, 0x61, 0x29, 0x49, 0x3d, 0x8a, 0xad, 0x60] := by
  decide +kernel

end KnownAnswers

end Sha256
end SecpZkp
