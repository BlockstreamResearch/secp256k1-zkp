import SecpZkp.Proofs.MulShift
import SecpZkp.Props.C05_scalar
/-
  C05 (scalar part, continued): `secp256k1_scalar_mul_shift_var(r, a, b, shift)` of `src/scalar_4x64_impl.h`
  (portable C path, native `unsigned __int128`) computes the product `a · b` divided by `2^shift`, ROUNDED TO NEAREST
  (ties up), for ALL 64-bit limb values of `a`, `b` and EVERY `256 ≤ shift ≤ 512`.  The library calls it only with
  `shift = 384` (`secp256k1_scalar_split_lambda`); that instance is stated separately.

  Object of the theorems: the MiniC IR `Gen.scalar4x64.scalar_mul_shift_var` that `tools/c2lean_k.py` regenerates
  from the C source (`secp256k1_scalar_mul_512`, `secp256k1_scalar_cadd_bit` and the accumulator macros inlined: one
  straight-line program of 242 statements).  Semantics: `execL`, C's wrap-around arithmetic.

  Method
  * The program is cut after the 204 statements of the inlined `scalar_mul_512` (`runR_take_drop`).
    Part 1 is, statement for statement, the beginning of `secp256k1_scalar_mul` (`mulshift_part1`), so
    `C05sc.scalar_mul_part1` applies: `l[0..7]` are 64-bit limbs of `a · b`, `shift` is untouched.
  * Part 2 is executed with `shift` SYMBOLIC.  The array reads `l[j + shiftlimbs]` keep their data-dependent index
    (`env.get "l" (…)`; the writes to `r.d` and the temporaries do not alias `l` whatever the index is), the `?:`
    guards become `if … then … else`.  `Proofs/MulShift.lean` shows that each `r->d[j]`, guards included, is the
    64-bit window of `l` at bit offset `shift + 64j` (`limb_spec`, `limb3_spec`), that the rounding bit is bit
    `shift − 1` (`flag_spec`), and that adding it, which the inlined `secp256k1_scalar_cadd_bit(r, 0, bit)` does
    (`LimbChain.cadd_run`; its no-overflow precondition follows from `a·b ≤ (2^256−1)^2`), gives
    `(a·b + 2^(shift−1)) / 2^shift` (`mulshift_arith`).

  A change of the C code that breaks this (a wrong guard, an off-by-one in the limb index, a rounding bit taken at
  `shift` instead of `shift − 1`, a `cadd_bit` that drops the carry out of limb 0) makes a step or the final
  arithmetic fail; see the carry example below.
-/

namespace SecpZkp
namespace C05shift
open MiniC ScalarKernel MulShift C05sc

set_option maxRecDepth 10000 in
/-- the first 204 statements are those of `secp256k1_scalar_mul`, which inlines the same callee first -/
theorem mulshift_part1 :
    Gen.scalar4x64.scalar_mul_shift_var.body.take 204 = Gen.scalar4x64.scalar_mul.body.take 204 :=
  rfl

def ShiftPost (L s : Nat) (out : Env × Option Nat) : Prop :=
  sval out.1 "r.d" = (L + 2 ^ (s - 1)) / 2 ^ s ∧ Limbs64 out.1 "r.d"

/-- the inlined `secp256k1_scalar_cadd_bit(r, 0, bit)` -/
def caddLs : List LimbChain.Limb :=
  LimbChain.limbs64 true 54 (LimbChain.caddAtoms "r.d" (caddInc64 "scalar_cadd_bit_52.bit") 0 4)

theorem part2_body : Gen.scalar4x64.scalar_mul_shift_var.body.drop 204 =
    (Gen.scalar4x64.scalar_mul_shift_var.body.drop 204).take 9 ++
      (.assign "scalar_cadd_bit_52.vflag" (.var "scalar_cadd_bit_52.flag") ::
       .assign "scalar_cadd_bit_52.bit" (.bin .add 32 (.var "scalar_cadd_bit_52.bit")
        (.bin .and 32 (.bin .sub 32 (.var "scalar_cadd_bit_52.vflag") (.lit 1)) (.lit 256))) ::
       (c64 "scalar_cadd_bit_52.t").prog false id [] caddLs) := Accumulator.same_eq (by decide +kernel)

set_option maxRecDepth 100000 in
theorem mulshift_part2 (env : Env) (hs : 256 ≤ env.get "shift" 0) (hs' : env.get "shift" 0 ≤ 512)
    (hl : Limbs64x8 env "l") (hL : lval8 env "l" ≤ (2 ^ 256 - 1) * (2 ^ 256 - 1)) :
    ShiftPost (lval8 env "l") (env.get "shift" 0) (runR env (Gen.scalar4x64.scalar_mul_shift_var.body.drop 204)) := by
  have hf : ∀ i, i < 8 → env.get "l" i < 2 ^ 64 := fun i hi =>
    LimbList.readL_forall.1 ((limbs8_iff ..).1 hl) i (Nat.zero_le _) (by omega)
  rw [lval8_eq, show LimbList.valL 64 (LimbList.readL env "l" 0 8) = L8 (env.get "l") from rfl] at hL ⊢
  generalize hsh : env.get "shift" 0 = s at hs hs' ⊢
  rw [part2_body]
  simp only [Gen.scalar4x64.scalar_mul_shift_var, List.drop_succ_cons, List.drop_zero, List.take_succ_cons, List.take_zero,
    List.cons_append, List.nil_append]
  steps 3 [hsh, ev_cond]
  vstep r0 [hsh, ev_cond]
  vstep r1 [hsh, ev_cond]
  vstep r2 [hsh, ev_cond]
  vstep r3 [hsh, ev_cond]
  steps 1 [hsh, ev_cond]
  vstep flag [hsh, ev_cond]
  rw [limb_spec (env.get "l") hf s 0 1 512 448 hs hs' (by decide) rfl rfl rfl] at r0_def
  rw [limb_spec (env.get "l") hf s 1 2 448 384 hs hs' (by decide) rfl rfl rfl] at r1_def
  rw [limb_spec (env.get "l") hf s 2 3 384 320 hs hs' (by decide) rfl rfl rfl] at r2_def
  rw [limb3_spec (env.get "l") hf s hs hs'] at r3_def
  rw [flag_spec (env.get "l") hf s hs hs'] at flag_def
  obtain ⟨hflag, hno, hval⟩ := mulshift_arith (env.get "l") s hs hs' hL r0_def r1_def r2_def r3_def flag_def
  have R0 : r0 < 2 ^ 64 := r0_def ▸ Nat.mod_lt _ (by decide)
  have R1 : r1 < 2 ^ 64 := r1_def ▸ Nat.mod_lt _ (by decide)
  have R2 : r2 < 2 ^ 64 := r2_def ▸ Nat.mod_lt _ (by decide)
  have R3 : r3 < 2 ^ 64 := r3_def ▸ Nat.mod_lt _ (by decide)
  clear r0_def r1_def r2_def r3_def flag_def
  rw [val4_valL] at hno hval
  refine LimbChain.cadd_run (c64 "scalar_cadd_bit_52.t") (S := LimbChain.written "scalar_cadd_bit_52.t" caddLs)
    (fn := "scalar_cadd_bit_52.flag") (n := 4) List.mem_cons_self (by decide +kernel) (by decide) rfl ⟨_, _, _, _, _, rfl⟩
    (LimbChain.goodB_sound _ _ (by decide +kernel)) (by decide +kernel) (by decide)
    (fun env x h => ev_id64 env x (h (LimbChain.limbs64_out _ _ _))) (ev_caddInc64 _) (LimbChain.atoms_limbs64 ..) (env := _)
    (show ∀ d ∈ LimbList.readL _ "r.d" 0 4, d < 2 ^ 64 from ?_) (show Env.get _ "scalar_cadd_bit_52.bit" 0 < 256 from ?_)
    (show Env.get _ "scalar_cadd_bit_52.flag" 0 ≤ 1 from ?_)
    (show LimbList.valL 64 (LimbList.readL _ "r.d" 0 4) + Env.get _ "scalar_cadd_bit_52.flag" 0 *
      2 ^ Env.get _ "scalar_cadd_bit_52.bit" 0 < 2 ^ (64 * 4) from ?_) fun env' h1 h2 => ?_
  · reads [LimbList.readL, Nat.reduceAdd]
    simpa only [List.forall_mem_cons, List.not_mem_nil, false_imp_iff, implies_true, and_true] using ⟨R0, R1, R2, R3⟩
  · reads []; decide
  · reads []; exact hflag
  · reads [LimbList.readL, Nat.reduceAdd]; exact hno
  refine ⟨(sval_eq env' "r.d").trans (h2.trans ?_), (limbs64_iff ..).2 h1⟩
  show LimbList.valL 64 (LimbList.readL _ "r.d" 0 4) + Env.get _ "scalar_cadd_bit_52.flag" 0 *
    2 ^ Env.get _ "scalar_cadd_bit_52.bit" 0 = _
  reads [LimbList.readL, Nat.reduceAdd]
  exact hval

theorem mulshift_run (env : Env) (ha : Limbs64 env "a.d") (hb : Limbs64 env "b.d") (hs : 256 ≤ env.get "shift" 0)
    (hs' : env.get "shift" 0 ≤ 512) :
    ShiftPost (sval env "a.d" * sval env "b.d") (env.get "shift" 0) (runR env Gen.scalar4x64.scalar_mul_shift_var.body) := by
  obtain ⟨hnone, hsh, hprod, h8⟩ := scalar_mul_part1 env ha hb
  rw [← mulshift_part1] at hnone hsh hprod h8
  rw [runR_take_drop 204 _ env hnone, ← hsh, ← hprod]
  rw [← hsh] at hs hs'
  refine mulshift_part2 _ hs hs' h8 (hprod ▸ Nat.mul_le_mul ?_ ?_)
  · exact Nat.le_sub_one_of_lt (val4_lt ha.1 ha.2.1 ha.2.2.1 ha.2.2.2)
  · exact Nat.le_sub_one_of_lt (val4_lt hb.1 hb.2.1 hb.2.2.1 hb.2.2.2)

/-- **`secp256k1_scalar_mul_shift_var` is exact, for every admissible shift.**  For ALL 64-bit limb values of `a`
    and `b` (reduced or not) and EVERY `shift` with `256 ≤ shift ≤ 512` (the C function's `VERIFY_CHECK(shift >= 256)`;
    above `512` nothing of the 512-bit product is left): the product divided by `2^shift` and rounded to nearest,
    ties up. -/
theorem scalar_mul_shift_var_correct (env : Env) (ha : Limbs64 env "a.d") (hb : Limbs64 env "b.d")
    (hs : 256 ≤ env.get "shift" 0) (hs' : env.get "shift" 0 ≤ 512) :
    sval (execL env Gen.scalar4x64.scalar_mul_shift_var.body).env "r.d" =
      (sval env "a.d" * sval env "b.d" + 2 ^ (env.get "shift" 0 - 1)) / 2 ^ env.get "shift" 0 ∧
    Limbs64 (execL env Gen.scalar4x64.scalar_mul_shift_var.body).env "r.d" := by
  exact mulshift_run env ha hb hs hs'

set_option exponentiation.threshold 600 in
/-- **The instance the library uses** (`secp256k1_scalar_split_lambda` calls the function with `shift = 384` only):
    for ALL 64-bit limb values of `a` and `b`, `r = (a · b + 2^383) / 2^384` — the product divided by `2^384`,
    rounded to nearest (ties up) — in four 64-bit limbs; and `r ≤ 2^128` (since `a, b < 2^256`). -/
theorem scalar_mul_shift_var_384_correct (env : Env) (ha : Limbs64 env "a.d") (hb : Limbs64 env "b.d")
    (hsh : env.get "shift" 0 = 384) :
    sval (execL env Gen.scalar4x64.scalar_mul_shift_var.body).env "r.d" =
      (sval env "a.d" * sval env "b.d" + 2 ^ 383) / 2 ^ 384 ∧
    Limbs64 (execL env Gen.scalar4x64.scalar_mul_shift_var.body).env "r.d" ∧
    sval (execL env Gen.scalar4x64.scalar_mul_shift_var.body).env "r.d" ≤ 2 ^ 128 := by
  obtain ⟨h, hl⟩ := scalar_mul_shift_var_correct env ha hb (by rw [hsh]; decide) (by rw [hsh]; decide)
  rw [hsh, show 384 - 1 = 383 from rfl] at h
  refine ⟨h, hl, ?_⟩
  rw [h]
  obtain ⟨A0, A1, A2, A3⟩ := ha
  obtain ⟨B0, B1, B2, B3⟩ := hb
  have hA : sval env "a.d" ≤ 2 ^ 256 - 1 := Nat.le_sub_one_of_lt (val4_lt A0 A1 A2 A3)
  have hB : sval env "b.d" ≤ 2 ^ 256 - 1 := Nat.le_sub_one_of_lt (val4_lt B0 B1 B2 B3)
  have hP := Nat.mul_le_mul hA hB
  have hc : (2 ^ 256 - 1) * (2 ^ 256 - 1) + 2 ^ 383 < 2 ^ 384 * (2 ^ 128 + 1) := by decide
  exact Nat.le_of_lt_succ (Nat.div_lt_of_lt_mul (Nat.lt_of_le_of_lt (Nat.add_le_add_right hP _) hc))

def shEnv (a0 a1 a2 a3 b0 b1 b2 b3 shift : Nat) : Env :=
  (("shift", 0), shift) :: abEnv a0 a1 a2 a3 b0 b1 b2 b3

/-- The carry example.  `b = 2^255 + 0xDEADBEEFCAFEBABE0123456789ABCDEF` and `a = ⌈T / b⌉` for the target
    `T = (0x0123456789ABCDEF·2^64 + (2^64−1))·2^384 + 2^383`: the truncated quotient `a·b >> 384` has an ALL-ONES low
    limb and bit 383 of the product is `1`, so the rounding increment carries out of limb 0 into limb 1. -/
def carryEnv (shift : Nat) : Env :=
  shEnv 9973695065582945487 18161487345096163206 18446744073709551614 163971058432973791
        81985529216486895 16045690984503098046 0 9223372036854775808 shift

def RIs (x0 x1 x2 x3 : Nat) (out : Env) : Prop :=
  out.get "r.d" 0 = x0 ∧ out.get "r.d" 1 = x1 ∧ out.get "r.d" 2 = x2 ∧ out.get "r.d" 3 = x3

instance (x0 x1 x2 x3 : Nat) (out : Env) : Decidable (RIs x0 x1 x2 x3 out) := by unfold RIs; infer_instance

/-- the output limbs, read off `scalar_mul_shift_var_correct`: 64-bit limbs are determined by the number they
    represent -/
theorem mulshift_limbs (env : Env) (ha : Limbs64 env "a.d") (hb : Limbs64 env "b.d")
    (hs : 256 ≤ env.get "shift" 0) (hs' : env.get "shift" 0 ≤ 512) {x0 x1 x2 x3 : Nat}
    (e : (sval env "a.d" * sval env "b.d" + 2 ^ (env.get "shift" 0 - 1)) / 2 ^ env.get "shift" 0 = val4 x0 x1 x2 x3)
    (X0 : x0 < 2 ^ 64) (X1 : x1 < 2 ^ 64) (X2 : x2 < 2 ^ 64) :
    RIs x0 x1 x2 x3 (execL env Gen.scalar4x64.scalar_mul_shift_var.body).env := by
  obtain ⟨h, R0, R1, R2, R3⟩ := scalar_mul_shift_var_correct env ha hb hs hs'
  rw [e] at h
  simp only [sval, val4] at h
  unfold RIs
  omega

/-- Non-vacuity of `scalar_mul_shift_var_384_correct`, on the carry example: the hypotheses hold; the truncated
    quotient is `0x0123456789ABCDEF·2^64 + (2^64 − 1)` (low limb all ones) and bit 383 of the product is set; the
    theorem then gives `r = 0x0123456789ABCDF0·2^64` (the increment has carried into limb 1), i.e. the limbs
    `(0, 0x0123456789ABCDF0, 0, 0)`.
    (A `cadd_bit` without carry propagation would leave `(0, 0x0123456789ABCDEF, 0, 0)`.) -/
example : Limbs64 (carryEnv 384) "a.d" ∧ Limbs64 (carryEnv 384) "b.d" ∧ (carryEnv 384).get "shift" 0 = 384 ∧
    sval (carryEnv 384) "a.d" * sval (carryEnv 384) "b.d" / 2 ^ 384 = 81985529216486895 * 2 ^ 64 + (2 ^ 64 - 1) ∧
    sval (carryEnv 384) "a.d" * sval (carryEnv 384) "b.d" / 2 ^ 383 % 2 = 1 ∧
    sval (execL (carryEnv 384) Gen.scalar4x64.scalar_mul_shift_var.body).env "r.d" = 81985529216486896 * 2 ^ 64 ∧
    RIs 0 81985529216486896 0 0 (execL (carryEnv 384) Gen.scalar4x64.scalar_mul_shift_var.body).env := by
  have ha : Limbs64 (carryEnv 384) "a.d" := by decide +kernel
  have hb : Limbs64 (carryEnv 384) "b.d" := by decide +kernel
  have hsh : (carryEnv 384).get "shift" 0 = 384 := by decide +kernel
  obtain ⟨h, _, _⟩ := scalar_mul_shift_var_384_correct (carryEnv 384) ha hb hsh
  exact ⟨ha, hb, hsh, by decide +kernel, by decide +kernel, h.trans (by decide +kernel),
    mulshift_limbs _ ha hb (by decide +kernel) (by decide +kernel) (by decide +kernel) (by decide) (by decide) (by decide)⟩

/-- Non-vacuity of `scalar_mul_shift_var_correct` at a shift that is NOT a multiple of 64 (`shift = 300`:
    `shiftlimbs = 4`, `shiftlow = 44`, every `r->d[j]` is glued from two limbs of `l`), on the same operands: the
    hypotheses hold, and the theorem gives the limbs of the rounded quotient. -/
example : Limbs64 (carryEnv 300) "a.d" ∧ Limbs64 (carryEnv 300) "b.d" ∧
    256 ≤ (carryEnv 300).get "shift" 0 ∧ (carryEnv 300).get "shift" 0 ≤ 512 ∧
    sval (execL (carryEnv 300) Gen.scalar4x64.scalar_mul_shift_var.body).env "r.d" =
      val4 0 18446744073709027328 6230900220452929535 4660 ∧
    RIs 0 18446744073709027328 6230900220452929535 4660
      (execL (carryEnv 300) Gen.scalar4x64.scalar_mul_shift_var.body).env := by
  have ha : Limbs64 (carryEnv 300) "a.d" := by decide +kernel
  have hb : Limbs64 (carryEnv 300) "b.d" := by decide +kernel
  have hs : 256 ≤ (carryEnv 300).get "shift" 0 := by decide +kernel
  have hs' : (carryEnv 300).get "shift" 0 ≤ 512 := by decide +kernel
  obtain ⟨h, _⟩ := scalar_mul_shift_var_correct (carryEnv 300) ha hb hs hs'
  have e : (sval (carryEnv 300) "a.d" * sval (carryEnv 300) "b.d" + 2 ^ ((carryEnv 300).get "shift" 0 - 1)) /
      2 ^ (carryEnv 300).get "shift" 0 = val4 0 18446744073709027328 6230900220452929535 4660 := by decide +kernel
  exact ⟨ha, hb, hs, hs', h.trans e, mulshift_limbs _ ha hb hs hs' e (by decide) (by decide) (by decide)⟩

/-- The boundary cases of the general theorem are inhabited as well: `shift = 512` with `a = b = 2^256 − 1` (nothing
    of the product is left, but bit 511 is set: `r = 1`), and `shift = 256` with the same operands
    (`r = 2^256 − 2`, the largest possible quotient; the rounding bit is `0`). -/
example : Limbs64 (shEnv 18446744073709551615 18446744073709551615 18446744073709551615 18446744073709551615
      18446744073709551615 18446744073709551615 18446744073709551615 18446744073709551615 512) "a.d" ∧
    RIs 1 0 0 0 (execL (shEnv 18446744073709551615 18446744073709551615 18446744073709551615 18446744073709551615
      18446744073709551615 18446744073709551615 18446744073709551615 18446744073709551615 512)
      Gen.scalar4x64.scalar_mul_shift_var.body).env :=
  ⟨by decide +kernel,
   mulshift_limbs _ (by decide +kernel) (by decide +kernel) (by decide +kernel) (by decide +kernel) (by decide +kernel)
     (by decide) (by decide) (by decide)⟩

example : Limbs64 (shEnv 18446744073709551615 18446744073709551615 18446744073709551615 18446744073709551615
      18446744073709551615 18446744073709551615 18446744073709551615 18446744073709551615 256) "a.d" ∧
    RIs 18446744073709551614 18446744073709551615 18446744073709551615 18446744073709551615
      (execL (shEnv 18446744073709551615 18446744073709551615 18446744073709551615 18446744073709551615
      18446744073709551615 18446744073709551615 18446744073709551615 18446744073709551615 256)
      Gen.scalar4x64.scalar_mul_shift_var.body).env :=
  ⟨by decide +kernel,
   mulshift_limbs _ (by decide +kernel) (by decide +kernel) (by decide +kernel) (by decide +kernel) (by decide +kernel)
     (by decide) (by decide) (by decide)⟩

end C05shift
end SecpZkp
