import SecpZkp.Gen.P_keys
import SecpZkp.Model.Keys
import SecpZkp.Proofs.AlgIRLemmas
import SecpZkp.Proofs.Algebra
import SecpZkp.Proofs.BytesBasic
import SecpZkp.Proofs.GroupLawProved
import SecpZkp.Proofs.Keys
/-
  Property C04 (part "ir"): the REGENERATED key functions of `secp256k1.c` (`Gen/P_keys.lean`, translator mode P:
  `secp256k1_ec_seckey_negate`, `_ec_seckey_tweak_add`, `_ec_seckey_tweak_mul`, `_ec_pubkey_negate`,
  `_ec_pubkey_tweak_add`, `_ec_pubkey_tweak_mul`, with their helpers inlined as `scope`s) compute exactly the
  hand-written model functions of `Model/Keys.lean`: return value, the updated key (the 32 bytes `seckey`, zeroed on
  failure; the point object `pubkey`, the all-zero object `Pt.inf` on failure) and the number of illegal-argument
  callbacks.

  Hypotheses beyond "the state binds the inputs":
  * pubkey functions: the callback counter `illegal` starts at 0.
  * `ec_pubkey_tweak_add`: the key object is a valid point (or all-zero).  The C code computes `1·Q + t·G` with
    `secp256k1_ecmult`, the model `Q + t·G`; `1·Q = Q` (`Pt.mul 1 q = q`) holds for valid points only (for a "point"
    with non-canonical coordinates `Pt.mul` reduces them).  Objects produced by the library are always valid.
  * `ec_pubkey_tweak_mul`: the scalar name `@null` (the translator's name for the NULL `ng` argument of
    `secp256k1_ecmult`) is not bound to a non-zero value.
  No length hypotheses are needed (`Bytes.toNat` is total; the model uses the same conversion).
  The standalone helper programs of `Gen/P_keys.lean` (`eckey_privkey_tweak_add`, `_mul`, `eckey_pubkey_tweak_add`, `_mul`)
  have no theorem of their own and are not among the programs `p_run` executes: they are covered as the inlined copies
  inside the public functions.
-/
namespace SecpZkp
namespace C04ir
open MiniC AlgIR SecpZkp.Algebra KeysLemmas

theorem be32_zero_mod : Bytes.be32 (0 % N) = Bytes.zeros 32 := by decide
theorem be32_neg_zero_mod : Bytes.be32 (Sc.neg (0 % N)) = Bytes.zeros 32 := by decide +kernel
theorem one_mod_N : 1 % N = 1 := by decide +kernel
theorem mulG_zero_mod : Pt.mulG (0 % N) = Pt.inf := by decide +kernel

/-- the validity flag of `secp256k1_scalar_set_b32_seckey`: the IR's reading and that of `Sc.setB32Seckey_eq` -/
theorem seckey_flag (v : Nat) : (v < N ∧ v ≠ 0) ↔ (0 < v ∧ v < N) := by omega

/-- A 0/1 result flag `c` and an output selected by it (`b` on failure), against a model result in normal form
    `if c' then (1, a') else (0, b)`: it is enough that the conditions agree and, on success, the values. -/
theorem flag_pair {α : Type} {c c' : Prop} [Decidable c] [Decidable c'] (h : c ↔ c') {a a' b : α} (ha : c' → a = a') :
    (if c then 1 else 0) = (if c' then (1, a') else (0, b)).1 ∧
    (if ¬ c then b else a) = (if c' then (1, a') else (0, b)).2 := by
  by_cases hc : c'
  · simp only [h, hc, if_true, not_true_eq_false, if_false, ha hc, and_self]
  · simp only [h, hc, if_false, not_false_eq_true, if_true, and_self]

/-- `1·Q = Q` for a valid point (the C code computes `1·Q + t·G` with `secp256k1_ecmult`) -/
theorem mul_one_valid {q : Pt} (hq : q.valid = true) : Pt.mul 1 q = q := by
  have h := groupLaw.mul_succ 0 q hq (lt_mulBound_of_lt_N (show 0 + 1 < N by decide +kernel))
  rw [groupLaw.mul_zero] at h
  rw [h]; exact add_inf_left q

theorem seckey_negate_eq (st : State) (hret : st.returned = false) :
    (execL st Gen.Pkeys.ec_seckey_negate.body).ints.get "ret" 0 = (Keys.seckeyNegate (st.byGet "seckey")).1 ∧
    (execL st Gen.Pkeys.ec_seckey_negate.body).byGet "seckey" = (Keys.seckeyNegate (st.byGet "seckey")).2 := by
  obtain ⟨sc, fe, pt, bs, ints, rfl⟩ := st.exists_mk hret
  unfold Gen.Pkeys.ec_seckey_negate
  simp only [alg_run, seckeyNegate_eq, be32_neg_zero_mod]
  exact flag_pair (seckey_flag _) fun h => by rw [Nat.mod_eq_of_lt h.2, Sc.neg_eq_of_pos h.1 h.2]

theorem seckey_tweak_add_eq (st : State) (hret : st.returned = false) :
    (execL st Gen.Pkeys.ec_seckey_tweak_add.body).ints.get "ret" 0 =
      (Keys.seckeyTweakAdd (st.byGet "seckey") (st.byGet "tweak32")).1 ∧
    (execL st Gen.Pkeys.ec_seckey_tweak_add.body).byGet "seckey" =
      (Keys.seckeyTweakAdd (st.byGet "seckey") (st.byGet "tweak32")).2 := by
  obtain ⟨sc, fe, pt, bs, ints, rfl⟩ := st.exists_mk hret
  unfold Gen.Pkeys.ec_seckey_tweak_add
  simp only [alg_run, seckeyTweakAdd_eq, be32_zero_mod]
  exact flag_pair (by simp only [seckey_flag, Sc.add, ← Nat.add_mod, not_le, ge_iff_le, ne_eq]) fun _ => by
    simp only [Sc.add, ← Nat.add_mod]

theorem seckey_tweak_mul_eq (st : State) (hret : st.returned = false) :
    (execL st Gen.Pkeys.ec_seckey_tweak_mul.body).ints.get "ret" 0 =
      (Keys.seckeyTweakMul (st.byGet "seckey") (st.byGet "tweak32")).1 ∧
    (execL st Gen.Pkeys.ec_seckey_tweak_mul.body).byGet "seckey" =
      (Keys.seckeyTweakMul (st.byGet "seckey") (st.byGet "tweak32")).2 := by
  obtain ⟨sc, fe, pt, bs, ints, rfl⟩ := st.exists_mk hret
  unfold Gen.Pkeys.ec_seckey_tweak_mul
  simp only [alg_run, seckeyTweakMul_eq, be32_zero_mod]
  exact flag_pair (and_congr (seckey_flag _) (by
      rw [ge_iff_le, not_le]; exact and_congr_right fun h => by rw [Nat.mod_eq_of_lt h])) fun _ => by
    simp only [Sc.mul, ← Nat.mul_mod]

theorem pubkey_negate_eq (st : State) (hret : st.returned = false) (hill : st.ints.get "illegal" 0 = 0) :
    (execL st Gen.Pkeys.ec_pubkey_negate.body).ints.get "ret" 0 = (Keys.pubkeyNegate (st.ptGet "pubkey")).ret ∧
    (execL st Gen.Pkeys.ec_pubkey_negate.body).ptGet "pubkey" = (Keys.pubkeyNegate (st.ptGet "pubkey")).out ∧
    (execL st Gen.Pkeys.ec_pubkey_negate.body).ints.get "illegal" 0 =
      (Keys.pubkeyNegate (st.ptGet "pubkey")).illegal := by
  obtain ⟨sc, fe, pt, bs, ints, rfl⟩ := st.exists_mk hret
  simp only [alg_run] at hill
  unfold Gen.Pkeys.ec_pubkey_negate
  simp only [alg_run, hill]
  cases lookup Pt.inf pt "pubkey" <;> simp [Keys.pubkeyNegate]

/-- The decision tree that symbolic execution leaves of `secp256k1_ec_pubkey_tweak_add`, and of
    `secp256k1_xonly_pubkey_tweak_add` (`Props/C01_api_ir.lean`), is `Keys.pubkeyTweakAdd`. -/
theorem tweak_add_tree (q : Pt) (tw : Bytes) :
    (if q = .inf then 0
      else if ¬ tw.toNat ≥ N then if (Pt.add q (Pt.mulG (tw.toNat % N))).isInf = true then 0 else 1
      else 0) = (Keys.pubkeyTweakAdd q tw).ret ∧
    (if q = .inf then Pt.inf
      else if ¬ tw.toNat ≥ N then
        if (Pt.add q (Pt.mulG (tw.toNat % N))).isInf = true then Pt.inf else Pt.add q (Pt.mulG (tw.toNat % N))
      else Pt.inf) = (Keys.pubkeyTweakAdd q tw).out ∧
    (if q = .inf then 1 else 0) = (Keys.pubkeyTweakAdd q tw).illegal := by
  cases q with
  | inf => simp [Keys.pubkeyTweakAdd]
  | aff x y =>
    simp only [Keys.pubkeyTweakAdd, Ecdsa.pubkeyTweakAddHelper, Sc.setB32, reduceCtorEq, if_false, decide_eq_true_eq]
    by_cases hov : tw.toNat ≥ N
    · simp [hov]
    · simp only [hov, not_false_eq_true, if_true, if_false]
      generalize Pt.add (Pt.aff x y) (Pt.mulG (tw.toNat % N)) = R
      cases R <;> simp [Pt.isInf]

theorem pubkey_tweak_add_eq (st : State) (hret : st.returned = false) (hill : st.ints.get "illegal" 0 = 0)
    (hpk : (st.ptGet "pubkey").valid = true) :
    (execL st Gen.Pkeys.ec_pubkey_tweak_add.body).ints.get "ret" 0 =
      (Keys.pubkeyTweakAdd (st.ptGet "pubkey") (st.byGet "tweak32")).ret ∧
    (execL st Gen.Pkeys.ec_pubkey_tweak_add.body).ptGet "pubkey" =
      (Keys.pubkeyTweakAdd (st.ptGet "pubkey") (st.byGet "tweak32")).out ∧
    (execL st Gen.Pkeys.ec_pubkey_tweak_add.body).ints.get "illegal" 0 =
      (Keys.pubkeyTweakAdd (st.ptGet "pubkey") (st.byGet "tweak32")).illegal := by
  obtain ⟨sc, fe, pt, bs, ints, rfl⟩ := st.exists_mk hret
  simp only [alg_run] at hill hpk
  unfold Gen.Pkeys.ec_pubkey_tweak_add
  simp only [alg_run, hill, one_mod_N, mul_one_valid hpk, Nat.zero_add]
  exact tweak_add_tree _ _

/-- No validity needed; on tweak overflow the key is not loaded, hence no callback even for the all-zero object — on
    both sides. -/
theorem pubkey_tweak_mul_eq (st : State) (hret : st.returned = false) (hill : st.ints.get "illegal" 0 = 0)
    (hnull : st.scGet "@null" = 0) :
    (execL st Gen.Pkeys.ec_pubkey_tweak_mul.body).ints.get "ret" 0 =
      (Keys.pubkeyTweakMul (st.ptGet "pubkey") (st.byGet "tweak32")).ret ∧
    (execL st Gen.Pkeys.ec_pubkey_tweak_mul.body).ptGet "pubkey" =
      (Keys.pubkeyTweakMul (st.ptGet "pubkey") (st.byGet "tweak32")).out ∧
    (execL st Gen.Pkeys.ec_pubkey_tweak_mul.body).ints.get "illegal" 0 =
      (Keys.pubkeyTweakMul (st.ptGet "pubkey") (st.byGet "tweak32")).illegal := by
  obtain ⟨sc, fe, pt, bs, ints, rfl⟩ := st.exists_mk hret
  simp only [alg_run] at hill hnull
  unfold Gen.Pkeys.ec_pubkey_tweak_mul
  simp only [alg_run, hill, hnull, mulG_zero_mod, add_inf_right]
  generalize lookup (Bytes.zeros 32) bs "tweak32" = tw
  simp only [Keys.pubkeyTweakMul, Sc.setB32, decide_eq_true_eq]
  by_cases hov : tw.toNat ≥ N
  · simp [hov]
  · cases lookup Pt.inf pt "pubkey" with
    | inf => simp [hov]
    | aff x y => by_cases hz : tw.toNat % N = 0 <;> simp [hov, hz]

/-! Non-vacuity: concrete instances (the model evaluated by the kernel, the program's results by the theorems). -/

def exSt : State :=
  { bs := [("seckey", Bytes.be32 5), ("tweak32", Bytes.be32 7)], pt := [("pubkey", Pt.G)] }

example : exSt.returned = false ∧ exSt.ints.get "illegal" 0 = 0 ∧ (exSt.ptGet "pubkey").valid = true ∧
    exSt.scGet "@null" = 0 := by decide +kernel

example : (execL exSt Gen.Pkeys.ec_seckey_negate.body).ints.get "ret" 0 = 1 ∧
    (execL exSt Gen.Pkeys.ec_seckey_negate.body).byGet "seckey" = Bytes.be32 (N - 5) ∧
    Keys.seckeyNegate (Bytes.be32 5) = (1, Bytes.be32 (N - 5)) := by
  have m : Keys.seckeyNegate (Bytes.be32 5) = (1, Bytes.be32 (N - 5)) := by decide +kernel
  have h := seckey_negate_eq exSt rfl
  exact ⟨h.1.trans (congrArg (·.1) m), h.2.trans (congrArg (·.2) m), m⟩

example : (execL exSt Gen.Pkeys.ec_seckey_tweak_add.body).ints.get "ret" 0 = 1 ∧
    (execL exSt Gen.Pkeys.ec_seckey_tweak_add.body).byGet "seckey" = Bytes.be32 12 ∧
    Keys.seckeyTweakAdd (Bytes.be32 5) (Bytes.be32 7) = (1, Bytes.be32 12) := by
  have m : Keys.seckeyTweakAdd (Bytes.be32 5) (Bytes.be32 7) = (1, Bytes.be32 12) := by decide +kernel
  have h := seckey_tweak_add_eq exSt rfl
  exact ⟨h.1.trans (congrArg (·.1) m), h.2.trans (congrArg (·.2) m), m⟩

example : (execL exSt Gen.Pkeys.ec_seckey_tweak_mul.body).ints.get "ret" 0 = 1 ∧
    (execL exSt Gen.Pkeys.ec_seckey_tweak_mul.body).byGet "seckey" = Bytes.be32 35 ∧
    Keys.seckeyTweakMul (Bytes.be32 5) (Bytes.be32 7) = (1, Bytes.be32 35) := by
  have m : Keys.seckeyTweakMul (Bytes.be32 5) (Bytes.be32 7) = (1, Bytes.be32 35) := by decide +kernel
  have h := seckey_tweak_mul_eq exSt rfl
  exact ⟨h.1.trans (congrArg (·.1) m), h.2.trans (congrArg (·.2) m), m⟩

/-- a failing case: the tweak `n - 5` makes the sum zero; both sides return 0 and zero the key -/
example : (execL { exSt with bs := [("seckey", Bytes.be32 5), ("tweak32", Bytes.be32 (N - 5))] }
      Gen.Pkeys.ec_seckey_tweak_add.body).ints.get "ret" 0 = 0 ∧
    (execL { exSt with bs := [("seckey", Bytes.be32 5), ("tweak32", Bytes.be32 (N - 5))] }
      Gen.Pkeys.ec_seckey_tweak_add.body).byGet "seckey" = Bytes.zeros 32 ∧
    Keys.seckeyTweakAdd (Bytes.be32 5) (Bytes.be32 (N - 5)) = (0, Bytes.zeros 32) := by
  have m : Keys.seckeyTweakAdd (Bytes.be32 5) (Bytes.be32 (N - 5)) = (0, Bytes.zeros 32) := by decide +kernel
  have h := seckey_tweak_add_eq { exSt with bs := [("seckey", Bytes.be32 5), ("tweak32", Bytes.be32 (N - 5))] } rfl
  exact ⟨h.1.trans (congrArg (·.1) m), h.2.trans (congrArg (·.2) m), m⟩

example : (execL exSt Gen.Pkeys.ec_pubkey_negate.body).ints.get "ret" 0 = 1 ∧
    (execL exSt Gen.Pkeys.ec_pubkey_negate.body).ptGet "pubkey" = Pt.neg Pt.G ∧
    (Keys.pubkeyNegate Pt.G).out = Pt.neg Pt.G := by
  have m : (Keys.pubkeyNegate Pt.G).ret = 1 ∧ (Keys.pubkeyNegate Pt.G).out = Pt.neg Pt.G := by decide +kernel
  have h := pubkey_negate_eq exSt rfl rfl
  exact ⟨h.1.trans m.1, h.2.1.trans m.2, m.2⟩

example : (execL exSt Gen.Pkeys.ec_pubkey_tweak_add.body).ints.get "ret" 0 = 1 ∧
    (execL exSt Gen.Pkeys.ec_pubkey_tweak_add.body).ptGet "pubkey" = Pt.mulG 8 ∧
    (Keys.pubkeyTweakAdd Pt.G (Bytes.be32 7)).out = Pt.mulG 8 := by
  have m : (Keys.pubkeyTweakAdd Pt.G (Bytes.be32 7)).ret = 1 ∧
      (Keys.pubkeyTweakAdd Pt.G (Bytes.be32 7)).out = Pt.mulG 8 := by decide +kernel
  have h := pubkey_tweak_add_eq exSt rfl rfl valid_G
  exact ⟨h.1.trans m.1, h.2.1.trans m.2, m.2⟩

example : (execL exSt Gen.Pkeys.ec_pubkey_tweak_mul.body).ints.get "ret" 0 = 1 ∧
    (execL exSt Gen.Pkeys.ec_pubkey_tweak_mul.body).ptGet "pubkey" = Pt.mulG 7 ∧
    (Keys.pubkeyTweakMul Pt.G (Bytes.be32 7)).out = Pt.mulG 7 := by
  have m : (Keys.pubkeyTweakMul Pt.G (Bytes.be32 7)).ret = 1 ∧
      (Keys.pubkeyTweakMul Pt.G (Bytes.be32 7)).out = Pt.mulG 7 := by decide +kernel
  have h := pubkey_tweak_mul_eq exSt rfl rfl rfl
  exact ⟨h.1.trans m.1, h.2.1.trans m.2, m.2⟩

example : (execL { exSt with pt := [] } Gen.Pkeys.ec_pubkey_tweak_add.body).ints.get "ret" 0 = 0 ∧
    (execL { exSt with pt := [] } Gen.Pkeys.ec_pubkey_tweak_add.body).ptGet "pubkey" = Pt.inf ∧
    (execL { exSt with pt := [] } Gen.Pkeys.ec_pubkey_tweak_add.body).ints.get "illegal" 0 = 1 ∧
    (Keys.pubkeyTweakAdd Pt.inf (Bytes.be32 7)).illegal = 1 := by
  have h := pubkey_tweak_add_eq { exSt with pt := [] } rfl rfl rfl
  exact ⟨h.1, h.2.1, h.2.2, rfl⟩

end C04ir
end SecpZkp
