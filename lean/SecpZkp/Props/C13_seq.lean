/-
  C13 (tie T, mode S): facts about the CODE of `secp256k1_musig_partial_sign`, regenerated from clang's AST on every run
  (`Gen/Seq.lean`, tools/c2lean_s.py).  The hand-written model (`Props/C13.lean`: `partial_sign_wipes`, `binding`) wipes the
  secret nonce on every path; these theorems show that the C function has the statement order that makes this true of the
  code.  A change that moves the wipe below an argument check, wipes only part of the object (`isWipe` asks for
  `secp256k1_memzero_explicit(secnonce, sizeof(secp256k1_musig_secnonce))`), or drops the `y` comparison alters the
  regenerated list and breaks these theorems even when no test observes it.
-/
import SecpZkp.Gen.Seq

namespace SecpZkp
namespace Props
namespace C13seq
open Gen.Seq

def isLoad : Ev → Bool
  | .assign "secp256k1_musig_secnonce_load" => true
  | _ => false

def isWipe : Ev → Bool
  | .call "secp256k1_memzero_explicit" "secnonce" "secp256k1_musig_secnonce" => true
  | _ => false

def canExit : Ev → Bool
  | .argcheck _ _ => true
  | .ifret _ => true
  | .ret => true
  | _ => false

def mentionsLoad : Ev → Bool
  | .assign f => f == "secp256k1_musig_secnonce_load"
  | .call f _ _ => f == "secp256k1_musig_secnonce_load"
  | .argcheck fs _ => fs.contains "secp256k1_musig_secnonce_load"
  | .ifret fs => fs.contains "secp256k1_musig_secnonce_load"
  | .ifstmt fs => fs.contains "secp256k1_musig_secnonce_load"
  | _ => false

def loadIdx (l : List Ev) : Nat := l.findIdx isLoad
def wipeIdx (l : List Ev) : Nat := l.findIdx isWipe

theorem load_once : (musig_partial_sign.filter mentionsLoad).length = 1 := by decide

theorem wipe_follows_load :
    loadIdx musig_partial_sign < musig_partial_sign.length ∧
    wipeIdx musig_partial_sign = loadIdx musig_partial_sign + 1 := by decide

/-- before the load there is only the `secnonce != NULL` check (an ARG_CHECK without any call) and no-ops: nothing can
    have used the nonce, and the only earlier exit returns without having read it -/
theorem prefix_harmless :
    (musig_partial_sign.take (loadIdx musig_partial_sign)).all
      (fun e => e == .other || e == .argcheck [] []) = true := by decide

/-- every statement that can leave the function, other than the NULL check in front of the load, comes after the wipe -/
theorem every_exit_after_wipe :
    ∀ i, (h : i < musig_partial_sign.length) → canExit musig_partial_sign[i] = true →
      i < loadIdx musig_partial_sign ∨ wipeIdx musig_partial_sign < i := by decide

/-- the failed-load exit (`if (!ret) return 0`) is the statement right after the wipe -/
theorem failed_load_exit_after_wipe :
    musig_partial_sign[wipeIdx musig_partial_sign + 1]? = some (.ifret []) := by decide

def isBinding : Ev → Bool
  | .argcheck fs ms => fs == ["secp256k1_fe_equal", "secp256k1_fe_equal"] && ms == ["x", "y"]
  | _ => false

/-- the keypair / nonce binding compares both coordinates, once, after the wipe and before the signature is saved -/
theorem binding_both_coordinates :
    (musig_partial_sign.filter isBinding).length = 1 ∧
    wipeIdx musig_partial_sign < musig_partial_sign.findIdx isBinding ∧
    musig_partial_sign.findIdx isBinding <
      musig_partial_sign.findIdx (fun e => e == .call "secp256k1_musig_partial_sig_save" "partial_sig" "") := by decide

/-- the signature is written by exactly one statement, and every fallible load precedes it -/
theorem save_once_after_all_loads :
    (musig_partial_sign.filter (fun e => e == .call "secp256k1_musig_partial_sig_save" "partial_sig" "")).length = 1 ∧
    ∀ i, (h : i < musig_partial_sign.length) → canExit musig_partial_sign[i] = true →
      i < musig_partial_sign.findIdx (fun e => e == .call "secp256k1_musig_partial_sig_save" "partial_sig" "") ∨
      musig_partial_sign[i] = .ret := by decide

/-- non-vacuity: the regenerated list is the function (24 top-level statements, ending in `return 1`) -/
example : musig_partial_sign.length = 24 ∧ musig_partial_sign.getLast? = some .ret := by decide

end C13seq
end Props
end SecpZkp
