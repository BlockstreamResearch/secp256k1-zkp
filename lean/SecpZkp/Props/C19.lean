/-
  C19: the Bulletproofs++ norm argument (`src/modules/bppp/bppp_norm_product_impl.h`) and the generator
  lists (`main_impl.h`).

  What `secp256k1_bppp_rangeproof_norm_product_verify` rejects before looking at the equation, and that it returns 1
  exactly when all guards pass and the final multi-exponentiation equation holds, for ALL byte strings, sizes and
  scratch spaces (`verify_guards_*`, `verify_iff_spec`); `secp256k1_bppp_generators_create` is prefix consistent
  (`gens_prefix`); one prover round preserves the committed relation (`fold_step`); honest proofs verify
  (`norm_arg_complete`).
-/
import SecpZkp.Proofs.BpppComplete
import SecpZkp.Props.C19_codec
import SecpZkp.Proofs.GroupLawProved

namespace SecpZkp
namespace C19

open Bppp

section Guards
variable (scratch : Scratch) (proof : Bytes) (transcript : Sha256.State) (rho : Nat)
  (gens : List Pt) (gLen : Nat) (cVec : List Nat) (commit : Pt)

example : isPowerOfTwo 64 = true ∧ isPowerOfTwo 48 = false ∧ isPowerOfTwo 0 = false := by decide

/-- In every case (accept, reject, allocation failure) the scratch space comes back with its allocation pointer
restored. -/
theorem verify_scratch_restored : (verify scratch proof transcript rho gens gLen cVec commit).2 = scratch := by
  rw [verify_eq]

theorem verify_ret01 : (verify scratch proof transcript rho gens gLen cVec commit).1 = 0 ∨
    (verify scratch proof transcript rho gens gLen cVec commit).1 = 1 := by
  rw [verify_eq]
  simp only []
  split
  · split
    · exact Or.inl rfl
    · split
      · exact Or.inr rfl
      · exact Or.inl rfl
  · exact Or.inl rfl

theorem verify_zero_of_not_guards (h : ¬ Guards scratch proof rho gens gLen cVec) :
    (verify scratch proof transcript rho gens gLen cVec commit).1 = 0 := by
  rw [verify_eq]; simp only [if_neg h]

/-- `g_len == 0 || c_vec_len == 0` -/
theorem verify_guards_empty (h : gLen = 0 ∨ cVec.length = 0) :
    (verify scratch proof transcript rho gens gLen cVec commit).1 = 0 :=
  verify_zero_of_not_guards _ _ _ _ _ _ _ _ (fun g => by unfold Guards at g; omega)

/-- `proof_len != 65 * n_rounds + 64`: too long is rejected as well as too short. -/
theorem verify_guards_len (h : proof.length ≠ 65 * nRounds gLen cVec.length + 64) :
    (verify scratch proof transcript rho gens gLen cVec commit).1 = 0 :=
  verify_zero_of_not_guards _ _ _ _ _ _ _ _ (fun g => by unfold Guards at g; omega)

/-- the `!=` versus `<` distinction in the length check -/
theorem verify_guards_trailing (extra : Bytes) (hlen : proof.length = 65 * nRounds gLen cVec.length + 64)
    (hne : extra ≠ []) :
    (verify scratch (proof ++ extra) transcript rho gens gLen cVec commit).1 = 0 := by
  apply verify_guards_len
  have : 0 < extra.length := List.length_pos_iff.mpr hne
  rw [List.length_append]; omega

theorem verify_guards_pow2_g (h : ¬ ∃ k, gLen = 2 ^ k) :
    (verify scratch proof transcript rho gens gLen cVec commit).1 = 0 :=
  verify_zero_of_not_guards _ _ _ _ _ _ _ _
    (fun g => by unfold Guards at g; exact h ((isPowerOfTwo_eq_true_iff _).1 g.2.2.2.2.1))

theorem verify_guards_pow2_c (h : ¬ ∃ k, cVec.length = 2 ^ k) :
    (verify scratch proof transcript rho gens gLen cVec commit).1 = 0 :=
  verify_zero_of_not_guards _ _ _ _ _ _ _ _
    (fun g => by unfold Guards at g; exact h ((isPowerOfTwo_eq_true_iff _).1 g.2.2.2.2.2.1))

/-- `g_vec->n != h_len + g_len`: too many are rejected as well as too few. -/
theorem verify_guards_gens_count (h : gens.length ≠ gLen + cVec.length) :
    (verify scratch proof transcript rho gens gLen cVec commit).1 = 0 :=
  verify_zero_of_not_guards _ _ _ _ _ _ _ _ (fun g => by unfold Guards at g; omega)

theorem verify_guards_rho_zero (h : rho = 0) :
    (verify scratch proof transcript rho gens gLen cVec commit).1 = 0 :=
  verify_zero_of_not_guards _ _ _ _ _ _ _ _ (fun g => by unfold Guards at g; omega)

theorem verify_guards_rho_zero_mod (hlt : rho < N) (h : rho % N = 0) :
    (verify scratch proof transcript rho gens gLen cVec commit).1 = 0 :=
  verify_guards_rho_zero _ _ _ _ _ _ _ _ (by rwa [Nat.mod_eq_of_lt hlt] at h)

theorem verify_guards_scalar_n (h : N ≤ Bytes.toNat (finalNBytes proof (nRounds gLen cVec.length))) :
    (verify scratch proof transcript rho gens gLen cVec commit).1 = 0 :=
  verify_zero_of_not_guards _ _ _ _ _ _ _ _ (fun g => by unfold Guards at g; omega)

theorem verify_guards_scalar_l (h : N ≤ Bytes.toNat (finalLBytes proof (nRounds gLen cVec.length))) :
    (verify scratch proof transcript rho gens gLen cVec commit).1 = 0 :=
  verify_zero_of_not_guards _ _ _ _ _ _ _ _ (fun g => by unfold Guards at g; omega)

/-- Insufficient scratch space fails closed. -/
theorem verify_guards_scratch (h : scratch.maxSize - scratch.allocSize < scratchNeed gLen cVec.length) :
    verify scratch proof transcript rho gens gLen cVec commit = (0, scratch) := by
  rw [verify_eq, if_neg (fun g => by unfold Guards at g; omega)]

/-- `idx = 0`: `X_i`, `idx = 1`: `R_i` of the 65-byte chunk of round `i` -/
theorem verify_guards_point (i : Nat) (hi : i < nRounds gLen cVec.length) (idx : Nat) (hidx : idx = 0 ∨ idx = 1)
    (hbad : parseOneOfPoints ((proof.drop (65 * i)).take 65) idx = none) :
    (verify scratch proof transcript rho gens gLen cVec commit).1 = 0 := by
  rw [verify_eq]
  simp only []
  split
  · rw [verifyEquation_none_of_bad_point _ _ _ _ _ _ _ _ _ _ _ i hi idx hidx hbad]
  · rfl

theorem verify_guards_sign_byte (i : Nat) (hi : i < nRounds gLen cVec.length)
    (hbad : ((proof.drop (65 * i)).take 65).headD 0 > 3) :
    (verify scratch proof transcript rho gens gLen cVec commit).1 = 0 :=
  verify_guards_point _ _ _ _ _ _ _ _ i hi 0 (Or.inl rfl) (points_parse _ _ hbad)

/-- The guard clauses in one statement.  An empty vector has a length that is no power of two, trailing bytes make the
length wrong, a sign byte above 3 makes a point unparsable: those three are not listed again. -/
theorem verify_guards
    (h : proof.length ≠ 65 * nRounds gLen cVec.length + 64 ∨ (¬ ∃ k, gLen = 2 ^ k) ∨
      (¬ ∃ k, cVec.length = 2 ^ k) ∨ gens.length ≠ gLen + cVec.length ∨ rho = 0 ∨
      N ≤ Bytes.toNat (finalNBytes proof (nRounds gLen cVec.length)) ∨
      N ≤ Bytes.toNat (finalLBytes proof (nRounds gLen cVec.length)) ∨
      scratch.maxSize - scratch.allocSize < scratchNeed gLen cVec.length ∨
      ∃ i idx, i < nRounds gLen cVec.length ∧ (idx = 0 ∨ idx = 1) ∧
        parseOneOfPoints ((proof.drop (65 * i)).take 65) idx = none) :
    verify scratch proof transcript rho gens gLen cVec commit = (0, scratch) := by
  apply Prod.ext
  · rcases h with h | h | h | h | h | h | h | h | ⟨i, idx, hi, hidx, hbad⟩
    · exact verify_guards_len _ _ _ _ _ _ _ _ h
    · exact verify_guards_pow2_g _ _ _ _ _ _ _ _ h
    · exact verify_guards_pow2_c _ _ _ _ _ _ _ _ h
    · exact verify_guards_gens_count _ _ _ _ _ _ _ _ h
    · exact verify_guards_rho_zero _ _ _ _ _ _ _ _ h
    · exact verify_guards_scalar_n _ _ _ _ _ _ _ _ h
    · exact verify_guards_scalar_l _ _ _ _ _ _ _ _ h
    · rw [verify_guards_scratch _ _ _ _ _ _ _ _ h]
    · exact verify_guards_point _ _ _ _ _ _ _ _ i hi idx hidx hbad
  · exact verify_scratch_restored _ _ _ _ _ _ _ _

/-- The exact acceptance condition: all guards pass, and the two multi-exponentiations of `verifyEquation` both succeed
(all `2 n_rounds` points parse) and give the same point.  The statement speaks of the model's two
multi-exponentiations as they are; that, for parsed points and generators of order dividing `N`, they are the two
sides of `commit + Σ γ_i X_i + (γ_i² - 1) R_i  =  v G + Σ s_g[i] G_i + Σ s_h[i] H_i`, with `s_g`, `s_h`, `v` in
closed form, is `Bppp.verifyEquation_good`. -/
theorem verify_iff_spec :
    (verify scratch proof transcript rho gens gLen cVec commit).1 = 1 ↔
      Guards scratch proof rho gens gLen cVec ∧
      ∃ res : Pt, verifyEquation proof transcript rho gens gLen cVec commit (nRounds gLen cVec.length)
        (log2 gLen) (Sc.setB32 (finalNBytes proof (nRounds gLen cVec.length))).1
        (Sc.setB32 (finalLBytes proof (nRounds gLen cVec.length))).1 = some (res, res) := by
  rw [verify_eq]
  simp only []
  constructor
  · intro h
    split at h
    · rename_i hg
      refine ⟨hg, ?_⟩
      split at h
      · exact absurd h (by decide)
      · rename_i r1 r2 heq
        split at h
        · rename_i he; subst he; exact ⟨r1, heq⟩
        · exact absurd h (by decide)
    · exact absurd h (by decide)
  · rintro ⟨hg, res, he⟩
    rw [if_pos hg, he]
    simp

end Guards

/-! non-vacuity of the guard theorems: concrete rejected inputs, each through its guard theorem, and a concrete
accepted proof, evaluated -/

example : nRounds 1 1 = 0 ∧ nRounds 4 2 = 2 ∧ nRounds 2 8 = 3 := by decide
-- wrong length (one trailing byte)
example : (verify ⟨1000, 0⟩ (Bytes.zeros 65) Sha256.init 1 [Pt.G, Pt.G] 1 [1] Pt.G).1 = 0 :=
  verify_guards_len _ _ _ _ _ _ _ _ (by decide)
-- g_len = 3
example : (verify ⟨1000, 0⟩ (Bytes.zeros 129) Sha256.init 1 [Pt.G, Pt.G, Pt.G, Pt.G] 3 [1] Pt.G).1 = 0 :=
  verify_guards_pow2_g _ _ _ _ _ _ _ _ (by
    rintro ⟨k, hk⟩
    match k, hk with
    | 0, hk => omega
    | 1, hk => omega
    | k + 2, hk => rw [pow_add] at hk; have := Nat.one_le_two_pow (n := k); omega)
-- three generators for g_len = h_len = 1
example : (verify ⟨1000, 0⟩ (Bytes.zeros 64) Sha256.init 1 [Pt.G, Pt.G, Pt.G] 1 [1] Pt.G).1 = 0 :=
  verify_guards_gens_count _ _ _ _ _ _ _ _ (by decide)
example : (verify ⟨1000, 0⟩ (Bytes.zeros 64) Sha256.init 0 [Pt.G, Pt.G] 1 [1] Pt.G).1 = 0 :=
  verify_guards_rho_zero _ _ _ _ _ _ _ _ rfl
-- final scalar n = N
example : (verify ⟨1000, 0⟩ (Bytes.be32 N ++ Bytes.zeros 32) Sha256.init 1 [Pt.G, Pt.G] 1 [1] Pt.G).1 = 0 :=
  verify_guards_scalar_n _ _ _ _ _ _ _ _ (by decide +kernel)
example : (verify ⟨1000, 0⟩ (Bytes.zeros 32 ++ Bytes.be32 N) Sha256.init 1 [Pt.G, Pt.G] 1 [1] Pt.G).1 = 0 :=
  verify_guards_scalar_l _ _ _ _ _ _ _ _ (by decide +kernel)
-- scratch: 0 + 32 + 32 + 0 bytes are needed, 63 are available
example : scratchNeed 1 1 = 64 := by decide
example : verify ⟨63, 0⟩ (Bytes.zeros 64) Sha256.init 1 [Pt.G, Pt.G] 1 [1] Pt.G = (0, ⟨63, 0⟩) :=
  verify_guards_scratch _ _ _ _ _ _ _ _ (by decide)
-- sign byte 4 in round 0 (g_len = 2)
example : (verify ⟨1000, 0⟩ (4 :: Bytes.zeros 128) Sha256.init 1 [Pt.G, Pt.G, Pt.G] 2 [1] Pt.G).1 = 0 :=
  verify_guards_sign_byte _ _ _ _ _ _ _ _ 0 (by decide) (by decide)
-- an accepted proof: g_len = h_len = 1 (so `n_rounds = 0` and no hashing is involved), n = 2, l = 3, rho = 1, c = [5]:
-- commit = (n² rho² + c l) G + n G + l G = 24 G
example : (verify ⟨64, 0⟩ (Bytes.be32 2 ++ Bytes.be32 3) Sha256.init 1 [Pt.G, Pt.G] 1 [5] (Pt.mulG 24)).1 = 1 := by
  decide +kernel
example : (verify ⟨64, 0⟩ (Bytes.be32 2 ++ Bytes.be32 3) Sha256.init 1 [Pt.G, Pt.G] 1 [5] (Pt.mulG 25)).1 = 0 := by
  decide +kernel

theorem gens_length (n : Nat) (l : List Pt) (h : gensCreate n = some l) : l.length = n := by
  have := gensLoop_length _ _ _ _ h
  simpa [gensCreate] using this

/-- Prefix consistency of `secp256k1_bppp_generators_create`; the only alternative to `= some l` is the `CHECK` abort of
the C code. -/
theorem gens_prefix (n k : Nat) (l : List Pt) (h : gensCreate (n + k) = some l) :
    gensCreate n = some (l.take n) := by
  have := gensLoop_prefix n k _ _ _ h
  simpa [gensCreate] using this

/-- non-vacuity: the one-element list exists (kernel evaluation of the RFC6979 stream and the hash-to-curve map) -/
example : (gensCreate 1).isSome = true := by decide +kernel
example : gensCreate 0 = some [] := rfl

theorem gens_prefix_getElem (n m : Nat) (l l' : List Pt) (hnm : n ≤ m) (h : gensCreate n = some l)
    (h' : gensCreate m = some l') (i : Nat) (hi : i < n) : l[i]? = l'[i]? := by
  obtain ⟨k, rfl⟩ := Nat.exists_eq_add_of_le hnm
  have := gens_prefix n k l' h'
  rw [h] at this
  rw [Option.some.inj this, List.getElem?_take_of_lt hi]

/-! Scalars live in the field `ZMod N`; points live in `TPt`, the `ZMod N`-module of valid points of order
dividing `N` (`Proofs/Bppp.lean`; `ofT : TPt → Pt` is the underlying point, `GT` the base point `G`).
The group law is the PROVED one (`groupLaw`), installed here. -/

open _root_.SecpZkp.Algebra Finset

local instance instGL : HasGroupLaw := ⟨groupLaw⟩

/-- `fold_step`, the algebra: for any challenge `γ` and any module over a commutative ring (`B` the base point), with
the folded `n', l', c', G', H'`, `μ' = μ²` and the prover's two points `X`, `R`,
`v' B + ⟨n', G'⟩ + ⟨l', H'⟩ = (v B + ⟨n, G⟩ + ⟨l, H⟩) + γ X + (γ² - 1) R`
with `v = |n|²_μ + ⟨c, l⟩` and `v' = |n'|²_{μ'} + ⟨c', l'⟩`. -/
theorem fold_step_algebra {R M : Type*} [CommRing R] [AddCommGroup M] [Module R M]
    (n l c : ℕ → R) (G H : ℕ → M) (B : M) (rho rhoInv mu gamma : R) (mg mh : ℕ)
    (hr : rhoInv * rho = 1) (hmu : mu = rho ^ 2) :
    (∑ j ∈ range mg, (n (2 * j) * rhoInv + n (2 * j + 1) * gamma) * (n (2 * j) * rhoInv + n (2 * j + 1) * gamma)
        * (mu ^ 2) ^ (j + 1) +
      ∑ j ∈ range mh, (c (2 * j) + c (2 * j + 1) * gamma) * (l (2 * j) + l (2 * j + 1) * gamma)) • B +
    ∑ j ∈ range mg, (n (2 * j) * rhoInv + n (2 * j + 1) * gamma) • (rho • G (2 * j) + gamma • G (2 * j + 1)) +
    ∑ j ∈ range mh, (l (2 * j) + l (2 * j + 1) * gamma) • (gamma • H (2 * j + 1) + H (2 * j)) =
    ((∑ i ∈ range (2 * mg), n i * n i * mu ^ (i + 1) + ∑ i ∈ range (2 * mh), c i * l i) • B +
      ∑ i ∈ range (2 * mg), n i • G i + ∑ i ∈ range (2 * mh), l i • H i) +
    gamma • (((∑ j ∈ range mg, n (2 * j) * n (2 * j + 1) * (mu ^ 2) ^ (j + 1)) * rhoInv +
              (∑ j ∈ range mg, n (2 * j) * n (2 * j + 1) * (mu ^ 2) ^ (j + 1)) * rhoInv +
              (∑ j ∈ range mh, c (2 * j) * l (2 * j + 1) + ∑ j ∈ range mh, c (2 * j + 1) * l (2 * j))) • B +
            ∑ i ∈ range (2 * mg), (if i % 2 = 0 then n (i + 1) * rho else n (i - 1) * rhoInv) • G i +
            ∑ i ∈ range (2 * mh), (if i % 2 = 0 then l (i + 1) else l (i - 1)) • H i) +
    (gamma ^ 2 - 1) • ((∑ j ∈ range mg, n (2 * j + 1) * n (2 * j + 1) * (mu ^ 2) ^ (j + 1) +
              ∑ j ∈ range mh, c (2 * j + 1) * l (2 * j + 1)) • B +
            ∑ j ∈ range mg, n (2 * j + 1) • G (2 * j + 1) + ∑ j ∈ range mh, l (2 * j + 1) • H (2 * j + 1)) := by
  rw [fold_G_identity n G rho rhoInv gamma hr mg, fold_H_identity l H gamma mh,
    fold_dot_identity c l gamma mh, fold_norm_identity n rho rhoInv mu gamma hr hmu mg]
  module

/-- non-vacuity: `ρ` must be invertible, so not over `ℤ`; in `ZMod N` with `ρ = 2`, all vectors of length 2,
`M = ZMod N` -/
example (n l c G H : ℕ → ZMod N) (B γ : ZMod N) :=
  fold_step_algebra n l c G H B (2 : ZMod N) (2 : ZMod N)⁻¹ ((2 : ZMod N) ^ 2) γ 1 1
    (inv_mul_cancel₀ (by
      have h : ((2 : ℕ) : ZMod N) ≠ 0 := by rw [Ne, cast_eq_zero (by decide)]; decide
      simpa using h)) rfl

/-- `fold_step`, the model: one round of the C prover loop (`proveRound`) on a well-formed state that describes the
commitment `C` (`comT`) appends two points `X`, `R` and leaves a state that describes `C + γ X + (γ² - 1) R`; of the
hash that gives `γ` only the range `< N` is used.  `μ = mu_f` and `μ' = μ²` only while `n` is still being folded
(`0 < a`); `μ' = μ` after that. -/
theorem fold_step (G : Nat) (st : ProveState) (a b : Nat) (hwf : WF G st a b) (C : TPt) (mu : ZMod N)
    (hmu : 0 < a → mu = (st.muF : ZMod N)) (hC : C = comT G st mu) :
    ∃ (X R : TPt) (st' : ProveState), proveRound G st = some st' ∧
      st'.proof = st.proof ++ serializePoints (ofT X) (ofT R) ∧
      st'.transcript = Sha256.write st.transcript (serializePoints (ofT X) (ofT R)) ∧
      WF G st' (a - 1) (b - 1) ∧
      C + (gammaOf st.transcript X R : ZMod N) • X + ((gammaOf st.transcript X R : ZMod N) ^ 2 - 1) • R =
        comT G st' (if 0 < a then mu ^ 2 else mu) := by
  obtain ⟨h1, h2, _⟩ := foldSt_spec G st a b hwf (gammaOf st.transcript (xPt G st) (rPt G st))
    (challengeScalar_lt _ _) (Sha256.write st.transcript (serializePoints (ofT (xPt G st)) (ofT (rPt G st))))
    (st.proof ++ serializePoints (ofT (xPt G st)) (ofT (rPt G st)))
  exact ⟨xPt G st, rPt G st, _, proveRound_some G st hwf.good hwf.nlt hwf.llt, rfl, rfl, h1, by rw [hC, h2 mu hmu]⟩

/-- `comT` written out, for the reader of `fold_step`. -/
theorem comT_def (G : Nat) (st : ProveState) (mu : ZMod N) :
    comT G st mu =
      (∑ i ∈ range (eL st.gLen), sv st.n i * sv st.n i * mu ^ (i + 1) +
        ∑ i ∈ range (eL st.hLen), sv st.c i * sv st.l i) • GT +
      ∑ i ∈ range (eL st.gLen), sv st.n i • pv st.g (0 + i) +
      ∑ i ∈ range (eL st.hLen), sv st.l i • pv st.g (G + i) := rfl

/-- non-vacuity: a concrete well-formed state with `g_len = 2`, `h_len = 1` (so `a = 1`, `b = 0`) -/
example : WF 2 { transcript := Sha256.init, g := [Pt.G, Pt.mulG 2, Pt.mulG 3], n := [5, 6], l := [7], c := [8],
                 gLen := 2, hLen := 1, rhoF := 3, muF := 9, proof := [] } 1 0 := by
  refine ⟨rfl, rfl, by decide, by decide, by decide, by decide, by decide, ?_, ?_, ?_, by decide, by decide,
    ?_, ?_⟩
  · apply getD_of_mem_good
    intro p hp
    simp only [List.mem_cons, List.not_mem_nil, or_false] at hp
    rcases hp with rfl | rfl | rfl
    · exact good_G
    · exact good_mulG (lt_mulBound_of_lt_N (by decide))
    · exact good_mulG (lt_mulBound_of_lt_N (by decide))
  · exact getD_lt_N (by decide)
  · exact getD_lt_N (by decide)
  · show ((3 : ℕ) : ZMod N) ≠ 0
    rw [Ne, cast_eq_zero (by decide)]; decide
  · show ((9 : ℕ) : ZMod N) = ((3 : ℕ) : ZMod N) ^ 2
    norm_num

/-- Completeness for generators that are arbitrary valid points, with the order hypothesis `hord` explicit: cofactor 1 is
not proved in this development.  `prove`, `commit` (with `μ = ρ²`) and `verify` are
`secp256k1_bppp_rangeproof_norm_product_prove`, `secp256k1_bppp_commit` and
`secp256k1_bppp_rangeproof_norm_product_verify`. -/
theorem norm_arg_complete_partial (scratch : Scratch) (transcript : Sha256.State) (rho : Nat)
    (gVec : List Pt) (nVec lVec cVec : List Nat) (a b : Nat)
    (hn : nVec.length = 2 ^ a) (hl : lVec.length = 2 ^ b) (hc : cVec.length = lVec.length)
    (hg : gVec.length = nVec.length + lVec.length)
    (hvalid : ∀ p ∈ gVec, p.valid = true) (hord : ∀ p ∈ gVec, Pt.mul N p = .inf)
    (hnlt : ∀ x ∈ nVec, x < N) (hllt : ∀ x ∈ lVec, x < N) (hrho : rho ≠ 0) (hrlt : rho < N)
    (hscr : scratchNeed nVec.length cVec.length ≤ scratch.maxSize - scratch.allocSize) :
    ∃ proof t', prove transcript rho gVec nVec lVec cVec = (1, proof, t') ∧
      proof.length = 65 * max a b + 64 ∧
      (commit gVec nVec lVec cVec (scSqr rho)).1 = 1 ∧
      verify scratch proof transcript rho gVec nVec.length cVec (commit gVec nVec lVec cVec (scSqr rho)).2
        = (1, scratch) :=
  prove_verify scratch transcript rho gVec nVec lVec cVec a b hn hl hc hg
    (fun p hp => ⟨hvalid p hp, hord p hp⟩) hnlt hllt hrho hrlt hscr

/-- The same with no hypothesis on the order of the generators, for generator lists of the form `d_i G`. -/
theorem norm_arg_complete (scratch : Scratch) (transcript : Sha256.State) (rho : Nat)
    (ds : List Nat) (nVec lVec cVec : List Nat) (a b : Nat)
    (hn : nVec.length = 2 ^ a) (hl : lVec.length = 2 ^ b) (hc : cVec.length = lVec.length)
    (hg : ds.length = nVec.length + lVec.length) (hds : ∀ d ∈ ds, d < N)
    (hnlt : ∀ x ∈ nVec, x < N) (hllt : ∀ x ∈ lVec, x < N) (hrho : rho ≠ 0) (hrlt : rho < N)
    (hscr : scratchNeed nVec.length cVec.length ≤ scratch.maxSize - scratch.allocSize) :
    ∃ proof t', prove transcript rho (ds.map Pt.mulG) nVec lVec cVec = (1, proof, t') ∧
      proof.length = 65 * max a b + 64 ∧
      (commit (ds.map Pt.mulG) nVec lVec cVec (scSqr rho)).1 = 1 ∧
      verify scratch proof transcript rho (ds.map Pt.mulG) nVec.length cVec
        (commit (ds.map Pt.mulG) nVec lVec cVec (scSqr rho)).2 = (1, scratch) :=
  prove_verify scratch transcript rho (ds.map Pt.mulG) nVec lVec cVec a b hn hl hc
    (by rw [List.length_map]; exact hg)
    (fun p hp => by
      obtain ⟨d, hd, rfl⟩ := List.mem_map.1 hp
      exact good_mulG (lt_mulBound_of_lt_N (hds d hd)))
    hnlt hllt hrho hrlt hscr

/-- `g_len = h_len = 1`: no round, no hashing -/
theorem norm_arg_complete_base (scratch : Scratch) (transcript : Sha256.State) (rho : Nat)
    (d0 d1 n0 l0 c0 : Nat) (hd0 : d0 < N) (hd1 : d1 < N) (hn0 : n0 < N) (hl0 : l0 < N)
    (hrho : rho ≠ 0) (hrlt : rho < N) (hscr : 64 ≤ scratch.maxSize - scratch.allocSize) :
    (prove transcript rho [Pt.mulG d0, Pt.mulG d1] [n0] [l0] [c0]).1 = 1 ∧
    verify scratch (prove transcript rho [Pt.mulG d0, Pt.mulG d1] [n0] [l0] [c0]).2.1 transcript rho
      [Pt.mulG d0, Pt.mulG d1] 1 [c0] (commit [Pt.mulG d0, Pt.mulG d1] [n0] [l0] [c0] (scSqr rho)).2
      = (1, scratch) := by
  obtain ⟨proof, t', h1, _, _, h4⟩ := norm_arg_complete scratch transcript rho [d0, d1] [n0] [l0] [c0] 0 0
    rfl rfl rfl rfl (by simp [hd0, hd1]) (by simp [hn0]) (by simp [hl0]) hrho hrlt
    (by have : scratchNeed 1 1 = 64 := by decide
        simpa [this] using hscr)
  simp only [List.map_cons, List.map_nil, List.length_cons, List.length_nil] at h1 h4
  rw [h1]
  exact ⟨rfl, h4⟩

/-- non-vacuity of the hypotheses of `norm_arg_complete` (lengths 2 and 1, so one round) -/
example : ([5, 6] : List Nat).length = 2 ^ 1 ∧ ([7] : List Nat).length = 2 ^ 0 ∧
    (∀ d ∈ [1, 2, 3], d < N) ∧ (∀ x ∈ [5, 6], x < N) ∧ (3 : Nat) ≠ 0 ∧ 3 < N ∧
    scratchNeed 2 1 ≤ (⟨1000, 0⟩ : Scratch).maxSize - (⟨1000, 0⟩ : Scratch).allocSize := by decide

/-- end-to-end evaluation in the kernel for `g_len = h_len = 1` -/
example : (verify ⟨64, 0⟩ (prove Sha256.init 3 [Pt.G, Pt.mulG 2] [5] [7] [8]).2.1 Sha256.init 3
    [Pt.G, Pt.mulG 2] 1 [8] (commit [Pt.G, Pt.mulG 2] [5] [7] [8] (scSqr 3)).2).1 = 1 := by decide +kernel

/-! ### the hypothesis `ρ ≠ 0` is necessary: the prover does not check it, the verifier does -/

/-- The prover accepts `ρ = 0` and returns 1 ... -/
example : (prove Sha256.init 0 [Pt.G, Pt.mulG 2] [5] [7] [8]).1 = 1 := by decide +kernel

/-- ... but whatever it emitted is rejected by the verifier, for every input. -/
theorem prove_rho_zero_rejected (scratch : Scratch) (transcript : Sha256.State) (gVec : List Pt)
    (nVec lVec cVec : List Nat) (commitment : Pt) :
    (verify scratch (prove transcript 0 gVec nVec lVec cVec).2.1 transcript 0 gVec nVec.length cVec
      commitment).1 = 0 :=
  verify_guards_rho_zero _ _ _ _ _ _ _ _ rfl

end C19
end SecpZkp

