/-
  C05 (part): the emulated 128-bit integer `src/int128_struct_impl.h` (used when the compiler has no `__int128`),
  as translated into the MiniC IR by `tools/c2lean_k.py` (`Gen/K_int128struct.lean`), executed
  with the REAL wrap-around semantics `MiniC.execL` (every `+`, `*`, `<<`, `-` truncated at the
  width of its C type), for ALL 64-bit inputs: each function computes the 128-bit operation it stands for
  (`umul128`: `ret + 2^64 *hi = a b`; `accum_mul`, `accum_u64`: addition modulo `2^128`; `rshift`: `⌊r / 2^n⌋` for
  `n < 128`; `check_bits`: 1 iff `r < 2^n`).

  Notation: `retC f env` / `outC f env` are the return value / the final memory of `execL env f.body`
  (`Proofs/Int128.lean`); a `secp256k1_uint128 *r` is the pair of scalars `"r.lo"`, `"r.hi"`; `val128 env` is the
  integer `r.lo + 2^64 r.hi` it represents.

  The bodies of `u128_mul`, `u128_accum_mul`, `u128_accum_u64` are, statement for statement, blocks of
  `Proofs/Int128Blocks.lean` (the ones the field kernels inline), and their theorems are instances of the block lemmas
  (`.words rfl`: `ScalarKernel.runR env f.body` is `(outC f env, retC f env)` by definition);
  the other functions are executed symbolically and the result is closed with lemmas of `Proofs/Int128.lean` about
  variables, so that a changed program fails at once.
-/
import SecpZkp.Proofs.Int128Blocks
import SecpZkp.Gen.K_int128struct

namespace SecpZkp
namespace C05i128
open MiniC Int128 FieldLinear Gen.int128struct FieldKernelStruct

def val128 (env : Env) : Nat := env.get "r.lo" 0 + 2 ^ 64 * env.get "r.hi" 0

def Words64 (env : Env) : Prop := env.get "r.lo" 0 < 2 ^ 64 ∧ env.get "r.hi" 0 < 2 ^ 64

instance (env : Env) : Decidable (Words64 env) := inferInstanceAs (Decidable (_ ∧ _))

-- the same tactic as `FieldKernelStruct.umul_split` (`Proofs/Int128Blocks.lean`); nothing in this file invokes it
macro "umul_arith" a:ident b:ident : tactic => `(tactic| (
  have hll := mul_lt32 (x := $a % 4294967296) (y := $b % 4294967296) (Nat.mod_lt _ (by decide)) (Nat.mod_lt _ (by decide))
  have hlh := mul_lt32 (x := $a % 4294967296) (y := $b / 4294967296) (Nat.mod_lt _ (by decide)) (by omega)
  have hhl := mul_lt32 (x := $a / 4294967296) (y := $b % 4294967296) (by omega) (Nat.mod_lt _ (by decide))
  have hhh := mul_lt32 (x := $a / 4294967296) (y := $b / 4294967296) (by omega) (by omega)
  rw [mul_split $a $b]
  generalize $a % 4294967296 * ($b % 4294967296) = ll at *
  generalize $a % 4294967296 * ($b / 4294967296) = lh at *
  generalize $a / 4294967296 * ($b % 4294967296) = hl at *
  generalize $a / 4294967296 * ($b / 4294967296) = hh at *))

/-- `secp256k1_umul128(a, b, &hi)`: 64×64→128 multiplication from 32×32→64 multiplications, all intermediate
    `uint64_t` operations wrapping. -/
theorem umul128_correct (env : Env) (ha : env.get "a" 0 < 2 ^ 64) (hb : env.get "b" 0 < 2 ^ 64) :
    ∃ lo, retC umul128 env = some lo ∧
      lo + 2 ^ 64 * (outC umul128 env).get "hi" 0 = env.get "a" 0 * env.get "b" 0 ∧
      lo < 2 ^ 64 ∧ (outC umul128 env).get "hi" 0 < 2 ^ 64 := by
  rw [retC_eq _ _ (by decide), outC_eq _ _ (by decide)]
  simp only [umul128]
  minic_evalR
  simp only [Nat.reducePow] at ha hb ⊢
  -- `with_reducible`: on a changed program this must fail at once, not after the unifier has tried to unfold `%`, `/`
  with_reducible exact ⟨_, rfl, umul_words_mul _ _ ha hb⟩

/-- the pair `a = 2^64-1`, `b = 0x2FFFFFFFF`: the middle word `(ll >> 32) + (uint32_t)lh + (uint32_t)hl` needs 34 bits -/
def envCarry : Env := [(("a", 0), 18446744073709551615), (("b", 0), 12884901887)]

example : retC umul128 envCarry = some 18446744060824649729 ∧ (outC umul128 envCarry).get "hi" 0 = 12884901886 ∧
    18446744060824649729 + 2 ^ 64 * 12884901886 = 18446744073709551615 * 12884901887 := by
  rw [retC_eq _ _ (by decide), outC_eq _ _ (by decide)]
  decide +kernel

example : ∃ lo, retC umul128 envCarry = some lo ∧
    lo + 2 ^ 64 * (outC umul128 envCarry).get "hi" 0 = 18446744073709551615 * 12884901887 ∧
    lo < 2 ^ 64 ∧ (outC umul128 envCarry).get "hi" 0 < 2 ^ 64 :=
  umul128_correct envCarry (by decide) (by decide)

example : retC umul128 [(("a", 0), 18446744073709551615), (("b", 0), 18446744073709551615)] = some 1 ∧
    (outC umul128 [(("a", 0), 18446744073709551615), (("b", 0), 18446744073709551615)]).get "hi" 0 =
      18446744073709551614 := by
  rw [retC_eq _ _ (by decide), outC_eq _ _ (by decide)]
  decide +kernel

/-- NOT part of the library: the "textbook" variant of `secp256k1_umul128`,
    `mid = lh + hl; carry = (mid < lh) << 32; mid += ll >> 32; hi = hh + (mid >> 32) + carry;`, which ignores the wrap of
    the SECOND addition into `mid`.  It shows that the statement of `umul128_correct` discriminates. -/
def umul128_textbook_bug : MiniC.Fn := {
  name := "umul128_textbook_bug"
  scalars := ["a", "b"]
  arrays := [("hi", 0)]
  body := [
    .assign "ll" (.bin .mul 64 (.cast 32 (.var "a")) (.cast 32 (.var "b"))),
    .assign "lh" (.bin .mul 64 (.cast 32 (.var "a")) (.bin .shr 64 (.var "b") (.lit 32))),
    .assign "hl" (.bin .mul 64 (.bin .shr 64 (.var "a") (.lit 32)) (.cast 32 (.var "b"))),
    .assign "hh" (.bin .mul 64 (.bin .shr 64 (.var "a") (.lit 32)) (.bin .shr 64 (.var "b") (.lit 32))),
    .assign "mid" (.bin .add 64 (.var "lh") (.var "hl")),
    .assign "carry" (.bin .shl 64 (.bin .lt 64 (.var "mid") (.var "lh")) (.lit 32)),
    .assign "mid" (.bin .add 64 (.var "mid") (.bin .shr 64 (.var "ll") (.lit 32))),
    .store "hi" (.lit 0) (.bin .add 64 (.bin .add 64 (.var "hh") (.bin .shr 64 (.var "mid") (.lit 32))) (.var "carry")),
    .ret (.bin .add 64 (.bin .shl 64 (.var "mid") (.lit 32)) (.cast 32 (.var "ll")))
  ]
}

/-- on `envCarry` the high word of the variant is too small by `2^32` -/
theorem umul128_textbook_bug_caught :
    retC umul128_textbook_bug envCarry = some 18446744060824649729 ∧
    (outC umul128_textbook_bug envCarry).get "hi" 0 = 8589934590 ∧
    18446744060824649729 + 2 ^ 64 * 8589934590 ≠ envCarry.get "a" 0 * envCarry.get "b" 0 := by
  rw [retC_eq _ _ (by decide), outC_eq _ _ (by decide)]
  decide +kernel

/-- `secp256k1_u128_mul(&r, a, b)`, whatever `r` held before -/
theorem u128_mul_correct (env : Env) (ha : env.get "a" 0 < 2 ^ 64) (hb : env.get "b" 0 < 2 ^ 64) :
    val128 (outC u128_mul env) = env.get "a" 0 * env.get "b" 0 ∧ Words64 (outC u128_mul env) :=
  -- `rfl`: the run of the block `umulT` at these names is the run of the body of `u128_mul`, which ends in `outC u128_mul env`
  (umul_run env "umul128_1.a" "umul128_1.b" "umul128_1.ll" "umul128_1.lh" "umul128_1.hl" "umul128_1.hh"
    "umul128_1.mid34" "r.hi" "umul128_1.ret" "r.lo" "a" "b" (by simp) (by simp) ha hb).words rfl

example : val128 (outC u128_mul envCarry) = 18446744073709551615 * 12884901887 ∧
    (outC u128_mul envCarry).get "r.lo" 0 = 18446744060824649729 ∧
    (outC u128_mul envCarry).get "r.hi" 0 = 12884901886 := by
  rw [outC_eq _ _ (by decide)]
  decide +kernel

example : val128 (outC u128_mul envCarry) = envCarry.get "a" 0 * envCarry.get "b" 0 ∧ Words64 (outC u128_mul envCarry) :=
  u128_mul_correct envCarry (by decide) (by decide)

/-- `secp256k1_u128_accum_mul(&r, a, b)`: `r ← (r + a b) mod 2^128`; the high word wraps on purpose. -/
theorem u128_accum_mul_correct (env : Env) (ha : env.get "a" 0 < 2 ^ 64) (hb : env.get "b" 0 < 2 ^ 64)
    (hr : Words64 env) :
    val128 (outC u128_accum_mul env) = (val128 env + env.get "a" 0 * env.get "b" 0) % 2 ^ 128 ∧
    Words64 (outC u128_accum_mul env) :=
  ((umul_run env "umul128_1.a" "umul128_1.b" "umul128_1.ll" "umul128_1.lh" "umul128_1.hl" "umul128_1.hh"
    "umul128_1.mid34" "hi" "umul128_1.ret" "lo" "a" "b" (by simp) (by simp) ha hb).accT
    (by simp) (by simp) (by simp) hr.1).words rfl

/-- `r = 0xFFFFFFFFFFFFFFFF_FEDCBA9876543210`, `a = 2^64-1`, `b = 0x2FFFFFFFF`: the low addition carries and the high
    addition wraps -/
def envAccum : Env := [(("a", 0), 18446744073709551615), (("b", 0), 12884901887),
  (("r.lo", 0), 18364758544493064720), (("r.hi", 0), 18446744073709551615)]

example : (outC u128_accum_mul envAccum).get "r.lo" 0 = 18364758531608162833 ∧
    (outC u128_accum_mul envAccum).get "r.hi" 0 = 12884901886 ∧
    18364758531608162833 + 2 ^ 64 * 12884901886 =
      (18364758544493064720 + 2 ^ 64 * 18446744073709551615 + 18446744073709551615 * 12884901887) % 2 ^ 128 := by
  rw [outC_eq _ _ (by decide)]
  decide +kernel

example : val128 (outC u128_accum_mul envAccum) = (val128 envAccum + envAccum.get "a" 0 * envAccum.get "b" 0) % 2 ^ 128 ∧
    Words64 (outC u128_accum_mul envAccum) :=
  u128_accum_mul_correct envAccum (by decide) (by decide) (by decide)

theorem u128_accum_u64_correct (env : Env) (ha : env.get "a" 0 < 2 ^ 64) (hr : Words64 env) :
    val128 (outC u128_accum_u64 env) = (val128 env + env.get "a" 0) % 2 ^ 128 ∧
    Words64 (outC u128_accum_u64 env) :=
  (accUT_run env "r.lo" "r.hi" "a" (by simp) hr.1 ha).words rfl

/-- `r = 2^128-1`, `a = 2^64-1`: wraps around to `2^64-2` -/
def envAccum64 : Env := [(("a", 0), 18446744073709551615), (("r.lo", 0), 18446744073709551615),
  (("r.hi", 0), 18446744073709551615)]

example : (outC u128_accum_u64 envAccum64).get "r.lo" 0 = 18446744073709551614 ∧
    (outC u128_accum_u64 envAccum64).get "r.hi" 0 = 0 := by
  rw [outC_eq _ _ (by decide)]
  decide +kernel

example : (outC u128_accum_u64 [(("a", 0), 1), (("r.lo", 0), 18446744073709551615), (("r.hi", 0), 5)]).get "r.lo" 0 = 0 ∧
    (outC u128_accum_u64 [(("a", 0), 1), (("r.lo", 0), 18446744073709551615), (("r.hi", 0), 5)]).get "r.hi" 0 = 6 := by
  rw [outC_eq _ _ (by decide)]
  decide +kernel

example : val128 (outC u128_accum_u64 envAccum64) = (val128 envAccum64 + envAccum64.get "a" 0) % 2 ^ 128 ∧
    Words64 (outC u128_accum_u64 envAccum64) :=
  u128_accum_u64_correct envAccum64 (by decide) (by decide)

/-- `secp256k1_u128_rshift(&r, n)` for `n < 128` (the C precondition `VERIFY_CHECK(n < 128)`), in all three branches
    of the C code: `n ≥ 64`; `0 < n < 64`, where `(hi << (64-n)) | (lo >> n)` is computed with a wrapping shift; `n = 0`,
    where the shift `hi << 64` must be, and is, avoided. -/
theorem u128_rshift_correct (env : Env) (hn : env.get "n" 0 < 128) (hr : Words64 env) :
    val128 (outC u128_rshift env) = val128 env / 2 ^ env.get "n" 0 ∧ Words64 (outC u128_rshift env) := by
  obtain ⟨hlo, hhi⟩ := hr
  rw [outC_eq _ _ (by decide)]
  simp only [val128, Words64, u128_rshift]
  simp only [runL, runS, evalV, binWrap]
  by_cases h64 : 64 ≤ env.get "n" 0
  · simp only [h64, ↓reduceIte, one_ne_zero, ne_eq, not_false_eq_true, Env.get_set_same, Env.get_set_other,
      Prod.mk.injEq, String.reduceEq, and_true]
    rw [sub64_u32 _ h64 (by omega), Nat.mul_zero, Nat.add_zero]
    exact ⟨(shr_hi _ _ _ hlo h64).symm, Nat.lt_of_le_of_lt (Nat.div_le_self _ _) hhi, Nat.two_pow_pos 64⟩
  · by_cases h0 : 0 < env.get "n" 0
    · simp only [h64, h0, ↓reduceIte, one_ne_zero, ne_eq, not_true_eq_false, not_false_eq_true,
        Env.get_set_same, Env.get_set_other, Prod.mk.injEq, String.reduceEq, and_true]
      rw [Nat.one_mul, Nat.mod_eq_of_lt hhi, sub_from64_u32 _ (by omega)]
      refine ⟨shr_lo _ _ _ hlo (by omega), ?_, Nat.lt_of_le_of_lt (Nat.div_le_self _ _) hhi⟩
      exact Nat.or_lt_two_pow (Nat.mod_lt _ (Nat.two_pow_pos 64)) (Nat.lt_of_le_of_lt (Nat.div_le_self _ _) hlo)
    · simp only [h64, h0, ↓reduceIte, ne_eq, not_true_eq_false]
      have hn0 : env.get "n" 0 = 0 := by omega
      rw [hn0, Nat.pow_zero, Nat.div_one]
      exact ⟨rfl, hlo, hhi⟩

def envShift (n : Nat) : Env := [(("n", 0), n), (("r.lo", 0), 81985529216486895), (("r.hi", 0), 18364758544493064720)]

example : ((outC u128_rshift (envShift 68)).get "r.lo" 0, (outC u128_rshift (envShift 68)).get "r.hi" 0) =
      (1147797409030816545, 0) ∧
    ((outC u128_rshift (envShift 127)).get "r.lo" 0, (outC u128_rshift (envShift 127)).get "r.hi" 0) = (1, 0) ∧
    ((outC u128_rshift (envShift 64)).get "r.lo" 0, (outC u128_rshift (envShift 64)).get "r.hi" 0) =
      (18364758544493064720, 0) ∧
    ((outC u128_rshift (envShift 4)).get "r.lo" 0, (outC u128_rshift (envShift 4)).get "r.hi" 0) =
      (5124095576030430, 1147797409030816545) ∧
    ((outC u128_rshift (envShift 63)).get "r.lo" 0, (outC u128_rshift (envShift 63)).get "r.hi" 0) =
      (18282773015276577824, 1) ∧
    ((outC u128_rshift (envShift 1)).get "r.lo" 0, (outC u128_rshift (envShift 1)).get "r.hi" 0) =
      (40992764608243447, 9182379272246532360) ∧
    ((outC u128_rshift (envShift 0)).get "r.lo" 0, (outC u128_rshift (envShift 0)).get "r.hi" 0) =
      (81985529216486895, 18364758544493064720) := by
  simp only [outC_eq _ _ (show loopFree u128_rshift.body = true by decide)]
  decide +kernel

example : val128 (outC u128_rshift (envShift 63)) = val128 (envShift 63) / 2 ^ 63 ∧
    Words64 (outC u128_rshift (envShift 63)) :=
  u128_rshift_correct (envShift 63) (by decide) (by decide)

theorem u128_to_u64_correct (env : Env) (hlo : env.get "a.lo" 0 < 2 ^ 64) :
    retC u128_to_u64 env = some ((env.get "a.lo" 0 + 2 ^ 64 * env.get "a.hi" 0) % 2 ^ 64) := by
  rw [retC_eq _ _ (by decide)]
  simp only [u128_to_u64, runL, runS, evalV]
  congr 1
  omega

theorem u128_hi_u64_correct (env : Env) (hlo : env.get "a.lo" 0 < 2 ^ 64) :
    retC u128_hi_u64 env = some ((env.get "a.lo" 0 + 2 ^ 64 * env.get "a.hi" 0) / 2 ^ 64) := by
  rw [retC_eq _ _ (by decide)]
  simp only [u128_hi_u64, runL, runS, evalV]
  congr 1
  omega

theorem u128_from_u64_correct (env : Env) (ha : env.get "a" 0 < 2 ^ 64) :
    val128 (outC u128_from_u64 env) = env.get "a" 0 ∧ Words64 (outC u128_from_u64 env) := by
  rw [outC_eq _ _ (by decide)]
  simp only [val128, Words64, u128_from_u64]
  minic_evalR
  omega

example : retC u128_to_u64 [(("a.lo", 0), 18446744073709551615), (("a.hi", 0), 7)] = some 18446744073709551615 ∧
    retC u128_hi_u64 [(("a.lo", 0), 18446744073709551615), (("a.hi", 0), 7)] = some 7 ∧
    (outC u128_from_u64 [(("a", 0), 18446744073709551615), (("r.hi", 0), 9)]).get "r.lo" 0 = 18446744073709551615 ∧
    (outC u128_from_u64 [(("a", 0), 18446744073709551615), (("r.hi", 0), 9)]).get "r.hi" 0 = 0 := by
  rw [retC_eq _ _ (by decide), retC_eq _ _ (by decide), outC_eq _ _ (by decide)]
  decide +kernel

example : retC u128_to_u64 [(("a.lo", 0), 18446744073709551615), (("a.hi", 0), 7)] =
    some ((18446744073709551615 + 2 ^ 64 * 7) % 2 ^ 64) :=
  u128_to_u64_correct _ (by decide)

/-- `n < 128`: "n must be strictly less than 128", `int128.h` -/
theorem u128_check_bits_correct (env : Env) (hn : env.get "n" 0 < 128) (hr : Words64 env) :
    retC u128_check_bits env = some (if val128 env < 2 ^ env.get "n" 0 then 1 else 0) := by
  obtain ⟨hlo, hhi⟩ := hr
  rw [retC_eq _ _ (by decide)]
  simp only [val128, u128_check_bits]
  minic_evalR
  congr 1
  by_cases h64 : 64 ≤ env.get "n" 0
  · simp only [h64, ↓reduceIte, one_ne_zero, not_false_eq_true]
    simp only [sub64_u32 _ h64 (show env.get "n" 0 < 2 ^ 32 by omega), lt_pow_hi _ _ _ hlo h64]
  · simp only [h64, ↓reduceIte, not_true_eq_false]
    simp only [lt_pow_lo _ _ _ (show env.get "n" 0 < 64 by omega)]
    by_cases h1 : env.get "r.hi" 0 = 0 <;> by_cases h2 : env.get "r.lo" 0 / 2 ^ env.get "n" 0 = 0 <;>
      simp only [h1, h2, ↓reduceIte, one_ne_zero, not_true_eq_false, not_false_eq_true, and_self, and_false, false_and]

example : retC u128_check_bits [(("n", 0), 101), (("r.lo", 0), 5), (("r.hi", 0), 68719476736)] = some 1 ∧
    retC u128_check_bits [(("n", 0), 100), (("r.lo", 0), 5), (("r.hi", 0), 68719476736)] = some 0 ∧
    retC u128_check_bits [(("n", 0), 63), (("r.lo", 0), 5), (("r.hi", 0), 68719476736)] = some 0 ∧
    retC u128_check_bits [(("n", 0), 3), (("r.lo", 0), 5), (("r.hi", 0), 0)] = some 1 ∧
    retC u128_check_bits [(("n", 0), 2), (("r.lo", 0), 5), (("r.hi", 0), 0)] = some 0 ∧
    retC u128_check_bits [(("n", 0), 0), (("r.lo", 0), 0), (("r.hi", 0), 0)] = some 1 ∧
    retC u128_check_bits [(("n", 0), 127), (("r.lo", 0), 18446744073709551615), (("r.hi", 0), 9223372036854775807)] =
      some 1 ∧
    retC u128_check_bits [(("n", 0), 127), (("r.lo", 0), 0), (("r.hi", 0), 9223372036854775808)] = some 0 := by
  simp only [retC_eq _ _ (show loopFree u128_check_bits.body = true by decide)]
  decide +kernel

example : retC u128_check_bits [(("n", 0), 100), (("r.lo", 0), 5), (("r.hi", 0), 68719476736)] =
    some (if val128 [(("n", 0), 100), (("r.lo", 0), 5), (("r.hi", 0), 68719476736)] < 2 ^ 100 then 1 else 0) :=
  u128_check_bits_correct _ (by decide) (by decide)

end C05i128
end SecpZkp
