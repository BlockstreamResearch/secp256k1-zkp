/-
  C11 (part "codec"): the surjection-proof encoding is canonical.

  `secp256k1_surjectionproof_parse` (`Surjection.parse`, src/modules/surjection/main_impl.h:46-84)
  accepts EXACTLY the byte strings
      n_inputs (2 bytes, little endian) ‖ bitmap ((n_inputs+7)/8 bytes) ‖ e0 ‖ s_1 ‖ … ‖ s_k
  with `n_inputs ≤ 256`, no bitmap bit set at a position `≥ n_inputs`, and `k` = the number of set
  bitmap bits; `secp256k1_surjectionproof_serialize` round-trips with it; a parsed object respects the
  sizes of the C arrays (`used_inputs[32]`, `data[8224]`).

  All statements are for ALL byte strings of ALL lengths and all prior contents of the object.
  Remark (not a defect of the encoding): `n_inputs = 0` IS accepted by the parser (the string
  `00 00 ‖ e0`); such a proof has no used input and is rejected by verification.
-/
import SecpZkp.Proofs.Parsers
import SecpZkp.Proofs.EarlyReturn

namespace SecpZkp
namespace C11

open Surjection Parsers

def Canonical (bs : Bytes) : Prop :=
  2 ≤ bs.length ∧ le16 bs ≤ 256 ∧ 2 + bitmapLen (le16 bs) ≤ bs.length ∧
  NoPadding (le16 bs) ((bs.drop 2).take (bitmapLen (le16 bs))) ∧
  bs.length = 2 + bitmapLen (le16 bs) + 32 * (1 + countBitsSet (bs.drop 2) (bitmapLen (le16 bs)))

instance (bs : Bytes) : Decidable (Canonical bs) := by unfold Canonical; infer_instance

/-- What a successful parse of `bs` leaves in the object: the bytes of the arrays that the parser does not write keep
their `prior` content, as in C. -/
def parsedObj (bs : Bytes) (prior : Proof) : Proof :=
  { nInputs := le16 bs
    used := (bs.drop 2).take (bitmapLen (le16 bs)) ++ prior.used.drop (bitmapLen (le16 bs))
    data := (bs.drop (2 + bitmapLen (le16 bs))).take
                (32 * (1 + countBitsSet (bs.drop 2) (bitmapLen (le16 bs))))
            ++ prior.data.drop (32 * (1 + countBitsSet (bs.drop 2) (bitmapLen (le16 bs)))) }

theorem surj_parse_eq (bs : Bytes) (prior : Proof) :
    parse bs prior = if Canonical bs then (1, parsedObj bs prior) else (0, prior) := by
  rw [surj_parse_unfold]
  unfold Canonical
  exact ite_guard (by omega) (ite_guard Nat.not_lt.symm (ite_guard (by omega)
    (ite_guard (by rw [padBad_iff, Classical.not_not]) (ite_guard_end (by omega)))))

theorem surj_parse_ok {bs : Bytes} {prior : Proof} (h : (parse bs prior).1 = 1) :
    Canonical bs ∧ parse bs prior = (1, parsedObj bs prior) := by
  rw [surj_parse_eq] at h ⊢
  by_cases hc : Canonical bs
  · exact ⟨hc, if_pos hc⟩
  · rw [if_neg hc] at h; exact absurd h Nat.zero_ne_one

/-- C11 `parse_iff`: `secp256k1_surjectionproof_parse` accepts exactly the canonical encodings (`Canonical`, spelled out),
whatever the prior content of the output object. -/
theorem surj_parse_iff (bs : Bytes) (prior : Proof) :
    (parse bs prior).1 = 1 ↔
      2 ≤ bs.length ∧ le16 bs ≤ 256 ∧ 2 + bitmapLen (le16 bs) ≤ bs.length ∧
      (∀ i, i < 8 * bitmapLen (le16 bs) → le16 bs ≤ i →
          testBit ((bs.drop 2).take (bitmapLen (le16 bs))) i = false) ∧
      bs.length = 2 + bitmapLen (le16 bs) + 32 * (1 + countBitsSet (bs.drop 2) (bitmapLen (le16 bs))) := by
  rw [surj_parse_eq]
  show _ ↔ Canonical bs
  by_cases h : Canonical bs
  · simp [h]
  · simp [h]

/-- The count in the length formula is the number of set bits as `testBit` sees them, the test by which generation and
verification select inputs. -/
theorem surj_popcount_meaning (bitmap : Bytes) (len : Nat) (h : len ≤ bitmap.length) :
    countBitsSet bitmap len = ((List.range (8 * len)).filter (fun i => testBit bitmap i)).length :=
  countBitsSet_eq_filter bitmap len h

/-- 3 inputs, bitmap `0b101`: 2 + 1 + 96 bytes.  Also accepted: `n_inputs = 0` with the bare `e0`, and `n_inputs = 256`
(count bytes `00 01`) with no bit set. -/
example : (parse ([3, 0, 0b101] ++ List.replicate 96 7)).1 = 1 := by decide +kernel
example : (parse ([3, 0, 0b1101] ++ List.replicate 96 7)).1 = 0 := by decide +kernel
example : (parse ([3, 0, 0b1101] ++ List.replicate 128 7)).1 = 0 := by decide +kernel
example : (parse ([3, 0, 0b101] ++ List.replicate 95 7)).1 = 0 := by decide +kernel
example : (parse ([3, 0, 0b101] ++ List.replicate 97 7)).1 = 0 := by decide +kernel
example : (parse ([3, 0, 0b101] ++ List.replicate 64 7)).1 = 0 := by decide +kernel
example : (parse ([0, 0] ++ List.replicate 32 7)).1 = 1 := by decide +kernel
example : (parse ([0, 1] ++ List.replicate 32 0 ++ List.replicate 32 7)).1 = 1 := by decide +kernel
example : Canonical ([3, 0, 0b101] ++ List.replicate 96 7) :=
  (surj_parse_iff _ Proof.zero).1 (by decide)

theorem nUsed_parsedObj (bs : Bytes) (prior : Proof) (h : 2 + bitmapLen (le16 bs) ≤ bs.length) :
    nUsedInputs (parsedObj bs prior) = countBitsSet (bs.drop 2) (bitmapLen (le16 bs)) := by
  unfold nUsedInputs parsedObj
  simp only []
  rw [countBitsSet_append _ _ _ (by simp [List.length_take]; omega), countBitsSet_take]

theorem canonical_count_le {bs : Bytes} (hc : Canonical bs) :
    countBitsSet (bs.drop 2) (bitmapLen (le16 bs)) ≤ le16 bs := by
  have := hc.2.2.1
  rw [← countBitsSet_take]
  exact countBitsSet_le_of_noPadding _ _ (by rw [List.length_take, List.length_drop]; omega) hc.2.2.2.1

/-- C11, sizes: what a successful parse writes fits the arrays `used_inputs[32]` and `data[32 * 257]` of
`secp256k1_surjectionproof`, and `serialized_size` of the object is the input length. -/
theorem surj_parse_bounds (bs : Bytes) (prior : Proof) (h : (parse bs prior).1 = 1) :
    nTotalInputs (parse bs prior).2 ≤ 256 ∧
    nUsedInputs (parse bs prior).2 ≤ nTotalInputs (parse bs prior).2 ∧
    32 * (1 + nUsedInputs (parse bs prior).2) ≤ DATA_BYTES ∧
    bitmapLen (nTotalInputs (parse bs prior).2) ≤ USED_BYTES ∧
    serializedSize (parse bs prior).2 = bs.length := by
  obtain ⟨hc, he⟩ := surj_parse_ok h
  have hle := canonical_count_le hc
  obtain ⟨h1, h2, h3, h4, h5⟩ := hc
  have hbl : bitmapLen (le16 bs) ≤ 32 := by unfold bitmapLen; omega
  rw [he]
  simp only [serializedSize, nTotalInputs, nUsed_parsedObj bs prior h3, DATA_BYTES, USED_BYTES]
  simp only [parsedObj]
  omega

/-- A count of 257 would already need `(257+7)/8 = 33` bitmap bytes and overrun `used_inputs[32]`. -/
theorem surj_parse_rejects_gt_256 (bs : Bytes) (prior : Proof) (h : 257 ≤ le16 bs) :
    parse bs prior = (0, prior) := by
  rw [surj_parse_eq, if_neg (fun hc => by have := hc.2.1; omega)]

example : le16 ([1, 1] ++ List.replicate 1000 0) = 257 := by decide
example : le16 ([7, 1] ++ List.replicate 1000 0) = 263 := by decide
example : parse ([7, 1] ++ List.replicate 33 0 ++ List.replicate 32 0) = (0, Proof.zero) :=
  surj_parse_rejects_gt_256 _ _ (by decide)

/-- Well-formedness of a surjection-proof object.  It gives `n_used ≤ n_inputs ≤ 256`, so that every scalar
`data[32 + 32*i ..]`, `i < n_used`, lies inside `data` (`ProofValid.nUsed_le`). -/
def ProofValid (p : Proof) : Prop :=
  p.nInputs ≤ MAX_N_INPUTS ∧ p.used.length = USED_BYTES ∧ p.data.length = DATA_BYTES ∧
  NoPadding p.nInputs p.used

instance (p : Proof) : Decidable (ProofValid p) := by unfold ProofValid; infer_instance

theorem ProofValid.nUsed_le {p : Proof} (h : ProofValid p) :
    nUsedInputs p ≤ p.nInputs ∧ 32 * (1 + nUsedInputs p) ≤ p.data.length := by
  obtain ⟨h1, h2, h3, h4⟩ := h
  have hM : MAX_N_INPUTS = 256 := rfl
  have hbl : bitmapLen p.nInputs ≤ 32 := by unfold bitmapLen; omega
  have := countBitsSet_le_of_noPadding p.nInputs p.used (by rw [h2]; exact hbl) h4
  unfold nUsedInputs
  rw [h3]; simp only [DATA_BYTES]; omega

/-- C07 (d), closure of the parser. -/
theorem surj_parse_valid (bs : Bytes) (prior : Proof) (hu : prior.used.length = USED_BYTES)
    (hd : prior.data.length = DATA_BYTES) (h : (parse bs prior).1 = 1) :
    ProofValid (parse bs prior).2 := by
  obtain ⟨hc, he⟩ := surj_parse_ok h
  have hle := canonical_count_le hc
  obtain ⟨h1, h2, h3, h4, h5⟩ := hc
  have hbl : bitmapLen (le16 bs) ≤ 32 := by unfold bitmapLen; omega
  rw [he]
  refine ⟨h2, ?_, ?_, noPadding_congr _ _ _ (fun j hj => ?_) h4⟩
  · simp only [parsedObj, List.length_append, List.length_take, List.length_drop, hu, USED_BYTES]
    omega
  · simp only [parsedObj, List.length_append, List.length_take, List.length_drop, hd, DATA_BYTES]
    omega
  · have hj' : j < bitmapLen (le16 bs) := hj
    exact (getD_append_left _ _ _ (by rw [List.length_take, List.length_drop]; omega)).symm

example : ProofValid Proof.zero :=
  ⟨Nat.zero_le _, List.length_replicate .., List.length_replicate .., fun _ hi _ => absurd hi (Nat.not_lt_zero _)⟩
example : ProofValid (parse ([3, 0, 0b101] ++ List.replicate 96 7)).2 :=
  surj_parse_valid _ _ (List.length_replicate ..) (List.length_replicate ..) (by decide +kernel)

theorem bytes_split2 (bs : Bytes) (h : 2 ≤ bs.length) (c : Nat) :
    [UInt8.ofNat (le16 bs % 0x100), UInt8.ofNat (le16 bs / 0x100)] ++ (bs.drop 2).take c ++ bs.drop (2 + c) = bs := by
  match bs, h with
  | b0 :: b1 :: rest, _ =>
    have e0 : le16 (b0 :: b1 :: rest) % 256 = b0.toNat := by
      have := UInt8.toNat_lt b0; simp only [le16, List.getD_cons_zero, List.getD_cons_succ]; omega
    have e1 : le16 (b0 :: b1 :: rest) / 256 = b1.toNat := by
      have := UInt8.toNat_lt b0; simp only [le16, List.getD_cons_zero, List.getD_cons_succ]; omega
    simp only [e0, e1, UInt8.ofNat_toNat, List.drop_succ_cons, List.drop_zero]
    rw [show 2 + c = c + 1 + 1 by omega]
    simp only [List.drop_succ_cons, List.cons_append, List.nil_append, List.take_append_drop]

/-- C11 `serialize ∘ parse = id`, whatever the prior content of the object.  Hence two different byte strings never parse
to objects with the same serialization: the encoding is canonical. -/
theorem surj_serialize_parse (bs : Bytes) (prior : Proof) (outlen : Nat)
    (h : (parse bs prior).1 = 1) (hlen : bs.length ≤ outlen) :
    serialize (parse bs prior).2 outlen = (1, bs, bs.length) := by
  obtain ⟨⟨h1, h2, h3, h4, h5⟩, he⟩ := surj_parse_ok h
  have hnu : countBitsSet (parsedObj bs prior).used (bitmapLen (le16 bs))
      = countBitsSet (bs.drop 2) (bitmapLen (le16 bs)) := nUsed_parsedObj bs prior h3
  have hn : (parsedObj bs prior).nInputs = le16 bs := rfl
  rw [he]
  unfold serialize
  simp only [hn, hnu]
  rw [if_neg (by omega)]
  have hused : (parsedObj bs prior).used.take (bitmapLen (le16 bs))
      = (bs.drop 2).take (bitmapLen (le16 bs)) := by
    simp only [parsedObj]
    rw [List.take_left' (by rw [List.length_take, List.length_drop]; omega)]
  have hdata : (parsedObj bs prior).data.take (32 * (1 + countBitsSet (bs.drop 2) (bitmapLen (le16 bs))))
      = bs.drop (2 + bitmapLen (le16 bs)) := by
    simp only [parsedObj]
    rw [List.take_left' (by rw [List.length_take, List.length_drop]; omega),
      List.take_of_length_le (by rw [List.length_drop]; omega)]
  rw [hused, hdata, ← h5, bytes_split2 bs h1 _]

example : serialize (parse ([3, 0, 0b101] ++ List.replicate 96 7)).2 99
    = (1, [3, 0, 0b101] ++ List.replicate 96 7, 99) := by decide +kernel

/-- The `*outputlen` contract of `secp256k1_surjectionproof_serialize`. -/
theorem surj_serialize_len (p : Proof) (outlen : Nat) :
    (outlen < serializedSize p → serialize p outlen = (0, [], outlen)) ∧
    (serializedSize p ≤ outlen → (serialize p outlen).1 = 1 ∧ (serialize p outlen).2.2 = serializedSize p) := by
  unfold serialize serializedSize nUsedInputs
  refine ⟨fun h => by simp only []; rw [if_pos h], fun h => ?_⟩
  simp only []
  rw [if_neg (by omega)]
  exact ⟨rfl, rfl⟩

/-- C11 `parse ∘ serialize`: the fields that `serialize` reads come back, the rest of the target object keeps its prior
bytes.  `hu`, `hd` always hold in C, where the arrays have the fixed sizes 32 and 8224. -/
theorem surj_parse_serialize (p prior : Proof) (hn : p.nInputs ≤ 256)
    (hu : bitmapLen p.nInputs ≤ p.used.length) (hd : 32 * (1 + nUsedInputs p) ≤ p.data.length)
    (hnp : NoPadding p.nInputs p.used) :
    parse (serializeFull p) prior =
      (1, { nInputs := p.nInputs
            used := p.used.take (bitmapLen p.nInputs) ++ prior.used.drop (bitmapLen p.nInputs)
            data := p.data.take (32 * (1 + nUsedInputs p)) ++ prior.data.drop (32 * (1 + nUsedInputs p)) }) := by
  have hser : serializeFull p = [UInt8.ofNat (p.nInputs % 0x100), UInt8.ofNat (p.nInputs / 0x100)]
      ++ p.used.take (bitmapLen p.nInputs) ++ p.data.take (32 * (1 + nUsedInputs p)) := by
    unfold serializeFull serialize serializedSize nUsedInputs
    simp only []
    rw [if_neg (by omega)]
  have hle : le16 (serializeFull p) = p.nInputs := by
    rw [hser]
    simp only [le16, List.cons_append, List.getD_cons_zero, List.getD_cons_succ, UInt8.toNat_ofNat']
    omega
  have hUl := List.length_take_of_le hu
  have hDl := List.length_take_of_le hd
  have hdrop2 : (serializeFull p).drop 2
      = p.used.take (bitmapLen p.nInputs) ++ p.data.take (32 * (1 + nUsedInputs p)) := by
    rw [hser]; simp
  have htake : ((serializeFull p).drop 2).take (bitmapLen p.nInputs) = p.used.take (bitmapLen p.nInputs) := by
    rw [hdrop2, List.take_left' hUl]
  have hcnt : countBitsSet ((serializeFull p).drop 2) (bitmapLen p.nInputs) = nUsedInputs p := by
    rw [← countBitsSet_take, htake, countBitsSet_take]; rfl
  have hlen : (serializeFull p).length = 2 + bitmapLen p.nInputs + 32 * (1 + nUsedInputs p) := by
    rw [hser]; simp only [List.length_append, List.length_cons, List.length_nil, hUl, hDl]
  have hdropd : (serializeFull p).drop (2 + bitmapLen p.nInputs) = p.data.take (32 * (1 + nUsedInputs p)) := by
    rw [← List.drop_drop, hdrop2, List.drop_left' hUl]
  have hc : Canonical (serializeFull p) := by
    refine ⟨by omega, by omega, by rw [hle]; omega, ?_, ?_⟩
    · rw [hle, htake]
      exact noPadding_congr _ _ _ (fun j hj => (getD_take _ _ _ hj).symm) hnp
    · rw [hle, hcnt, hlen]
  rw [surj_parse_eq, if_pos hc]
  simp only [parsedObj, hle, htake, hcnt, hdropd]
  rw [List.take_take, Nat.min_self]

/-- (the 8224-byte data arrays are shortened to 200 bytes in this instance to keep the check small) -/
example : parse (serializeFull ⟨3, [0b110] ++ List.replicate 31 0xff, List.replicate 200 5⟩)
      ⟨0, Bytes.zeros 32, Bytes.zeros 200⟩
    = (1, ⟨3, [0b110] ++ List.replicate 31 0, List.replicate 96 5 ++ List.replicate 104 0⟩) := by
  decide +kernel

end C11
end SecpZkp
