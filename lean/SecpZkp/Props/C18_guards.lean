import SecpZkp.Gen.Guards
/-! # C18 — the argument checks the model assumes are present at the C call sites (translator mode G)

How to read a fact, and what a mismatch means: `Props/C01_guards.lean`. -/
namespace SecpZkp.Props.C18_guards
open SecpZkp.Gen

theorem ecdh_sites : Facts.ecdh = [
    ⟨.pubkey_load, 1, false, none⟩,
    ⟨.scalar_set_b32, 1, false, some true⟩,
    ⟨.scalar_is_zero, 1, true, none⟩
  ] := by decide

theorem ellswift_xdh_sites : Facts.ellswift_xdh = [
    ⟨.scalar_set_b32, 1, false, some true⟩,
    ⟨.scalar_is_zero, 1, true, none⟩
  ] := by decide

theorem ellswift_create_sites : Facts.ellswift_create = [
    ⟨.ecmult_gen_context_is_built, 1, true, none⟩
  ] := by decide

def all : List CallFact := Facts.ecdh ++ Facts.ellswift_xdh ++ Facts.ellswift_create

/-- No overflow flag written by a scalar decoding in these functions is ignored (overwritten or never read). -/
theorem no_flag_dropped : ∀ f ∈ all, f.flag ≠ some false := by decide

/-- non-vacuity: the regenerated fact lists are not empty -/
example : all.length = 6 := by decide

end SecpZkp.Props.C18_guards
