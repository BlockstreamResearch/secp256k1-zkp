import SecpZkp.Gen.Guards
/-! # C14 — the argument checks the model assumes are present at the C call sites (translator mode G)

How to read a fact, and what a mismatch means: `Props/C01_guards.lean`. -/
namespace SecpZkp.Props.C14_guards
open SecpZkp.Gen

theorem ecdsa_adaptor_sig_deserialize_sites : Facts.ecdsa_adaptor_sig_deserialize = [
    ⟨.eckey_pubkey_parse, 1, true, none⟩,
    ⟨.scalar_set_b32, 1, false, none⟩,
    ⟨.scalar_is_zero, 1, true, none⟩,
    ⟨.eckey_pubkey_parse, 2, true, none⟩,
    ⟨.scalar_set_b32_seckey, 1, true, none⟩,
    ⟨.scalar_set_b32, 2, false, none⟩,
    ⟨.scalar_set_b32, 3, false, some true⟩
  ] := by decide

theorem ecdsa_adaptor_verify_sites : Facts.ecdsa_adaptor_verify = [
    ⟨.ecdsa_adaptor_sig_deserialize, 1, true, none⟩,
    ⟨.pubkey_load, 1, true, none⟩,
    ⟨.dleq_verify, 1, true, none⟩,
    ⟨.scalar_set_b32, 1, false, none⟩,
    ⟨.pubkey_load, 2, true, none⟩,
    ⟨.gej_is_infinity, 1, true, none⟩,
    ⟨.gej_is_infinity, 2, true, none⟩
  ] := by decide

theorem ecdsa_adaptor_recover_sites : Facts.ecdsa_adaptor_recover = [
    ⟨.ecmult_gen_context_is_built, 1, true, none⟩,
    ⟨.ecdsa_adaptor_sig_deserialize, 1, true, none⟩,
    ⟨.scalar_is_zero, 1, true, none⟩,
    ⟨.pubkey_load, 1, true, none⟩,
    ⟨.memcmp_var, 1, true, none⟩
  ] := by decide

theorem ecdsa_adaptor_encrypt_sites : Facts.ecdsa_adaptor_encrypt = [
    ⟨.ecmult_gen_context_is_built, 1, true, none⟩,
    ⟨.pubkey_load, 1, true, none⟩,
    ⟨.scalar_set_b32, 1, false, none⟩,
    ⟨.scalar_is_zero, 1, true, none⟩,
    ⟨.scalar_set_b32_seckey, 1, true, none⟩,
    ⟨.scalar_set_b32, 2, false, none⟩,
    ⟨.scalar_set_b32, 3, false, none⟩,
    ⟨.scalar_is_zero, 2, true, none⟩,
    ⟨.scalar_is_zero, 3, true, none⟩
  ] := by decide

theorem ecdsa_adaptor_decrypt_sites : Facts.ecdsa_adaptor_decrypt = [
    ⟨.scalar_set_b32, 1, false, some true⟩,
    ⟨.ecdsa_adaptor_sig_deserialize, 1, true, none⟩,
    ⟨.scalar_is_zero, 1, true, none⟩,
    ⟨.scalar_is_high, 1, true, none⟩
  ] := by decide

theorem dleq_verify_sites : Facts.dleq_verify = [
    ⟨.gej_is_infinity, 1, true, none⟩,
    ⟨.gej_is_infinity, 2, true, none⟩,
    ⟨.scalar_is_zero, 1, true, none⟩
  ] := by decide

theorem dleq_challenge_sites : Facts.dleq_challenge = [
    ⟨.scalar_set_b32, 1, false, none⟩
  ] := by decide

theorem dleq_nonce_sites : Facts.dleq_nonce = [
    ⟨.scalar_set_b32, 1, false, none⟩,
    ⟨.scalar_is_zero, 1, true, none⟩
  ] := by decide

def all : List CallFact := Facts.ecdsa_adaptor_sig_deserialize ++ Facts.ecdsa_adaptor_verify ++ Facts.ecdsa_adaptor_recover ++ Facts.ecdsa_adaptor_encrypt ++ Facts.ecdsa_adaptor_decrypt ++ Facts.dleq_verify ++ Facts.dleq_challenge ++ Facts.dleq_nonce

/-- No overflow flag written by a scalar decoding in these functions is ignored (overwritten or never read). -/
theorem no_flag_dropped : ∀ f ∈ all, f.flag ≠ some false := by decide

/-- non-vacuity: the regenerated fact lists are not empty -/
example : all.length = 38 := by decide

end SecpZkp.Props.C14_guards
