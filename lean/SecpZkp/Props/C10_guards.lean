import SecpZkp.Gen.Guards
/-! # C10 — the argument checks the model assumes are present at the C call sites (translator mode G)

How to read a fact, and what a mismatch means: `Props/C01_guards.lean`. -/
namespace SecpZkp.Props.C10_guards
open SecpZkp.Gen

theorem rangeproof_verify_impl_sites : Facts.rangeproof_verify_impl = [
    ⟨.rangeproof_getheader_impl, 1, true, none⟩,
    ⟨.fe_impl_set_b32_limit, 1, true, none⟩,
    ⟨.ge_set_xquad, 1, true, none⟩,
    ⟨.gej_is_infinity, 1, true, none⟩,
    ⟨.scalar_set_b32, 1, false, some true⟩,
    ⟨.borromean_verify, 1, true, none⟩,
    ⟨.gej_is_infinity, 2, true, none⟩,
    ⟨.gej_is_infinity, 3, true, none⟩
  ] := by decide

theorem borromean_verify_sites : Facts.borromean_verify = [
    ⟨.scalar_set_b32, 1, false, some true⟩,
    ⟨.scalar_is_zero, 1, true, none⟩,
    ⟨.scalar_is_zero, 2, true, none⟩,
    ⟨.gej_is_infinity, 1, true, none⟩,
    ⟨.gej_is_infinity, 2, true, none⟩,
    ⟨.scalar_set_b32, 2, false, some true⟩,
    ⟨.memcmp_var, 1, true, none⟩
  ] := by decide

def all : List CallFact := Facts.rangeproof_verify_impl ++ Facts.borromean_verify

/-- No overflow flag written by a scalar decoding in these functions is ignored (overwritten or never read). -/
theorem no_flag_dropped : ∀ f ∈ all, f.flag ≠ some false := by decide

/-- non-vacuity: the regenerated fact lists are not empty -/
example : all.length = 15 := by decide

end SecpZkp.Props.C10_guards
