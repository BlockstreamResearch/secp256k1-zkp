/-
  C17, the clauses on lengths: what the length and overflow tests of Schnorr half-aggregation
  (src/modules/schnorrsig_halfagg/main_impl.h:27-38, 94-101, 122-125) let through, for all inputs.  The C tests divide
  (`len / 32 - 1 < n`); the statements say `32 * (n + 1)`.  `size_t` is 64 bits wide in the model
  (`Halfagg.sizeMax = 2^64`, spelled `2 ^ 64` in the hypotheses here).  What the aggregate contains is in Props/C17.lean.
-/
import SecpZkp.Proofs.Halfagg

namespace SecpZkp
namespace C17

open Halfagg

/-- Clause "rejecting a wrong length": `secp256k1_schnorrsig_aggverify` returns 0, without callback, unless
`aggsig_len = 32 * (n + 1)`.  The C test (main_impl.h:123) is the `hc` of the proof. -/
theorem halfagg_len (pubkeys : List Pt) (msgs : List Bytes) (agg : Bytes)
    (h : agg.length ≠ 32 * (pubkeys.length + 1)) :
    (aggverify pubkeys msgs (some agg)).ret = 0 ∧ (aggverify pubkeys msgs (some agg)).illegal = 0 := by
  have hc : agg.length / 32 ≤ 0 ∨ agg.length / 32 - 1 ≠ pubkeys.length ∨ agg.length % 32 ≠ 0 := by omega
  simp only [aggverify, if_pos hc, and_self]

theorem halfagg_len' (pubkeys : List Pt) (msgs : List Bytes) (agg : Bytes)
    (h : (aggverify pubkeys msgs (some agg)).ret = 1) : agg.length = 32 * (pubkeys.length + 1) := by
  apply Classical.byContradiction
  intro hne
  have := (halfagg_len pubkeys msgs agg hne).1
  omega

example : (aggverify [Pt.G] [Bytes.zeros 32] (some (Bytes.zeros 63))).ret = 0 :=
  (halfagg_len _ _ _ (by decide)).1
example : (aggverify [Pt.G] [Bytes.zeros 32] (some (Bytes.zeros 65))).ret = 0 :=
  (halfagg_len _ _ _ (by decide)).1
example : (aggverify [Pt.G] [Bytes.zeros 32] (some (Bytes.zeros 32))).ret = 0 :=
  (halfagg_len _ _ _ (by decide)).1
example : (aggverify [] [] (some [])).ret = 0 := (halfagg_len _ _ _ (by decide)).1

/-- After the length check no chunk `aggverify` reads (`r_0 … r_{n-1}`, and `s` at `i = n`) reaches beyond `aggsig_len`. -/
theorem halfagg_chunks_in_bounds (agg : Bytes) (n i : Nat) (h : agg.length = 32 * (n + 1)) (hi : i ≤ n) :
    32 * i + 32 ≤ agg.length ∧ (chunk32 agg i).length = 32 := by
  have h1 : 32 * i + 32 ≤ agg.length := by omega
  refine ⟨h1, ?_⟩
  simp only [chunk32, List.length_take, List.length_drop]
  omega

/-- `ARG_CHECK(aggsig != NULL)`: return 0, one illegal-argument callback. -/
theorem halfagg_null (pubkeys : List Pt) (msgs : List Bytes) :
    aggverify pubkeys msgs none = ⟨0, (), 1⟩ := rfl

theorem aggverify_ret01 (pubkeys : List Pt) (msgs : List Bytes) (agg : Option Bytes) :
    (aggverify pubkeys msgs agg).ret = 0 ∨ (aggverify pubkeys msgs agg).ret = 1 := by
  cases agg with
  | none => exact Or.inl rfl
  | some a => exact (aggverify_cases pubkeys msgs a).1

/-- `incAggregate` in normal form.  The buffer test keeps the shape of the C code (main_impl.h:36); the users turn it into
`32 * (n + 1) ≤ len` by `omega`. -/
theorem incAggregate_cases (aggsig : Bytes) (pks : List Pt) (msgs sigs : List Bytes) (nBefore : Nat) :
    (∃ ill, incAggregate aggsig pks msgs sigs nBefore = ⟨0, (aggsig, aggsig.length), ill⟩) ∨
    (nBefore ≤ (nBefore + sigs.length) % sizeMax ∧
      ¬ (aggsig.length / 32 ≤ 0 ∨ aggsig.length / 32 - 1 < (nBefore + sigs.length) % sizeMax) ∧
      ∃ s, incAggregate aggsig pks msgs sigs nBefore =
        ⟨1, (aggsig.take (32 * nBefore) ++ (sigs.map (·.take 32)).flatten ++ Bytes.be32 s
              ++ aggsig.drop (32 * ((nBefore + sigs.length) % sizeMax + 1)),
            32 * (1 + (nBefore + sigs.length) % sizeMax)), 0⟩) := by
  generalize hr : incAggregate aggsig pks msgs sigs nBefore = r
  unfold incAggregate at hr
  simp only [] at hr
  -- the six exits, in the order of the code: `n ≥ n_before`, keys NULL, messages NULL, buffer length, first loop, second loop
  split at hr
  · exact Or.inl ⟨_, hr.symm⟩
  rename_i h1
  split at hr
  · exact Or.inl ⟨_, hr.symm⟩
  split at hr
  · exact Or.inl ⟨_, hr.symm⟩
  split at hr
  · exact Or.inl ⟨_, hr.symm⟩
  rename_i h4
  split at hr
  · exact Or.inl ⟨_, hr.symm⟩
  split at hr
  · exact Or.inl ⟨_, hr.symm⟩
  · exact Or.inr ⟨Nat.le_of_not_lt (fun h => h1 (Nat.not_le.2 h)), h4, _, hr.symm⟩

/-- `ARG_CHECK(n >= n_before)` (main_impl.h:33): when the sum of the `size_t` values `n_before`, `n_new` wraps,
`secp256k1_schnorrsig_inc_aggregate` returns 0 with one illegal-argument callback. -/
theorem incAggregate_overflow (aggsig : Bytes) (pks : List Pt) (msgs sigs : List Bytes) (nBefore : Nat)
    (hb : nBefore < 2 ^ 64) (hn : sigs.length < 2 ^ 64) (hov : 2 ^ 64 ≤ nBefore + sigs.length) :
    incAggregate aggsig pks msgs sigs nBefore = ⟨0, (aggsig, aggsig.length), 1⟩ := by
  have hc : ¬ (nBefore + sigs.length) % sizeMax ≥ nBefore := by
    simp only [sizeMax]; omega
  simp only [incAggregate, if_pos hc]

example : incAggregate [] [] [] [[], []] (2 ^ 64 - 1) = ⟨0, ([], 0), 1⟩ :=
  incAggregate_overflow _ _ _ _ _ (by decide) (by decide) (by decide)

/-- `secp256k1_schnorrsig_inc_aggregate` on a buffer shorter than `32 * (n + 1)`, `n = n_before + n_new`.  Nothing is claimed
about the callback: a NULL key or message array (an empty list) with `n ≠ 0` is tested first and raises one. -/
theorem incAggregate_short (aggsig : Bytes) (pks : List Pt) (msgs sigs : List Bytes) (nBefore : Nat)
    (hnov : nBefore + sigs.length < 2 ^ 64)
    (hshort : aggsig.length < 32 * (nBefore + sigs.length + 1)) :
    (incAggregate aggsig pks msgs sigs nBefore).ret = 0 ∧
    (incAggregate aggsig pks msgs sigs nBefore).out = (aggsig, aggsig.length) := by
  have hmod : (nBefore + sigs.length) % sizeMax = nBefore + sigs.length :=
    Nat.mod_eq_of_lt (by simpa [sizeMax] using hnov)
  rcases incAggregate_cases aggsig pks msgs sigs nBefore with ⟨ill, h⟩ | ⟨_, h, _⟩
  · rw [h]; exact ⟨rfl, rfl⟩
  · rw [hmod] at h; omega

example : (incAggregate (Bytes.zeros 63) [Pt.G] [Bytes.zeros 32] [Bytes.zeros 64] 0).ret = 0 :=
  (incAggregate_short _ _ _ _ _ (by decide) (by decide)).1

/-- Clause "an aggregate of exactly 32*(n+1) bytes": when `secp256k1_schnorrsig_inc_aggregate` returns 1, `*aggsig_len` is
`32 * (n + 1)`, `n = n_before + n_new`, and fits the buffer.  The buffer keeps its length if every new signature has at
least 32 bytes (in C they are 64-byte arrays): the model copies `sg.take 32`, which is shorter for a shorter list. -/
theorem incAggregate_len (aggsig : Bytes) (pks : List Pt) (msgs sigs : List Bytes) (nBefore : Nat)
    (hb : nBefore < 2 ^ 64) (hn : sigs.length < 2 ^ 64)
    (h : (incAggregate aggsig pks msgs sigs nBefore).ret = 1) :
    32 * (nBefore + sigs.length + 1) ≤ aggsig.length ∧
    (incAggregate aggsig pks msgs sigs nBefore).out.2 = 32 * (nBefore + sigs.length + 1) ∧
    ((∀ sg ∈ sigs, 32 ≤ sg.length) →
      (incAggregate aggsig pks msgs sigs nBefore).out.1.length = aggsig.length) := by
  rcases incAggregate_cases aggsig pks msgs sigs nBefore with ⟨ill, h0⟩ | ⟨h1, h2, s, h3⟩
  · rw [h0] at h; exact absurd h Nat.zero_ne_one
  have hmod : (nBefore + sigs.length) % sizeMax = nBefore + sigs.length := by
    simp only [sizeMax] at h1 ⊢; omega
  rw [hmod] at h2 h3
  rw [h3]
  refine ⟨by omega, by simp only []; omega, fun hs => ?_⟩
  simp only [List.length_append, List.length_take, List.length_drop, Bytes.length_flatten_take 32 sigs hs,
    Bytes.be32_length]
  omega

/-- Non-vacuity of `incAggregate_len`: a call that returns 1 (`aggregate` is `incAggregate` with `n_before = 0`). -/
example : (aggregate (List.replicate 40 9) [] [] []).ret = 1 ∧
    (aggregate (List.replicate 40 9) [] [] []).out.2 = 32 ∧
    (aggregate (List.replicate 40 9) [] [] []).out.1 = Bytes.zeros 32 ++ List.replicate 8 9 := by
  decide +kernel

theorem incAggregate_ret01 (aggsig : Bytes) (pks : List Pt) (msgs sigs : List Bytes) (nBefore : Nat) :
    (incAggregate aggsig pks msgs sigs nBefore).ret = 0 ∨ (incAggregate aggsig pks msgs sigs nBefore).ret = 1 := by
  rcases incAggregate_cases aggsig pks msgs sigs nBefore with ⟨ill, h⟩ | ⟨_, _, s, h⟩
  · exact Or.inl (by rw [h])
  · exact Or.inr (by rw [h])

end C17
end SecpZkp
