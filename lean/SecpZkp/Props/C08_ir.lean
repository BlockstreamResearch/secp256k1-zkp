import SecpZkp.Proofs.SvdwIR
/-
  C08 (IR level): the hand-written model `Generator.svdw` (`Model/Generator.lean`) of `shallue_van_de_woestijne`
  (src/modules/generator/main_impl.h, the map behind `secp256k1_generator_generate`) is a faithful transcription of the C
  code.

  `Gen/F_generator.lean` is REGENERATED from the C source by the translator (mode F): a program over field VALUES with
  the magnitude contract of src/field.h (`FeIR.execL`; `none` = a field primitive is called outside its documented
  magnitude).  Theorem `svdw_eq`: for EVERY state with `t` of magnitude ≤ 1, running the generated body (three inlined
  `secp256k1_fe_sqrt`) succeeds and leaves in `ge` exactly the point `Generator.svdw t` — for all `t`,
  including `t = 0` (joint denominator 0, `secp256k1_fe_inv(0) = 0`).

  * `st.returned = false`: the function is entered normally.  All other variables of the state are arbitrary.
  * Hypothesis on `t`: magnitude ≤ 1.  This is the WEAKEST hypothesis under which every magnitude precondition holds
    (`svdw_mag_needed`): the last line of the function calls `secp256k1_fe_is_odd(t)`, whose contract (src/field.h) is
    "normalized"; everything else (`fe_sqr(&wd, t)`) would accept magnitude 8.  Both callers pass the output of
    `secp256k1_fe_set_b32_limit` (normalized).
  * The VALUE held by `t` is an arbitrary natural number in this IR.  The code depends on it only through `t mod P`, the
    model `Generator.svdw` takes the parity of its argument AS GIVEN; hence `svdw_eq` is stated for
    `Generator.svdw (t % P)`, `svdw_eq_of_lt` for `Generator.svdw t` when `t < P`, and `svdw_unreduced` shows that the
    two differ on an unreduced value.
  * Output: `RepA st' "ge" p 4 2` (`Proofs/GroupIR.lean`); `x2` has magnitude 4, the negated `y` magnitude 2.

  Method as in `Props/C18_ir_sqrt.lean`, with the explicit text `svPre ++ svPost S1 S2 S3`.  `svPre`, `svPost` are
  COPIES of generated text: a renumbering of the translator's temporaries (`fe_sqrt_10`, `odd_36`) breaks `body_eq`
  although nothing has changed; paste the text again from `Gen/F_generator.lean`.
-/
namespace SecpZkp.C08ir
open SecpZkp SecpZkp.FeIR SecpZkp.MiniC

-- the field operations are never unfolded below (see `Props/C18_ir.lean`)
attribute [local irreducible] Fe.add Fe.mul Fe.sqr Fe.neg Fe.inv Fe.isSquare Fe.half Fe.sqrtCand FeIR.canon

/-- the first part of `shallue_van_de_woestijne`: the three candidate abscissas and their right-hand sides -/
def svPre : List FeIR.Stmt := [
    .const "g.negc" 111189151296659785738170805967605665488771904429376448443557023963485213164509,
    .const "g.d" 60197513588986302554485582024885075108884032450952339817679072026166228089408,
    .sqr "wd" "t",
    .mul "x1" "g.negc" "wd",
    .set "x3d" "wd",
    .mulInt "x3d" 3,
    .neg "x3d" "x3d" 3,
    .addInt "wd" 8,
    .mul "jinv" "wd" "x3d",
    .inv "jinv" "jinv",
    .mul "x1" "x1" "x3d",
    .mul "x1" "x1" "jinv",
    .add "x1" "g.d",
    .set "x2" "x1",
    .addInt "x2" 1,
    .neg "x2" "x2" 3,
    .sqr "x3" "wd",
    .mul "x3" "x3" "wd",
    .mul "x3" "x3" "jinv",
    .addInt "x3" 1,
    .sqr "alphain" "x1",
    .mul "alphain" "alphain" "x1",
    .addInt "alphain" 7,
    .sqr "betain" "x2",
    .mul "betain" "betain" "x2",
    .addInt "betain" 7,
    .sqr "gammain" "x3",
    .mul "gammain" "gammain" "x3",
    .addInt "gammain" 7
  ]

/-- the second part: `alphaquad = fe_sqrt(&y1, &alphain)`, `betaquad = fe_sqrt(&y2, &betain)`, `fe_sqrt(&y3, &gammain)`
    (the three inlined bodies are parameters), the constant-time selection, `ge_set_xy`, and the sign choice -/
def svPost (S1 S2 S3 : List FeIR.Stmt) : List FeIR.Stmt := [
    .scope S1,
    .int "alphaquad" (.var "fe_sqrt_1.ret"),
    .scope S2,
    .int "betaquad" (.var "fe_sqrt_10.ret"),
    .scope S3,
    .cmov "x1" "x2" (.bin .and 32 (.lnot (.var "alphaquad")) (.var "betaquad")),
    .cmov "y1" "y2" (.bin .and 32 (.lnot (.var "alphaquad")) (.var "betaquad")),
    .cmov "x1" "x3" (.bin .and 32 (.lnot (.var "alphaquad")) (.lnot (.var "betaquad"))),
    .cmov "y1" "y3" (.bin .and 32 (.lnot (.var "alphaquad")) (.lnot (.var "betaquad"))),
    .scope [
      .int "ge.infinity" (.lit 0),
      .set "ge.x" "x1",
      .set "ge.y" "y1"
    ],
    .neg "tmp" "ge.y" 1,
    .isOdd "odd_36" "t",
    .cmov "ge.y" "tmp" (.var "odd_36")
  ]

def svS1 : List FeIR.Stmt := match Gen.generator.svdw.body.drop 29 with | .scope S :: _ => S | _ => []
def svS2 : List FeIR.Stmt := match Gen.generator.svdw.body.drop 31 with | .scope S :: _ => S | _ => []
def svS3 : List FeIR.Stmt := match Gen.generator.svdw.body.drop 33 with | .scope S :: _ => S | _ => []

theorem body_eq : Gen.generator.svdw.body = svPre ++ svPost svS1 svS2 svS3 := by rfl

example : svS1.length = 530 ∧ svS2.length = 530 ∧ svS3.length = 530 ∧ svPre.length = 29 := by decide +kernel

theorem svdw_pre (fe : FeEnv) (ints : Env) (T mt : ℕ) (htv : fe.get "t" = ⟨T, mt⟩) (ht : mt ≤ 8) :
    Post (FeIR.execL ⟨fe, ints, false⟩ svPre) (fun st1 => st1.returned = false ∧
      st1.fe.get "x1" = ⟨x1v T, 2⟩ ∧ st1.fe.get "x2" = ⟨x2v T, 4⟩ ∧ st1.fe.get "x3" = ⟨x3v T, 2⟩ ∧
      st1.fe.get "alphain" = ⟨rhsv (x1v T), 2⟩ ∧ st1.fe.get "betain" = ⟨rhsv (x2v T), 2⟩ ∧
      st1.fe.get "gammain" = ⟨rhsv (x3v T), 2⟩ ∧ st1.fe.get "t" = ⟨T, mt⟩) := by
  sv_run [svPre, htv, Fe.mul_comm' (Fe.sqr T) 3, Nat.reduceAdd, Nat.reduceMul, x1v, x2v, x3v, rhsv, jinvv, wdv, x3dv,
    and_self]

theorem isOdd_canon (T : ℕ) : (Fe.isOdd (T % P) = true) = (canon T % 2 = 1) := by
  simp [Fe.isOdd, canon_def]

/-- the field variables that are live across the first / second / third inlined `fe_sqrt` -/
def keep1 : List String := ["x1", "x2", "x3", "betain", "gammain", "t"]
def keep2 : List String := ["x1", "x2", "x3", "y1", "gammain", "t"]
def keep3 : List String := ["x1", "x2", "x3", "y1", "y2", "t"]

/-- second part, with ARBITRARY statement lists in place of the three inlined `fe_sqrt` bodies (only their contract
    `SqrtSpec` is assumed).  One symbolic run serves `svdw_flags` (success) and `svdw_rejects` (failure): the only statement
    that looks at the magnitude `mt` of `t` is the last `isOdd`, hence the `if` in the conclusion. -/
theorem svdw_post (S1 S2 S3 : List FeIR.Stmt)
    (h1 : SqrtSpec S1 "y1" "alphain" "fe_sqrt_1.ret" keep1 [])
    (h2 : SqrtSpec S2 "y2" "betain" "fe_sqrt_10.ret" keep2 ["alphaquad"])
    (h3 : SqrtSpec S3 "y3" "gammain" "fe_sqrt_19.ret" keep3 ["alphaquad", "betaquad"])
    (fe : FeEnv) (ints : Env) (X1 X2 X3 A B C T mt : ℕ)
    (hx1 : fe.get "x1" = ⟨X1, 2⟩) (hx2 : fe.get "x2" = ⟨X2, 4⟩) (hx3 : fe.get "x3" = ⟨X3, 2⟩)
    (ha : fe.get "alphain" = ⟨A, 2⟩) (hb : fe.get "betain" = ⟨B, 2⟩) (hc : fe.get "gammain" = ⟨C, 2⟩)
    (ht : fe.get "t" = ⟨T, mt⟩) (hX1 : X1 < P) (hX2 : X2 < P) (hX3 : X3 < P) :
    if mt ≤ 1 then Post (FeIR.execL ⟨fe, ints, false⟩ (svPost S1 S2 S3))
      (fun st' => RepA st' "ge" (svSel X1 X2 X3 A B C T) 4 2 ∧
        st'.ints.get "alphaquad" 0 = sqrtFlag A ∧ st'.ints.get "betaquad" 0 = sqrtFlag B)
    else FeIR.execL ⟨fe, ints, false⟩ (svPost S1 S2 S3) = none := by
  sv_run [svPost]
  generalize hE : FeIR.execL _ S1 = o
  refine h1.elim hE ?_ (fun fe1 ints1 ho hr1 hf1 hkf1 _ => ?_)
  · simp only [ha]; decide
  · subst ho
    frame_facts [keep1, hx1, hx2, hx3, hb, hc, ht] at hkf1
    simp only [ha] at hr1 hf1
    sv_run [hf1]
    generalize hE : FeIR.execL _ S2 = o
    refine h2.elim hE ?_ (fun fe2 ints2 ho hr2 hf2 hkf2 hki2 => ?_)
    · simp only [hkf1]; decide
    · subst ho
      frame_facts [keep2, hkf1, hr1] at hkf2 hki2
      fe_get [] at hki2
      simp only [hkf1] at hr2 hf2
      sv_run [hf2]
      generalize hE : FeIR.execL _ S3 = o
      refine h3.elim hE ?_ (fun fe3 ints3 ho hr3 _ hkf3 hki3 => ?_)
      · simp only [hkf2]; decide
      · subst ho
        frame_facts [keep3, hkf2, hr2] at hkf3 hki3
        fe_get [hki2] at hki3
        simp only [hkf2] at hr3
        by_cases hmt : mt ≤ 1 <;> simp only [hmt, if_true, if_false]
        swap
        · sv_run [hr3, hkf3, hki3, guard'_neg hmt, cont_none]
        sv_run [hr3, hkf3, hki3]
        fe_get [RepA']
        refine ⟨by decide, by decide, Or.inr ⟨trivial, ?_⟩⟩
        unfold svSel svSel0
        by_cases hA : Fe.isSquare A = true <;> by_cases hB : Fe.isSquare B = true <;>
          by_cases ho : canon T % 2 = 1 <;>
          simp only [hA, hB, ho, isOdd_canon, Bool.false_eq_true, if_true, if_false, not_true_eq_false,
            not_false_eq_true, and_self, and_true, and_false, Nat.mod_eq_of_lt hX1, Nat.mod_eq_of_lt hX2,
            Nat.mod_eq_of_lt hX3, Nat.mod_eq_of_lt (Fe.neg_lt_P _), Nat.mod_eq_of_lt (Fe.sqrtCand_lt_P _)]

/-- the addition chains (everything before `secp256k1_fe_sqr(r, &t1)`) -/
def svChain1 : List FeIR.Stmt := svS1.take 524
def svChain2 : List FeIR.Stmt := svS2.take 524
def svChain3 : List FeIR.Stmt := svS3.take 524

set_option maxRecDepth 100000 in
theorem svS1_eq : svS1 = svChain1 ++
    sqrtTail "y1" "fe_sqrt_1.t1" "fe_equal_4.na" "alphain" "z_9" "fe_equal_4.ret" "fe_sqrt_1.ret" := by rfl
set_option maxRecDepth 100000 in
theorem svS2_eq : svS2 = svChain2 ++
    sqrtTail "y2" "fe_sqrt_10.t1" "fe_equal_13.na" "betain" "z_18" "fe_equal_13.ret" "fe_sqrt_10.ret" := by rfl
set_option maxRecDepth 100000 in
theorem svS3_eq : svS3 = svChain3 ++
    sqrtTail "y3" "fe_sqrt_19.t1" "fe_equal_22.na" "gammain" "z_27" "fe_equal_22.ret" "fe_sqrt_19.ret" := by rfl

theorem svS1_spec : SqrtSpec svS1 "y1" "alphain" "fe_sqrt_1.ret" keep1 [] := by
  rw [svS1_eq]; exact sqrt_fn _ _ _ _ _ _ _ _ _ _ (by decide +kernel)
theorem svS2_spec : SqrtSpec svS2 "y2" "betain" "fe_sqrt_10.ret" keep2 ["alphaquad"] := by
  rw [svS2_eq]; exact sqrt_fn _ _ _ _ _ _ _ _ _ _ (by decide +kernel)
theorem svS3_spec : SqrtSpec svS3 "y3" "gammain" "fe_sqrt_19.ret" keep3 ["alphaquad", "betaquad"] := by
  rw [svS3_eq]; exact sqrt_fn _ _ _ _ _ _ _ _ _ _ (by decide +kernel)

/-- `svdw_eq` together with the two flags the selection is made on (`alphaquad`, `betaquad`: whether the right-hand
    sides of the first two candidates are squares) -/
theorem svdw_flags (st : State) (hret : st.returned = false) (ht : (st.fe.get "t").mag ≤ 1) :
    ∃ st', FeIR.execL st Gen.generator.svdw.body = some st' ∧
      RepA st' "ge" (Generator.svdw ((st.fe.get "t").val % P)) 4 2 ∧
      st'.ints.get "alphaquad" 0 = sqrtFlag (rhsv (x1v (st.fe.get "t").val)) ∧
      st'.ints.get "betaquad" 0 = sqrtFlag (rhsv (x2v (st.fe.get "t").val)) := by
  obtain ⟨fe, ints, ret⟩ := st
  simp only at hret ht; subst hret
  generalize htv : fe.get "t" = tv at ht; obtain ⟨T, mt⟩ := tv
  simp only at ht ⊢
  rw [body_eq, svdw_model]
  apply Post.elim
  refine post_append _ (svdw_pre fe ints T mt htv (by omega)) ?_
  rintro ⟨fe1, ints1, r1⟩ ⟨hr1, hx1, hx2, hx3, ha, hb, hc, ht1⟩
  simp only at hr1 hx1 hx2 hx3 ha hb hc ht1; subst hr1
  have h := svdw_post svS1 svS2 svS3 svS1_spec svS2_spec svS3_spec fe1 ints1 _ _ _ _ _ _ T mt hx1 hx2 hx3 ha hb hc ht1
    (x1v_lt T) (x2v_lt T) (x3v_lt T)
  rwa [if_pos ht] at h

/-- `shallue_van_de_woestijne(ge, t)`, the generated body as it stands (three inlined square roots), for every value of
    `t`; the hypotheses are discussed at the head of the file. -/
theorem svdw_eq (st : State) (hret : st.returned = false) (ht : (st.fe.get "t").mag ≤ 1) :
    ∃ st', FeIR.execL st Gen.generator.svdw.body = some st' ∧
      RepA st' "ge" (Generator.svdw ((st.fe.get "t").val % P)) 4 2 :=
  let ⟨st', h, hr, _⟩ := svdw_flags st hret ht
  ⟨st', h, hr⟩

/-- `svdw_eq` for a reduced value of `t` (every normalized C field element; what both callers pass) -/
theorem svdw_eq_of_lt (st : State) (hret : st.returned = false) (ht : (st.fe.get "t").mag ≤ 1)
    (hlt : (st.fe.get "t").val < P) :
    ∃ st', FeIR.execL st Gen.generator.svdw.body = some st' ∧ RepA st' "ge" (Generator.svdw (st.fe.get "t").val) 4 2 := by
  have h := svdw_eq st hret ht
  rwa [Nat.mod_eq_of_lt hlt] at h

def runsToF (t m : ℕ) (p : Pt) (aq bq : ℕ) : Bool :=
  (FeIR.execL ⟨[("t", ⟨t, m⟩)], [], false⟩ Gen.generator.svdw.body).map
    (fun st' => (decide (RepA st' "ge" p 4 2), st'.ints.get "alphaquad" 0, st'.ints.get "betaquad" 0)) =
    some (true, aq, bq)

def runsTo (t m : ℕ) (p : Pt) : Bool :=
  (FeIR.execL ⟨[("t", ⟨t, m⟩)], [], false⟩ Gen.generator.svdw.body).map (fun st' => decide (RepA st' "ge" p 4 2)) =
    some true

/-- for the examples: by `svdw_flags` the kernel has only the model function and the two quadratic characters left to
    evaluate, not the run -/
theorem runsToF_of {t m aq bq : ℕ} {p : Pt} (hm : m ≤ 1) (hp : Generator.svdw (t % P) = p)
    (ha : sqrtFlag (rhsv (x1v t)) = aq) (hb : sqrtFlag (rhsv (x2v t)) = bq) : runsToF t m p aq bq = true := by
  obtain ⟨st', h, hr, h1, h2⟩ := svdw_flags ⟨[("t", ⟨t, m⟩)], [], false⟩ rfl hm
  have hr' : decide (RepA st' "ge" p 4 2) = true := decide_eq_true (hp ▸ hr)
  unfold runsToF
  rw [h, Option.map_some, hr', h1, h2]
  exact decide_eq_true (by rw [← ha, ← hb]; rfl)

set_option maxRecDepth 100000 in
/-- non-vacuity of `svdw_eq` / `svdw_eq_of_lt`: `t = 0` (joint denominator 0, first candidate),
    `t = 1` (odd; second candidate: `alphaquad = 0`, `betaquad = 1`) -/
example : runsToF 0 1 (Generator.svdw 0) 1 1 = true ∧ runsToF 1 1 (Generator.svdw 1) 0 1 = true :=
  ⟨runsToF_of (by decide) (by decide +kernel) (by decide +kernel) (by decide +kernel),
   runsToF_of (by decide) (by decide +kernel) (by decide +kernel) (by decide +kernel)⟩

/-- `t = 0`: the joint denominator is 0, `secp256k1_fe_inv` returns 0, and the function outputs the point `(d, √(d³+7))`
    (the comment "If j = 0, the function outputs the point (d, f(d))" of the C source) -/
theorem svdw_zero : Generator.svdw 0 = .aff Generator.dconst (Fe.sqrtCand (rhsv Generator.dconst)) := by
  have hx : x1v 0 = Generator.dconst := by decide +kernel
  have hs : Fe.isSquare (rhsv Generator.dconst) = true := by decide +kernel
  rw [svdw_model0, hx]; unfold svSel0; rw [if_pos hs, (by decide : Fe.isOdd 0 = false)]
  simp only [Bool.false_eq_true, if_false]

set_option maxRecDepth 100000 in
/-- non-vacuity, continued: `t = 4` (even; second candidate), `t = 5` (odd; first candidate: `alphaquad = 1`) -/
example : runsToF 4 1 (Generator.svdw 4) 0 1 = true ∧ runsToF 5 1 (Generator.svdw 5) 1 0 = true :=
  ⟨runsToF_of (by decide) (by decide +kernel) (by decide +kernel) (by decide +kernel),
   runsToF_of (by decide) (by decide +kernel) (by decide +kernel) (by decide +kernel)⟩

set_option maxRecDepth 100000 in
/-- non-vacuity, continued: `t = 9` (odd) and `t = 10` (even): third candidate (`alphaquad = betaquad = 0`); the result is
    a valid point (in general: `GeneratorLemmas.svdw_valid`) -/
example : runsToF 9 1 (Generator.svdw 9) 0 0 = true ∧ runsToF 10 1 (Generator.svdw 10) 0 0 = true ∧
    (Generator.svdw 9).valid = true :=
  ⟨runsToF_of (by decide) (by decide +kernel) (by decide +kernel) (by decide +kernel),
   runsToF_of (by decide) (by decide +kernel) (by decide +kernel) (by decide +kernel), by decide +kernel⟩

/-- by `svdw_eq`, and because a state represents at most one point -/
theorem runsTo_eq {t m : ℕ} (hm : m ≤ 1) (p : Pt) : runsTo t m p = decide (p = Generator.svdw (t % P)) := by
  obtain ⟨st', h, hr⟩ := svdw_eq ⟨[("t", ⟨t, m⟩)], [], false⟩ rfl hm
  change RepA st' "ge" (Generator.svdw (t % P)) 4 2 at hr
  unfold runsTo
  rw [h, Option.map_some]
  refine decide_eq_decide.2 ⟨fun hp => ?_, fun hp => hp ▸ congrArg some (decide_eq_true hr)⟩
  obtain ⟨_, _, hp⟩ := of_decide_eq_true (Option.some.inj hp)
  obtain ⟨_, _, hr⟩ := hr
  rcases hp with ⟨h1, rfl⟩ | ⟨h1, rfl⟩ <;> rcases hr with ⟨h2, e⟩ | ⟨h2, e⟩ <;> first | exact e.symm | omega

theorem svdw_rejects (st : State) (hret : st.returned = false) (h1 : ¬ (st.fe.get "t").mag ≤ 1)
    (h8 : (st.fe.get "t").mag ≤ 8) : FeIR.execL st Gen.generator.svdw.body = none := by
  obtain ⟨fe, ints, ret⟩ := st
  simp only at hret h1 h8; subst hret
  generalize htv : fe.get "t" = tv at h1 h8; obtain ⟨T, mt⟩ := tv
  obtain ⟨⟨fe1, ints1, r1⟩, e1, hr1, hx1, hx2, hx3, ha, hb, hc, ht1⟩ := svdw_pre fe ints T mt htv h8
  simp only at hr1 hx1 hx2 hx3 ha hb hc ht1; subst hr1
  have h := svdw_post svS1 svS2 svS3 svS1_spec svS2_spec svS3_spec fe1 ints1 _ _ _ _ _ _ T mt hx1 hx2 hx3 ha hb hc ht1
    (x1v_lt T) (x2v_lt T) (x3v_lt T)
  rw [if_neg h1] at h
  rw [body_eq, execL_append, e1, cont_some, h]

/-- the hypothesis `magnitude ≤ 1` of `svdw_eq` is sharp: with `t` of magnitude 2 the run is rejected (the precondition
    of `secp256k1_fe_is_odd(t)` in the last line of the function), whatever the value -/
theorem svdw_mag_needed :
    (FeIR.execL ⟨[("t", ⟨1, 2⟩)], [], false⟩ Gen.generator.svdw.body).isSome = false := by
  rw [svdw_rejects ⟨[("t", ⟨1, 2⟩)], [], false⟩ rfl (show ¬ 2 ≤ 1 by decide) (show 2 ≤ 8 by decide)]; rfl

/-- Unreduced values.  On the representative `P + 1` of the field element 1 the code (which only sees `t mod P`) computes
    `Generator.svdw 1`, as `svdw_eq` says; the model function applied to the unreduced number `P + 1` takes the parity of
    `P + 1` (even) and returns the NEGATED point.  So `Generator.svdw` is not a function of `t mod P`, and the hypothesis
    `t < P` of `svdw_eq_of_lt` cannot be dropped.  (The model's only caller, `Generator.generateInternal`, applies
    `svdw` to `_ % P`; a normalized C field element is `< P`.) -/
theorem svdw_unreduced : runsTo (P + 1) 1 (Generator.svdw 1) = true ∧ runsTo (P + 1) 1 (Generator.svdw (P + 1)) = false ∧
    Generator.svdw (P + 1) = Pt.neg (Generator.svdw 1) :=
  ⟨by rw [runsTo_eq (by decide)]; decide +kernel, by rw [runsTo_eq (by decide)]; decide +kernel, by decide +kernel⟩

end SecpZkp.C08ir
