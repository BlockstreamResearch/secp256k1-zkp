import SecpZkp.Gen.Guards
/-! # C01 — the argument checks the model assumes are present at the C call sites (translator mode G)

`Gen.Facts.*` is regenerated from clang's AST of /repo on every run (tools/c2lean_g.py): one fact per call of a
fallible primitive (range-checked field/scalar decoding, curve membership, infinity / zero tests, nested parsers)
inside the functions this property is anchored in: the callee, the ordinal of the call among those of this callee,
whether the call's result steers control flow (`resultChecked`) and whether the overflow flag it writes is read before
being overwritten (`flag = some true`; `none` = the call passes NULL, i.e. reduces silently).  The executable model
rejects out-of-range encodings at exactly these places; the theorems below tie the C side to the same shape.  A fact
list that does not match is a broken tie (the check then searches for a failing input with the differential
generators).  This text holds for every `Props/C*_guards.lean`; it stands here only. -/
namespace SecpZkp.Props.C01_guards
open SecpZkp.Gen

theorem ecdsa_sig_verify_sites : Facts.ecdsa_sig_verify = [
    ⟨.scalar_is_zero, 1, true, none⟩,
    ⟨.scalar_is_zero, 2, true, none⟩,
    ⟨.gej_is_infinity, 1, true, none⟩,
    ⟨.fe_impl_set_b32_limit, 1, true, none⟩
  ] := by decide

theorem ecdsa_verify_sites : Facts.ecdsa_verify = [
    ⟨.scalar_set_b32, 1, false, none⟩,
    ⟨.scalar_is_high, 1, true, none⟩,
    ⟨.pubkey_load, 1, true, none⟩
  ] := by decide

theorem ecdsa_signature_parse_compact_sites : Facts.ecdsa_signature_parse_compact = [
    ⟨.scalar_set_b32, 1, false, some true⟩,
    ⟨.scalar_set_b32, 2, false, some true⟩
  ] := by decide

theorem ecdsa_recoverable_signature_parse_compact_sites : Facts.ecdsa_recoverable_signature_parse_compact = [
    ⟨.scalar_set_b32, 1, false, some true⟩,
    ⟨.scalar_set_b32, 2, false, some true⟩
  ] := by decide

theorem ecdsa_sig_sign_sites : Facts.ecdsa_sig_sign = [
    ⟨.scalar_set_b32, 1, false, some true⟩,
    ⟨.scalar_is_high, 1, true, none⟩,
    ⟨.scalar_is_zero, 1, true, none⟩,
    ⟨.scalar_is_zero, 2, true, none⟩
  ] := by decide

theorem ecdsa_sign_inner_sites : Facts.ecdsa_sign_inner = [
    ⟨.scalar_set_b32_seckey, 1, true, none⟩,
    ⟨.scalar_set_b32, 1, false, none⟩,
    ⟨.scalar_set_b32_seckey, 2, true, none⟩
  ] := by decide

theorem ecdsa_signature_load_sites : Facts.ecdsa_signature_load = [
    ⟨.scalar_set_b32, 1, false, none⟩,
    ⟨.scalar_set_b32, 2, false, none⟩
  ] := by decide

theorem ecdsa_recover_sites : Facts.ecdsa_recover = [
    ⟨.scalar_set_b32, 1, false, none⟩
  ] := by decide

theorem ecdsa_recoverable_signature_load_sites : Facts.ecdsa_recoverable_signature_load = [
    ⟨.scalar_set_b32, 1, false, none⟩,
    ⟨.scalar_set_b32, 2, false, none⟩
  ] := by decide

theorem ecdsa_sig_recover_sites : Facts.ecdsa_sig_recover = [
    ⟨.scalar_is_zero, 1, true, none⟩,
    ⟨.scalar_is_zero, 2, true, none⟩,
    ⟨.fe_impl_set_b32_limit, 1, true, none⟩,
    ⟨.ge_set_xo_var, 1, true, none⟩,
    ⟨.gej_is_infinity, 1, true, none⟩
  ] := by decide

def all : List CallFact := Facts.ecdsa_sig_verify ++ Facts.ecdsa_verify ++ Facts.ecdsa_signature_parse_compact ++ Facts.ecdsa_recoverable_signature_parse_compact ++ Facts.ecdsa_sig_sign ++ Facts.ecdsa_sign_inner ++ Facts.ecdsa_signature_load ++ Facts.ecdsa_recover ++ Facts.ecdsa_recoverable_signature_load ++ Facts.ecdsa_sig_recover

/-- No overflow flag written by a scalar decoding in these functions is ignored (overwritten or never read). -/
theorem no_flag_dropped : ∀ f ∈ all, f.flag ≠ some false := by decide

/-- non-vacuity: the regenerated fact lists are not empty -/
example : all.length = 28 := by decide

end SecpZkp.Props.C01_guards
