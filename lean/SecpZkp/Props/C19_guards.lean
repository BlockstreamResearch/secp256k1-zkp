import SecpZkp.Gen.Guards
/-! # C19 — the argument checks the model assumes are present at the C call sites (translator mode G)

How to read a fact, and what a mismatch means: `Props/C01_guards.lean`. -/
namespace SecpZkp.Props.C19_guards
open SecpZkp.Gen

theorem bppp_rangeproof_norm_product_verify_sites : Facts.bppp_rangeproof_norm_product_verify = [
    ⟨.scalar_set_b32, 1, false, some true⟩,
    ⟨.scalar_set_b32, 2, false, some true⟩,
    ⟨.scalar_is_zero, 1, true, none⟩
  ] := by decide

theorem bppp_generators_parse_sites : Facts.bppp_generators_parse = [
    ⟨.generator_parse, 1, true, none⟩
  ] := by decide

theorem bppp_parse_one_of_points_sites : Facts.bppp_parse_one_of_points = [
    ⟨.memcmp_var, 1, true, none⟩,
    ⟨.ge_parse_ext, 1, true, none⟩
  ] := by decide

theorem bppp_challenge_scalar_sites : Facts.bppp_challenge_scalar = [
    ⟨.scalar_set_b32, 1, false, none⟩
  ] := by decide

def all : List CallFact := Facts.bppp_rangeproof_norm_product_verify ++ Facts.bppp_generators_parse ++ Facts.bppp_parse_one_of_points ++ Facts.bppp_challenge_scalar

/-- No overflow flag written by a scalar decoding in these functions is ignored (overwritten or never read). -/
theorem no_flag_dropped : ∀ f ∈ all, f.flag ≠ some false := by decide

/-- non-vacuity: the regenerated fact lists are not empty -/
example : all.length = 7 := by decide

end SecpZkp.Props.C19_guards
