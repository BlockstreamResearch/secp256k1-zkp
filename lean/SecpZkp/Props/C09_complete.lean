import SecpZkp.Props.C09_ring
import SecpZkp.Props.C09_params
import SecpZkp.Proofs.RangeproofAssemble
import SecpZkp.Props.C08
/-
  C09 (part "complete"): every range proof the library creates verifies and reports the header's range, which contains
  the value: `secp256k1_rangeproof_sign` ⇒ `secp256k1_rangeproof_verify` (`rangeproof_complete`).  Closed form (uses
  `groupLaw`); SHA-256 and HMAC/RFC 6979 are treated as opaque; of the field square root the proof uses that a valid point
  is recovered from its abscissa and its sign flag (`GeneratorLemmas.quad_select`).

  `signCore_complete` is the argument, for arbitrary consistent ring data: the embedded Borromean signature verifies
  (`Props/C09_ring.lean`) and each field of `VerifyChecks` holds of the bytes written, so `verifyImpl_accept_iff` gives
  acceptance.  `rangeproof_complete_impl` is its instance for the data `sign_impl` derives (`sign_ring_hyps`, and the
  header round trip of `Props/C09_params.lean`); `rangeproof_complete` reads the commitment object through
  `C08.commit_denotes`.

  NOT proved: `rewind_recovers` (rewinding with the creator's nonce returns value, blinding factor and message).
-/
namespace SecpZkp
namespace Rangeproof
open SecpZkp.Algebra SecpZkp.C09

def signRand (pp : ProveParams) (message : Option Bytes) (msgLen : Nat) (nonce : Bytes) (commit genp : Pt) : GenRand :=
  genrand (some (signPrep pp message msgLen)) pp.rsizes nonce commit (signHeader pp) genp

/-- `sign_impl` with its intermediate values named -/
theorem signImpl_eq (plen minValue : Nat) (commit : Pt) (blind nonce : Bytes) (exp minBits : Int) (value : Nat)
    (message : Option Bytes) (msgLen : Nat) (extra : Option Bytes) (genp : Pt) :
    signImpl plen minValue commit blind nonce exp minBits value message msgLen extra genp =
      (let pp := signParams minValue value exp minBits
       let gr := signRand pp message msgLen nonce commit genp
       if plen < 65 ∨ minValue > value ∨ minBits > 64 ∨ minBits < 0 ∨ exp < -1 ∨ exp > 18 then none else
       if !pp.ret then none else
       if msgLen > 0 ∧ msgLen > 128 * (pp.rings - 1) then none else
       if plen - (signHeader pp).length < 32 * (pp.npub + pp.rings - 1) + 32 + ((pp.rings + 6) >>> 3) then none else
       if !gr.ret then none else
       if (Sc.setB32 blind).2 = true ∨ Sc.add (gr.sec.getLastD 0) (Sc.setB32 blind).1 = 0 then none else
       signCore (signHeader pp) (shaPrefix commit genp (signHeader pp)) pp.exp pp.scale pp.rsizes pp.secidx
         (signSecs gr blind) (takeNonces pp.secidx 0 gr.s).1 (takeNonces pp.secidx 0 gr.s).2 genp extra) := by
  rfl

theorem signImpl_some (plen minValue : Nat) (commit : Pt) (blind nonce : Bytes) (exp minBits : Int) (value : Nat)
    (message : Option Bytes) (msgLen : Nat) (extra : Option Bytes) (genp : Pt) (proof : Bytes)
    (h : signImpl plen minValue commit blind nonce exp minBits value message msgLen extra genp = some proof) :
    let pp := signParams minValue value exp minBits
    let gr := signRand pp message msgLen nonce commit genp
    (65 ≤ plen ∧ minValue ≤ value ∧ -1 ≤ exp ∧ exp ≤ 18 ∧ 0 ≤ minBits ∧ minBits ≤ 64) ∧
    pp.ret = true ∧ requiredLen pp ≤ plen ∧ gr.ret = true ∧ (Sc.setB32 blind).2 = false ∧
    signCore (signHeader pp) (shaPrefix commit genp (signHeader pp)) pp.exp pp.scale pp.rsizes pp.secidx
      (signSecs gr blind) (takeNonces pp.secidx 0 gr.s).1 (takeNonces pp.secidx 0 gr.s).2 genp extra = some proof := by
  rw [signImpl_eq] at h
  simp only [Option.ite_none_left_eq_some, Bool.not_eq_true', Bool.not_eq_false, not_or] at h
  obtain ⟨h1, h2, -, h4, h5, h6, h7⟩ := h
  exact ⟨by omega, h2, by unfold requiredLen; omega, h5, by simpa using h6.1, h7⟩

/-- The hypotheses of `signCore_complete` that speak of the ring data alone hold inside a successful `sign_impl`; the last
    conjunct is `hring` of `rangeproof_ring_complete_partial`. -/
theorem sign_ring_hyps (minValue value : Nat) (exp minBits : Int) (pre : SignPre minValue value exp minBits)
    (hret : (signParams minValue value exp minBits).ret = true)
    (message : Option Bytes) (msgLen : Nat) (nonce blind : Bytes) (commit genp : Pt)
    (hgr : (signRand (signParams minValue value exp minBits) message msgLen nonce commit genp).ret = true) :
    let pp := signParams minValue value exp minBits
    let gr := signRand pp message msgLen nonce commit genp
    (∀ r ∈ pp.rsizes, 1 ≤ r) ∧ pp.secidx.length = pp.rsizes.length ∧
    (signSecs gr blind).length = pp.rsizes.length ∧
    (takeNonces pp.secidx 0 gr.s).1.length = pp.rsizes.length ∧
    (∀ x ∈ (takeNonces pp.secidx 0 gr.s).2, x < N) ∧
    (takeNonces pp.secidx 0 gr.s).2.length = pp.rsizes.sum ∧
    (∀ x ∈ signSecs gr blind, x < N) ∧
    zsum (signSecs gr blind) = ((Sc.setB32 blind).1 : ZMod N) ∧
    ∀ i, i < pp.rsizes.length →
      pp.secidx.getD i 0 < pp.rsizes.getD i 0 ∧ (signSecs gr blind).getD i 0 < N ∧
      (takeNonces pp.secidx 0 gr.s).1.getD i 0 < N ∧
      digitValue (pp.secidx.getD i 0) pp.scale i = pp.secidx.getD i 0 * pp.scale * 4 ^ i ∧
      ∀ j, j < pp.rsizes.getD i 0 → j ≠ pp.secidx.getD i 0 →
        (takeNonces pp.secidx 0 gr.s).2[Borromean.offset pp.rsizes i + j]? ≠ some 0 := by
  intro pp gr
  have ok : ParamsOK minValue value exp minBits pp := proveparams_ok 0 minValue value exp minBits pre hret
  obtain ⟨hlay1, hlay2, -⟩ := proveparams_layout 0 minValue value exp minBits pre hret
  have hrs : ∀ r ∈ pp.rsizes, 1 ≤ r ∧ r ≤ 4 := by
    intro r hr; rcases ok.rsizes_mem r hr with h | h | h <;> omega
  obtain ⟨g1, g2, g3, g4, g5, g6⟩ := genrand_spec (some (signPrep pp message msgLen)) pp.rsizes nonce commit
    (signHeader pp) genp
  have hgs : ∀ x ∈ gr.s, x < N := g4
  obtain ⟨t1, t2, t3, t4, t5⟩ := takeNonces_spec pp.secidx 0 gr.s hgs
  have hlen1 : pp.secidx.length = pp.rsizes.length := by rw [ok.secidx_len, ok.rsizes_len]
  have hrpos : 1 ≤ pp.rsizes.length := by rw [ok.rsizes_len]; exact ok.rings_pos
  have hseclen : (signSecs gr blind).length = pp.rsizes.length := by
    unfold signSecs
    have : gr.sec.length = pp.rsizes.length := g1
    simp; omega
  have hsecN : ∀ x ∈ signSecs gr blind, x < N := by
    intro x hx
    unfold signSecs at hx
    rcases List.mem_append.mp hx with h | h
    · exact g2 x (List.mem_of_mem_dropLast h)
    · simp only [List.mem_singleton] at h; subst h; exact Sc.add_lt _ _
  have hzs : zsum (signSecs gr blind) = ((Sc.setB32 blind).1 : ZMod N) := by
    have hne : gr.sec ≠ [] := by
      intro h; have : gr.sec.length = pp.rsizes.length := g1; rw [h] at this; simp at this; omega
    have hrne : pp.rsizes ≠ [] := by intro h; rw [h] at hrpos; simp at hrpos
    have hz : zsum gr.sec = 0 := g6 hrne
    have hsplit : gr.sec = gr.sec.dropLast ++ [gr.sec.getLast hne] := (List.dropLast_append_getLast hne).symm
    have hgl : gr.sec.getLastD 0 = gr.sec.getLast hne := by
      rw [List.getLastD_eq_getLast?, List.getLast?_eq_some_getLast hne]; rfl
    unfold signSecs
    rw [hgl, zsum_append, zsum_cons, zsum_nil, Algebra.cast_add]
    rw [hsplit, zsum_append, zsum_cons, zsum_nil] at hz
    rw [add_zero] at hz ⊢
    rw [← add_assoc, hz, zero_add]
  refine ⟨fun r hr => (hrs r hr).1, hlen1, hseclen, by rw [t1, hlen1], t4, by rw [t3]; exact g3,
    hsecN, hzs, ?_⟩
  intro i hi
  have hdl := getD_lt_of_zip hlen1 ok.digit_lt
  have hr4 : ∀ t, t < pp.rsizes.length → pp.rsizes.getD t 0 ≤ 4 := fun t ht => by
    rw [List.getD_eq_getElem?_getD, List.getElem?_eq_getElem ht]
    exact (hrs _ (List.getElem_mem ht)).2
  refine ⟨hdl i hi, Algebra.getD_lt_N hsecN i, Algebra.getD_lt_N t2 i, ?_, ?_⟩
  · apply digitValue_nowrap
    have h1 := digitsValue_ge pp.secidx i
    rw [ok.digits] at h1
    have h2 := ok.value_eq
    have h3 := pre.value_lt
    calc pp.secidx.getD i 0 * pp.scale * 4 ^ i = (pp.secidx.getD i 0 * 4 ^ i) * pp.scale := by ring
      _ ≤ pp.v * pp.scale := Nat.mul_le_mul_right _ h1
      _ < 2 ^ 64 := by omega
  · intro j hj hne
    have hoff : Borromean.offset pp.rsizes i = 4 * i := by
      have hlay2' : (layout pp.mantissa).2.1 = pp.rsizes := hlay2
      have := layout_offset pp.mantissa i (by rw [hlay2']; exact hi)
      rw [hlay2'] at this; exact this
    rw [hoff, t5 (4 * i + j) (fun t ht heq => by
      have := hdl t (by omega)
      have := hdl i hi
      have := hr4 t (by omega)
      have := hr4 i hi
      have : t = i := by omega
      subst this
      omega)]
    intro h0
    have hmem : (0 : Nat) ∈ gr.s := List.mem_of_getElem? h0
    exact g5 hgr 0 hmem rfl

theorem five_parts {α : Type} (A B C E F : List α) (a b c e : Nat) (ha : A.length = a) (hb : B.length = b)
    (hc : C.length = c) (he : E.length = e) :
    (A ++ B ++ C ++ E ++ F).take a = A ∧ ((A ++ B ++ C ++ E ++ F).drop a).take b = B ∧
    (A ++ B ++ C ++ E ++ F).drop (a + b) = C ++ (E ++ F) ∧
    ((A ++ B ++ C ++ E ++ F).drop (a + b + c)).take e = E ∧
    (A ++ B ++ C ++ E ++ F).drop (a + b + c + e) = F ∧
    (A ++ B ++ C ++ E ++ F).length = a + b + c + e + F.length ∧
    (A ++ B ++ C ++ E ++ F) = A ++ (B ++ (C ++ (E ++ F))) := by
  subst ha hb hc he
  have e1 : A ++ B ++ C ++ E ++ F = A ++ (B ++ (C ++ (E ++ F))) := by simp only [List.append_assoc]
  refine ⟨?_, ?_, ?_, ?_, ?_, ?_, e1⟩
  · rw [e1, List.take_left' rfl]
  · rw [e1, List.drop_left' rfl, List.take_left' rfl]
  · rw [e1, ← List.drop_drop, List.drop_left' rfl, List.drop_left' rfl]
  · rw [e1, ← List.drop_drop, ← List.drop_drop, List.drop_left' rfl, List.drop_left' rfl, List.drop_left' rfl,
      List.take_left' rfl]
  · rw [e1, ← List.drop_drop, ← List.drop_drop, ← List.drop_drop, List.drop_left' rfl, List.drop_left' rfl,
      List.drop_left' rfl, List.drop_left' rfl]
  · simp only [List.length_append]

/-- `n` rings, so `n - 1` sign bits: when that is not a multiple of 8, the bits of the last sign byte `(n + 6) / 8 - 1`
    from position `(n - 1) % 8` on are not sign bits -/
theorem spare_bits_arith {n pos : Nat} (h7 : (n - 1) % 8 ≠ 0) (hk : (n - 1) % 8 ≤ pos) :
    1 ≤ (n + 6) / 8 ∧ ¬ (8 * ((n + 6) / 8 - 1) + pos + 1 < n) := by
  omega

/-- a streaming state, as `write_write` requires -/
theorem shaPrefix_absorbed (commit genp : Pt) (hdr : Bytes) :
    shaPrefix commit genp hdr =
      Sha256.after Sha256.iv 0 ([] ++ serializePoint commit ++ serializePoint genp ++ hdr) := by
  rw [shaPrefix, Sha256.init_eq, Sha256.write_after, Sha256.write_after, Sha256.write_after]

/-- Completeness of the proof assembly `signCore`, for ANY ring data satisfying the hypotheses of
    `rangeproof_ring_complete_partial` (not only those `sign_impl` derives) and any header `hd` that `hdr`, followed by
    anything, decodes to with the same ring layout and power of ten (`hhd … hexp`); `hcommit`, `hzs`, `hdv` tie the
    commitment to the blinding factors and the digit values. -/
theorem signCore_complete [HasGroupLaw] (hdr : Bytes) (exp : Int) (scale : Nat) (rsizes secidx sec k s : List Nat)
    (genp commit : Pt) (extra : Option Bytes) (proof : Bytes) (min0 max0 : Nat) (hd : Header) (blind value : Nat)
    (hgen : genp.valid = true) (hscale : scale = 10 ^ (if exp < 0 then 0 else exp.toNat))
    (hrs : ∀ r ∈ rsizes, 1 ≤ r) (hn1 : 1 ≤ rsizes.length)
    (hl1 : secidx.length = rsizes.length) (hl2 : sec.length = rsizes.length) (hl3 : k.length = rsizes.length)
    (hslen : s.length = rsizes.sum) (hsN : ∀ x ∈ s, x < N) (hsecN : ∀ x ∈ sec, x < N)
    (hring : ∀ i, i < rsizes.length →
      secidx.getD i 0 < rsizes.getD i 0 ∧ sec.getD i 0 < N ∧ k.getD i 0 < N ∧
      digitValue (secidx.getD i 0) scale i = secidx.getD i 0 * scale * 4 ^ i ∧
      ∀ j, j < rsizes.getD i 0 → j ≠ secidx.getD i 0 → s[Borromean.offset rsizes i + j]? ≠ some 0)
    (hnoinf : ∀ p ∈ pubExpand (digitPts scale genp sec secidx 0) exp rsizes genp, p ≠ .inf)
    (hhd : ∀ rest, 64 ≤ rest.length → vHeader min0 max0 (hdr ++ rest) = hd)
    (hret : hd.ret = true) (hoff : hd.offset = hdr.length)
    (hlay : layout hd.mantissa.toNat = (rsizes.length, rsizes, rsizes.sum))
    (hexp : (if hd.exp < 0 then 0 else hd.exp.toNat) = (if exp < 0 then 0 else exp.toNat))
    (hbN : blind < N) (hval : value < 2 ^ 64) (hcommit : commit = Pt.add (Pt.mulG blind) (Pt.mul value genp))
    (hzs : zsum sec = (blind : ZMod N)) (hdv : dvsum scale secidx 0 sec.length + hd.minValue = value)
    (hcore : signCore hdr (shaPrefix commit genp hdr) exp scale rsizes secidx sec k s genp extra = some proof) :
    verifyImpl none none min0 max0 commit proof extra genp = ⟨true, hd.minValue, hd.maxValue, none, none, none⟩ := by
  obtain ⟨sha1, signs, xs, e0, sOut, hdl, hbytes, hsig, hver⟩ :=
    rangeproof_ring_complete_partial hdr (shaPrefix commit genp hdr) exp scale rsizes secidx sec k s genp extra proof
      hgen hscale hrs hl1 hl2 hl3 (le_of_eq hslen.symm) hring hnoinf hcore
  clear hcore hnoinf hring hl3
  -- `D`: the digit commitments; `d1 … d5`: what `digitLoop` hashed and wrote of them (all but the last)
  generalize hD : digitPts scale genp sec secidx 0 = D at *
  obtain ⟨d1, d2, d3, d4, d5⟩ := digitLoop_out rsizes.length scale genp sec secidx 0 _ _ _ _ _ _ _ _
    (hD ▸ hdl) (by rw [hl2]; omega)
    (by intro t ht; rw [Algebra.length_zeros, Nat.shiftRight_eq_div_pow]; omega)
  rw [hD] at d1 d2 d3 d5
  rw [List.nil_append] at d3
  obtain ⟨L, hDL, hLlen, hLsum⟩ := digitPts_vsum scale genp hgen sec secidx 0 (by omega) hsecN
  rw [hD] at hDL
  have hLne : L ≠ [] := by intro h; rw [h] at hLlen; simp at hLlen; omega
  have hDlen : D.length = rsizes.length := by rw [hDL, List.length_map, hLlen, hl2]
  have hDne : D ≠ [] := by intro h; rw [h] at hDlen; simp at hDlen; omega
  have hDdl : D.dropLast = L.dropLast.map Subtype.val := by rw [hDL, List.map_dropLast]
  have hDgl : D.getLast hDne = (L.getLast hLne).1 := by
    have : D.getLast? = some (L.getLast hLne).1 := by
      rw [hDL, List.getLast?_map, List.getLast?_eq_some_getLast hLne]; rfl
    rw [List.getLast?_eq_some_getLast hDne] at this
    exact Option.some.inj this
  have hDdllen : D.dropLast.length = rsizes.length - 1 := by rw [List.length_dropLast, hDlen]
  -- `proof = hdr ‖ signs ‖ xs ‖ e0 ‖ scalars`; `p1 … p7` cut it at the offsets `verifyImpl` uses
  obtain ⟨se0, sOlen, sON⟩ := Borromean.sign_out hsig
  have hflat : (sOut.flatMap Bytes.be32).length = 32 * rsizes.sum := by rw [Bytes.length_flatMap _ 32 Bytes.be32_length, sOlen, hslen]
  obtain ⟨p1, p2, p3, p4, p5, p6, p7⟩ := five_parts hdr signs xs e0 (sOut.flatMap Bytes.be32) _
    ((rsizes.length + 6) >>> 3) _ _ rfl (by rw [d4, Algebra.length_zeros]) (by rw [d3, ← List.flatMap_def, Bytes.length_flatMap (fun p : Pt => Bytes.be32 p.xOf) 32 (fun _ => Bytes.be32_length _), hDdllen]) se0
  rw [← hbytes] at p1 p2 p3 p4 p5 p6 p7
  have hsum1 : 1 ≤ rsizes.sum := by
    cases hr : rsizes with
    | nil => rw [hr] at hn1; simp at hn1
    | cons r rs => have := hrs r (by rw [hr]; simp); simp; omega
  have hhdr : vHeader min0 max0 proof = hd := p7 ▸ hhd _ (by simp only [List.length_append, hflat]; omega)
  -- in the group of valid points: `commit − min•H − Σ D.dropLast` is the last digit commitment (`hlast`)
  let H : VPt := ⟨genp, hgen⟩
  have hvalB : value < mulBound := lt_trans hval (by decide +kernel)
  have hcommitV : commit = (gmulV (blind : ZMod N) + value • H).1 := by
    rw [hcommit, mulG_eq_gmul (lt_mulBound_of_lt_N hbN)]
    show Pt.add (gmulV _).1 (Pt.mul _ H.1) = _
    rw [mul_eq_nsmul hvalB]; rfl
  have hacc0 : (if hd.minValue ≠ 0 then Pt.mul hd.minValue genp else Pt.inf) = (hd.minValue • H).1 := by
    by_cases h0 : hd.minValue = 0
    · rw [if_neg (not_not.mpr h0), h0, zero_smul]; rfl
    · rw [if_pos h0]; exact mul_eq_nsmul (lt_of_le_of_lt (by omega) hvalB) H
  have hlast : Pt.add (Pt.neg (D.dropLast.foldl Pt.add (if hd.minValue ≠ 0 then Pt.mul hd.minValue genp else Pt.inf)))
      commit = D.getLast hDne := by
    rw [hacc0, hDdl, hcommitV, hDgl]
    exact last_digit_eq _ L hLne _ value hd.minValue _ (by rw [hLsum, hzs]) hdv
  have hvalidD : ∀ p ∈ D, p.valid = true := by
    intro p hp
    obtain ⟨v, _, rfl⟩ := List.mem_map.mp (hDL ▸ hp)
    exact v.2
  clear hcommit hcommitV hacc0 hDgl hDdl hLsum hDL hdv hzs
  -- `readDigits` returns `D.dropLast` and the signer's hash state; then the seven fields of `VerifyChecks`
  have hrd := readDigits_roundtrip D.dropLast 0 signs (e0 ++ sOut.flatMap Bytes.be32) (shaPrefix commit genp hdr) _
    (if hd.minValue ≠ 0 then Pt.mul hd.minValue genp else Pt.inf) [] (shaPrefix_absorbed commit genp hdr)
    (fun p hp => ⟨hvalidD p (List.mem_of_mem_dropLast hp), d1 p (List.mem_of_mem_dropLast hp)⟩)
    (fun k hk => by
      rw [hDdllen] at hk
      rw [Nat.zero_add, d5 k, if_pos ⟨Nat.zero_le _, by omega⟩, signBit_zeros, Bool.false_or, Nat.sub_zero]
      congr 2
      rw [List.getD_eq_getElem?_getD, List.getD_eq_getElem?_getD, List.getElem?_dropLast, if_pos (by omega)])
  rw [hDdllen, List.nil_append, ← d2, ← d3] at hrd
  have hns : (rsizes.length + 6) >>> 3 = (rsizes.length + 6) / 8 := Nat.shiftRight_eq_div_pow _ 3
  subst hhdr
  refine (verifyImpl_accept_iff none min0 max0 commit proof extra genp hlay).2 ⟨hret, D.dropLast,
    D.dropLast.foldl Pt.add (if (vHeader min0 max0 proof).minValue ≠ 0 then Pt.mul (vHeader min0 max0 proof).minValue genp
      else Pt.inf), sha1, sOut, ?_, ?_, ?_, ?_, ?_, ?_, ?_⟩
  · rw [hoff, p6, hflat]; omega
  · rintro ⟨hm7, hne⟩
    apply hne
    rw [Nat.and_two_pow_sub_one_eq_mod _ 3] at hm7 ⊢
    have h1 := (spare_bits_arith hm7 (Nat.le_refl _)).1
    have hidx : proof.getD ((vHeader min0 max0 proof).offset + (rsizes.length + 6) >>> 3 - 1) 0 =
        signs.getD ((rsizes.length + 6) / 8 - 1) 0 := by
      rw [hoff, p7, List.getD_eq_getElem?_getD, List.getD_eq_getElem?_getD, hns, Nat.add_sub_assoc h1,
        List.getElem?_append_right (Nat.le_add_right _ _), Nat.add_sub_cancel_left,
        List.getElem?_append_left (by rw [d4, Algebra.length_zeros, hns]; exact Nat.sub_lt h1 Nat.one_pos)]
    rw [hidx]
    apply shiftRight_eq_zero_of_signBit
    intro pos hk hpos
    rw [d5, if_neg (fun h => (spare_bits_arith hm7 hk).2 h.2), signBit_zeros]
  · rw [hoff, p1, p2, p3]
    exact hrd
  · rw [hlast]
    cases hg : D.getLast hDne with
    | inf => exact absurd hg (d1 _ (List.getLast_mem hDne))
    | aff _ _ => rfl
  · rw [hoff, p5]
    have := readScalars_flat [] sOut (sON hsN)
    rwa [List.append_nil, sOlen, hslen] at this
  · rw [hoff, p6, hflat]
  · rw [hoff, p4, hlast, List.dropLast_append_getLast hDne, pubExpand_exp _ _ _ _ _ hexp]
    exact hver

/-- C09, completeness at the level of the `_impl` functions, for a commitment POINT `commit = blind•G + value•genp`; the
    statement in words is at `rangeproof_complete`. -/
theorem rangeproof_complete_impl (plen minValue : Nat) (commit : Pt) (blind nonce : Bytes) (exp minBits : Int)
    (value : Nat) (message : Option Bytes) (msgLen : Nat) (extra : Option Bytes) (genp : Pt) (proof : Bytes)
    (min0 max0 : Nat)
    (hgen : genp.valid = true) (hval : value < 2 ^ 64)
    (hcommit : commit = Pt.add (Pt.mulG (Sc.setB32 blind).1) (Pt.mul value genp))
    (hnoinf : ∀ p ∈ signRingKeys (signParams minValue value exp minBits)
      (signRand (signParams minValue value exp minBits) message msgLen nonce commit genp) blind genp, p ≠ .inf)
    (hsign : signImpl plen minValue commit blind nonce exp minBits value message msgLen extra genp = some proof) :
    verifyImpl none none min0 max0 commit proof extra genp =
      ⟨true, (signParams minValue value exp minBits).minValue,
        (signParams minValue value exp minBits).minValue +
          (2 ^ (signParams minValue value exp minBits).mantissa - 1) * (signParams minValue value exp minBits).scale,
        none, none, none⟩ ∧
    (signParams minValue value exp minBits).minValue ≤ value ∧
    value ≤ (signParams minValue value exp minBits).minValue +
      (2 ^ (signParams minValue value exp minBits).mantissa - 1) * (signParams minValue value exp minBits).scale := by
  have : HasGroupLaw := ⟨groupLaw⟩
  obtain ⟨⟨hplen, hmin, he1, he2, hb1, hb2⟩, hret, hreq, hgr, hbov, hcore⟩ :=
    signImpl_some plen minValue commit blind nonce exp minBits value message msgLen extra genp proof hsign
  have pre : SignPre minValue value exp minBits := ⟨hmin, hval, he1, he2, hb1, hb2⟩
  obtain ⟨hrs, hl1, hl2, hl3, hsN, hslen, hsecN, hzs, hring⟩ :=
    sign_ring_hyps minValue value exp minBits pre hret message msgLen nonce blind commit genp hgr
  unfold signParams at *
  have ok := proveparams_ok 0 minValue value exp minBits pre hret
  obtain ⟨hlay1, hlay2, hexp0⟩ := proveparams_layout 0 minValue value exp minBits pre hret
  generalize hpp : proveParams 0 minValue exp minBits value = pp at *
  have hrl : pp.rsizes.length = pp.rings := ok.rsizes_len
  have hh1 := (signHeader_length_le pp).1
  obtain ⟨-, hr1, hr2, -⟩ := header_roundtrip 0 minValue value exp minBits pre pp hpp.symm hret
    (List.replicate 65 0) ⟨false, 0, 0, 0, 0, 0, 0⟩ rfl (by simp)
  refine ⟨?_, hr1, hr2⟩
  refine signCore_complete (signHeader pp) pp.exp pp.scale pp.rsizes pp.secidx _ _ _ genp commit extra proof min0 max0
    ⟨true, (signHeader pp).length, if pp.mantissa = 0 then -1 else pp.exp, pp.mantissa, pp.scale, pp.minValue,
      pp.minValue + (2 ^ pp.mantissa - 1) * pp.scale⟩ (Sc.setB32 blind).1 value hgen
    (by rw [if_neg (not_lt.mpr ok.exp_ge)]; exact ok.scale_eq) hrs (hrl ▸ ok.rings_pos) hl1 hl2 hl3 hslen hsN hsecN hring
    hnoinf (fun rest hlen => (header_roundtrip 0 minValue value exp minBits pre pp hpp.symm hret rest _ rfl (by
      rw [List.length_append]; omega)).1) rfl rfl
    ?_ ?_ (Sc.setB32_fst_lt _) hval hcommit hzs ?_ hcore
  · rw [Int.toNat_natCast]
    exact Prod.ext hlay1 (Prod.ext hlay2 (hlay2 ▸ (layout_spec pp.mantissa).2.2.2.1).symm) |>.trans (by rw [hrl])
  · by_cases hm0 : pp.mantissa = 0
    · rw [if_pos hm0, hexp0 hm0]; rfl
    · rw [if_neg hm0]
  · rw [hl2, dvsum_nowrap pp.scale pp.secidx 0 pp.rsizes.length (by omega)
      (fun t ht => by rw [Nat.zero_add]; exact (hring t ht).2.2.2.1)]
    rw [List.take_of_length_le (by omega), ok.digits, Nat.pow_zero, Nat.mul_one, Nat.mul_comm]
    exact ok.value_eq

theorem commitLoad_of_commit {blind : Bytes} {value : Nat} {gen : Pt} {commit : Bytes}
    (hgen : gen.valid = true) (h : Generator.commit blind value gen = some commit) :
    Generator.commitLoad commit = Pt.add (Pt.mulG (Sc.setB32 blind).1) (Pt.mul value gen) := by
  obtain ⟨hl, -, -, hb⟩ := C08.commit_denotes blind value gen hgen commit h
  rw [hl, Sc.setB32_of_lt hb]; rfl

/-- C09, completeness of range proofs.  Let `gen` be a valid generator, `value < 2^64`, and `commit` the Pedersen
    commitment `secp256k1_pedersen_commit(blind, value, gen)`.  If `secp256k1_rangeproof_sign` succeeds with output
    `proof` — for any buffer size, requested minimum, exponent, bit count, nonce, message and extra commitment — and no
    key of the ring array the prover derived (`signRingKeys`, the `pubs` array after `secp256k1_rangeproof_pub_expand`)
    is the point at infinity, then `secp256k1_rangeproof_verify` accepts `proof` for the same commitment, extra
    commitment and generator, and reports the range of the parameter set chosen by `secp256k1_range_proveparams` — the
    range encoded in the header — which contains the value.

    The side condition on the ring keys is necessary in the same sense as for `Borromean.borromean_complete`: the prover
    never tests the expanded keys, the verifier rejects an infinite key at any position (`ring key = ∞` means
    `sec_i•G = (j − d_i)·4^i·10^exp•gen` for some ring `i` and position `j`, i.e. a discrete-log relation between the
    derived blinding factor and `gen`).  Everything else the verifier checks is derived from the successful return of
    `sign`. -/
theorem rangeproof_complete (plen minValue : Nat) (commit blind nonce : Bytes) (exp minBits : Int) (value : Nat)
    (message extra : Option Bytes) (gen : Pt) (proof : Bytes) (min0 max0 : Nat)
    (hgen : gen.valid = true) (hval : value < 2 ^ 64)
    (hcommit : Generator.commit blind value gen = some commit)
    (hnoinf : ∀ p ∈ signRingKeys (signParams minValue value exp minBits)
      (signRand (signParams minValue value exp minBits) message ((message.map List.length).getD 0) nonce
        (Generator.commitLoad commit) gen) blind gen, p ≠ .inf)
    (hsign : sign plen minValue commit blind nonce exp minBits value message extra gen = some proof) :
    verify min0 max0 commit proof extra gen =
      ⟨true, (signParams minValue value exp minBits).minValue,
        (signParams minValue value exp minBits).minValue +
          (2 ^ (signParams minValue value exp minBits).mantissa - 1) * (signParams minValue value exp minBits).scale,
        none, none, none⟩ ∧
    (signParams minValue value exp minBits).minValue ≤ value ∧
    value ≤ (signParams minValue value exp minBits).minValue +
      (2 ^ (signParams minValue value exp minBits).mantissa - 1) * (signParams minValue value exp minBits).scale :=
  rangeproof_complete_impl plen minValue (Generator.commitLoad commit) blind nonce exp minBits value message
    ((message.map List.length).getD 0) extra gen proof min0 max0 hgen hval (commitLoad_of_commit hgen hcommit)
    hnoinf hsign

/-- example instance: generator `2•G`, value 1 (one ring of size 2), blinding factor 7, nonce 9, no message, no extra
    commitment, a 200-byte buffer -/
def xGen : Pt := Pt.mulG 2
def xBlind : Bytes := Bytes.be32 7
def xNonce : Bytes := Bytes.be32 9
def xCommit : Bytes := (Generator.commit xBlind 1 xGen).getD []

theorem x_commit : Generator.commit xBlind 1 xGen = some xCommit := by decide +kernel
theorem x_gen : xGen.valid = true := by decide +kernel
theorem x_sign : (sign 200 0 xCommit xBlind xNonce 0 0 1 none none xGen).isSome = true := by decide +kernel
/- `hnoinf` of `rangeproof_complete` as it instantiates at `message = none`, hence `(Option.map List.length none).getD 0` for `0` -/
theorem x_noinf : ∀ p ∈ signRingKeys (signParams 0 1 0 0)
    (signRand (signParams 0 1 0 0) none ((Option.map List.length (none : Option Bytes)).getD 0) xNonce
      (Generator.commitLoad xCommit) xGen) xBlind xGen, p ≠ .inf := by decide +kernel

/-- Non-vacuity of `rangeproof_complete`: for the example instance `secp256k1_rangeproof_sign` (evaluated by the kernel,
    RFC 6979 randomness included) succeeds and every hypothesis holds, so the proof it wrote verifies. -/
example : ∃ proof, sign 200 0 xCommit xBlind xNonce 0 0 1 none none xGen = some proof ∧
    (verify 0 0 xCommit proof none xGen).ret = true := by
  obtain ⟨proof, hp⟩ := Option.isSome_iff_exists.mp x_sign
  refine ⟨proof, hp, ?_⟩
  have := (rangeproof_complete 200 0 xCommit xBlind xNonce 0 0 1 none none xGen proof 0 0 x_gen (by decide) x_commit
    x_noinf hp).1
  rw [this]

end Rangeproof
end SecpZkp
