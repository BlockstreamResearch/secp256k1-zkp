import SecpZkp.Gen.P_api
import SecpZkp.Model.Keys
import SecpZkp.Props.C01_ir
import SecpZkp.Props.C04_ir
/-
  Property C01 (part "api_ir"): the REGENERATED public API functions of `secp256k1.c` / the extrakeys module
  (`Gen/P_api.lean`, translator mode P: `secp256k1_ecdsa_verify`, `_ecdsa_signature_normalize`, `_ec_pubkey_create`,
  `_ec_seckey_verify`, `_xonly_pubkey_tweak_add`, with their helpers inlined as `scope`s) compute exactly the
  hand-written model functions (`Ecdsa.verify`, `Ecdsa.normalize` of `Model/Ecdsa.lean`; `Keys.pubkeyCreate`,
  `Keys.seckeyVerify`, `Keys.xonlyTweakAdd` of `Model/Keys.lean`): return value, output objects (the all-zero object
  `Pt.inf` on failure) and the number of illegal-argument callbacks.

  Each function has a theorem `…_eq` on an arbitrary state `st` with `st.returned = false` (the inputs are whatever `st`
  binds to the parameter names; an unbound name reads as 0 / the all-zero object / 32 zero bytes).

  Hypotheses beyond "the state binds the inputs and has not returned":
  * `ecdsa_signature_normalize`, `ec_seckey_verify`, `ec_pubkey_create`: none (`Bytes.toNat` is total and the model uses
    the same conversion; `normalize` tests and negates the scalar `s` as it is, on both sides).
  * `ecdsa_verify`, `xonly_pubkey_tweak_add`: the callback counter `illegal` starts at 0 (the program increments the
    counter, the model reports the number of callbacks of this call).
  * `ecdsa_verify`: `sig.r < n`.  A signature object always holds reduced scalars; the program works with `r mod n`
    (`secp256k1_scalar_is_zero`, `secp256k1_scalar_get_b32`), the model with `r`.  The hypothesis cannot be dropped: see
    the example with `r + n` at the end (program 1, model 0).  Nothing is needed for `sig.s` (an `s ≥ n` is "high" and
    rejected first, on both sides), for the message, or for the key object (any point: both sides compute the same
    point `u2·Q + u1·G`; the all-zero object raises the callback on both sides, but only when `s` is low, because the
    key is loaded after the test of `s`).
  * `xonly_pubkey_tweak_add`: the key object is a valid point (or all-zero), for the reason given for
    `ec_pubkey_tweak_add` in `Props/C04_ir.lean` (`1·Q = Q`).  The hypothesis cannot be dropped: see the example with a
    non-canonical abscissa `G.x + p` at the end.
-/
namespace SecpZkp
namespace C01apiir
open MiniC AlgIR SecpZkp.Algebra KeysLemmas

/-- `ret` is the flag "`s` was high" -/
theorem signature_normalize_eq (st : State) (hret : st.returned = false) :
    (execL st Gen.Papi.ecdsa_signature_normalize.body).ints.get "ret" 0 =
      (Ecdsa.normalize (st.scGet "sigin.r", st.scGet "sigin.s")).1 ∧
    (execL st Gen.Papi.ecdsa_signature_normalize.body).scGet "sigout.r" =
      (Ecdsa.normalize (st.scGet "sigin.r", st.scGet "sigin.s")).2.1 ∧
    (execL st Gen.Papi.ecdsa_signature_normalize.body).scGet "sigout.s" =
      (Ecdsa.normalize (st.scGet "sigin.r", st.scGet "sigin.s")).2.2 := by
  obtain ⟨sc, fe, pt, bs, ints, rfl⟩ := st.exists_mk hret
  unfold Gen.Papi.ecdsa_signature_normalize
  simp only [alg_run, Ecdsa.normalize]
  by_cases hh : Sc.isHigh (lookup 0 sc "sigin.s") = true <;> simp [hh]

theorem seckey_verify_eq (st : State) (hret : st.returned = false) :
    (execL st Gen.Papi.ec_seckey_verify.body).ints.get "ret" 0 = Keys.seckeyVerify (st.byGet "seckey") := by
  obtain ⟨sc, fe, pt, bs, ints, rfl⟩ := st.exists_mk hret
  unfold Gen.Papi.ec_seckey_verify
  simp only [alg_run, seckeyVerify_eq, C04ir.seckey_flag]

theorem pubkey_create_eq (st : State) (hret : st.returned = false) :
    (execL st Gen.Papi.ec_pubkey_create.body).ints.get "ret" 0 = (Keys.pubkeyCreate (st.byGet "seckey")).1 ∧
    (execL st Gen.Papi.ec_pubkey_create.body).ptGet "pubkey" = (Keys.pubkeyCreate (st.byGet "seckey")).2 := by
  obtain ⟨sc, fe, pt, bs, ints, rfl⟩ := st.exists_mk hret
  unfold Gen.Papi.ec_pubkey_create
  simp only [alg_run, pubkeyCreate_eq, C04ir.seckey_flag]
  generalize lookup (Bytes.zeros 32) bs "seckey" = sk
  by_cases h : 0 < sk.toNat ∧ sk.toNat < N
  · simp only [h, and_self, not_true_eq_false, if_false, if_true, Nat.mod_eq_of_lt h.2]
  · simp only [h, not_false_eq_true, if_true, if_false, and_self]

theorem xonly_pubkey_tweak_add_eq (st : State) (hret : st.returned = false) (hill : st.ints.get "illegal" 0 = 0)
    (hpk : (st.ptGet "internal_pubkey").valid = true) :
    (execL st Gen.Papi.xonly_pubkey_tweak_add.body).ints.get "ret" 0 =
      (Keys.xonlyTweakAdd (st.ptGet "internal_pubkey") (st.byGet "tweak32")).ret ∧
    (execL st Gen.Papi.xonly_pubkey_tweak_add.body).ptGet "output_pubkey" =
      (Keys.xonlyTweakAdd (st.ptGet "internal_pubkey") (st.byGet "tweak32")).out ∧
    (execL st Gen.Papi.xonly_pubkey_tweak_add.body).ints.get "illegal" 0 =
      (Keys.xonlyTweakAdd (st.ptGet "internal_pubkey") (st.byGet "tweak32")).illegal := by
  obtain ⟨sc, fe, pt, bs, ints, rfl⟩ := st.exists_mk hret
  simp only [alg_run] at hill hpk
  unfold Gen.Papi.xonly_pubkey_tweak_add
  simp only [alg_run, hill, C04ir.one_mod_N, C04ir.mul_one_valid hpk, ite_self,
    Nat.zero_add]
  exact C04ir.tweak_add_tree _ _

theorem lt_N_of_not_high {s : Nat} (h : ¬ Sc.isHigh s = true) : s < N := by
  have h1 : ¬ s > (N - 1) / 2 := by simpa [Sc.isHigh] using h
  have h2 : (N - 1) / 2 < N := by decide +kernel
  omega

/-- `ecdsa_verify_eq` without the hypothesis on `sig.r`: the program computes the model on `r mod n` -/
theorem ecdsa_verify_eq_mod (st : State) (hret : st.returned = false) (hill : st.ints.get "illegal" 0 = 0) :
    (execL st Gen.Papi.ecdsa_verify.body).ints.get "ret" 0 =
      (Ecdsa.verify (st.scGet "sig.r" % N, st.scGet "sig.s") (st.byGet "msghash32") (st.ptGet "pubkey")).ret ∧
    (execL st Gen.Papi.ecdsa_verify.body).ints.get "illegal" 0 =
      (Ecdsa.verify (st.scGet "sig.r" % N, st.scGet "sig.s") (st.byGet "msghash32") (st.ptGet "pubkey")).illegal := by
  obtain ⟨sc, fe, pt, bs, ints, rfl⟩ := st.exists_mk hret
  simp only [alg_run] at hill ⊢
  have hr := Nat.mod_lt (lookup 0 sc "sig.r") N_pos
  unfold Gen.Papi.ecdsa_verify
  simp only [alg_run, hill, feCmp_ge, C01ir.p_minus_order_eq, C01ir.order_as_fe_eq, C01ir.p_minus_order_mod,
    Bytes.toNat_be32_of_lt_N hr, Nat.mod_eq_of_lt (lt_trans hr N_lt_P), Nat.zero_add, Ecdsa.verify]
  by_cases hh : Sc.isHigh (lookup 0 sc "sig.s") = true
  · -- a high `s` (in particular every unreduced `s ≥ n`): rejected before anything else is looked at
    simp [hh]
  · -- a low `s` is reduced: below the test of the key object the tree is that of `ecdsa_sig_verify`
    rw [C01ir.verify_tree (lt_N_of_not_high hh)]
    cases lookup Pt.inf pt "pubkey" <;> simp [hh, Pt.isInf]

/-- For ANY key object.  `illegal` is 1 exactly when `s` is low and the key object is all-zero; a high `s` is rejected
    BEFORE the key is loaded, on both sides. -/
theorem ecdsa_verify_eq (st : State) (hret : st.returned = false) (hill : st.ints.get "illegal" 0 = 0)
    (hr : st.scGet "sig.r" < N) :
    (execL st Gen.Papi.ecdsa_verify.body).ints.get "ret" 0 =
      (Ecdsa.verify (st.scGet "sig.r", st.scGet "sig.s") (st.byGet "msghash32") (st.ptGet "pubkey")).ret ∧
    (execL st Gen.Papi.ecdsa_verify.body).ints.get "illegal" 0 =
      (Ecdsa.verify (st.scGet "sig.r", st.scGet "sig.s") (st.byGet "msghash32") (st.ptGet "pubkey")).illegal := by
  have h := ecdsa_verify_eq_mod st hret hill
  rw [Nat.mod_eq_of_lt hr] at h
  exact h

/-! Non-vacuity: concrete instances (the model evaluated by the kernel, the program's results by the theorems). -/

def exNormSt : State := { sc := [("sigin.r", 5), ("sigin.s", N - 1)] }

example : exNormSt.returned = false ∧
    (execL exNormSt Gen.Papi.ecdsa_signature_normalize.body).ints.get "ret" 0 = 1 ∧
    (execL exNormSt Gen.Papi.ecdsa_signature_normalize.body).scGet "sigout.r" = 5 ∧
    (execL exNormSt Gen.Papi.ecdsa_signature_normalize.body).scGet "sigout.s" = 1 ∧
    Ecdsa.normalize (5, N - 1) = (1, (5, 1)) := by decide +kernel

example : (execL { exNormSt with sc := [("sigin.r", 5), ("sigin.s", 7)] }
      Gen.Papi.ecdsa_signature_normalize.body).ints.get "ret" 0 = 0 ∧
    (execL { exNormSt with sc := [("sigin.r", 5), ("sigin.s", 7)] }
      Gen.Papi.ecdsa_signature_normalize.body).scGet "sigout.s" = 7 ∧
    Ecdsa.normalize (5, 7) = (0, (5, 7)) := by decide +kernel

def exKeySt : State :=
  { bs := [("seckey", Bytes.be32 5), ("tweak32", Bytes.be32 7)], pt := [("internal_pubkey", Pt.G)] }

example : exKeySt.returned = false ∧ exKeySt.ints.get "illegal" 0 = 0 ∧
    (exKeySt.ptGet "internal_pubkey").valid = true := by decide +kernel

example : (execL exKeySt Gen.Papi.ec_seckey_verify.body).ints.get "ret" 0 = 1 ∧
    Keys.seckeyVerify (Bytes.be32 5) = 1 := by decide +kernel

example : (execL { exKeySt with bs := [("seckey", Bytes.be32 N)] } Gen.Papi.ec_seckey_verify.body).ints.get "ret" 0 = 0 ∧
    Keys.seckeyVerify (Bytes.be32 N) = 0 := by decide +kernel

example : (execL exKeySt Gen.Papi.ec_pubkey_create.body).ints.get "ret" 0 = 1 ∧
    (execL exKeySt Gen.Papi.ec_pubkey_create.body).ptGet "pubkey" = Pt.mulG 5 ∧
    Keys.pubkeyCreate (Bytes.be32 5) = (1, Pt.mulG 5) := by
  have m : Keys.pubkeyCreate (exKeySt.byGet "seckey") = (1, Pt.mulG 5) := by decide +kernel
  have h := pubkey_create_eq exKeySt rfl
  rw [m] at h
  exact ⟨h.1, h.2, m⟩

/-- the zero key: return 0 and the all-zero object, although the state held a key object before -/
example : (execL { exKeySt with bs := [], pt := [("pubkey", Pt.G)] } Gen.Papi.ec_pubkey_create.body).ints.get "ret" 0 = 0 ∧
    (execL { exKeySt with bs := [], pt := [("pubkey", Pt.G)] } Gen.Papi.ec_pubkey_create.body).ptGet "pubkey" = Pt.inf ∧
    Keys.pubkeyCreate (Bytes.zeros 32) = (0, Pt.inf) := by decide +kernel

example : (execL exKeySt Gen.Papi.xonly_pubkey_tweak_add.body).ints.get "ret" 0 = 1 ∧
    (execL exKeySt Gen.Papi.xonly_pubkey_tweak_add.body).ptGet "output_pubkey" = Pt.mulG 8 ∧
    (execL exKeySt Gen.Papi.xonly_pubkey_tweak_add.body).ints.get "illegal" 0 = 0 ∧
    (Keys.xonlyTweakAdd Pt.G (Bytes.be32 7)).ret = 1 ∧ (Keys.xonlyTweakAdd Pt.G (Bytes.be32 7)).out = Pt.mulG 8 := by
  have m : (Keys.xonlyTweakAdd Pt.G (Bytes.be32 7)).ret = 1 ∧ (Keys.xonlyTweakAdd Pt.G (Bytes.be32 7)).out = Pt.mulG 8 ∧
      (Keys.xonlyTweakAdd Pt.G (Bytes.be32 7)).illegal = 0 := by decide +kernel
  have h := xonly_pubkey_tweak_add_eq exKeySt rfl rfl valid_G
  exact ⟨h.1.trans m.1, h.2.1.trans m.2.1, h.2.2.trans m.2.2, m.1, m.2.1⟩

/-- the tweak `n - 1` sends `G` to infinity: return 0, output all-zero, no callback — on both sides -/
example : (execL { exKeySt with bs := [("tweak32", Bytes.be32 (N - 1))] }
      Gen.Papi.xonly_pubkey_tweak_add.body).ints.get "ret" 0 = 0 ∧
    (execL { exKeySt with bs := [("tweak32", Bytes.be32 (N - 1))] }
      Gen.Papi.xonly_pubkey_tweak_add.body).ptGet "output_pubkey" = Pt.inf ∧
    (execL { exKeySt with bs := [("tweak32", Bytes.be32 (N - 1))] }
      Gen.Papi.xonly_pubkey_tweak_add.body).ints.get "illegal" 0 = 0 ∧
    (Keys.xonlyTweakAdd Pt.G (Bytes.be32 (N - 1))).ret = 0 ∧
    (Keys.xonlyTweakAdd Pt.G (Bytes.be32 (N - 1))).illegal = 0 := by
  have m : (Keys.xonlyTweakAdd Pt.G (Bytes.be32 (N - 1))).ret = 0 ∧
      (Keys.xonlyTweakAdd Pt.G (Bytes.be32 (N - 1))).out = Pt.inf ∧
      (Keys.xonlyTweakAdd Pt.G (Bytes.be32 (N - 1))).illegal = 0 := by decide +kernel
  have h := xonly_pubkey_tweak_add_eq { exKeySt with bs := [("tweak32", Bytes.be32 (N - 1))] } rfl rfl valid_G
  exact ⟨h.1.trans m.1, h.2.1.trans m.2.1, h.2.2.trans m.2.2, m.1, m.2.2⟩

example : (execL { exKeySt with pt := [] } Gen.Papi.xonly_pubkey_tweak_add.body).ints.get "ret" 0 = 0 ∧
    (execL { exKeySt with pt := [] } Gen.Papi.xonly_pubkey_tweak_add.body).ptGet "output_pubkey" = Pt.inf ∧
    (execL { exKeySt with pt := [] } Gen.Papi.xonly_pubkey_tweak_add.body).ints.get "illegal" 0 = 1 ∧
    (Keys.xonlyTweakAdd Pt.inf (Bytes.be32 7)).illegal = 1 := by decide +kernel

/-- the valid signature `(exR, exS)` of `Props/C01_ir.lean` (key 1, nonce 2) on the message bytes `be32 3`, key `G` -/
def exVerifySt : State :=
  { sc := [("sig.r", C01ir.exR), ("sig.s", C01ir.exS)], bs := [("msghash32", Bytes.be32 3)], pt := [("pubkey", Pt.G)] }

/-- the model accepts, without callback (`C01ir.exVerify_accepts`: the message bytes `be32 3` are the scalar 3) -/
theorem exVerify_model : (Ecdsa.verify (C01ir.exR, C01ir.exS) (Bytes.be32 3) Pt.G).ret = 1 ∧
    (Ecdsa.verify (C01ir.exR, C01ir.exS) (Bytes.be32 3) Pt.G).illegal = 0 := by
  have hs : Sc.isHigh C01ir.exS = false := by decide +kernel
  have hm : (Bytes.be32 3).toNat % N = 3 := by decide +kernel
  simp only [Ecdsa.verify, hs, hm, Pt.G, Pt.isInf, Bool.false_eq_true, if_false]
  exact ⟨if_pos C01ir.exVerify_accepts, trivial⟩

example : exVerifySt.returned = false ∧ exVerifySt.ints.get "illegal" 0 = 0 ∧
    exVerifySt.scGet "sig.r" < N ∧ exVerifySt.scGet "sig.s" < N ∧
    (Ecdsa.verify (C01ir.exR, C01ir.exS) (Bytes.be32 3) Pt.G).ret = 1 ∧
    (Ecdsa.verify (C01ir.exR, C01ir.exS) (Bytes.be32 3) Pt.G).illegal = 0 :=
  ⟨rfl, rfl, by decide +kernel, by decide +kernel, exVerify_model⟩

example : (execL exVerifySt Gen.Papi.ecdsa_verify.body).ints.get "ret" 0 = 1 ∧
    (execL exVerifySt Gen.Papi.ecdsa_verify.body).ints.get "illegal" 0 = 0 := by
  have h := ecdsa_verify_eq exVerifySt rfl rfl (by decide +kernel)
  exact ⟨h.1.trans exVerify_model.1, h.2.trans exVerify_model.2⟩

example : (execL { exVerifySt with bs := [("msghash32", Bytes.be32 4)] } Gen.Papi.ecdsa_verify.body).ints.get "ret" 0 = 0 ∧
    (Ecdsa.verify (C01ir.exR, C01ir.exS) (Bytes.be32 4) Pt.G).ret = 0 := by
  have m : (Ecdsa.verify (C01ir.exR, C01ir.exS) (Bytes.be32 4) Pt.G).ret = 0 := by decide +kernel
  have h := ecdsa_verify_eq { exVerifySt with bs := [("msghash32", Bytes.be32 4)] } rfl rfl
    (by decide +kernel)
  exact ⟨h.1.trans m, m⟩

example : (execL { exVerifySt with pt := [] } Gen.Papi.ecdsa_verify.body).ints.get "ret" 0 = 0 ∧
    (execL { exVerifySt with pt := [] } Gen.Papi.ecdsa_verify.body).ints.get "illegal" 0 = 1 ∧
    (Ecdsa.verify (C01ir.exR, C01ir.exS) (Bytes.be32 3) Pt.inf).ret = 0 ∧
    (Ecdsa.verify (C01ir.exR, C01ir.exS) (Bytes.be32 3) Pt.inf).illegal = 1 := by decide +kernel

/-- the all-zero key object with a HIGH `s` (`n - exS`): return 0 and NO callback (the key is never loaded) — on both
    sides -/
example : (execL { exVerifySt with sc := [("sig.r", C01ir.exR), ("sig.s", N - C01ir.exS)], pt := [] }
      Gen.Papi.ecdsa_verify.body).ints.get "ret" 0 = 0 ∧
    (execL { exVerifySt with sc := [("sig.r", C01ir.exR), ("sig.s", N - C01ir.exS)], pt := [] }
      Gen.Papi.ecdsa_verify.body).ints.get "illegal" 0 = 0 ∧
    Sc.isHigh (N - C01ir.exS) = true ∧
    (Ecdsa.verify (C01ir.exR, N - C01ir.exS) (Bytes.be32 3) Pt.inf).illegal = 0 := by decide +kernel

/-- The hypothesis `sig.r < n` of `ecdsa_verify_eq` is needed: with the unreduced `r + n` in the object (which the
    parsers never produce) the program, working with `r mod n`, accepts, and the model rejects. -/
example : (execL { exVerifySt with sc := [("sig.r", C01ir.exR + N), ("sig.s", C01ir.exS)] }
      Gen.Papi.ecdsa_verify.body).ints.get "ret" 0 = 1 ∧
    (Ecdsa.verify (C01ir.exR + N, C01ir.exS) (Bytes.be32 3) Pt.G).ret = 0 := by
  have m : (Ecdsa.verify (C01ir.exR + N, C01ir.exS) (Bytes.be32 3) Pt.G).ret = 0 := by decide +kernel
  have h := ecdsa_verify_eq_mod { exVerifySt with sc := [("sig.r", C01ir.exR + N), ("sig.s", C01ir.exS)] } rfl rfl
  rw [show State.scGet _ "sig.r" % N = C01ir.exR by decide +kernel] at h
  exact ⟨h.1.trans exVerify_model.1, m⟩

/-- The validity hypothesis of `xonly_pubkey_tweak_add_eq` is needed: for the "point" `(G.x + p, G.y)` (coordinates
    not canonical; no key object of the library is like that) and the tweak 0, the program returns `1·Q + 0·G = G` with
    reduced coordinates, the model `Q + ∞ = Q` as it is. -/
example : (execL { exKeySt with bs := [], pt := [("internal_pubkey", Pt.aff (Pt.xOf Pt.G + P) (Pt.yOf Pt.G))] }
      Gen.Papi.xonly_pubkey_tweak_add.body).ptGet "output_pubkey" = Pt.G ∧
    (Keys.xonlyTweakAdd (Pt.aff (Pt.xOf Pt.G + P) (Pt.yOf Pt.G)) (Bytes.zeros 32)).out =
      Pt.aff (Pt.xOf Pt.G + P) (Pt.yOf Pt.G) ∧
    (Pt.aff (Pt.xOf Pt.G + P) (Pt.yOf Pt.G)).valid = false := by decide +kernel

end C01apiir
end SecpZkp
