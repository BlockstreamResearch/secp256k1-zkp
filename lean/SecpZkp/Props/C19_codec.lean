/-
  C19 (part "codec"): generator-list encoding (`secp256k1_bppp_generators_parse` / `_serialize`,
  src/modules/bppp/main_impl.h:53-116), single generators (`secp256k1_generator_parse` / `_serialize`)
  and the sign byte of the two-points-in-65-bytes codec (bppp_util.h:14-45): exact acceptance conditions, what a
  successful parse returns, the two round trips (each under a per-generator hypothesis that `Props/C19_roundtrip.lean`
  discharges).  All statements are for ALL byte strings of ALL lengths.
-/
import SecpZkp.Proofs.Parsers

namespace SecpZkp
namespace C19

open Bppp Parsers

def chunk33 (d : Bytes) (i : Nat) : Bytes := (d.drop (33 * i)).take 33

/-- what `secp256k1_generator_parse` accepts (`generator_parse_isSome_iff`); the prefix test is `(b & 0xFE) == 10` in C -/
def GenEncodingOK (c : Bytes) : Prop :=
  c.length = 33 ∧ (c.headD 0 = 10 ∨ c.headD 0 = 11) ∧ Bytes.toNat c.tail < P ∧
  Fe.isSquare (curveRhs (Bytes.toNat c.tail)) = true

instance (c : Bytes) : Decidable (GenEncodingOK c) := by unfold GenEncodingOK; infer_instance

theorem generator_parse_isSome_iff (c : Bytes) (hlen : c.length = 33) :
    (Generator.parse c).isSome ↔ GenEncodingOK c := by
  cases c with
  | nil => simp at hlen
  | cons b0 rest =>
    rw [generator_parse_cons]
    unfold GenEncodingOK
    simp only [List.headD_cons, List.tail_cons, hlen, true_and]
    split <;> simp_all

/-- Which root `y` is (the one that is itself a square for prefix 10, its negation for prefix 11) is not stated here:
`Parsers.generator_parse_cons`. -/
theorem generator_parse_valid (c : Bytes) (g : Pt) (h : Generator.parse c = some g) :
    FinValid g ∧ g.xOf = Bytes.toNat c.tail := by
  cases c with
  | nil => simp [Generator.parse] at h
  | cons b0 rest =>
    rw [generator_parse_cons] at h
    split at h
    · rename_i hc
      have hon := onCurve_sqrtCand hc.2.1 hc.2.2
      rw [← Option.some.inj h]
      split
      · exact ⟨finValid_neg _ (finValid_aff _ _ hon), rfl⟩
      · exact ⟨finValid_aff _ _ hon, rfl⟩
    · simp at h

/-- the encoding of the standard value generator `H` is accepted, a wrong prefix / an `x ≥ P` is not -/
example : Generator.parse (Generator.serialize Generator.H) = some Generator.H := by decide +kernel
example : Generator.parse (12 :: (Generator.serialize Generator.H).tail) = none := by decide +kernel
example : Generator.parse (10 :: Bytes.be32 P) = none := by decide +kernel
example : GenEncodingOK (Generator.serialize Generator.H) := by decide +kernel

theorem length_generator_serialize (g : Pt) : (Generator.serialize g).length = 33 := by
  simp [Generator.serialize]

/-- `⟨0, none, 0⟩`: return NULL, no callback -/
theorem gens_parse_len (d : Bytes) (h : d.length % 33 ≠ 0) : gensParse (some d) = ⟨0, none, 0⟩ := by
  simp only [gensParse, if_pos h]

example : gensParse (some (Bytes.zeros 34)) = ⟨0, none, 0⟩ := gens_parse_len _ (by decide)
example : gensParse (some (Bytes.zeros 32)) = ⟨0, none, 0⟩ := gens_parse_len _ (by decide)

/-- NULL data pointer: one illegal-argument callback -/
theorem gens_parse_null : gensParse none = ⟨0, none, 1⟩ := rfl

theorem gensParseLoop_some (d : Bytes) (n : Nat) (acc l : List Pt) (h : gensParseLoop d n acc = some l) :
    ∃ gs : List Pt, gs.length = n ∧ l = gs ++ acc ∧
      ∀ i, i < n → Generator.parse (chunk33 d i) = gs[i]? := by
  induction n generalizing acc l with
  | zero =>
    refine ⟨[], rfl, ?_, fun i hi => by omega⟩
    simpa [gensParseLoop] using h.symm
  | succ k ih =>
    unfold gensParseLoop at h
    cases hp : Generator.parse ((d.drop (33 * k)).take 33) with
    | none => rw [hp] at h; simp at h
    | some g =>
      rw [hp] at h
      obtain ⟨gs', hl, hlist, hall⟩ := ih _ _ h
      refine ⟨gs' ++ [g], by simp [hl], by simp [hlist], fun i hi => ?_⟩
      by_cases hik : i < k
      · rw [List.getElem?_append_left (by omega)]; exact hall i hik
      · have : i = k := by omega
        subst this
        rw [List.getElem?_append_right (by omega)]
        simp [hl, chunk33, hp]

theorem gensParseLoop_none (d : Bytes) (n : Nat) (acc : List Pt) (i : Nat) (hi : i < n)
    (hbad : Generator.parse (chunk33 d i) = none) : gensParseLoop d n acc = none := by
  cases h : gensParseLoop d n acc with
  | none => rfl
  | some l =>
    obtain ⟨gs, hl, -, hall⟩ := gensParseLoop_some d n acc l h
    have hg := hall i hi
    rw [hbad, List.getElem?_eq_getElem (by omega)] at hg
    exact absurd hg (by simp)

theorem gensParseLoop_isSome (d : Bytes) (n : Nat) (acc : List Pt)
    (hall : ∀ i, i < n → (Generator.parse (chunk33 d i)).isSome) : (gensParseLoop d n acc).isSome := by
  induction n generalizing acc with
  | zero => simp [gensParseLoop]
  | succ k ih =>
    unfold gensParseLoop
    have := hall k (by omega)
    unfold chunk33 at this
    cases hp : Generator.parse ((d.drop (33 * k)).take 33) with
    | none => rw [hp] at this; simp at this
    | some g => exact ih _ (fun i hi => hall i (by omega))

/-- The exact acceptance condition of `generators_parse`, for every byte string. -/
theorem gens_parse_iff (d : Bytes) :
    (gensParse (some d)).ret = 1 ↔
      d.length % 33 = 0 ∧ ∀ i, i < d.length / 33 → GenEncodingOK (chunk33 d i) := by
  have hcl : ∀ i, i < d.length / 33 → (chunk33 d i).length = 33 := fun i hi => by
    simp only [chunk33, List.length_take, List.length_drop]; omega
  unfold gensParse
  simp only []
  by_cases hmod : d.length % 33 = 0
  · rw [if_neg (not_not_intro hmod), and_iff_right hmod]
    constructor
    · intro h i hi
      rw [← generator_parse_isSome_iff _ (hcl i hi)]
      cases hp : Generator.parse (chunk33 d i) with
      | some g => rfl
      | none => rw [gensParseLoop_none d _ [] i hi hp] at h; cases h
    · intro hall
      have := gensParseLoop_isSome d _ [] fun i hi => (generator_parse_isSome_iff _ (hcl i hi)).2 (hall i hi)
      cases hl : gensParseLoop d (d.length / 33) [] with
      | none => rw [hl] at this; cases this
      | some l => rfl
  · rw [if_pos hmod]; simp [hmod]

/-- What a successful `generators_parse` returns; `33 * i + 33 ≤ d.length`: every chunk read lies inside the input. -/
theorem gens_parse_ok (d : Bytes) (l : List Pt) (h : gensParse (some d) = ⟨1, some l, 0⟩) :
    d.length = 33 * l.length ∧ l.length = d.length / 33 ∧
    ∀ i, i < l.length →
      33 * i + 33 ≤ d.length ∧ Generator.parse (chunk33 d i) = l[i]? ∧ GenEncodingOK (chunk33 d i) ∧
      (∀ g, l[i]? = some g → FinValid g) := by
  have hiff := (gens_parse_iff d).1 (by rw [h])
  unfold gensParse at h
  simp only [] at h
  rw [if_neg (not_not_intro hiff.1)] at h
  cases hl : gensParseLoop d (d.length / 33) [] with
  | none => rw [hl] at h; simp at h
  | some l' =>
    rw [hl] at h
    have hll : l' = l := by simpa using h
    subst hll
    obtain ⟨gs, hlen, hgs, hall⟩ := gensParseLoop_some _ _ _ _ hl
    simp only [List.append_nil] at hgs
    subst hgs
    refine ⟨by omega, by omega, fun i hi => ⟨by omega, hall i (by omega), hiff.2 i (by omega), fun g hg => ?_⟩⟩
    rw [← hall i (by omega)] at hg
    exact (generator_parse_valid _ _ hg).1

/-- On 0 `generators_parse` returns NULL: the clause "rejected without leaking memory", as far as the model sees it (the
`free` calls themselves are not modelled). -/
theorem gens_parse_ret01 (d : Option Bytes) :
    ((gensParse d).ret = 0 ∧ (gensParse d).out = none) ∨ ((gensParse d).ret = 1 ∧ (gensParse d).out.isSome) := by
  unfold gensParse
  split
  · simp
  · split
    · simp
    · split <;> simp

/-- the empty string parses to the empty list; two copies of `H` parse to `[H, H]`; a bad second chunk fails -/
example : (gensParse (some [])).ret = 1 ∧ (gensParse (some [])).out = some [] := by decide
example : (gensParse (some (Generator.serialize Generator.H ++ Generator.serialize Generator.H))).out
    = some [Generator.H, Generator.H] := by decide +kernel
example : (gensParse (some (Generator.serialize Generator.H ++ Bytes.zeros 33))).ret = 0 := by
  decide +kernel

theorem length_flatMap_serialize (gs : List Pt) :
    (gs.flatMap Generator.serialize).length = 33 * gs.length :=
  Bytes.length_flatMap _ 33 length_generator_serialize gs

/-- `generators_serialize` with non-NULL arguments: `*data_len < 33 * n` gives 0 with one illegal-argument callback and
an untouched buffer; otherwise 1 and `*data_len = 33 * n`.  The NULL-argument cases are not part of the statement. -/
theorem gens_serialize_spec (gs : List Pt) (b : Bytes) (dataLen : Nat) :
    (dataLen < 33 * gs.length → gensSerialize (some gs) (some b) dataLen = ⟨0, (some b, dataLen), 1⟩) ∧
    (33 * gs.length ≤ dataLen →
      ∃ out, gensSerialize (some gs) (some b) dataLen = ⟨1, (some out, 33 * gs.length), 0⟩ ∧
        out.length = dataLen ∧ out.take (33 * gs.length) = gs.flatMap Generator.serialize) := by
  constructor
  · intro h; simp only [gensSerialize, if_pos h]
  · intro h
    refine ⟨gs.flatMap Generator.serialize ++ Bytes.zeros (dataLen - 33 * gs.length),
      by simp only [gensSerialize, if_neg (by omega : ¬ dataLen < 33 * gs.length)], ?_, ?_⟩
    · simp only [List.length_append, length_flatMap_serialize, Bytes.zeros, List.length_replicate]; omega
    · rw [List.take_append_of_le_length (by rw [length_flatMap_serialize]; omega),
        List.take_of_length_le (by rw [length_flatMap_serialize]; omega)]

theorem gensParseLoop_roundtrip (n : Nat) (gs acc : List Pt) (tail : Bytes) (hn : gs.length = n)
    (hrt : ∀ g ∈ gs, Generator.parse (Generator.serialize g) = some g) :
    gensParseLoop (gs.flatMap Generator.serialize ++ tail) n acc = some (gs ++ acc) := by
  induction n generalizing gs acc tail with
  | zero =>
    have : gs = [] := List.eq_nil_of_length_eq_zero hn
    subst this; simp [gensParseLoop]
  | succ k ih =>
    rcases List.eq_nil_or_concat gs with hnil | ⟨gs', g, hg⟩
    · subst hnil; simp at hn
    · subst hg
      simp only [List.concat_eq_append, List.length_append, List.length_cons, List.length_nil] at hn
      have hk : gs'.length = k := by omega
      unfold gensParseLoop
      have hchunk : (((gs'.concat g).flatMap Generator.serialize ++ tail).drop (33 * k)).take 33
          = Generator.serialize g := by
        have := Bytes.chunk_flatMap _ 33 length_generator_serialize (gs'.concat g) [] tail 0 rfl k (by simp [hk])
        simpa [hk] using this
      rw [hchunk, hrt g (by simp)]
      simp only [List.concat_eq_append, List.flatMap_append, List.flatMap_cons, List.flatMap_nil,
        List.append_nil, List.append_assoc]
      rw [ih gs' (g :: acc) (Generator.serialize g ++ tail) hk (fun g' hg' => hrt g' (by simp [hg']))]
      simp

/-- parse ∘ serialize = id on generator lists.  `hrt` holds for every finite on-curve point
(`C19.generator_serialize_parse` in `Props/C19_roundtrip.lean`; `gens_serialize_parse_valid` there is the unconditional
form). -/
theorem gens_serialize_parse (gs : List Pt) (b : Bytes) (dataLen : Nat) (hlen : 33 * gs.length ≤ dataLen)
    (hrt : ∀ g ∈ gs, Generator.parse (Generator.serialize g) = some g) :
    ∃ out, gensSerialize (some gs) (some b) dataLen = ⟨1, (some out, 33 * gs.length), 0⟩ ∧
      gensParse (some (out.take (33 * gs.length))) = ⟨1, some gs, 0⟩ := by
  obtain ⟨out, ho, _, htake⟩ := (gens_serialize_spec gs b dataLen).2 hlen
  refine ⟨out, ho, ?_⟩
  rw [htake]
  unfold gensParse
  simp only [length_flatMap_serialize]
  rw [if_neg (by omega), show 33 * gs.length / 33 = gs.length by omega]
  have := gensParseLoop_roundtrip gs.length gs [] [] rfl hrt
  simp only [List.append_nil] at this
  rw [this]

example : ∀ g ∈ [Generator.H, Pt.G], Generator.parse (Generator.serialize g) = some g := by
  decide +kernel

/-- serialize ∘ parse reproduces the bytes.  `hrt` is again a per-generator fact (`generator_parse_serialize'` in
`Props/C19_roundtrip.lean`; `gens_parse_serialize_bytes` there is the unconditional form). -/
theorem gens_parse_serialize (d : Bytes) (l : List Pt) (h : gensParse (some d) = ⟨1, some l, 0⟩)
    (hrt : ∀ c g, c.length = 33 → Generator.parse c = some g → Generator.serialize g = c) :
    l.flatMap Generator.serialize = d := by
  obtain ⟨hlen, _, hall⟩ := gens_parse_ok d l h
  refine Bytes.flatMap_eq_of_chunks _ 33 l d hlen fun i hi => ?_
  obtain ⟨hin, hp, _, _⟩ := hall i hi
  rw [List.getElem?_eq_getElem hi] at hp
  exact hrt _ _ (by simp only [List.length_take, List.length_drop]; omega) hp

theorem points_parse (in65 : Bytes) (idx : Nat) (h : in65.headD 0 > 3) : parseOneOfPoints in65 idx = none := by
  simp only [parseOneOfPoints, if_pos h]

example : parseOneOfPoints (4 :: Bytes.be32 Pt.Gx ++ Bytes.be32 Pt.Gx) 0 = none :=
  points_parse _ _ (by decide)
example : parseOneOfPoints (3 :: Bytes.be32 Pt.Gx ++ Bytes.be32 Pt.Gx) 0 = some (Pt.neg Pt.G) := by
  decide +kernel

/-- An all-zero `x` (the infinity encoding) with its sign bit set is rejected. -/
theorem points_parse_inf_sign (in65 : Bytes) (idx : Nat)
    (hz : Bytes.isZero ((in65.drop (1 + 32 * idx)).take 32) = true)
    (hs : in65.headD 0 &&& (if idx = 0 then 2 else 1) ≠ 0) : parseOneOfPoints in65 idx = none := by
  unfold parseOneOfPoints
  simp only []
  split
  · rfl
  · simp [hz]

example : parseOneOfPoints (2 :: Bytes.zeros 64) 0 = none := by decide +kernel
example : parseOneOfPoints (2 :: Bytes.zeros 64) 1 = some .inf := by decide +kernel

end C19
end SecpZkp
