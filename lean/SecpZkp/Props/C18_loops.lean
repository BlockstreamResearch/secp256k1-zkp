import SecpZkp.Gen.Guards
/-
  Property C18 (part "loops", translator mode G): loop facts regenerated from clang's AST of the current sources.
  The ElligatorSwift encoder draws (u, branch) candidates until one has a preimage t.  What such a fact ties, and
  `retryOnly`: `Props/C01_loops.lean`.
-/
namespace SecpZkp.Props.C18_loops
open SecpZkp.Gen

def retryOnly (l : List LoopFact) : Prop := (∀ f ∈ l, f.kind = LoopKind.while → f.unconditional = true) ∧ (∃ f ∈ l, f.kind = LoopKind.while)

instance (l : List LoopFact) : Decidable (retryOnly l) := by unfold retryOnly; infer_instance

/-- `secp256k1_ellswift_xelligatorswift_var`: the rejection-sampling loop over (u, branch) candidates has no bound -/
theorem xelligatorswift_retry_unbounded : retryOnly Loops.ellswift_xelligatorswift_var := by decide

/-- non-vacuity: a bounded loop would not satisfy the predicate -/
example : ¬ retryOnly [⟨.while, false⟩] := by decide

end SecpZkp.Props.C18_loops
