/-
  The 5×52 field kernels compiled with the EMULATED 128-bit integer (`src/int128_struct_impl.h`,
  `USE_FORCE_WIDEMUL_INT128_STRUCT`) compute the same limbs as the kernels compiled with the native `unsigned __int128`,
  under the wrap-around semantics `execL`, for all 64-bit inputs.  The struct IR is the native IR with every 128-bit
  operation replaced by its inlined emulation, which wraps on purpose, so the interval checker cannot see through it.
  Both (interned) programs are evaluated forward into closed expressions over the input limbs (`Tracks wrap`, `symL` of
  `Proofs/Subst.lean`), and the expressions of the output cells are compared (`liftCheck`).  A recognised helper block
  (`liftMul`, `liftAcc`, `liftAccU`, `liftShift`) is evaluated by substitution like any other code; afterwards the
  entries of its two result words are replaced by `(uint64_t)E` and `E >> 64`, where `E` is the NATIVE 128-bit
  expression (`a * b`, `E + X`, `E >> n` at width 128) that the block computes by its `RunsTo` lemma (`wideOf`,
  `setWide`).  So `secp256k1_u128_to_u64` needs no rule, and temporaries never have to be matched.  The native `+`, `*`
  at width 128 wrap exactly like the emulation (both are arithmetic modulo `2^128`), so NO bound on the accumulators is
  needed here: absence of overflow is a property of the native kernel (`Props/C05_field.lean`).
-/
import SecpZkp.Proofs.ScalarKernel
import SecpZkp.Proofs.Int128
import SecpZkp.Proofs.Subst
import SecpZkp.Proofs.Int128Blocks
import Mathlib.Data.List.Nodup

namespace SecpZkp
namespace FieldKernelStruct
open MiniC ScalarKernel Int128 Subst

variable {ν : Nat → String}

-- `getC`, `Fr` are at the naming `nm`; the development below works at an arbitrary `ν` and does not use them
def getC (env : Env) (c : Cell) : Nat := env.get (nm c.1) c.2

def Fr (w : Cell → Bool) (e e' : Env) : Prop := ∀ c, w c = false → getC e' c = getC e c

theorem Fr.refl (w : Cell → Bool) (e : Env) : Fr w e e := fun _ _ => rfl

theorem binWrap64_lt (op : BinOp) (a b : Nat) (ha : a < 2 ^ 64) (hb : b < 2 ^ 64) : binWrap op 64 a b < 2 ^ 64 := by
  cases op
  · exact Nat.mod_lt _ (by decide)
  · exact Nat.mod_lt _ (by decide)
  · exact Nat.mod_lt _ (by decide)
  · exact Nat.lt_of_le_of_lt Nat.and_le_left ha
  · exact Nat.or_lt_two_pow ha hb
  · exact Nat.xor_lt_two_pow ha hb
  · exact Nat.mod_lt _ (by decide)
  · exact Nat.lt_of_le_of_lt (Nat.div_le_self _ _) ha
  all_goals (simp only [binWrap]; split <;> decide)

theorem mul_lt_128 {a b : Nat} (ha : a < 2 ^ 64) (hb : b < 2 ^ 64) : a * b < 2 ^ 128 := by
  have : a * b < 2 ^ 64 * 2 ^ 64 := Nat.mul_lt_mul'' ha hb
  simpa using this

structure UBlock where
  ua : Nat
  ub : Nat
  ull : Nat
  ulh : Nat
  uhl : Nat
  uhh : Nat
  umid : Nat
  hi : Nat
  uret : Nat
  lo : Nat
  xa : Nat
  xb : Nat
  rest : List IStmt

def UBlock.names (b : UBlock) : List Nat := [b.ua, b.ub, b.ull, b.ulh, b.uhl, b.uhh, b.umid, b.hi, b.uret, b.lo]

def UBlock.stmts (b : UBlock) : List IStmt :=
  umulI b.ua b.ub b.ull b.ulh b.uhl b.uhh b.umid b.hi b.uret b.lo b.xa b.xb

-- the pattern only reads off the names; the shape is checked by the decidable equality with the block at those names
-- (likewise in `liftAcc`, `liftAccU`)
def matchUmul : List IStmt → Option UBlock
  | .assign ua (.var xa) :: .assign ub (.var xb) :: .assign ull e2 :: .assign ulh e3 :: .assign uhl e4 ::
      .assign uhh e5 :: .assign umid e6 :: .assign hi e7 :: .assign uret e8 :: .assign lo e9 :: rest =>
    if [IStmt.assign ua (.var xa), .assign ub (.var xb), .assign ull e2, .assign ulh e3, .assign uhl e4,
        .assign uhh e5, .assign umid e6, .assign hi e7, .assign uret e8, .assign lo e9] =
        umulI ua ub ull ulh uhl uhh umid hi uret lo xa xb then
      some ⟨ua, ub, ull, ulh, uhl, uhh, umid, hi, uret, lo, xa, xb, rest⟩
    else none
  | _ => none

theorem matchUmul_some {ps : List IStmt} {b : UBlock} (h : matchUmul ps = some b) : ps = b.stmts ++ b.rest := by
  unfold matchUmul at h
  split at h
  · split at h
    · rename_i he
      cases h
      simp only [UBlock.stmts, ← he, List.cons_append, List.nil_append]
    · cases h
  · cases h

theorem UBlock.run (hν : ν.Injective) (b : UBlock) (es : Env) (hnd : b.names.Nodup) (hxb : b.xb ∉ b.names)
    (ha : cell ν es (b.xa, 0) < 2 ^ 64) (hb : cell ν es (b.xb, 0) < 2 ^ 64) :
    RunsTo es (decode ν b.stmts) (b.names.map ν) (ν b.lo) (ν b.hi) (cell ν es (b.xa, 0) * cell ν es (b.xb, 0)) :=
  umul_run es (ν b.ua) (ν b.ub) (ν b.ull) (ν b.ulh) (ν b.uhl) (ν b.uhh) (ν b.umid) (ν b.hi) (ν b.uret)
    (ν b.lo) (ν b.xa) (ν b.xb) (hnd.map hν) (fun h' => hxb ((List.mem_map_of_injective hν).mp h')) ha hb

theorem orElse_some {α : Type} {a : Option α} {b : Unit → Option α} {r : α} (h : a.orElse b = some r) :
    a = some r ∨ b () = some r := by
  cases a with
  | none => right; simpa [Option.orElse] using h
  | some v => left; simpa [Option.orElse] using h

def wrap : Sem where
  val := ev
  run := runR
  val_lit := ev_lit
  val_var := ev_var
  val_idx env a i := by rw [ev_idx, ev_lit]
  val_bin _ _ _ _ _ _ _ _ ha hb := by rw [ev_bin, ev_bin, ha, hb]
  val_cast _ _ _ _ _ h := by rw [ev_cast, ev_cast, h]
  run_nil := runR_nil
  run_assign := runR_assign
  run_store env a i e rest := by rw [runR_store, ev_lit]

variable {env : Env} {σ : SEnv} {cur : Env} {I : List Cell}

def is64 (I : List Cell) : IExpr → Bool
  | .lit n => Nat.blt n (2 ^ 64)
  | .var _ => false
  | .idx a i => I.any (beqC (a, i))
  | .bin _ w a b => Nat.beq w 64 && is64 I a && is64 I b
  | .cast w _ => Nat.ble w 64

theorem is64_lt (hI : ∀ c ∈ I, cell ν env c < 2 ^ 64) : ∀ e : IExpr, is64 I e = true → ev env (decodeE ν e) < 2 ^ 64 := by
  intro e
  induction e with
  | lit n => intro h; exact Nat.blt_eq.mp h
  | var x => intro h; cases h
  | idx a i =>
    intro h
    obtain ⟨c, hc, hb⟩ := List.any_eq_true.mp h
    rw [← beqC_iff.mp hb] at hc
    simpa only [decodeE, ev_idx, ev_lit, cell] using hI _ hc
  | bin op w a b iha ihb =>
    intro h
    simp only [is64, Bool.and_eq_true, Nat.beq_eq] at h
    obtain ⟨⟨rfl, ha⟩, hb⟩ := h
    simp only [decodeE, ev_bin]
    exact binWrap64_lt _ _ _ (iha ha) (ihb hb)
  | cast w e ih =>
    intro h
    simp only [decodeE, ev_cast]
    exact Nat.lt_of_lt_of_le (Nat.mod_lt _ (Nat.two_pow_pos _)) (Nat.pow_le_pow_right (by decide) (Nat.ble_eq.mp h))

def is128 : IExpr → Bool
  | .bin op w a _ => Nat.beq w 128 && (match op with
    | .add | .mul => true
    | .shr => is128 a
    | _ => false)
  | _ => false

theorem is128_lt : ∀ e : IExpr, is128 e = true → ev env (decodeE ν e) < 2 ^ 128 := by
  intro e
  induction e with
  | bin op w a b iha ihb =>
    intro h
    simp only [is128, Bool.and_eq_true, Nat.beq_eq] at h
    obtain ⟨rfl, h⟩ := h
    simp only [decodeE, ev_bin]
    cases op <;> simp only [Bool.false_eq_true] at h
    · exact Nat.mod_lt _ (Nat.two_pow_pos _)
    · exact Nat.mod_lt _ (Nat.two_pow_pos _)
    · exact Nat.lt_of_le_of_lt (Nat.div_le_self _ _) (iha h)
  | _ => intro h; cases h

/-- recognises the entries that `setWide` leaves: `lo` as `(uint64_t)E`, `hi` as `E >> 64` -/
def wideOf (σ : SEnv) (lo hi : Nat) : Option IExpr :=
  match σ.get lo 0, σ.get hi 0 with
  | .cast w E, .bin op w' E' (.lit k) =>
    if Nat.beq w 64 && (op == .shr) && Nat.beq w' 128 && Nat.beq k 64 && decide (E = E') && is128 E then some E else none
  | _, _ => none

def setWide (σ : SEnv) (lo hi : Nat) (E : IExpr) : SEnv :=
  (σ.set lo 0 (.cast 64 E)).set hi 0 (.bin .shr 128 E (.lit 64))

def Holds (ν : Nat → String) (env cur : Env) (lo hi : Nat) (E : IExpr) : Prop :=
  cell ν cur (lo, 0) + 2 ^ 64 * cell ν cur (hi, 0) = ev env (decodeE ν E) ∧
    cell ν cur (lo, 0) < 2 ^ 64 ∧ cell ν cur (hi, 0) < 2 ^ 64

theorem wideOf_sound (h : Tracks wrap ν env σ cur) {lo hi : Nat} {E : IExpr} (hw : wideOf σ lo hi = some E) :
    Holds ν env cur lo hi E := by
  unfold wideOf at hw
  split at hw
  · rename_i w E1 op w' E' k hlo hhi
    split at hw
    · rename_i hc
      simp only [Bool.and_eq_true, Nat.beq_eq, beq_iff_eq, decide_eq_true_eq] at hc
      obtain ⟨⟨⟨⟨⟨rfl, rfl⟩, rfl⟩, rfl⟩, hE⟩, h128⟩ := hc
      cases hw
      have h1 : ev env (decodeE ν (σ.get lo 0)) = cell ν cur (lo, 0) := h (lo, 0)
      have h2 : ev env (decodeE ν (σ.get hi 0)) = cell ν cur (hi, 0) := h (hi, 0)
      rw [hlo] at h1
      rw [hhi, ← hE] at h2
      simp only [decodeE, ev_cast, ev_bin, ev_lit, binWrap_shr] at h1 h2
      have := is128_lt (ν := ν) (env := env) _ h128
      unfold Holds
      -- `lo = E % 2^64`, `hi = E / 2^64` (`h1`, `h2`) and `E < 2^128`
      omega
    · cases hw
  · cases hw

theorem tracks_setWide (h : Tracks wrap ν env σ cur) {lo hi : Nat} {E : IExpr} (hv : Holds ν env cur lo hi E) :
    Tracks wrap ν env (setWide σ lo hi E) cur := by
  obtain ⟨hv, hl, hh⟩ := hv
  refine (h.override (d := (lo, 0)) ?_).override (d := (hi, 0)) ?_
  · show ev env (decodeE ν (.cast 64 E)) = _
    simp only [decodeE, ev_cast]; omega
  · show ev env (decodeE ν (.bin .shr 128 E (.lit 64))) = _
    simp only [decodeE, ev_bin, ev_lit, binWrap_shr]; omega

/-- a recognised piece at the head of a program: `run` stands for it (it is evaluated by substitution), `rest` follows,
    and afterwards the words `lo`, `hi` hold the 128-bit number `E` if `wide = some (lo, hi, E)` -/
structure Lift where
  run : List IStmt
  rest : List IStmt
  wide : Option (Nat × Nat × IExpr)

/-- `ps` splits as `A ++ r.rest`; from any memory that `σ` tracks, running the piece `A` is running `r.run`, and if
    `r.wide = some (lo, hi, E)` the memory in which that run ends holds `E` in `lo`, `hi` -/
def LiftOK (ν : Nat → String) (env : Env) (σ : SEnv) (ps : List IStmt) (r : Lift) : Prop :=
  ∃ A, ps = A ++ r.rest ∧ ∀ cur, Tracks wrap ν env σ cur →
    runR cur (decode ν A) = runR cur (decode ν r.run) ∧
    ∀ lo hi E cur1, r.wide = some (lo, hi, E) → runR cur (decode ν r.run) = (cur1, none) → Holds ν env cur1 lo hi E

/-- `secp256k1_u128_mul(&r, a, b)`, also the first half of `secp256k1_u128_accum_mul` -/
def liftMul (I : List Cell) (σ : SEnv) (ps : List IStmt) : Option Lift :=
  match matchUmul ps with
  | some b =>
    if b.names.Nodup ∧ b.xb ∉ b.names ∧ is64 I (σ.get b.xa 0) = true ∧ is64 I (σ.get b.xb 0) = true then
      some ⟨b.stmts, b.rest, some (b.lo, b.hi, .bin .mul 128 (σ.get b.xa 0) (σ.get b.xb 0))⟩
    else none
  | none => none

theorem liftMul_ok (hν : ν.Injective) (hI : ∀ c ∈ I, cell ν env c < 2 ^ 64) {ps r} (h : liftMul I σ ps = some r) :
    LiftOK ν env σ ps r := by
  unfold liftMul at h
  split at h
  · rename_i b hb
    split at h
    · rename_i hc
      obtain ⟨hnd, hxb, h64a, h64b⟩ := hc
      cases h
      refine ⟨b.stmts, matchUmul_some hb, fun cur hT => ⟨rfl, ?_⟩⟩
      rintro lo hi E cur1 ⟨⟩ hrun
      have ea : ev env (decodeE ν (σ.get b.xa 0)) = cell ν cur (b.xa, 0) := hT (b.xa, 0)
      have eb : ev env (decodeE ν (σ.get b.xb 0)) = cell ν cur (b.xb, 0) := hT (b.xb, 0)
      have la := is64_lt hI _ h64a
      have lb := is64_lt hI _ h64b
      rw [ea] at la
      rw [eb] at lb
      simp only [Holds, decodeE, ev_bin, binWrap_mul, ea, eb, Nat.mod_eq_of_lt (mul_lt_128 la lb)]
      exact (b.run hν cur hnd hxb la lb).words hrun
    · cases h
  · cases h

/-- the second half of `secp256k1_u128_accum_mul` -/
def liftAcc (σ : SEnv) : List IStmt → Option Lift
  | .assign lo (.bin o1 w1 l1 (.var xlo)) :: .assign hi (.bin o2 w2 h2 (.bin o3 w3 (.var xhi) c)) :: ps' =>
    if [IStmt.assign lo (.bin o1 w1 l1 (.var xlo)), .assign hi (.bin o2 w2 h2 (.bin o3 w3 (.var xhi) c))] =
        accI lo hi xlo xhi ∧ [lo, hi, xlo, xhi].Nodup then
      match wideOf σ lo hi, wideOf σ xlo xhi with
      | some E, some X => some ⟨accI lo hi xlo xhi, ps', some (lo, hi, .bin .add 128 E X)⟩
      | _, _ => none
    else none
  | _ => none

theorem liftAcc_ok (hν : ν.Injective) {ps r} (h : liftAcc σ ps = some r) : LiftOK ν env σ ps r := by
  unfold liftAcc at h
  split at h
  · rename_i lo o1 w1 l1 xlo hi o2 w2 h2 o3 w3 xhi c ps'
    split at h
    · rename_i hc
      obtain ⟨hacc, hnd⟩ := hc
      split at h
      · rename_i E X hE hX
        cases h
        refine ⟨accI lo hi xlo xhi, by rw [← hacc]; rfl, fun cur hT => ⟨rfl, ?_⟩⟩
        rintro lo' hi' E' cur1 ⟨⟩ hrun
        obtain ⟨v1, l1, l2⟩ := wideOf_sound hT hE
        obtain ⟨v2, l3, l4⟩ := wideOf_sound hT hX
        simp only [Holds, decodeE, ev_bin, binWrap_add, ← v1, ← v2]
        exact (accT_run cur (ν lo) (ν hi) (ν xlo) (ν xhi) (hnd.map hν) l1 l3).words hrun
      · cases h
    · cases h
  · cases h

/-- `secp256k1_u128_accum_u64(&r, a)` -/
def liftAccU (I : List Cell) (σ : SEnv) : List IStmt → Option Lift
  | .assign lo (.bin o1 w1 l1 (.var y)) :: .assign hi e2 :: ps' =>
    if [IStmt.assign lo (.bin o1 w1 l1 (.var y)), .assign hi e2] = accUI lo hi y ∧ [lo, hi, y].Nodup ∧
        is64 I (σ.get y 0) = true then
      match wideOf σ lo hi with
      | some E => some ⟨accUI lo hi y, ps', some (lo, hi, .bin .add 128 E (σ.get y 0))⟩
      | none => none
    else none
  | _ => none

theorem liftAccU_ok (hν : ν.Injective) (hI : ∀ c ∈ I, cell ν env c < 2 ^ 64) {ps r} (h : liftAccU I σ ps = some r) :
    LiftOK ν env σ ps r := by
  unfold liftAccU at h
  split at h
  · rename_i lo o1 w1 l1 y hi e2 ps'
    split at h
    · rename_i hc
      obtain ⟨hacc, hnd, h64⟩ := hc
      split at h
      · rename_i E hE
        cases h
        refine ⟨accUI lo hi y, by rw [← hacc]; rfl, fun cur hT => ⟨rfl, ?_⟩⟩
        rintro lo' hi' E' cur1 ⟨⟩ hrun
        obtain ⟨v1, l1, l2⟩ := wideOf_sound hT hE
        have ey : ev env (decodeE ν (σ.get y 0)) = cell ν cur (y, 0) := hT (y, 0)
        have ly := is64_lt hI _ h64
        rw [ey] at ly
        simp only [Holds, decodeE, ev_bin, binWrap_add, ← v1, ey]
        exact (accUT_run cur (ν lo) (ν hi) (ν y) (hnd.map hν) l1 ly).words hrun
      · cases h
    · cases h
  · cases h

/-- the branch of `rshiftS` that a literal `0 < n` selects (`runR_rshiftS`) -/
def rshiftI (lo hi n : Nat) : List IStmt :=
  if 64 ≤ n then
    [.assign lo (.bin .shr 64 (.var hi) (.lit ((n + (4294967296 - 64)) % 4294967296))), .assign hi (.lit 0)]
  else
    [.assign lo (.bin .or 64 (.bin .shl 64 (.bin .mul 64 (.lit 1) (.var hi))
      (.lit ((64 + (4294967296 - n)) % 4294967296))) (.bin .shr 64 (.var lo) (.lit n))),
     .assign hi (.bin .shr 64 (.var hi) (.lit n))]

theorem runR_rshiftS (cur : Env) (lo hi n : Nat) (hn : 0 < n) :
    runR cur [rshiftS (ν lo) (ν hi) n] = runR cur (decode ν (rshiftI lo hi n)) := by
  unfold rshiftS rshiftI
  rw [runR_ite]
  by_cases h : 64 ≤ n
  · simp only [ev_bin, ev_lit, binWrap_le, h, ↓reduceIte, ne_eq, one_ne_zero, not_false_eq_true]; rfl
  · simp only [ev_bin, ev_lit, binWrap_le, h, ↓reduceIte, ne_eq, not_true_eq_false]
    rw [runR_ite]
    simp only [ev_bin, ev_lit, binWrap_lt, hn, ↓reduceIte, ne_eq, one_ne_zero, not_false_eq_true]; rfl

/-- `secp256k1_u128_rshift(&r, n)` with a literal `0 < n ≤ 64` -/
def liftShift (σ : SEnv) : List IStmt → Option Lift
  | .rshift lo hi n :: ps' =>
    if !(Nat.beq lo hi) && Nat.blt 0 n && Nat.ble n 64 then
      match wideOf σ lo hi with
      | some E => some ⟨rshiftI lo hi n, ps', some (lo, hi, .bin .shr 128 E (.lit n))⟩
      | none => none
    else none
  | _ => none

theorem liftShift_ok (hν : ν.Injective) {ps r} (h : liftShift σ ps = some r) : LiftOK ν env σ ps r := by
  unfold liftShift at h
  split at h
  · rename_i lo hi n ps'
    split at h
    · rename_i hc
      simp only [Bool.and_eq_true, Bool.not_eq_eq_eq_not, Bool.not_true, Nat.blt_eq, Nat.ble_eq] at hc
      obtain ⟨⟨hne, hn0⟩, hn⟩ := hc
      have hne : lo ≠ hi := fun he => by subst he; simp at hne
      split at h
      · rename_i E hE
        cases h
        refine ⟨[.rshift lo hi n], rfl, fun cur hT => ⟨runR_rshiftS cur lo hi n hn0, ?_⟩⟩
        rintro lo' hi' E' cur1 ⟨⟩ hrun
        obtain ⟨v1, l1, l2⟩ := wideOf_sound hT hE
        rw [← runR_rshiftS cur lo hi n hn0] at hrun
        simp only [Holds, decodeE, ev_bin, ev_lit, binWrap_shr, ← v1]
        exact (rshiftS_run cur (ν lo) (ν hi) n (hν.ne hne) hn0 hn l1 l2).words hrun
      · cases h
    · cases h
  · cases h

def liftOrd : List IStmt → Option Lift
  | .rshift .. :: _ => none
  | s :: ps' => some ⟨[s], ps', none⟩
  | [] => none

theorem liftOrd_ok {ps r} (h : liftOrd ps = some r) : LiftOK ν env σ ps r := by
  unfold liftOrd at h
  split at h
  · cases h
  · cases h; exact ⟨_, rfl, fun cur hT => ⟨rfl, fun _ _ _ _ hw => by cases hw⟩⟩
  · cases h

def liftStep (I : List Cell) (σ : SEnv) (ps : List IStmt) : Option Lift :=
  (liftMul I σ ps).orElse fun _ => (liftAcc σ ps).orElse fun _ => (liftAccU I σ ps).orElse fun _ =>
  (liftShift σ ps).orElse fun _ => liftOrd ps

theorem liftStep_ok (hν : ν.Injective) (hI : ∀ c ∈ I, cell ν env c < 2 ^ 64) {ps r} (h : liftStep I σ ps = some r) :
    LiftOK ν env σ ps r := by
  unfold liftStep at h
  rcases orElse_some h with h | h
  · exact liftMul_ok hν hI h
  rcases orElse_some h with h | h
  · exact liftAcc_ok hν h
  rcases orElse_some h with h | h
  · exact liftAccU_ok hν hI h
  rcases orElse_some h with h | h
  · exact liftShift_ok hν h
  · exact liftOrd_ok h

def Lift.after (r : Lift) (σ : SEnv) : SEnv :=
  match r.wide with
  | some (lo, hi, E) => setWide σ lo hi E
  | none => σ

def liftRun (I : List Cell) : Nat → SEnv → List IStmt → Option SEnv
  | 0, _, _ => none
  | f + 1, σ, ps =>
    if ps.isEmpty then some σ else
    match liftStep I σ ps with
    | some r =>
      match symL σ r.run with
      | some σ1 => liftRun I f (r.after σ1) r.rest
      | none => none
    | none => none

theorem liftRun_sound (hν : ν.Injective) (hI : ∀ c ∈ I, cell ν env c < 2 ^ 64) : ∀ (f : Nat) (σ : SEnv)
    (ps : List IStmt) (σ' : SEnv), liftRun I f σ ps = some σ' → ∀ cur, Tracks wrap ν env σ cur →
    ∃ cur', runR cur (decode ν ps) = (cur', none) ∧ Tracks wrap ν env σ' cur'
  | 0, _, _, _, h => by cases h
  | f + 1, σ, ps, σ', h => by
    intro cur hT
    unfold liftRun at h
    split at h
    · rename_i he
      cases h
      rw [List.isEmpty_iff.mp he]
      exact ⟨cur, runR_nil _, hT⟩
    · split at h
      · rename_i r hr
        obtain ⟨A, eA, hA⟩ := liftStep_ok hν hI hr
        obtain ⟨hrun, hwide⟩ := hA cur hT
        split at h
        · rename_i σ1 h1
          obtain ⟨t1, t2⟩ := hT.run hν r.run h1
          have e1 : runR cur (decode ν A) = ((runR cur (decode ν r.run)).1, none) := hrun.trans (Prod.ext rfl t2)
          have t3 : Tracks wrap ν env (r.after σ1) (runR cur (decode ν r.run)).1 := by
            unfold Lift.after
            split
            · exact tracks_setWide t1 (hwide _ _ _ _ ‹_› (hrun.symm.trans e1))
            · exact t1
          obtain ⟨cur', r2, hT'⟩ := liftRun_sound hν hI f _ r.rest σ' h _ t3
          exact ⟨cur', by rw [eA, decode_append, runR_append _ _ _ (by rw [e1]), e1]; exact r2, hT'⟩
        · cases h
      · cases h

def liftCheck (I : List Cell) (ps pn : List IStmt) (outs : List Cell) : Bool :=
  -- fuel: every piece consumes at least one statement
  match liftRun I (ps.length + 1) [] ps, liftRun I (pn.length + 1) [] pn with
  | some σs, some σn => outs.all fun o => decide (σs.get o.1 o.2 = σn.get o.1 o.2)
  | _, _ => false

theorem liftCheck_sound (hν : ν.Injective) {ps pn : List IStmt} {outs : List Cell}
    (h : liftCheck I ps pn outs = true) (hI : ∀ c ∈ I, cell ν env c < 2 ^ 64) :
    ∀ o ∈ outs, cell ν (execL env (decode ν ps)).env o = cell ν (execL env (decode ν pn)).env o := by
  unfold liftCheck at h
  split at h
  · rename_i σs σn hs hn
    obtain ⟨es, rs, ts⟩ := liftRun_sound hν hI _ _ _ _ hs env (Tracks.init wrap ν env)
    obtain ⟨en, rn, tn⟩ := liftRun_sound hν hI _ _ _ _ hn env (Tracks.init wrap ν env)
    intro o ho
    have e1 : (execL env (decode ν ps)).env = es := congrArg Prod.fst rs
    have e2 : (execL env (decode ν pn)).env = en := congrArg Prod.fst rn
    rw [e1, e2, ← ts o, ← tn o, of_decide_eq_true (List.all_eq_true.mp h o ho)]
  · cases h

end FieldKernelStruct
end SecpZkp
