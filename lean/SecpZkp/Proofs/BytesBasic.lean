import SecpZkp.Proofs.Bytes
import Mathlib.Tactic.Ring
/-
  Lemmas of `Proofs/Bytes.lean` restated with Mathlib in scope, for the protocol proofs (`open SecpZkp.Algebra`): there
  `256 ^ n` and `2 ^ 256` elaborate with `Monoid.npow` (the Mathlib import is there for that instance), in core Lean with
  `instPowNat`, so the core statements differ syntactically from the goals they would rewrite.  Also `take` / `drop` of
  `be32 x ++ bs` and the length and value of `Bytes.zeros`.
-/
namespace SecpZkp
namespace Algebra

theorem toNat_nil : Bytes.toNat [] = 0 := rfl

theorem toNat_append (as bs : Bytes) :
    Bytes.toNat (as ++ bs) = Bytes.toNat as * 256 ^ bs.length + Bytes.toNat bs :=
  Bytes.toNat_append as bs

theorem toNat_lt (bs : Bytes) : Bytes.toNat bs < 256 ^ bs.length :=
  Bytes.toNat_lt bs

theorem toNat_be32 {x : Nat} (h : x < 2 ^ 256) : Bytes.toNat (Bytes.be32 x) = x :=
  Bytes.toNat_be32 h

theorem take_be32_append (x : Nat) (bs : Bytes) : (Bytes.be32 x ++ bs).take 32 = Bytes.be32 x :=
  List.take_left' (Bytes.be32_length x)

theorem drop_be32_append (x : Nat) (bs : Bytes) : (Bytes.be32 x ++ bs).drop 32 = bs :=
  List.drop_left' (Bytes.be32_length x)

@[simp] theorem length_zeros (n : Nat) : (Bytes.zeros n).length = n := by simp [Bytes.zeros]

theorem toNat_zeros (n : Nat) : Bytes.toNat (Bytes.zeros n) = 0 :=
  Bytes.toNat_replicate_zero n

end Algebra
end SecpZkp
