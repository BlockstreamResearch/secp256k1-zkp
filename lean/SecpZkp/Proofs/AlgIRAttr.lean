import Lean.Meta.Tactic.Simp.RegisterCommand
/-- the rewrite rules of the symbolic execution of `AlgIR` programs (`Proofs/AlgIRLemmas.lean`); the command also declares
    the simproc set `alg_run_proc`, which `simp only [alg_run]` uses together with the lemmas -/
register_simp_attr alg_run
