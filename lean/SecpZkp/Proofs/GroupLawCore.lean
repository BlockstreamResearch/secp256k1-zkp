import SecpZkp.Proofs.GroupLaw
/-
  Multiples of a point of order dividing `N`, from the interface `GroupLaw` alone (core Lean).

  `Proofs/Halfagg.lean` uses them as they are (property C17 stays free of Mathlib); `Proofs/Algebra.lean` turns the
  valid points into a group and adds what needs one.
-/
namespace SecpZkp

theorem Pt.isInf_iff (p : Pt) : p.isInf = true ↔ p = .inf := by cases p <;> simp [Pt.isInf]

namespace GroupLaw

/-- for `mul_add_mod`: a sum of two reduced scalars is below the fuel bound of `Pt.mul` -/
theorem two_N_lt_mulBound : 2 * N < mulBound := by decide +kernel

theorem add_inf_right (p : Pt) : Pt.add p Pt.inf = p := by cases p <;> rfl

variable (gl : GroupLaw) {Q : Pt} (hQ : Q.valid = true)
include gl hQ

theorem valid_mul {k : Nat} (hk : k < mulBound) : (Pt.mul k Q).valid = true := by
  induction k with
  | zero => rw [gl.mul_zero]; rfl
  | succ k ih =>
    rw [gl.mul_succ k Q hQ hk]
    exact gl.valid_add _ _ (ih (by omega)) hQ

theorem mul_add {a b : Nat} (h : a + b < mulBound) :
    Pt.mul (a + b) Q = Pt.add (Pt.mul a Q) (Pt.mul b Q) := by
  induction b with
  | zero => rw [gl.mul_zero, add_inf_right]; rfl
  | succ b ih =>
    rw [← Nat.add_assoc, gl.mul_succ (a + b) Q hQ (by omega), ih (by omega), gl.mul_succ b Q hQ (by omega),
      gl.add_assoc _ _ _ (valid_mul gl hQ (by omega)) (valid_mul gl hQ (by omega)) hQ]

variable (hN : Pt.mul N Q = Pt.inf)
include hN

/-- as `secp256k1_scalar_add`: reduced scalars, result reduced again -/
theorem mul_add_mod {a b : Nat} (ha : a < N) (hb : b < N) :
    Pt.add (Pt.mul a Q) (Pt.mul b Q) = Pt.mul ((a + b) % N) Q := by
  have h2 := two_N_lt_mulBound
  rw [← mul_add gl hQ (by omega)]
  by_cases hlt : a + b < N
  · rw [Nat.mod_eq_of_lt hlt]
  · have hc : (a + b) % N = a + b - N := by
      rw [Nat.mod_eq_sub_mod (by omega), Nat.mod_eq_of_lt (by omega)]
    have hs : a + b = (a + b - N) + N := by omega
    rw [hc]
    conv => lhs; rw [hs]
    rw [mul_add gl hQ (by omega), hN, add_inf_right]

/-- as `secp256k1_scalar_mul` -/
theorem mul_mul {z s : Nat} (hz : z < N) (hs : s < N) :
    Pt.mul z (Pt.mul s Q) = Pt.mul ((s * z) % N) Q := by
  have h2 := two_N_lt_mulBound
  have hN0 : 0 < N := by omega
  induction z with
  | zero => rw [gl.mul_zero, Nat.mul_zero, Nat.zero_mod, gl.mul_zero]
  | succ z ih =>
    rw [gl.mul_succ z _ (valid_mul gl hQ (by omega)) (by omega), ih (by omega),
      mul_add_mod gl hQ hN (Nat.mod_lt _ hN0) hs, Nat.mod_add_mod, Nat.mul_succ]

end GroupLaw

end SecpZkp
