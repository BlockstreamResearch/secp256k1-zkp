/-
  The helpers of `src/int128_struct_impl.h` as blocks of statements over ARBITRARY variable names, each with what it
  leaves behind (`RunsTo`); the arithmetic is that of `Proofs/Int128.lean`.  The translated functions themselves are
  such blocks (`Props/C05_int128.lean`, through `RunsTo.words`), and so are their inlined copies in the field kernels
  (`Proofs/FieldKernelStruct.lean`, where `umulI`, `accI`, `accUI` are the same blocks over interned names).
-/
import SecpZkp.Proofs.ScalarKernel
import SecpZkp.Proofs.Int128
import SecpZkp.Proofs.Interned
import Mathlib.Data.List.Nodup

namespace SecpZkp
namespace FieldKernelStruct
open MiniC ScalarKernel Int128

/-- `omega` cannot multiply: `a * b` is split school-book, and the four 32×32 partial products become atoms with bounds -/
macro "umul_split " a:ident b:ident : tactic => `(tactic| (
  have hll := mul_lt32 (x := $a % 4294967296) (y := $b % 4294967296) (Nat.mod_lt _ (by decide)) (Nat.mod_lt _ (by decide))
  have hlh := mul_lt32 (x := $a % 4294967296) (y := $b / 4294967296) (Nat.mod_lt _ (by decide)) (by omega)
  have hhl := mul_lt32 (x := $a / 4294967296) (y := $b % 4294967296) (by omega) (Nat.mod_lt _ (by decide))
  have hhh := mul_lt32 (x := $a / 4294967296) (y := $b / 4294967296) (by omega) (by omega)
  rw [mul_split $a $b]
  generalize $a % 4294967296 * ($b % 4294967296) = ll at *
  generalize $a % 4294967296 * ($b / 4294967296) = lh at *
  generalize $a / 4294967296 * ($b % 4294967296) = hl at *
  generalize $a / 4294967296 * ($b / 4294967296) = hh at *))

theorem umul_words_mul (a b : Nat) (ha : a < 18446744073709551616) (hb : b < 18446744073709551616) :
    let ll := a % 4294967296 * (b % 4294967296) % 18446744073709551616
    let lh := a % 4294967296 * (b / 4294967296) % 18446744073709551616
    let hl := a / 4294967296 * (b % 4294967296) % 18446744073709551616
    let hh := a / 4294967296 * (b / 4294967296) % 18446744073709551616
    let mid34 := ((ll / 4294967296 + lh % 4294967296) % 18446744073709551616 + hl % 4294967296) % 18446744073709551616
    let hi := (((hh + lh / 4294967296) % 18446744073709551616 + hl / 4294967296) % 18446744073709551616 +
      mid34 / 4294967296) % 18446744073709551616
    let lo := (mid34 * 4294967296 % 18446744073709551616 + ll % 4294967296) % 18446744073709551616
    lo + 18446744073709551616 * hi = a * b ∧ lo < 18446744073709551616 ∧ hi < 18446744073709551616 := by
  dsimp only
  umul_split a b
  rename_i ll hll lh hlh hl hhl hh hhh
  rw [Nat.mod_eq_of_lt (a := ll) (by omega), Nat.mod_eq_of_lt (a := lh) (by omega),
    Nat.mod_eq_of_lt (a := hl) (by omega), Nat.mod_eq_of_lt (a := hh) (by omega)]
  exact umul_words ll lh hl hh hll hlh hhl hhh

/-- the inlined `secp256k1_umul128(xa, xb, &hi)` with the result assigned to `lo` -/
def umulT (ua ub ull ulh uhl uhh umid hi uret lo xa xb : String) : List Stmt := [
  .assign ua (.var xa), .assign ub (.var xb),
  .assign ull (.bin .mul 64 (.cast 32 (.var ua)) (.cast 32 (.var ub))),
  .assign ulh (.bin .mul 64 (.cast 32 (.var ua)) (.bin .shr 64 (.var ub) (.lit 32))),
  .assign uhl (.bin .mul 64 (.bin .shr 64 (.var ua) (.lit 32)) (.cast 32 (.var ub))),
  .assign uhh (.bin .mul 64 (.bin .shr 64 (.var ua) (.lit 32)) (.bin .shr 64 (.var ub) (.lit 32))),
  .assign umid (.bin .add 64 (.bin .add 64 (.bin .shr 64 (.var ull) (.lit 32)) (.cast 32 (.var ulh)))
    (.cast 32 (.var uhl))),
  .assign hi (.bin .add 64 (.bin .add 64 (.bin .add 64 (.var uhh) (.bin .shr 64 (.var ulh) (.lit 32)))
    (.bin .shr 64 (.var uhl) (.lit 32))) (.bin .shr 64 (.var umid) (.lit 32))),
  .assign uret (.bin .add 64 (.bin .shl 64 (.var umid) (.lit 32)) (.cast 32 (.var ull))),
  .assign lo (.var uret)]

/-- the block returns nothing, changes only the variables `ws` and leaves the 128-bit number `v` in the words `lo`, `hi` -/
def RunsTo (e : Env) (blk : List Stmt) (ws : List String) (lo hi : String) (v : Nat) : Prop :=
  ∃ e', runR e blk = (e', none) ∧ (∀ y j, y ∉ ws → e'.get y j = e.get y j) ∧
    e'.get lo 0 + 2 ^ 64 * e'.get hi 0 = v ∧ e'.get lo 0 < 2 ^ 64 ∧ e'.get hi 0 < 2 ^ 64

theorem runR_ite (env : Env) (c : Expr) (t e : List Stmt) :
    runR env [.ite c t e] = runR env (if ev env c ≠ 0 then t else e) := by
  rw [runR_cons, runR_nil]
  simp only [execS, runR, ev]
  by_cases hc : (evalE env c).1 = 0 <;> simp only [hc, ne_eq, not_true_eq_false, not_false_eq_true, ↓reduceIte] <;>
    split <;> simp_all

theorem RunsTo.ite {e c t f ws lo hi v} (h : RunsTo e (if ev e c ≠ 0 then t else f) ws lo hi v) :
    RunsTo e [.ite c t f] ws lo hi v := by
  unfold RunsTo
  rwa [runR_ite]

/-- the shape of `accT`, `accUT` and both branches of `rshiftS`; the right-hand side of `hi` may read the new `lo` -/
theorem RunsTo.pair {e : Env} {lo hi : String} {e1 e2 : Expr} {v : Nat} (hne : lo ≠ hi)
    (h : ev e e1 + 2 ^ 64 * ev (e.set lo 0 (ev e e1)) e2 = v ∧ ev e e1 < 2 ^ 64 ∧
      ev (e.set lo 0 (ev e e1)) e2 < 2 ^ 64) :
    RunsTo e [.assign lo e1, .assign hi e2] [lo, hi] lo hi v := by
  refine ⟨_, by rw [runR_assign, runR_assign, runR_nil], fun y j hy => ?_, ?_⟩
  · simp only [List.mem_cons, List.not_mem_nil, not_or, or_false] at hy
    rw [Env.get_set_other _ _ _ _ _ _ (fun h' => hy.2 (congrArg Prod.fst h')),
      Env.get_set_other _ _ _ _ _ _ (fun h' => hy.1 (congrArg Prod.fst h'))]
  · rwa [Env.get_set_same, Env.get_set_other _ _ _ _ _ _ (fun h' => hne (congrArg Prod.fst h')), Env.get_set_same]

-- `xa` is read by the first statement, before anything is written; `xb` is read after `ua` has been written
theorem umul_run (es : Env) (ua ub ull ulh uhl uhh umid hi uret lo xa xb : String)
    (hd : [ua, ub, ull, ulh, uhl, uhh, umid, hi, uret, lo].Nodup)
    (hxb : xb ∉ [ua, ub, ull, ulh, uhl, uhh, umid, hi, uret, lo])
    (ha : es.get xa 0 < 2 ^ 64) (hb : es.get xb 0 < 2 ^ 64) :
    RunsTo es (umulT ua ub ull ulh uhl uhh umid hi uret lo xa xb) [ua, ub, ull, ulh, uhl, uhh, umid, hi, uret, lo]
      lo hi (es.get xa 0 * es.get xb 0) := by
  have hd' := List.nodup_reverse.mpr hd
  simp only [List.reverse_cons, List.reverse_nil, List.nil_append, List.cons_append] at hd'
  simp only [List.nodup_cons, List.mem_cons, List.not_mem_nil, not_or, or_false, List.nodup_nil, and_true,
    not_false_eq_true] at hd hd' hxb
  unfold RunsTo umulT
  steps 10 [hd, hd', hxb]
  refine ⟨_, rfl, ?_, ?_⟩
  · intro y j hy
    simp only [List.mem_cons, List.not_mem_nil, not_or, or_false] at hy
    simp only [Env.get_set_other, ne_eq, Prod.mk.injEq, false_and, not_false_eq_true, hy]
  · simp only [Env.get_set_same, Env.get_set_other, ne_eq, Prod.mk.injEq, and_true, not_false_eq_true, hd]
    simp only [binWrap_add, binWrap_mul, binWrap_shr, binWrap_shl, Nat.reducePow] at ha hb ⊢
    exact umul_words_mul _ _ ha hb

theorem rshiftS_run (e : Env) (lo hi : String) (n : Nat) (hne : lo ≠ hi) (hn0 : 0 < n) (hn : n ≤ 64)
    (h1 : e.get lo 0 < 2 ^ 64) (h2 : e.get hi 0 < 2 ^ 64) :
    RunsTo e [rshiftS lo hi n] [lo, hi] lo hi ((e.get lo 0 + 2 ^ 64 * e.get hi 0) / 2 ^ n) := by
  refine RunsTo.ite ?_
  by_cases h64 : 64 ≤ n
  · obtain rfl : n = 64 := by omega
    simp only [ev_bin, ev_lit, binWrap_le, Nat.le_refl, ↓reduceIte, ne_eq, one_ne_zero, not_false_eq_true]
    refine RunsTo.pair hne ?_
    simp only [ev_var, ev_lit, ev_bin]
    generalize e.get lo 0 = l at *
    generalize e.get hi 0 = h at *
    simp only [binWrap_shr, Nat.reducePow, Nat.reduceAdd, Nat.reduceSub, Nat.reduceMod, Nat.pow_zero, Nat.div_one]
      at h1 h2 ⊢
    omega
  · have hlt : n < 64 := by omega
    have hk : (64 + (4294967296 - n)) % 4294967296 = 64 - n := by omega
    simp only [ev_bin, ev_lit, binWrap_le, h64, ↓reduceIte, ne_eq, not_true_eq_false]
    refine RunsTo.ite ?_
    simp only [ev_bin, ev_lit, binWrap_lt, hn0, ↓reduceIte, ne_eq, one_ne_zero, not_false_eq_true]
    refine RunsTo.pair hne ?_
    simp only [ev_var, ev_lit, ev_bin, Env.get_set_other, ne_eq, Prod.mk.injEq, and_true, not_false_eq_true,
      Ne.symm hne]
    generalize e.get lo 0 = l at *
    generalize e.get hi 0 = h at *
    simp only [binWrap_shr, binWrap_shl, binWrap_or, binWrap_mul, hk, Nat.one_mul, Nat.mod_eq_of_lt h2]
    refine ⟨shr_lo l h n h1 hlt, ?_, Nat.lt_of_le_of_lt (Nat.div_le_self _ _) h2⟩
    exact Nat.or_lt_two_pow (Nat.mod_lt _ (Nat.two_pow_pos 64)) (Nat.lt_of_le_of_lt (Nat.div_le_self _ _) h1)

/-- `umulT` over interned names: `decode ν (umulI ua ..)` is `umulT (ν ua) ..` by `rfl`, which is how the two are tied -/
def umulI (ua ub ull ulh uhl uhh umid hi uret lo xa xb : Nat) : List IStmt := [
  .assign ua (.var xa), .assign ub (.var xb),
  .assign ull (.bin .mul 64 (.cast 32 (.var ua)) (.cast 32 (.var ub))),
  .assign ulh (.bin .mul 64 (.cast 32 (.var ua)) (.bin .shr 64 (.var ub) (.lit 32))),
  .assign uhl (.bin .mul 64 (.bin .shr 64 (.var ua) (.lit 32)) (.cast 32 (.var ub))),
  .assign uhh (.bin .mul 64 (.bin .shr 64 (.var ua) (.lit 32)) (.bin .shr 64 (.var ub) (.lit 32))),
  .assign umid (.bin .add 64 (.bin .add 64 (.bin .shr 64 (.var ull) (.lit 32)) (.cast 32 (.var ulh)))
    (.cast 32 (.var uhl))),
  .assign hi (.bin .add 64 (.bin .add 64 (.bin .add 64 (.var uhh) (.bin .shr 64 (.var ulh) (.lit 32)))
    (.bin .shr 64 (.var uhl) (.lit 32))) (.bin .shr 64 (.var umid) (.lit 32))),
  .assign uret (.bin .add 64 (.bin .shl 64 (.var umid) (.lit 32)) (.cast 32 (.var ull))),
  .assign lo (.var uret)]

theorem decL_umulI (ua ub ull ulh uhl uhh umid hi uret lo xa xb : Nat) :
    decL (umulI ua ub ull ulh uhl uhh umid hi uret lo xa xb) =
      umulT (nm ua) (nm ub) (nm ull) (nm ulh) (nm uhl) (nm uhh) (nm umid) (nm hi) (nm uret) (nm lo) (nm xa) (nm xb) := rfl

/-- the tail of the inlined `secp256k1_u128_accum_mul`: `r->lo += lo; r->hi += hi + (r->lo < lo)`.  `(x ^ 2^31) - 2^31` at
    width 64 is the translator's `int → uint64_t` conversion of the comparison (`ScalarKernel.sext_lt`). -/
def accT (lo hi xlo xhi : String) : List Stmt := [
  .assign lo (.bin .add 64 (.var lo) (.var xlo)),
  .assign hi (.bin .add 64 (.var hi) (.bin .add 64 (.var xhi)
    (.bin .sub 64 (.bin .xor 64 (.bin .lt 64 (.var lo) (.var xlo)) (.lit 2147483648)) (.lit 2147483648))))]

theorem accT_run (e : Env) (lo hi xlo xhi : String) (hd : [lo, hi, xlo, xhi].Nodup)
    (h1 : e.get lo 0 < 2 ^ 64) (h2 : e.get xlo 0 < 2 ^ 64) :
    RunsTo e (accT lo hi xlo xhi) [lo, hi] lo hi
      ((e.get lo 0 + 2 ^ 64 * e.get hi 0 + (e.get xlo 0 + 2 ^ 64 * e.get xhi 0)) % 2 ^ 128) := by
  simp only [List.nodup_cons, List.mem_cons, List.not_mem_nil, not_or, or_false, List.nodup_nil, and_true,
    not_false_eq_true] at hd
  refine RunsTo.pair hd.1.1 ?_
  simp only [ev_var, ev_lit, ev_bin, Env.get_set_same, Env.get_set_other, ne_eq, Prod.mk.injEq, and_true,
    not_false_eq_true, Ne.symm hd.1.1, Ne.symm hd.1.2.1, Ne.symm hd.1.2.2]
  simp only [sext_lt]
  simp only [binWrap_add, binWrap_lt]
  rw [carry_eq _ _ h1 h2]
  omega

/-- with `A = umulT …` the whole of `secp256k1_u128_accum_mul` -/
theorem RunsTo.accT {e A ws lo hi xlo xhi v} (hA : RunsTo e A ws xlo xhi v) (hlo : lo ∉ ws) (hhi : hi ∉ ws)
    (hd : [lo, hi, xlo, xhi].Nodup) (h1 : e.get lo 0 < 2 ^ 64) :
    RunsTo e (A ++ FieldKernelStruct.accT lo hi xlo xhi) (lo :: hi :: ws) lo hi
      ((e.get lo 0 + 2 ^ 64 * e.get hi 0 + v) % 2 ^ 128) := by
  obtain ⟨e1, hrun1, hfr1, rfl, hlo1, -⟩ := hA
  have el := hfr1 lo 0 hlo
  have eh := hfr1 hi 0 hhi
  obtain ⟨e2, hrun2, hfr2, hv2⟩ := accT_run e1 lo hi xlo xhi hd (el ▸ h1) hlo1
  refine ⟨e2, ?_, fun y j hy => ?_, el ▸ eh ▸ hv2⟩
  · rw [runR_append _ _ _ (by rw [hrun1]), hrun1]
    exact hrun2
  · simp only [List.mem_cons, not_or] at hy
    rw [hfr2 y j (by simp only [List.mem_cons, List.not_mem_nil, not_or, or_false]; exact ⟨hy.1, hy.2.1⟩),
      hfr1 y j hy.2.2]

/-- `accT` over interned names (as `umulI`) -/
def accI (lo hi xlo xhi : Nat) : List IStmt := [
  .assign lo (.bin .add 64 (.var lo) (.var xlo)),
  .assign hi (.bin .add 64 (.var hi) (.bin .add 64 (.var xhi)
    (.bin .sub 64 (.bin .xor 64 (.bin .lt 64 (.var lo) (.var xlo)) (.lit 2147483648)) (.lit 2147483648))))]

/-- the inlined `secp256k1_u128_accum_u64`: `r->lo += a; r->hi += r->lo < a` -/
def accUT (lo hi y : String) : List Stmt := [
  .assign lo (.bin .add 64 (.var lo) (.var y)),
  .assign hi (.bin .add 64 (.var hi)
    (.bin .sub 64 (.bin .xor 64 (.bin .lt 64 (.var lo) (.var y)) (.lit 2147483648)) (.lit 2147483648)))]

theorem accUT_run (e : Env) (lo hi y : String) (hd : [lo, hi, y].Nodup)
    (h1 : e.get lo 0 < 2 ^ 64) (h2 : e.get y 0 < 2 ^ 64) :
    RunsTo e (accUT lo hi y) [lo, hi] lo hi ((e.get lo 0 + 2 ^ 64 * e.get hi 0 + e.get y 0) % 2 ^ 128) := by
  simp only [List.nodup_cons, List.mem_cons, List.not_mem_nil, not_or, or_false, List.nodup_nil, and_true,
    not_false_eq_true] at hd
  refine RunsTo.pair hd.1.1 ?_
  simp only [ev_var, ev_lit, ev_bin, Env.get_set_same, Env.get_set_other, ne_eq, Prod.mk.injEq, and_true,
    not_false_eq_true, Ne.symm hd.1.1, Ne.symm hd.1.2]
  simp only [sext_lt]
  simp only [binWrap_add, binWrap_lt]
  rw [carry_eq _ _ h1 h2]
  omega

/-- `accUT` over interned names (as `umulI`) -/
def accUI (lo hi y : Nat) : List IStmt := [
  .assign lo (.bin .add 64 (.var lo) (.var y)),
  .assign hi (.bin .add 64 (.var hi)
    (.bin .sub 64 (.bin .xor 64 (.bin .lt 64 (.var lo) (.var y)) (.lit 2147483648)) (.lit 2147483648)))]

theorem RunsTo.words {e e' blk ws lo hi v r} (h : RunsTo e blk ws lo hi v) (hr : runR e blk = (e', r)) :
    e'.get lo 0 + 2 ^ 64 * e'.get hi 0 = v ∧ e'.get lo 0 < 2 ^ 64 ∧ e'.get hi 0 < 2 ^ 64 := by
  obtain ⟨e1, h1, -, h2⟩ := h
  cases h1.symm.trans hr
  exact h2

end FieldKernelStruct
end SecpZkp
