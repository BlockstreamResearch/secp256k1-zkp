import SecpZkp.Model.Borromean
import SecpZkp.Proofs.EarlyReturn
import SecpZkp.Proofs.GroupLawCore
/-
  What the Borromean verifier rejects at every position, whatever the hash does: a zero scalar
  (`secp256k1_scalar_is_zero(&s[count])`) and a ring key at infinity.  Core Lean only.
-/
namespace SecpZkp

namespace Borromean

/-- One step of the verifier: the model's pair-`let` and point-`match` restated as `if`s on projections, so that a
    hypothesis `… = some r` comes apart by `Option.ite_none_left_eq_some` and a goal advances by `if_neg`. -/
theorem verifyRing_cons (m : Bytes) (i j : Nat) (p : Pt) (ps : List Pt) (s : Nat) (ss : List Nat) (tmp : Bytes)
    (ev : List Nat) :
    verifyRing m i j (p :: ps) (s :: ss) tmp ev =
      if (Sc.setB32 tmp).2 = true ∨ s = 0 ∨ (Sc.setB32 tmp).1 = 0 ∨ p.isInf = true then none else
      if Pt.add (Pt.mul (Sc.setB32 tmp).1 p) (Pt.mulG s) = .inf then none else
      if ps = [] then
        some (Codec.serialize33 (Pt.add (Pt.mul (Sc.setB32 tmp).1 p) (Pt.mulG s)), ev ++ [(Sc.setB32 tmp).1])
      else verifyRing m i (j + 1) ps ss
        (hash m (Codec.serialize33 (Pt.add (Pt.mul (Sc.setB32 tmp).1 p) (Pt.mulG s))) i (j + 1))
        (ev ++ [(Sc.setB32 tmp).1]) := by
  rw [verifyRing]
  simp only []
  split
  · rfl
  · split
    · next h => simp [h]
    · next _ r h2 =>
      have : ¬ (Pt.add (Pt.mul (Sc.setB32 tmp).1 p) (Pt.mulG s) = .inf) := h2
      rw [if_neg this]
      cases ps <;> rfl

theorem verifyRing_some {m : Bytes} {i j : Nat} {ps : List Pt} {ss : List Nat} {tmp : Bytes} {ev : List Nat}
    {r : Bytes × List Nat} (h : verifyRing m i j ps ss tmp ev = some r) :
    ∀ k < ps.length, ss[k]? ≠ some 0 ∧ ps[k]? ≠ some .inf := by
  induction ps generalizing j ss tmp ev with
  | nil => intro k hk; simp at hk
  | cons p ps ih =>
    cases ss with
    | nil => simp [verifyRing] at h
    | cons s ss =>
      rw [verifyRing_cons, Option.ite_none_left_eq_some, Option.ite_none_left_eq_some] at h
      obtain ⟨hc, -, h⟩ := h
      intro k hk
      cases k with
      | zero =>
        refine ⟨by simp; omega, fun hp => hc (Or.inr (Or.inr (Or.inr ?_)))⟩
        simp only [List.getElem?_cons_zero, Option.some.injEq] at hp
        rw [hp]; rfl
      | succ k =>
        split at h
        · rename_i he
          subst he; simp at hk
        · simpa using ih h k (by simpa using hk)

theorem verifyGo_some {e0 m : Bytes} {rsizes : List Nat} {i : Nat} {s : List Nat} {pubs : List Pt} {acc : Bytes}
    {ev : List Nat} {r : Bytes × List Nat} (h : verify.go e0 m rsizes i s pubs acc ev = some r) :
    ∀ k, k < rsizes.sum → k < pubs.length → s[k]? ≠ some 0 ∧ pubs[k]? ≠ some .inf := by
  induction rsizes generalizing i s pubs acc ev with
  | nil => intro k hk; simp at hk
  | cons rs rest ih =>
    unfold verify.go at h
    simp only [List.sum_cons]
    split at h
    · rename_i h0
      subst h0
      simpa using ih h
    · split at h
      · exact absurd h (by simp)
      rename_i hring
      intro k hk hkp
      by_cases hkr : k < rs
      · have := verifyRing_some hring k (by simp; omega)
        rwa [List.getElem?_take_of_lt hkr, List.getElem?_take_of_lt hkr] at this
      · have := ih h (k - rs) (by omega) (by simp; omega)
        rwa [List.getElem?_drop, List.getElem?_drop, show rs + (k - rs) = k by omega] at this

theorem verify_true_imp {e0 : Bytes} {s : List Nat} {pubs : List Pt} {rsizes : List Nat} {m : Bytes}
    (h : (verify e0 s pubs rsizes m).1 = true) :
    ∀ k, k < rsizes.sum → k < pubs.length → s[k]? ≠ some 0 ∧ pubs[k]? ≠ some .inf := by
  unfold verify at h
  split at h
  · simp at h
  · rename_i hgo
    exact verifyGo_some hgo

end Borromean
end SecpZkp
