/-
  Functional specifications of the branch-free primitives in `Gen/K_ct.lean` (5×52 field / 4×64 scalar) and `Gen/K_ct32.lean`
  (10×26 / 8×32), on the generated IR.  Every `*_cmov` has one shape (`mask0 = flag - 1`, `mask1 = ~mask0`, then
  `r[i] = (r[i] & mask0) | (a[i] & mask1)` for `i < n`, possibly several such calls inlined one after the other), so the
  shape is a program of its own (`cmovProg`, `cmovCalls`) with ONE theorem for any width, length and names; a concrete
  `cmov` is an instance because its body is that program by `rfl`.  `fe_normalizes_to_zero` is the first carry pass of
  `Proofs/LimbArith.lean` followed by a test of its limbs (`zflag5`, `zflag10`).  `retW` is for returned values what
  `FieldLinear.runW` is for memories.
-/
import SecpZkp.Proofs.FieldLinear
import SecpZkp.Proofs.ScalarKernel
import SecpZkp.Proofs.ScalarKernel32
import SecpZkp.Gen.K_ct
import SecpZkp.Gen.K_ct32

namespace SecpZkp
namespace CtSpec
open MiniC FieldLinear FieldKernel LimbList

def Cells (env : Env) (a : String) (n w : Nat) : Prop := ∀ i, i < n → env.get a i < 2 ^ w

instance (env : Env) (a : String) (n w : Nat) : Decidable (Cells env a n w) := Nat.decidableBallLT _ _

theorem sel_word {w r a : Nat} (c : Prop) [Decidable c] (hr : r < 2 ^ w) (ha : a < 2 ^ w) :
    (r &&& if c then 0 else 2 ^ w - 1) ||| (a &&& if c then 2 ^ w - 1 else 0) = if c then a else r := by
  split <;> simp [Nat.and_two_pow_sub_one_eq_mod, Nat.mod_eq_of_lt, hr, ha]

def selStores (w : Nat) (r a m0 m1 : String) : Nat → List Stmt
  | 0 => []
  | n + 1 => selStores w r a m0 m1 n ++
      [.store r (.lit n) (.bin .or w (.bin .and w (.idx r (.lit n)) (.var m0)) (.bin .and w (.idx a (.lit n)) (.var m1)))]

theorem runW_selStores {w : Nat} {r a m0 m1 : String} (c : Prop) [Decidable c] (env : Env)
    (hra : a ≠ r) (hr0 : m0 ≠ r) (hr1 : m1 ≠ r)
    (h0 : env.get m0 0 = if c then 0 else 2 ^ w - 1) (h1 : env.get m1 0 = if c then 2 ^ w - 1 else 0) :
    ∀ n, Cells env r n w → Cells env a n w →
      (∀ i, i < n → (runW env (selStores w r a m0 m1 n)).get r i = if c then env.get a i else env.get r i) ∧
      (∀ x j, (x = r → n ≤ j) → (runW env (selStores w r a m0 m1 n)).get x j = env.get x j)
  | 0, _, _ => ⟨fun _ h => absurd h (Nat.not_lt_zero _), fun _ _ _ => rfl⟩
  | n + 1, hr, ha => by
    obtain ⟨ih, fr⟩ := runW_selStores c env hra hr0 hr1 h0 h1 n (fun i hi => hr i (Nat.lt_succ_of_lt hi))
      (fun i hi => ha i (Nat.lt_succ_of_lt hi))
    have hv : evalV (runW env (selStores w r a m0 m1 n)) (.bin .or w (.bin .and w (.idx r (.lit n)) (.var m0))
        (.bin .and w (.idx a (.lit n)) (.var m1))) = if c then env.get a n else env.get r n := by
      simp only [evalV, ScalarKernel.binWrap_and, ScalarKernel.binWrap_or]
      rw [fr r n (fun _ => Nat.le_refl n), fr a n (fun h => absurd h hra), fr m0 0 (fun h => absurd h hr0),
        fr m1 0 (fun h => absurd h hr1), h0, h1]
      exact sel_word c (hr n (Nat.lt_succ_self n)) (ha n (Nat.lt_succ_self n))
    simp only [selStores, runW_append, runW]
    rw [hv]
    simp only [evalV]
    refine ⟨fun i hi => ?_, fun x j hx => ?_⟩
    · rcases Nat.lt_succ_iff_lt_or_eq.mp hi with h | rfl
      · rw [Env.get_set_other _ _ _ _ _ _ (by simp only [ne_eq, Prod.mk.injEq, true_and]; omega), ih i h]
      · rw [Env.get_set_same]
    · rw [Env.get_set_other _ _ _ _ _ _ (by
        simp only [ne_eq, Prod.mk.injEq, not_and]; intro h; have := hx h; omega)]
      exact fr x j (fun h => Nat.le_of_succ_le (hx h))

/-- `mask0 = vflag + ~((uint64_t)0)`; `vflag` is an `int`, hence the sign extension that the translator emits -/
def mask64 (vflag : String) : Expr :=
  .bin .add 64 (.bin .sub 64 (.bin .xor 64 (.var vflag) (.lit 2147483648)) (.lit 2147483648)) (.not 64 (.lit 0))

def mask32 (vflag : String) : Expr := .bin .add 32 (.var vflag) (.not 32 (.lit 0))

theorem mask64_spec (vflag : String) (e : Env) (h : e.get vflag 0 ≤ 1) :
    evalV e (mask64 vflag) = if e.get vflag 0 = 1 then 0 else 2 ^ 64 - 1 := by
  simp only [mask64, evalV]
  rcases (show e.get vflag 0 = 0 ∨ e.get vflag 0 = 1 by omega) with h | h <;> rw [h] <;> decide

theorem mask32_spec (vflag : String) (e : Env) (h : e.get vflag 0 ≤ 1) :
    evalV e (mask32 vflag) = if e.get vflag 0 = 1 then 0 else 2 ^ 32 - 1 := by
  simp only [mask32, evalV]
  rcases (show e.get vflag 0 = 0 ∨ e.get vflag 0 = 1 by omega) with h | h <;> rw [h] <;> decide

/-- `volatile int vflag = flag; mask0 = vflag + ~0; mask1 = ~mask0;` and the stores, as in every `secp256k1_*_cmov` -/
def cmovProg (w : Nat) (mask0 : Expr) (flag vflag m0 m1 r a : String) (n : Nat) : List Stmt :=
  .assign vflag (.var flag) :: .assign m0 mask0 :: .assign m1 (.not w (.var m0)) :: selStores w r a m0 m1 n

theorem runW_cmovProg {w : Nat} {mask0 : Expr} {flag vflag m0 m1 r a : String} {n : Nat} (env : Env)
    (hmask : ∀ e : Env, e.get vflag 0 ≤ 1 → evalV e mask0 = if e.get vflag 0 = 1 then 0 else 2 ^ w - 1)
    (hn : [m0, m1].Nodup ∧ r ∉ [vflag, m0, m1] ∧ a ∉ [vflag, m0, m1, r])
    (hf : env.get flag 0 ≤ 1) (hr : Cells env r n w) (ha : Cells env a n w) :
    (∀ i, i < n → (runW env (cmovProg w mask0 flag vflag m0 m1 r a n)).get r i =
      if env.get flag 0 = 1 then env.get a i else env.get r i) ∧
    (∀ x j, x ∉ [vflag, m0, m1, r] → (runW env (cmovProg w mask0 flag vflag m0 m1 r a n)).get x j = env.get x j) := by
  simp only [List.nodup_cons, List.mem_cons, List.not_mem_nil, List.nodup_nil, not_or, or_false,
    and_true, not_false_eq_true] at hn
  obtain ⟨h01, ⟨hrv, hr0, hr1⟩, hav, ha0, ha1, har⟩ := hn
  simp only [cmovProg, runW, evalV, Env.get_set_same]
  have hM0 := hmask (env.set vflag 0 (env.get flag 0)) (by rw [Env.get_set_same]; exact hf)
  rw [Env.get_set_same] at hM0
  rw [hM0]
  obtain ⟨sel, fr⟩ := runW_selStores (w := w) (r := r) (a := a) (m0 := m0) (m1 := m1) (env.get flag 0 = 1)
    (((env.set vflag 0 (env.get flag 0)).set m0 0 (if env.get flag 0 = 1 then 0 else 2 ^ w - 1)).set m1 0
      (2 ^ w - 1 - (if env.get flag 0 = 1 then 0 else 2 ^ w - 1) % 2 ^ w))
    har (Ne.symm hr0) (Ne.symm hr1)
    (by rw [get_set_of_ne h01, Env.get_set_same])
    (by rw [Env.get_set_same]; split <;> simp [Nat.mod_eq_of_lt (Nat.sub_one_lt (Nat.two_pow_pos w).ne')]) n
    (fun i hi => by rw [get_set_of_ne hr1, get_set_of_ne hr0, get_set_of_ne hrv]; exact hr i hi)
    (fun i hi => by rw [get_set_of_ne ha1, get_set_of_ne ha0, get_set_of_ne hav]; exact ha i hi)
  refine ⟨fun i hi => ?_, fun x j hx => ?_⟩
  · rw [sel i hi, get_set_of_ne ha1, get_set_of_ne ha0, get_set_of_ne hav, get_set_of_ne hr1,
      get_set_of_ne hr0, get_set_of_ne hrv]
  · simp only [List.mem_cons, List.not_mem_nil, not_or, or_false] at hx
    obtain ⟨xv, x0, x1, xr⟩ := hx
    rw [fr x j (fun h => absurd h xr), get_set_of_ne x1, get_set_of_ne x0, get_set_of_ne xv]

theorem runC_cmov {w n : Nat} {mask0 : Expr} {r a : String} (f : Fn) (env : Env)
    (hb : f.body = cmovProg w mask0 "flag" "vflag" "mask0" "mask1" r a n) (hs : isStraight f.body = true)
    (hmask : ∀ e : Env, e.get "vflag" 0 ≤ 1 → evalV e mask0 = if e.get "vflag" 0 = 1 then 0 else 2 ^ w - 1)
    (hn : r ∉ ["vflag", "mask0", "mask1"] ∧ a ∉ ["vflag", "mask0", "mask1", r])
    (hf : env.get "flag" 0 ≤ 1) (hr : Cells env r n w) (ha : Cells env a n w) :
    (∀ i, i < n → (runC f env).get r i = if env.get "flag" 0 = 1 then env.get a i else env.get r i) ∧
    (∀ i, (runC f env).get a i = env.get a i) := by
  rw [runC_eq_runW f env hs, hb]
  obtain ⟨sel, fr⟩ := runW_cmovProg env hmask ⟨by decide, hn⟩ hf hr ha
  exact ⟨sel, fun i => fr a i hn.2⟩

/-- an inlined call `cmov(r, a, flag)`: the translator prefixes the callee's parameter and locals with `p` (`"fe_impl_cmov_15."`) -/
def cmovCall (w : Nat) (mask0 : String → Expr) (p r a : String) (n : Nat) : List Stmt :=
  .assign (p ++ "flag") (.var "flag") ::
    cmovProg w (mask0 (p ++ "vflag")) (p ++ "flag") (p ++ "vflag") (p ++ "mask0") (p ++ "mask1") r a n

def cmovCall.writes (p r : String) : List String := [p ++ "flag", p ++ "vflag", p ++ "mask0", p ++ "mask1", r]

theorem runW_cmovCall {w : Nat} {mask0 : String → Expr} {p r a : String} {n : Nat} (env : Env)
    (hmask : ∀ (v : String) (e : Env), e.get v 0 ≤ 1 → evalV e (mask0 v) = if e.get v 0 = 1 then 0 else 2 ^ w - 1)
    (hn : (cmovCall.writes p r).Nodup ∧ a ∉ cmovCall.writes p r)
    (hf : env.get "flag" 0 ≤ 1) (hr : Cells env r n w) (ha : Cells env a n w) :
    (∀ i, i < n → (runW env (cmovCall w mask0 p r a n)).get r i =
      if env.get "flag" 0 = 1 then env.get a i else env.get r i) ∧
    (∀ x j, x ∉ cmovCall.writes p r → (runW env (cmovCall w mask0 p r a n)).get x j = env.get x j) := by
  simp only [cmovCall.writes, List.nodup_cons, List.mem_cons, List.not_mem_nil, List.nodup_nil, not_or, or_false,
    and_true, not_false_eq_true] at hn
  obtain ⟨⟨⟨-, -, -, hrf⟩, ⟨-, -, hrv⟩, ⟨h01, hr0⟩, hr1⟩, haf, hav, ha0, ha1, har⟩ := hn
  obtain ⟨sel, fr⟩ := runW_cmovProg (w := w) (mask0 := mask0 (p ++ "vflag")) (flag := p ++ "flag")
    (vflag := p ++ "vflag") (m0 := p ++ "mask0") (m1 := p ++ "mask1") (r := r) (a := a) (n := n)
    (env.set (p ++ "flag") 0 (env.get "flag" 0)) (hmask _)
    (by simp only [List.nodup_cons, List.mem_cons, List.not_mem_nil, List.nodup_nil, not_or, or_false, and_true,
          not_false_eq_true]
        exact ⟨h01, ⟨Ne.symm hrv, Ne.symm hr0, Ne.symm hr1⟩, hav, ha0, ha1, har⟩)
    (by rw [Env.get_set_same]; exact hf)
    (fun i hi => by rw [get_set_of_ne (Ne.symm hrf)]; exact hr i hi)
    (fun i hi => by rw [get_set_of_ne haf]; exact ha i hi)
  rw [Env.get_set_same] at sel
  simp only [cmovCall, runW, evalV]
  refine ⟨fun i hi => ?_, fun x j hx => ?_⟩
  · rw [sel i hi, get_set_of_ne haf, get_set_of_ne (Ne.symm hrf)]
  · simp only [cmovCall.writes, List.mem_cons, List.not_mem_nil, not_or, or_false] at hx
    obtain ⟨xf, xv, x0, x1, xr⟩ := hx
    rw [fr x j (by simp only [List.mem_cons, List.not_mem_nil, not_or, or_false]; exact ⟨xv, x0, x1, xr⟩), get_set_of_ne xf]

def cmovCalls (w : Nat) (mask0 : String → Expr) (n : Nat) : List (String × String × String) → List Stmt
  | [] => []
  | (p, r, a) :: cs => cmovCall w mask0 p r a n ++ cmovCalls w mask0 n cs

def cmovCalls.writes : List (String × String × String) → List String
  | [] => []
  | (p, r, _) :: cs => cmovCall.writes p r ++ cmovCalls.writes cs

theorem cmovCalls.mem_writes : ∀ {cs : List (String × String × String)} {c}, c ∈ cs → c.2.1 ∈ cmovCalls.writes cs
  | (p, r, a) :: cs, c, h => by
    rcases List.mem_cons.mp h with rfl | h
    · simp [cmovCalls.writes, cmovCall.writes]
    · exact List.mem_append_right _ (cmovCalls.mem_writes h)

theorem runW_cmovCalls {w : Nat} {mask0 : String → Expr} {n : Nat}
    (hmask : ∀ (v : String) (e : Env), e.get v 0 ≤ 1 → evalV e (mask0 v) = if e.get v 0 = 1 then 0 else 2 ^ w - 1) :
    ∀ (cs : List (String × String × String)) (env : Env), (cmovCalls.writes cs).Nodup →
      (∀ c ∈ cs, c.2.2 ∉ cmovCalls.writes cs) → "flag" ∉ cmovCalls.writes cs → env.get "flag" 0 ≤ 1 →
      (∀ c ∈ cs, Cells env c.2.1 n w ∧ Cells env c.2.2 n w) →
      (∀ c ∈ cs, ∀ i, i < n → (runW env (cmovCalls w mask0 n cs)).get c.2.1 i =
        if env.get "flag" 0 = 1 then env.get c.2.2 i else env.get c.2.1 i) ∧
      (∀ x j, x ∉ cmovCalls.writes cs → (runW env (cmovCalls w mask0 n cs)).get x j = env.get x j)
  | [], _, _, _, _, _, _ => ⟨fun _ h => absurd h List.not_mem_nil, fun _ _ _ => rfl⟩
  | (p, r, a) :: cs, env, hnd, hsrc, hflag, hf, hcells => by
    simp only [cmovCalls.writes, List.mem_append, not_or] at hnd hsrc hflag
    obtain ⟨nd1, nd2, disj⟩ := List.nodup_append.mp hnd
    obtain ⟨hr, ha⟩ := hcells _ List.mem_cons_self
    obtain ⟨s1, f1⟩ := runW_cmovCall (w := w) (mask0 := mask0) (p := p) (r := r) (a := a) (n := n) env hmask
      ⟨nd1, (hsrc _ List.mem_cons_self).1⟩ hf hr ha
    have hfl := f1 "flag" 0 hflag.1
    have unwritten : ∀ c ∈ cs, c.2.1 ∉ cmovCall.writes p r := fun c hc h => disj _ h _ (cmovCalls.mem_writes hc) rfl
    obtain ⟨s2, f2⟩ := runW_cmovCalls hmask cs (runW env (cmovCall w mask0 p r a n)) nd2
      (fun c hc => (hsrc c (List.mem_cons_of_mem _ hc)).2) hflag.2 (hfl ▸ hf)
      (fun c hc => ⟨fun i hi => by rw [f1 _ _ (unwritten c hc)]; exact (hcells c (List.mem_cons_of_mem _ hc)).1 i hi,
        fun i hi => by rw [f1 _ _ (hsrc c (List.mem_cons_of_mem _ hc)).1]; exact (hcells c (List.mem_cons_of_mem _ hc)).2 i hi⟩)
    simp only [cmovCalls, runW_append]
    refine ⟨fun c hc i hi => ?_, fun x j hx => ?_⟩
    · rcases List.mem_cons.mp hc with rfl | hc
      · rw [f2 _ _ (fun h => disj _ (by simp [cmovCall.writes]) _ h rfl), s1 i hi]
      · rw [s2 c hc i hi, hfl, f1 _ _ (hsrc c (List.mem_cons_of_mem _ hc)).1, f1 _ _ (unwritten c hc)]
    · simp only [cmovCalls.writes, List.mem_append, not_or] at hx
      rw [f2 x j hx.2, f1 x j hx.1]

/-- `r->infinity ^= (r->infinity ^ a->infinity) & flag` of `secp256k1_gej_cmov` -/
theorem inf_sel {r a f : Nat} (hr : r ≤ 1) (ha : a ≤ 1) (hf : f ≤ 1) :
    r ^^^ ((r ^^^ a) &&& f) = if f = 1 then a else r := by
  have h1 : r = 0 ∨ r = 1 := by omega
  have h2 : a = 0 ∨ a = 1 := by omega
  have h3 : f = 0 ∨ f = 1 := by omega
  rcases h1 with rfl | rfl <;> rcases h2 with rfl | rfl <;> rcases h3 with rfl | rfl <;> decide

def gejCalls : List (String × String × String) :=
  [("fe_impl_cmov_15.", "r.x.n", "a.x.n"), ("fe_impl_cmov_16.", "r.y.n", "a.y.n"), ("fe_impl_cmov_17.", "r.z.n", "a.z.n")]

def geStorageCalls : List (String × String × String) :=
  [("fe_storage_cmov_1.", "r.x.n", "a.x.n"), ("fe_storage_cmov_2.", "r.y.n", "a.y.n")]

def gejCmovProg (w : Nat) (mask0 : String → Expr) (n : Nat) : List Stmt :=
  cmovCalls w mask0 n gejCalls ++
  [.assign "r.infinity" (.bin .xor 32 (.var "r.infinity")
    (.bin .and 32 (.bin .xor 32 (.var "r.infinity") (.var "a.infinity")) (.var "flag")))]

theorem runW_gejCmovProg {w n : Nat} {mask0 : String → Expr}
    (hmask : ∀ (v : String) (e : Env), e.get v 0 ≤ 1 → evalV e (mask0 v) = if e.get v 0 = 1 then 0 else 2 ^ w - 1)
    (env : Env) (hf : env.get "flag" 0 ≤ 1) (h0r : Cells env "r.x.n" n w) (h0a : Cells env "a.x.n" n w)
    (h1r : Cells env "r.y.n" n w) (h1a : Cells env "a.y.n" n w) (h2r : Cells env "r.z.n" n w) (h2a : Cells env "a.z.n" n w)
    (hri : env.get "r.infinity" 0 ≤ 1) (hai : env.get "a.infinity" 0 ≤ 1) :
    (∀ i, i < n → (runW env (gejCmovProg w mask0 n)).get "r.x.n" i = if env.get "flag" 0 = 1 then env.get "a.x.n" i else env.get "r.x.n" i) ∧
    (∀ i, i < n → (runW env (gejCmovProg w mask0 n)).get "r.y.n" i = if env.get "flag" 0 = 1 then env.get "a.y.n" i else env.get "r.y.n" i) ∧
    (∀ i, i < n → (runW env (gejCmovProg w mask0 n)).get "r.z.n" i = if env.get "flag" 0 = 1 then env.get "a.z.n" i else env.get "r.z.n" i) ∧
    (runW env (gejCmovProg w mask0 n)).get "r.infinity" 0 = (if env.get "flag" 0 = 1 then env.get "a.infinity" 0 else env.get "r.infinity" 0) ∧
    (∀ i, (runW env (gejCmovProg w mask0 n)).get "a.x.n" i = env.get "a.x.n" i) ∧
    (∀ i, (runW env (gejCmovProg w mask0 n)).get "a.y.n" i = env.get "a.y.n" i) ∧
    (∀ i, (runW env (gejCmovProg w mask0 n)).get "a.z.n" i = env.get "a.z.n" i) := by
  obtain ⟨sel, fr⟩ := runW_cmovCalls (n := n) hmask gejCalls env (by decide +kernel) (by decide +kernel)
    (by decide +kernel) hf (by
      simp only [gejCalls, List.mem_cons, List.not_mem_nil, or_false, forall_eq_or_imp, forall_eq]
      exact ⟨⟨h0r, h0a⟩, ⟨h1r, h1a⟩, h2r, h2a⟩)
  simp only [gejCmovProg, runW_append, runW, evalV, ScalarKernel.binWrap_xor, ScalarKernel.binWrap_and]
  refine ⟨fun i hi => ?_, fun i hi => ?_, fun i hi => ?_, ?_, fun i => ?_, fun i => ?_, fun i => ?_⟩
  · rw [get_set_of_ne (by decide), sel _ List.mem_cons_self i hi]
  · rw [get_set_of_ne (by decide), sel _ (List.mem_cons_of_mem _ List.mem_cons_self) i hi]
  · rw [get_set_of_ne (by decide),
      sel _ (List.mem_cons_of_mem _ (List.mem_cons_of_mem _ List.mem_cons_self)) i hi]
  · rw [Env.get_set_same, fr _ _ (by decide +kernel), fr _ _ (by decide +kernel), fr _ _ (by decide +kernel)]
    exact inf_sel hri hai hf
  · rw [get_set_of_ne (by decide), fr _ _ (by decide +kernel)]
  · rw [get_set_of_ne (by decide), fr _ _ (by decide +kernel)]
  · rw [get_set_of_ne (by decide), fr _ _ (by decide +kernel)]

theorem runW_geStorageCmov {w n : Nat} {mask0 : String → Expr}
    (hmask : ∀ (v : String) (e : Env), e.get v 0 ≤ 1 → evalV e (mask0 v) = if e.get v 0 = 1 then 0 else 2 ^ w - 1)
    (env : Env) (hf : env.get "flag" 0 ≤ 1) (h0r : Cells env "r.x.n" n w) (h0a : Cells env "a.x.n" n w)
    (h1r : Cells env "r.y.n" n w) (h1a : Cells env "a.y.n" n w) :
    let out := runW env (cmovCalls w mask0 n geStorageCalls)
    (∀ i, i < n → out.get "r.x.n" i = if env.get "flag" 0 = 1 then env.get "a.x.n" i else env.get "r.x.n" i) ∧
    (∀ i, i < n → out.get "r.y.n" i = if env.get "flag" 0 = 1 then env.get "a.y.n" i else env.get "r.y.n" i) ∧
    (∀ i, out.get "a.x.n" i = env.get "a.x.n" i) ∧ (∀ i, out.get "a.y.n" i = env.get "a.y.n" i) := by
  obtain ⟨sel, fr⟩ := runW_cmovCalls (n := n) hmask geStorageCalls env (by decide +kernel) (by decide +kernel)
    (by decide +kernel) hf (by
      simp only [geStorageCalls, List.mem_cons, List.not_mem_nil, or_false, forall_eq_or_imp, forall_eq]
      exact ⟨⟨h0r, h0a⟩, h1r, h1a⟩)
  exact ⟨sel _ List.mem_cons_self, sel _ (List.mem_cons_of_mem _ List.mem_cons_self),
    fun i => fr "a.x.n" i (by decide +kernel), fun i => fr "a.y.n" i (by decide +kernel)⟩

theorem and_ones32 {x : Nat} (h : x < 4294967296) : x &&& 4294967295 = x := by
  have := Nat.and_two_pow_sub_one_eq_mod x 32
  simp only [Nat.reducePow, Nat.reduceSub] at this
  rw [this, Nat.mod_eq_of_lt h]

theorem int_cmov_ct_key (env : Env) (hf : env.get "flag" 0 ≤ 1) (hr : env.get "r" 0 < 2 ^ 32) (ha : env.get "a" 0 < 2 ^ 32) :
    (runW env Gen.ct.int_cmov.body).get "r" 0 = (if env.get "flag" 0 = 1 then env.get "a" 0 else env.get "r" 0) ∧
    (runW env Gen.ct.int_cmov.body).get "a" 0 = env.get "a" 0 := by
  simp only [Gen.ct.int_cmov]
  minic_evalW
  simp only [Nat.reducePow] at hr ha
  rcases (show env.get "flag" 0 = 0 ∨ env.get "flag" 0 = 1 by omega) with h | h
  · simp only [h, Nat.reducePow, Nat.reduceMod, Nat.reduceAdd, Nat.reduceSub, Nat.and_zero, Nat.or_zero,
      Nat.zero_ne_one, if_false, and_ones32 hr, and_self]
  · simp only [h, Nat.reducePow, Nat.reduceMod, Nat.reduceAdd, Nat.reduceSub, Nat.and_zero, Nat.zero_or,
      if_true, and_ones32 ha, and_self]

section ret
open MiniC.Bounds

def retW (env : Env) : List Stmt → Option Nat
  | [] => none
  | .assign x e :: rest => retW (env.set x 0 (evalV env e)) rest
  | .store a i e :: rest => retW (env.set a (evalV env i) (evalV env e)) rest
  | .ret e :: _ => some (evalV env e)
  | _ :: _ => none

def isStraightRet : List Stmt → Bool
  | [] => true
  | .assign _ _ :: rest => isStraightRet rest
  | .store _ _ _ :: rest => isStraightRet rest
  | .ret _ :: _ => true
  | _ => false

theorem execL_ret_eq_retW : ∀ (prog : List Stmt) (env : Env), isStraightRet prog = true →
    (execL env prog).ret = retW env prog := by
  intro prog
  induction prog with
  | nil => intro env _; simp [execL, retW]
  | cons s rest ih =>
    intro env h
    cases s with
    | assign x e => rw [execL_cons_assign]; simp only [retW, evalE_fst]; exact ih _ (by simpa [isStraightRet] using h)
    | store a i e => rw [execL_cons_store]; simp only [retW, evalE_fst]; exact ih _ (by simpa [isStraightRet] using h)
    | ite c t e => simp [isStraightRet] at h
    | loop x n body => simp [isStraightRet] at h
    | declassify x => simp [isStraightRet] at h
    | ret e => rw [execL_cons_ret]; simp only [retW, evalE_fst]

macro "minic_evalRet" : tactic => `(tactic| (
  simp only [retW, evalV, binWrap]
  simp only [get_set, String.reduceEq, Nat.reduceEqDiff, false_and, and_false, and_self, ↓reduceIte]))

end ret

/-! `secp256k1_fe_impl_normalizes_to_zero` runs the first carry pass of `normalize_weak` (`weak5` / `weak10`) and tests the
resulting limbs: their value `T` satisfies `T + x p = r` and `T < 2p`, so `r ≡ 0` iff `T = 0` (`z0 = 0`) or `T = p` (`z1`
all-ones). -/

section ntz

theorem ite_or_ite (p q : Prop) [Decidable p] [Decidable q] :
    (if p then 1 else 0) ||| (if q then 1 else 0) = if p ∨ q then 1 else 0 := by
  by_cases hp : p <;> by_cases hq : q <;> simp [hp, hq]

theorem xor_eq_iff (a b c : Nat) : a ^^^ b = c ↔ a = c ^^^ b := by
  constructor
  · intro h; rw [← h, Nat.xor_assoc, Nat.xor_self, Nat.xor_zero]
  · intro h; rw [h, Nat.xor_assoc, Nat.xor_self, Nat.xor_zero]

theorem mod_eq_zero_iff_of_lt_two_mul {T p : Nat} (h : T < 2 * p) : T % p = 0 ↔ T = 0 ∨ T = p := by
  constructor
  · intro h0
    rcases Nat.lt_or_ge T p with hlt | hge
    · left; rwa [Nat.mod_eq_of_lt hlt] at h0
    · right
      rw [Nat.mod_eq_sub_mod hge, Nat.mod_eq_of_lt (by omega)] at h0
      omega
  · rintro (rfl | rfl)
    · exact Nat.zero_mod _
    · exact Nat.mod_self _

/-- `y` is an `&`-chain below the mask `M` that is all-ones iff `p`; `.xor`, `.and`, `.and_xor`, `.cast32` extend it by one
    operand of `z1`.  (The chains of `final5` / `final10` have no xors or casts and go through `and3_eq_mask`, `and7_eq_mask` by `simp`.) -/
def MaskIff (M y : Nat) (p : Prop) : Prop := y ≤ M ∧ (y = M ↔ p)

theorem MaskIff.xor {M s k : Nat} (hs : s ^^^ k ≤ M) : MaskIff M (s ^^^ k) (s = M ^^^ k) := ⟨hs, xor_eq_iff _ _ _⟩

theorem MaskIff.and {M y s : Nat} {p : Prop} (hy : MaskIff M y p) (hs : s ≤ M) : MaskIff M (y &&& s) (p ∧ s = M) :=
  ⟨and_le_mask hy.1, by rw [and_eq_mask hy.1 hs, hy.2]⟩

theorem MaskIff.and_xor {M y s k : Nat} {p : Prop} (hy : MaskIff M y p) (hs : s ^^^ k ≤ M) :
    MaskIff M (y &&& (s ^^^ k)) (p ∧ s = M ^^^ k) := by
  rw [← xor_eq_iff]; exact hy.and hs

theorem MaskIff.cast32 {M y : Nat} {p : Prop} (hy : MaskIff M y p) (hM : M < 4294967296) : MaskIff M (y % 4294967296) p := by
  rwa [Nat.mod_eq_of_lt (Nat.lt_of_le_of_lt hy.1 hM)]

theorem zero_or_p {w x V top pTop : Nat} {lo pLo : List Nat} (hP : valL w (pLo ++ [pTop]) = P)
    (hpl : ∀ y ∈ pLo, y < 2 ^ w) (hlen : lo.length = pLo.length) (hlo : ∀ s ∈ lo, s < 2 ^ w)
    (hlt : 2 ^ (w * lo.length) * (top + 1) ≤ 2 * P) (hT : valL w (lo ++ [top]) + x * P = V) :
    V % P = 0 ↔ ((∀ s ∈ lo, s = 0) ∧ top = 0) ∨ (lo = pLo ∧ top = pTop) := by
  rw [← hT, Nat.add_mul_mod_self_right, mod_eq_zero_iff_of_lt_two_mul (Nat.lt_of_lt_of_le (valL_lt hlo) hlt), valL_eq_zero,
    ← hP, valL_inj hlen hlo hpl]
  simp [or_imp, forall_and]

/-- `(z0 == 0) | (z1 == 0xFFFFFFFFFFFFF)` with `z0 = t0 | … | t4`, `z1 = (t0 ^ 0x1000003D0) & t1 & t2 & t3 & (t4 ^ 0xF000000000000)` -/
def zflag5 : List Nat → Nat
  | [s0, s1, s2, s3, t4] => (if s0 ||| s1 ||| s2 ||| s3 ||| t4 = 0 then 1 else 0) |||
      (if (s0 ^^^ 4294968272) &&& s1 &&& s2 &&& s3 &&& (t4 ^^^ 4222124650659840) = 4503599627370495 then 1 else 0)
  | _ => 0

theorem fe_normalizes_to_zero_5x52_eval (env : Env) : retW env Gen.ct.fe_normalizes_to_zero.body =
    some (zflag5 (weak5 (readL env "r.n" 0 5))) := by
  simp only [Gen.ct.fe_normalizes_to_zero]
  minic_evalRet
  simp only [and_M52, and_M48]
  rfl

theorem zflag5_spec {r : List Nat} {x V : Nat} (h : LeL r (weakB 52 48 4 65)) (hT : valL 52 r + x * P = V) :
    zflag5 r = if V % P = 0 then 1 else 0 := by
  obtain ⟨lo, top, rfl, hlen, hlo', h4⟩ := leL_replicate h
  obtain ⟨s0, s1, s2, s3, rfl⟩ := exists_list4 hlen
  have hlo : ∀ s ∈ [s0, s1, s2, s3], s < 2 ^ 52 := fun s hs => by have := hlo' s hs; omega
  have Z := zero_or_p (w := 52) (lo := [s0, s1, s2, s3]) (top := top) (pLo := [4503595332402223, 4503599627370495, 4503599627370495, 4503599627370495])
    (pTop := 281474976710655) rfl (by decide) rfl hlo (by simp only [P, List.length]; omega) hT
  simp only [List.forall_mem_cons, List.not_mem_nil, false_imp_iff, implies_true, and_true] at hlo
  obtain ⟨h0, h1, h2, h3⟩ := hlo
  have le52 : ∀ {s : Nat}, s < 2 ^ 52 → s ≤ 4503599627370495 := fun h => Nat.le_of_lt_succ h
  have hY := MaskIff.xor (le52 (Nat.xor_lt_two_pow h0 (show 4294968272 < 2 ^ 52 by decide))) |>.and (le52 h1)
    |>.and (le52 h2) |>.and (le52 h3)
    |>.and_xor (le52 (Nat.xor_lt_two_pow (show top < 2 ^ 52 by omega) (show 4222124650659840 < 2 ^ 52 by decide)))
  simp only [List.cons_append, List.nil_append, zflag5, ite_or_ite, hY.2, Z, Nat.or_eq_zero_iff, Nat.reduceXor, and_assoc,
    List.forall_mem_cons, List.not_mem_nil, false_imp_iff, implies_true, and_true, List.cons.injEq]

theorem fe_normalizes_to_zero_5x52_key (env : Env) (h : Mag5 env "r.n" 32) :
    retW env Gen.ct.fe_normalizes_to_zero.body = some (if val5At env "r.n" % P = 0 then 1 else 0) := by
  obtain ⟨hb, hv⟩ := weak5_spec (mag5_leL.mp h)
  rw [fe_normalizes_to_zero_5x52_eval, val5At_eq, zflag5_spec hb hv]

/-- as `zflag5`; `z1` starts as `(t0 ^ 0x3D0) & (t1 ^ 0x40)` and ends with `& (t9 ^ 0x3C00000)`.  The `% 2^32` convert 64-bit
    (`UL`) intermediate results back to `uint32_t` and stay as evaluated: `fe_normalizes_to_zero_10x26_eval` closes by `rfl`. -/
def zflag10 : List Nat → Nat
  | [s0, s1, s2, s3, s4, s5, s6, s7, s8, t9] =>
    (if s0 ||| s1 ||| s2 ||| s3 ||| s4 ||| s5 ||| s6 ||| s7 ||| s8 ||| t9 = 0 then 1 else 0) |||
      (if (((s0 ^^^ 976) % 2 ^ 32 &&& (s1 ^^^ 64)) % 2 ^ 32 &&& s2 &&& s3 &&& s4 &&& s5 &&& s6 &&& s7 &&& s8 &&&
        (t9 ^^^ 62914560)) % 2 ^ 32 = 67108863 then 1 else 0)
  | _ => 0

theorem fe_normalizes_to_zero_10x26_eval (env : Env) : retW env Gen.ct32.fe_normalizes_to_zero.body =
    some (zflag10 (weak10 (readL env "r.n" 0 10))) := by
  simp only [Gen.ct32.fe_normalizes_to_zero]
  minic_evalRet
  simp only [Nat.reducePow, and_M26, and_M22, mod26_mod32, mod22_mod32]
  rfl

theorem zflag10_spec {r : List Nat} {x V : Nat} (h : LeL r (weakB 26 22 9 64)) (hT : valL 26 r + x * P = V) :
    zflag10 r = if V % P = 0 then 1 else 0 := by
  obtain ⟨lo, top, rfl, hlen, hlo', h9⟩ := leL_replicate h
  obtain ⟨s0, s1, s2, s3, s4, s5, s6, s7, s8, rfl⟩ := exists_list9 hlen
  have hlo : ∀ s ∈ [s0, s1, s2, s3, s4, s5, s6, s7, s8], s < 2 ^ 26 := fun s hs => by have := hlo' s hs; omega
  have Z := zero_or_p (w := 26) (lo := [s0, s1, s2, s3, s4, s5, s6, s7, s8]) (top := top) (pLo := [67107887, 67108799, 67108863, 67108863, 67108863, 67108863, 67108863, 67108863, 67108863])
    (pTop := 4194303) rfl (by decide) rfl hlo (by simp only [P, List.length]; omega) hT
  simp only [List.forall_mem_cons, List.not_mem_nil, false_imp_iff, implies_true, and_true] at hlo
  obtain ⟨h0, h1, h2, h3, h4, h5, h6, h7, h8⟩ := hlo
  have le26 : ∀ {s : Nat}, s < 2 ^ 26 → s ≤ 67108863 := fun h => Nat.le_of_lt_succ h
  have hY := MaskIff.xor (le26 (Nat.xor_lt_two_pow h0 (show 976 < 2 ^ 26 by decide))) |>.cast32 (by decide)
    |>.and_xor (le26 (Nat.xor_lt_two_pow h1 (show 64 < 2 ^ 26 by decide))) |>.cast32 (by decide)
    |>.and (le26 h2) |>.and (le26 h3) |>.and (le26 h4) |>.and (le26 h5) |>.and (le26 h6) |>.and (le26 h7)
    |>.and (le26 h8)
    |>.and_xor (le26 (Nat.xor_lt_two_pow (show top < 2 ^ 26 by omega) (show 62914560 < 2 ^ 26 by decide)))
    |>.cast32 (by decide)
  simp only [List.cons_append, List.nil_append, zflag10, Nat.reducePow, ite_or_ite, hY.2, Z, Nat.or_eq_zero_iff, Nat.reduceXor, and_assoc,
    List.forall_mem_cons, List.not_mem_nil, false_imp_iff, implies_true, and_true, List.cons.injEq]

theorem fe_normalizes_to_zero_10x26_key (env : Env) (h : NoOvf10 env "r.n") :
    retW env Gen.ct32.fe_normalizes_to_zero.body = some (if val10At env "r.n" % P = 0 then 1 else 0) := by
  obtain ⟨hb, hv⟩ := weak10_spec (mag10_leL.mp h.1) h.2
  rw [fe_normalizes_to_zero_10x26_eval, val10At_eq, zflag10_spec hb hv]

end ntz

section getb32

theorem and_255 (x : Nat) : x &&& 255 = x % 256 := Nat.and_two_pow_sub_one_eq_mod x 8
theorem and_63 (x : Nat) : x &&& 63 = x % 64 := Nat.and_two_pow_sub_one_eq_mod x 6
theorem and_15 (x : Nat) : x &&& 15 = x % 16 := Nat.and_two_pow_sub_one_eq_mod x 4
theorem and_3 (x : Nat) : x &&& 3 = x % 4 := Nat.and_two_pow_sub_one_eq_mod x 2

theorem mix52 (x y : Nat) : (x &&& 15 ||| (y &&& 15) * 16 % 18446744073709551616) % 256 = x % 16 + y % 16 * 16 := by
  rw [and_15, and_15, Nat.mod_eq_of_lt (show y % 16 * 16 < 18446744073709551616 by omega), Nat.or_comm,
    shl4_or _ _ (by omega)]
  omega

theorem mix26a (x y : Nat) : ((y &&& 63) * 4 % 4294967296 ||| x &&& 3) % 256 = x % 4 + y % 64 * 4 := by
  rw [and_63, and_3, Nat.mod_eq_of_lt (show y % 64 * 4 < 4294967296 by omega), show y % 64 * 4 = y % 64 * 2 ^ 2 from rfl, shl_or _ _ 2 (by omega)]
  omega

theorem mix26b (x y : Nat) : ((y &&& 3) * 64 % 4294967296 ||| x &&& 63) % 256 = x % 64 + y % 4 * 64 := by
  rw [and_63, and_3, Nat.mod_eq_of_lt (show y % 4 * 64 < 4294967296 by omega), show y % 4 * 64 = y % 4 * 2 ^ 6 from rfl, shl_or _ _ 6 (by omega)]
  omega

theorem mix26c (x y : Nat) : ((y &&& 15) * 16 % 4294967296 ||| x &&& 15) % 256 = x % 16 + y % 16 * 16 := by
  rw [and_15, and_15, Nat.mod_eq_of_lt (show y % 16 * 16 < 4294967296 by omega), shl4_or _ _ (by omega)]
  omega

theorem fe_get_b32_5x52_key (env : Env) :
    readL (runW env Gen.ct.fe_get_b32.body) "r" 0 32 =
      [env.get "a.n" 4 / 1099511627776 % 256, env.get "a.n" 4 / 4294967296 % 256, env.get "a.n" 4 / 16777216 % 256,
       env.get "a.n" 4 / 65536 % 256, env.get "a.n" 4 / 256 % 256, env.get "a.n" 4 % 256,
       env.get "a.n" 3 / 17592186044416 % 256, env.get "a.n" 3 / 68719476736 % 256,
       env.get "a.n" 3 / 268435456 % 256, env.get "a.n" 3 / 1048576 % 256, env.get "a.n" 3 / 4096 % 256,
       env.get "a.n" 3 / 16 % 256, env.get "a.n" 2 / 281474976710656 % 16 + env.get "a.n" 3 % 16 * 16,
       env.get "a.n" 2 / 1099511627776 % 256, env.get "a.n" 2 / 4294967296 % 256, env.get "a.n" 2 / 16777216 % 256,
       env.get "a.n" 2 / 65536 % 256, env.get "a.n" 2 / 256 % 256, env.get "a.n" 2 % 256,
       env.get "a.n" 1 / 17592186044416 % 256, env.get "a.n" 1 / 68719476736 % 256,
       env.get "a.n" 1 / 268435456 % 256, env.get "a.n" 1 / 1048576 % 256, env.get "a.n" 1 / 4096 % 256,
       env.get "a.n" 1 / 16 % 256, env.get "a.n" 0 / 281474976710656 % 16 + env.get "a.n" 1 % 16 * 16,
       env.get "a.n" 0 / 1099511627776 % 256, env.get "a.n" 0 / 4294967296 % 256, env.get "a.n" 0 / 16777216 % 256,
       env.get "a.n" 0 / 65536 % 256, env.get "a.n" 0 / 256 % 256, env.get "a.n" 0 % 256] := by
  simp only [readL, Gen.ct.fe_get_b32]
  minic_evalW
  simp only [Nat.reducePow, mix52, and_255, Nat.mod_mod]

theorem fe_get_b32_10x26_key (env : Env) :
    readL (runW env Gen.ct32.fe_get_b32.body) "r" 0 32 =
      [env.get "a.n" 9 / 16384 % 256, env.get "a.n" 9 / 64 % 256,
       env.get "a.n" 8 / 16777216 % 4 + env.get "a.n" 9 % 64 * 4, env.get "a.n" 8 / 65536 % 256,
       env.get "a.n" 8 / 256 % 256, env.get "a.n" 8 % 256, env.get "a.n" 7 / 262144 % 256,
       env.get "a.n" 7 / 1024 % 256, env.get "a.n" 7 / 4 % 256,
       env.get "a.n" 6 / 1048576 % 64 + env.get "a.n" 7 % 4 * 64, env.get "a.n" 6 / 4096 % 256,
       env.get "a.n" 6 / 16 % 256, env.get "a.n" 5 / 4194304 % 16 + env.get "a.n" 6 % 16 * 16,
       env.get "a.n" 5 / 16384 % 256, env.get "a.n" 5 / 64 % 256,
       env.get "a.n" 4 / 16777216 % 4 + env.get "a.n" 5 % 64 * 4, env.get "a.n" 4 / 65536 % 256,
       env.get "a.n" 4 / 256 % 256, env.get "a.n" 4 % 256, env.get "a.n" 3 / 262144 % 256,
       env.get "a.n" 3 / 1024 % 256, env.get "a.n" 3 / 4 % 256,
       env.get "a.n" 2 / 1048576 % 64 + env.get "a.n" 3 % 4 * 64, env.get "a.n" 2 / 4096 % 256,
       env.get "a.n" 2 / 16 % 256, env.get "a.n" 1 / 4194304 % 16 + env.get "a.n" 2 % 16 * 16,
       env.get "a.n" 1 / 16384 % 256, env.get "a.n" 1 / 64 % 256,
       env.get "a.n" 0 / 16777216 % 4 + env.get "a.n" 1 % 64 * 4, env.get "a.n" 0 / 65536 % 256,
       env.get "a.n" 0 / 256 % 256, env.get "a.n" 0 % 256] := by
  simp only [readL, Gen.ct32.fe_get_b32]
  minic_evalW
  simp only [Nat.reducePow, mix26a, mix26b, mix26c, and_255, Nat.mod_mod]

end getb32

end CtSpec
end SecpZkp
