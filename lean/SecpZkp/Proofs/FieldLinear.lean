/-
  The wrap-around evaluator for straight-line MiniC programs (`evalV`, `runW`, `runC`, the frame lemma
  `runW_get_of_not_written`, the tactic `minic_evalW`), used by every limb-level module after this one, and on it the "linear"
  field kernels (`normalize`, `normalize_weak`, `add`, `mul_int`, `half`, `negate`) of both limb layouts.  (The namespace
  `FieldLinear` starts in `Proofs/LimbArith.lean` and continues in `Proofs/FieldInv10.lean`.)

  These kernels wrap around ON PURPOSE (`-(t0 & 1)`, `2(m+1)p_i - a_i` as an unsigned subtraction, the sign extension that the
  translator emits for C's implicit `int → uint64_t`), so the interval analysis `Bounds.checkL` rejects them by design.  They
  are evaluated in the wrap-around semantics itself: `runW` is a structurally recursive copy of `execL` without the leak
  trace, which `simp` unfolds on a literal program and an ARBITRARY memory.  A theorem `…_eval` says that the limbs after the
  program ARE a list function of `Proofs/LimbArith.lean` of the limbs before (by `rfl`); `…_key` applies its specification.
-/
import SecpZkp.Proofs.LimbArith
import SecpZkp.Gen.K_field5x52
import SecpZkp.Gen.K_field10x26
import SecpZkp.Gen.K_ct

namespace SecpZkp
namespace FieldLinear
open MiniC MiniC.Bounds FieldKernel

def evalV (env : Env) : Expr → Nat
  | .lit n => n
  | .var x => env.get x 0
  | .idx a i => env.get a (evalV env i)
  | .bin op w a b => binWrap op w (evalV env a) (evalV env b)
  | .cast w e => evalV env e % 2 ^ w
  | .not w e => (2 ^ w - 1) - evalV env e % 2 ^ w
  | .neg w e => (2 ^ w - evalV env e % 2 ^ w) % 2 ^ w
  | .lnot e => if evalV env e = 0 then 1 else 0
  | .cond c a b => if evalV env c ≠ 0 then evalV env a else evalV env b

theorem evalE_fst (env : Env) : ∀ e : Expr, (evalE env e).1 = evalV env e := by
  intro e
  induction e with
  | lit n => rfl
  | var x => rfl
  | idx a i ih => simp only [evalE, evalV, ih]
  | bin op w a b iha ihb => simp only [evalE, evalV, iha, ihb]
  | cast w e ih => simp only [evalE, evalV, ih]
  | not w e ih => simp only [evalE, evalV, ih]
  | neg w e ih => simp only [evalE, evalV, ih]
  | lnot e ih => simp only [evalE, evalV, ih]
  | cond c a b ihc iha ihb =>
    simp only [evalE, evalV, ihc]
    split <;> simp only [iha, ihb]

def isStraight : List Stmt → Bool
  | [] => true
  | .assign _ _ :: rest => isStraight rest
  | .store _ _ _ :: rest => isStraight rest
  | _ => false

def runW (env : Env) : List Stmt → Env
  | [] => env
  | .assign x e :: rest => runW (env.set x 0 (evalV env e)) rest
  | .store a i e :: rest => runW (env.set a (evalV env i) (evalV env e)) rest
  | _ :: rest => runW env rest

theorem execL_env_eq_runW : ∀ (prog : List Stmt) (env : Env), isStraight prog = true →
    (execL env prog).env = runW env prog := by
  intro prog
  induction prog with
  | nil => intro env _; simp [execL, runW]
  | cons s rest ih =>
    intro env h
    cases s with
    | assign x e => rw [execL_cons_assign]; simp only [runW, evalE_fst]; exact ih _ (by simpa [isStraight] using h)
    | store a i e => rw [execL_cons_store]; simp only [runW, evalE_fst]; exact ih _ (by simpa [isStraight] using h)
    | ite c t e => simp [isStraight] at h
    | loop x n body => simp [isStraight] at h
    | declassify x => simp [isStraight] at h
    | ret e => simp [isStraight] at h

/-- what the Props theorems are about: the final memory of the translated C function under `execL` (every `+`, `-`, `*`, `<<`,
    unary `-` truncated at the width of its C type) -/
def runC (f : Fn) (env : Env) : Env := (execL env f.body).env

theorem runC_eq_runW (f : Fn) (env : Env) (h : isStraight f.body = true) : runC f env = runW env f.body :=
  execL_env_eq_runW _ _ h

theorem runW_append : ∀ (A B : List Stmt) (env : Env), runW env (A ++ B) = runW (runW env A) B
  | [], _, _ => rfl
  | s :: A, B, env => by cases s <;> exact runW_append A B _

def written : List Stmt → List String
  | [] => []
  | .assign x _ :: rest => x :: written rest
  | .store a _ _ :: rest => a :: written rest
  | _ :: rest => written rest

theorem get_set_of_ne {e : Env} {x y : String} {i j v : Nat} (h : y ≠ x) : (e.set x i v).get y j = e.get y j :=
  Env.get_set_other _ _ _ _ _ _ (fun h' => h (Prod.mk.inj h').1)

theorem runW_get_of_not_written {x : String} (j : Nat) :
    ∀ (p : List Stmt) (env : Env), x ∉ written p → (runW env p).get x j = env.get x j
  | [], _, _ => rfl
  | .assign y e :: rest, env, h => by
    rw [written, List.mem_cons, not_or] at h
    rw [runW, runW_get_of_not_written j rest _ h.2, get_set_of_ne h.1]
  | .store a i e :: rest, env, h => by
    rw [written, List.mem_cons, not_or] at h
    rw [runW, runW_get_of_not_written j rest _ h.2, get_set_of_ne h.1]
  | .ite .. :: rest, env, h => runW_get_of_not_written j rest env h
  | .loop .. :: rest, env, h => runW_get_of_not_written j rest env h
  | .declassify .. :: rest, env, h => runW_get_of_not_written j rest env h
  | .ret .. :: rest, env, h => runW_get_of_not_written j rest env h

macro "minic_evalW" : tactic => `(tactic| (
  simp only [runW, evalV, binWrap]
  simp only [get_set, String.reduceEq, Nat.reduceEqDiff, false_and, and_false, and_self, ↓reduceIte]))

def val5At (env : Env) (a : String) : Nat :=
  val5 (env.get a 0) (env.get a 1) (env.get a 2) (env.get a 3) (env.get a 4)

def val10At (env : Env) (a : String) : Nat :=
  val10 (env.get a 0) (env.get a 1) (env.get a 2) (env.get a 3) (env.get a 4)
    (env.get a 5) (env.get a 6) (env.get a 7) (env.get a 8) (env.get a 9)

/-- what `secp256k1_fe_impl_verify` (5×52) checks at magnitude `m` -/
def Mag5 (env : Env) (a : String) (m : Nat) : Prop :=
  env.get a 0 ≤ 2 * m * (2 ^ 52 - 1) ∧ env.get a 1 ≤ 2 * m * (2 ^ 52 - 1) ∧ env.get a 2 ≤ 2 * m * (2 ^ 52 - 1) ∧
  env.get a 3 ≤ 2 * m * (2 ^ 52 - 1) ∧ env.get a 4 ≤ 2 * m * (2 ^ 48 - 1)

instance (env : Env) (a : String) (m : Nat) : Decidable (Mag5 env a m) := inferInstanceAs (Decidable (_ ∧ _))

/-- what `secp256k1_fe_impl_verify` (10×26) checks at magnitude `m` -/
def Mag10 (env : Env) (a : String) (m : Nat) : Prop :=
  env.get a 0 ≤ 2 * m * (2 ^ 26 - 1) ∧ env.get a 1 ≤ 2 * m * (2 ^ 26 - 1) ∧ env.get a 2 ≤ 2 * m * (2 ^ 26 - 1) ∧
  env.get a 3 ≤ 2 * m * (2 ^ 26 - 1) ∧ env.get a 4 ≤ 2 * m * (2 ^ 26 - 1) ∧ env.get a 5 ≤ 2 * m * (2 ^ 26 - 1) ∧
  env.get a 6 ≤ 2 * m * (2 ^ 26 - 1) ∧ env.get a 7 ≤ 2 * m * (2 ^ 26 - 1) ∧ env.get a 8 ≤ 2 * m * (2 ^ 26 - 1) ∧
  env.get a 9 ≤ 2 * m * (2 ^ 22 - 1)

instance (env : Env) (a : String) (m : Nat) : Decidable (Mag10 env a m) := inferInstanceAs (Decidable (_ ∧ _))

def Red5 (env : Env) (a : String) : Prop :=
  env.get a 0 < 2 ^ 52 ∧ env.get a 1 < 2 ^ 52 ∧ env.get a 2 < 2 ^ 52 ∧ env.get a 3 < 2 ^ 52 ∧ env.get a 4 < 2 ^ 48

instance (env : Env) (a : String) : Decidable (Red5 env a) := inferInstanceAs (Decidable (_ ∧ _))

def Red10 (env : Env) (a : String) : Prop :=
  env.get a 0 < 2 ^ 26 ∧ env.get a 1 < 2 ^ 26 ∧ env.get a 2 < 2 ^ 26 ∧ env.get a 3 < 2 ^ 26 ∧ env.get a 4 < 2 ^ 26 ∧
  env.get a 5 < 2 ^ 26 ∧ env.get a 6 < 2 ^ 26 ∧ env.get a 7 < 2 ^ 26 ∧ env.get a 8 < 2 ^ 26 ∧ env.get a 9 < 2 ^ 22

instance (env : Env) (a : String) : Decidable (Red10 env a) := inferInstanceAs (Decidable (_ ∧ _))

open LimbList

theorem val5At_eq (env : Env) (a : String) : val5At env a = valL 52 (readL env a 0 5) := val5_eq_valL ..

theorem val10At_eq (env : Env) (a : String) : val10At env a = valL 26 (readL env a 0 10) := val10_eq_valL ..

theorem mag5_leL {env : Env} {a : String} {m : Nat} : Mag5 env a m ↔ LeL (readL env a 0 5) (magB 52 48 4 m) := by
  simp [Mag5, LeL, readL, magB, List.replicate]

theorem mag10_leL {env : Env} {a : String} {m : Nat} : Mag10 env a m ↔ LeL (readL env a 0 10) (magB 26 22 9 m) := by
  simp [Mag10, LeL, readL, magB, List.replicate]

theorem red5_leL {env : Env} {a : String} : Red5 env a ↔ LeL (readL env a 0 5) (redB 52 48 4) := by
  simp only [Red5, LeL, readL, redB, List.replicate, List.cons_append, List.nil_append, Nat.reduceAdd, Nat.reducePow, and_true]
  constructor <;> intro h <;> omega

theorem red10_leL {env : Env} {a : String} : Red10 env a ↔ LeL (readL env a 0 10) (redB 26 22 9) := by
  simp only [Red10, LeL, readL, redB, List.replicate, List.cons_append, List.nil_append, Nat.reduceAdd, Nat.reducePow, and_true]
  constructor <;> intro h <;> omega

theorem fe_add_5x52_key (env : Env) (mr ma : Nat) (hm : mr + ma ≤ 32)
    (hr : Mag5 env "r.n" mr) (ha : Mag5 env "a.n" ma) :
    readL (runW env Gen.field5x52.fe_add.body) "r.n" 0 5 = List.zipWith (· + ·) (readL env "r.n" 0 5) (readL env "a.n" 0 5) := by
  simp only [Mag5] at hr ha
  simp only [readL, Nat.reduceAdd, Gen.field5x52.fe_add]
  minic_evalW
  simp only [Nat.reducePow, List.zipWith, List.cons.injEq, and_true] at hr ha ⊢
  omega

theorem fe_mul_int_5x52_key (env : Env) (m : Nat) (ha : env.get "a" 0 ≤ 32) (hm : m * env.get "a" 0 ≤ 32)
    (hr : Mag5 env "r.n" m) :
    readL (runW env Gen.field5x52.fe_mul_int.body) "r.n" 0 5 = (readL env "r.n" 0 5).map (· * env.get "a" 0) := by
  obtain ⟨h0, h1, h2, h3, h4⟩ := hr
  have b0 := mul_bound (a := env.get "a" 0) h0
  have b1 := mul_bound (a := env.get "a" 0) h1
  have b2 := mul_bound (a := env.get "a" 0) h2
  have b3 := mul_bound (a := env.get "a" 0) h3
  have b4 := mul_bound (a := env.get "a" 0) h4
  simp only [readL, Nat.reduceAdd, Gen.field5x52.fe_mul_int]
  minic_evalW
  simp only [Nat.reducePow, List.map, List.cons.injEq, and_true] at b0 b1 b2 b3 b4 ⊢
  simp (disch := omega) only [sext32]
  generalize m * env.get "a" 0 = k at *
  omega

/-- the 5×52 `negate` is taken from the constant-time unit `Gen.ct`: `Gen.field5x52` has no `fe_negate`.  The second component
    (no subtraction borrows) is what `zipWith_sub` asks for. -/
theorem fe_negate_5x52_key (env : Env) (hm : env.get "m" 0 ≤ 31) (ha : Mag5 env "a.n" (env.get "m" 0)) :
    readL (runW env Gen.ct.fe_negate.body) "r.n" 0 5 =
      List.zipWith (· - ·) (pL5.map (· * (2 * (env.get "m" 0 + 1)))) (readL env "a.n" 0 5) ∧
    LeL (readL env "a.n" 0 5) (pL5.map (· * (2 * (env.get "m" 0 + 1)))) := by
  simp only [Mag5] at ha
  simp only [readL, Nat.reduceAdd, pL5, List.map, List.zipWith, LeL, Gen.ct.fe_negate]
  minic_evalW
  generalize env.get "m" 0 = m at *
  simp only [Nat.reducePow, List.cons.injEq, and_true] at ha ⊢
  simp (disch := omega) only [sext32]
  rw [Nat.mod_eq_of_lt (show m + 1 < 4294967296 by omega)]
  simp (disch := omega) only [sub64]
  omega

theorem fe_normalize_weak_5x52_eval (env : Env) :
    readL (runW env Gen.field5x52.fe_normalize_weak.body) "r.n" 0 5 = weak5 (readL env "r.n" 0 5) := by
  simp only [readL, Gen.field5x52.fe_normalize_weak]
  minic_evalW
  simp only [and_M52, and_M48]
  rfl

theorem fe_normalize_weak_5x52_key (env : Env) (h : Mag5 env "r.n" 32) :
    val5At (runW env Gen.field5x52.fe_normalize_weak.body) "r.n" % P = val5At env "r.n" % P ∧
    LeL (readL (runW env Gen.field5x52.fe_normalize_weak.body) "r.n" 0 5) (weakB 52 48 4 65) := by
  have H := weak5_spec (mag5_leL.mp h)
  have E := fe_normalize_weak_5x52_eval env
  generalize runW env Gen.field5x52.fe_normalize_weak.body = out at *
  rw [← E] at H
  exact ⟨by rw [val5At_eq, val5At_eq, ← H.2, Nat.add_mul_mod_self_right], H.1⟩

theorem fe_half_5x52_eval (env : Env) :
    readL (runW env Gen.field5x52.fe_half.body) "r.n" 0 5 = half5 (readL env "r.n" 0 5) := by
  simp only [readL, Gen.field5x52.fe_half]
  minic_evalW
  rfl

theorem fe_half_5x52_ideal (env : Env) {m : Nat} (hm : m ≤ 31) (h : Mag5 env "r.n" m) :
    readL (runW env Gen.field5x52.fe_half.body) "r.n" 0 5 = halfI 51 pL5 (readL env "r.n" 0 5) :=
  (fe_half_5x52_eval env).trans (half5_ideal hm (mag5_leL.mp h))

theorem fe_half_5x52_key (env : Env) (m : Nat) (hm : m ≤ 31) (h : Mag5 env "r.n" m) :
    2 * val5At (runW env Gen.field5x52.fe_half.body) "r.n" = val5At env "r.n" + env.get "r.n" 0 % 2 * P ∧
    Mag5 (runW env Gen.field5x52.fe_half.body) "r.n" (m / 2 + 1) := by
  have E := fe_half_5x52_ideal env hm h
  generalize runW env Gen.field5x52.fe_half.body = out at *
  refine ⟨by rw [val5At_eq, val5At_eq, E]; exact halfI_val rfl rfl, ?_⟩
  obtain ⟨h0, h1, h2, h3, h4⟩ := h
  simp only [halfI, pL5, shr1L, List.zipWith, List.headD, readL, Nat.reduceAdd, List.cons.injEq, and_true] at E
  obtain ⟨e0, e1, e2, e3, e4⟩ := E
  simp only [Mag5, e0, e1, e2, e3, e4]
  exact ⟨half_limb_le' h0 (by simp), half_limb_le' h1 (by simp), half_limb_le' h2 (by simp),
    half_limb_le' h3 (by simp), half_top_le h4 (by simp)⟩

theorem fe_normalize_5x52_eval (env : Env) :
    readL (runW env Gen.field5x52.fe_normalize.body) "r.n" 0 5 = norm5 (readL env "r.n" 0 5) := by
  simp only [readL, Gen.field5x52.fe_normalize]
  minic_evalW
  simp only [and_M52, and_M48]
  rfl

theorem fe_normalize_5x52_key (env : Env) (h : Mag5 env "r.n" 32) :
    Red5 (runW env Gen.field5x52.fe_normalize.body) "r.n" ∧
    val5At (runW env Gen.field5x52.fe_normalize.body) "r.n" = val5At env "r.n" % P := by
  have H := norm5_spec (mag5_leL.mp h)
  have E := fe_normalize_5x52_eval env
  generalize runW env Gen.field5x52.fe_normalize.body = out at *
  rw [← E] at H
  exact ⟨red5_leL.mpr H.1, by rw [val5At_eq, val5At_eq]; exact H.2⟩

theorem fe_add_10x26_key (env : Env) (mr ma : Nat) (hm : mr + ma ≤ 32)
    (hr : Mag10 env "r.n" mr) (ha : Mag10 env "a.n" ma) :
    readL (runW env Gen.field10x26.fe_add.body) "r.n" 0 10 = List.zipWith (· + ·) (readL env "r.n" 0 10) (readL env "a.n" 0 10) := by
  simp only [Mag10] at hr ha
  simp only [readL, Nat.reduceAdd, Gen.field10x26.fe_add]
  minic_evalW
  simp only [Nat.reducePow, List.zipWith, List.cons.injEq, and_true] at hr ha ⊢
  omega

/-- `_ha` is not needed (at 32 bits `int → uint32_t` is no sign extension; 5×52 needs it for `sext32`) and kept so that both
    layouts have one signature -/
theorem fe_mul_int_10x26_key (env : Env) (m : Nat) (_ha : env.get "a" 0 ≤ 32) (hm : m * env.get "a" 0 ≤ 32)
    (hr : Mag10 env "r.n" m) :
    readL (runW env Gen.field10x26.fe_mul_int.body) "r.n" 0 10 = (readL env "r.n" 0 10).map (· * env.get "a" 0) := by
  obtain ⟨h0, h1, h2, h3, h4, h5, h6, h7, h8, h9⟩ := hr
  have b0 := mul_bound (a := env.get "a" 0) h0
  have b1 := mul_bound (a := env.get "a" 0) h1
  have b2 := mul_bound (a := env.get "a" 0) h2
  have b3 := mul_bound (a := env.get "a" 0) h3
  have b4 := mul_bound (a := env.get "a" 0) h4
  have b5 := mul_bound (a := env.get "a" 0) h5
  have b6 := mul_bound (a := env.get "a" 0) h6
  have b7 := mul_bound (a := env.get "a" 0) h7
  have b8 := mul_bound (a := env.get "a" 0) h8
  have b9 := mul_bound (a := env.get "a" 0) h9
  simp only [readL, Nat.reduceAdd, Gen.field10x26.fe_mul_int]
  minic_evalW
  simp only [Nat.reducePow, List.map, List.cons.injEq, and_true] at b0 b1 b2 b3 b4 b5 b6 b7 b8 b9 ⊢
  generalize m * env.get "a" 0 = k at *
  omega

theorem fe_negate_10x26_key (env : Env) (hm : env.get "m" 0 ≤ 31) (ha : Mag10 env "a.n" (env.get "m" 0)) :
    readL (runW env Gen.field10x26.fe_negate.body) "r.n" 0 10 =
      List.zipWith (· - ·) (pL10.map (· * (2 * (env.get "m" 0 + 1)))) (readL env "a.n" 0 10) ∧
    LeL (readL env "a.n" 0 10) (pL10.map (· * (2 * (env.get "m" 0 + 1)))) := by
  simp only [Mag10] at ha
  simp only [readL, Nat.reduceAdd, pL10, List.map, List.zipWith, LeL, Gen.field10x26.fe_negate]
  minic_evalW
  generalize env.get "m" 0 = m at *
  simp only [Nat.reducePow, List.cons.injEq, and_true] at ha ⊢
  simp (disch := omega) only [sext32]
  rw [Nat.mod_eq_of_lt (show m + 1 < 4294967296 by omega)]
  simp (disch := omega) only [sub64]
  omega

theorem fe_half_10x26_eval (env : Env) :
    readL (runW env Gen.field10x26.fe_half.body) "r.n" 0 10 = half10 (readL env "r.n" 0 10) := by
  simp only [readL, Gen.field10x26.fe_half]
  minic_evalW
  simp only [mod64_mod32]
  rfl

theorem fe_half_10x26_ideal (env : Env) {m : Nat} (hm : m ≤ 31) (h : Mag10 env "r.n" m) :
    readL (runW env Gen.field10x26.fe_half.body) "r.n" 0 10 = halfI 25 pL10 (readL env "r.n" 0 10) :=
  (fe_half_10x26_eval env).trans (half10_ideal hm (mag10_leL.mp h))

theorem fe_half_10x26_key (env : Env) (m : Nat) (hm : m ≤ 31) (h : Mag10 env "r.n" m) :
    2 * val10At (runW env Gen.field10x26.fe_half.body) "r.n" = val10At env "r.n" + env.get "r.n" 0 % 2 * P ∧
    Mag10 (runW env Gen.field10x26.fe_half.body) "r.n" (m / 2 + 1) := by
  have E := fe_half_10x26_ideal env hm h
  generalize runW env Gen.field10x26.fe_half.body = out at *
  refine ⟨by rw [val10At_eq, val10At_eq, E]; exact halfI_val rfl rfl, ?_⟩
  obtain ⟨h0, h1, h2, h3, h4, h5, h6, h7, h8, h9⟩ := h
  simp only [halfI, pL10, shr1L, List.zipWith, List.headD, readL, Nat.reduceAdd, List.cons.injEq, and_true] at E
  obtain ⟨e0, e1, e2, e3, e4, e5, e6, e7, e8, e9⟩ := E
  simp only [Mag10, e0, e1, e2, e3, e4, e5, e6, e7, e8, e9]
  exact ⟨half_limb_le' h0 (by simp), half_limb_le' h1 (by simp), half_limb_le' h2 (by simp),
    half_limb_le' h3 (by simp), half_limb_le' h4 (by simp), half_limb_le' h5 (by simp), half_limb_le' h6 (by simp),
    half_limb_le' h7 (by simp), half_limb_le' h8 (by simp), half_top_le h9 (by simp)⟩

/-- `NoOvf10` as bounds on single limbs: `61552 = 63·977 + 1`, `4096 = 63·64 + 64` (`x = n[9] >> 22 ≤ 63`, the carry of `t0` is
    `< 64`); every element of magnitude ≤ 31 satisfies it -/
def NormPre10 (env : Env) (a : String) : Prop :=
  Mag10 env a 32 ∧ env.get a 0 ≤ 2 ^ 32 - 61552 ∧ env.get a 1 ≤ 2 ^ 32 - 4096

instance (env : Env) (a : String) : Decidable (NormPre10 env a) := inferInstanceAs (Decidable (_ ∧ _))

theorem NormPre10_of_mag31 {env : Env} {a : String} (h : Mag10 env a 31) : NormPre10 env a := by
  simp only [NormPre10, Mag10, Nat.reducePow] at h ⊢
  omega

/-- the precondition under which the 10×26 `normalize` / `normalize_weak` are proved exact; magnitude 32, which allows
    `n[0], n[1]` up to `2^32 - 64`, does not give it (finding F4, `Props/C05_fieldlin.lean`).  The second component IS
    `NoOvfL (readL env a 0 10)` by unfolding and is passed to `weak10_spec` / `norm10_spec` as such. -/
def NoOvf10 (env : Env) (a : String) : Prop :=
  Mag10 env a 32 ∧ env.get a 0 + env.get a 9 / 2 ^ 22 * 977 < 2 ^ 32 ∧
  env.get a 1 + env.get a 9 / 2 ^ 22 * 64 + (env.get a 0 + env.get a 9 / 2 ^ 22 * 977) / 2 ^ 26 < 2 ^ 32

instance (env : Env) (a : String) : Decidable (NoOvf10 env a) := inferInstanceAs (Decidable (_ ∧ _))

theorem noOvf10_of_normPre10 {env : Env} {a : String} (h : NormPre10 env a) : NoOvf10 env a := by
  simp only [NormPre10, NoOvf10, Mag10, Nat.reducePow] at h ⊢
  omega

theorem fe_normalize_weak_10x26_eval (env : Env) :
    readL (runW env Gen.field10x26.fe_normalize_weak.body) "r.n" 0 10 = weak10 (readL env "r.n" 0 10) := by
  simp only [readL, Gen.field10x26.fe_normalize_weak]
  minic_evalW
  simp only [Nat.reducePow, and_M26, and_M22, mod26_mod32, mod22_mod32]
  rfl

theorem fe_normalize_weak_10x26_exact_key (env : Env) (h : NoOvf10 env "r.n") :
    val10At (runW env Gen.field10x26.fe_normalize_weak.body) "r.n" % P = val10At env "r.n" % P ∧
    LeL (readL (runW env Gen.field10x26.fe_normalize_weak.body) "r.n" 0 10) (weakB 26 22 9 64) := by
  have H := weak10_spec (mag10_leL.mp h.1) h.2
  have E := fe_normalize_weak_10x26_eval env
  generalize runW env Gen.field10x26.fe_normalize_weak.body = out at *
  rw [← E] at H
  exact ⟨by rw [val10At_eq, val10At_eq, ← H.2, Nat.add_mul_mod_self_right], H.1⟩

theorem fe_normalize_10x26_eval (env : Env) :
    readL (runW env Gen.field10x26.fe_normalize.body) "r.n" 0 10 = norm10 (readL env "r.n" 0 10) := by
  simp only [readL, Gen.field10x26.fe_normalize]
  minic_evalW
  simp only [Nat.reducePow, and_M26, and_M22, mod26_mod32, mod22_mod32]
  rfl

theorem fe_normalize_10x26_exact_key (env : Env) (h : NoOvf10 env "r.n") :
    Red10 (runW env Gen.field10x26.fe_normalize.body) "r.n" ∧
    val10At (runW env Gen.field10x26.fe_normalize.body) "r.n" = val10At env "r.n" % P := by
  have H := norm10_spec (mag10_leL.mp h.1) h.2
  have E := fe_normalize_10x26_eval env
  generalize runW env Gen.field10x26.fe_normalize.body = out at *
  rw [← E] at H
  exact ⟨red10_leL.mpr H.1, by rw [val10At_eq, val10At_eq]; exact H.2⟩

end FieldLinear
end SecpZkp
