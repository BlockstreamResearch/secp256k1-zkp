import SecpZkp.Proofs.Bppp
/-
  One round of the Bulletproofs++ norm-argument prover (`proveRound`) in the `ZMod N`-module of good
  points.  A round folds the `k / 2` pairs of a vector whose length field is `k`; a vector that is down to
  one entry (`k ≤ 1`) has no pair and stays as it is.  So every vector after a round has the one description
  `v' j = if j < k / 2 then <pair j folded> else v j`, and the distinction between a vector that is folded
  and one that is not is made in `eL_cases` and the few lemmas that use it directly.
  `foldSt_spec`: folding with ANY challenge keeps the state well-formed and adds `γ X + (γ² - 1) R` to the
  commitment it describes; `proveRound_some`: `proveRound` is that folding, with the challenge hashed from
  `X` and `R`.
-/
namespace SecpZkp
namespace Bppp
open _root_.SecpZkp.Algebra Finset

/-- effective vector length: the C loop lets `g_len` / `h_len` drop to 0 (`1 / 2`) once the vector has a
single entry; both 0 and 1 mean "one entry" -/
def eL (k : Nat) : Nat := if k = 0 then 1 else k

theorem eL_of_ne_zero {k : Nat} (h : k ≠ 0) : eL k = k := if_neg h
theorem eL_of_le_one {k : Nat} (h : k ≤ 1) : eL k = 1 := by
  unfold eL; split <;> omega

theorem half_lt_eL (k : Nat) : k / 2 < eL k := by
  unfold eL; split <;> omega

/-- Each branch lists, with redundancy, what `omega` needs at the uses. -/
theorem eL_cases {k a : Nat} (h : eL k = 2 ^ a) :
    (a = 0 ∧ k ≤ 1 ∧ eL k = 1 ∧ k / 2 = 0 ∧ eL (k / 2) = 1) ∨
    (0 < a ∧ 1 < k ∧ eL k = k ∧ k = 2 * (k / 2) ∧ eL (k / 2) = k / 2 ∧ k / 2 = 2 ^ (a - 1)) := by
  cases a with
  | zero =>
    left
    have hk : k ≤ 1 := by
      by_cases h0 : k = 0
      · omega
      · rw [eL_of_ne_zero h0] at h; simp at h; omega
    exact ⟨rfl, hk, eL_of_le_one hk, by omega, eL_of_le_one (by omega)⟩
  | succ a' =>
    right
    have hp : (2 : Nat) ^ (a' + 1) = 2 * 2 ^ a' := by rw [pow_succ]; ring
    have hpos : 0 < 2 ^ a' := Nat.two_pow_pos a'
    have h0 : k ≠ 0 := by
      intro h0; subst h0; rw [eL_of_le_one (by omega)] at h; omega
    have hk := eL_of_ne_zero h0
    rw [hk] at h
    refine ⟨by omega, by omega, hk, by omega, eL_of_ne_zero (by omega), ?_⟩
    simp; omega

theorem eL_half {k a : Nat} (h : eL k = 2 ^ a) : eL (k / 2) = 2 ^ (a - 1) := by
  rcases eL_cases h with e | e
  · rw [e.2.2.2.2, e.1]; rfl
  · rw [e.2.2.2.2.1, e.2.2.2.2.2]

theorem eL_half_le {k a : Nat} (h : eL k = 2 ^ a) : eL (k / 2) ≤ eL k := by
  rcases eL_cases h with e | e <;> omega

theorem one_lt_iff_of_eL {k a : Nat} (h : eL k = 2 ^ a) : 1 < k ↔ 0 < a := by
  rcases eL_cases h with e | e <;> omega

theorem sum_eL_half {A : Type*} [AddCommMonoid A] {k a : ℕ} (hlen : eL k = 2 ^ a) (F F' : ℕ → A) (E : A)
    (h0 : k ≤ 1 → F' 0 = F 0 ∧ E = 0)
    (h1 : 1 < k → 2 * (k / 2) = k → ∑ j ∈ range (k / 2), F' j = ∑ i ∈ range (2 * (k / 2)), F i + E) :
    ∑ j ∈ range (eL (k / 2)), F' j = ∑ i ∈ range (eL k), F i + E := by
  rcases eL_cases hlen with ⟨_, hk, he, _, he2⟩ | ⟨_, hk, he, hk2, he2, _⟩
  · rw [he, he2, sum_range_one, sum_range_one, (h0 hk).1, (h0 hk).2, add_zero]
  · rw [he2, he, h1 hk hk2.symm, ← hk2]

/-- `if (len > 1) for (i = 0; i < len; i += 2) ..` of the C code, on one vector -/
def halfLoop {α : Type} (f : α → α → α) (d : α) (off k : Nat) (l : List α) : List α :=
  if k > 1 then pairLoop f d off k k 0 l else l

theorem halfLoop_spec {α : Type} (f : α → α → α) (d : α) (off : Nat) {k a : Nat} (l : List α)
    (hlen : eL k = 2 ^ a) (hl : off + eL k ≤ l.length) :
    (halfLoop f d off k l).length = l.length ∧
    ∀ j, (halfLoop f d off k l).getD j d =
      if off ≤ j ∧ j < off + k / 2 then f (l.getD (2 * j - off) d) (l.getD (2 * j - off + 1) d)
      else l.getD j d := by
  unfold halfLoop
  rcases eL_cases hlen with ⟨_, hk, _⟩ | ⟨_, hk, hek, hk2, _, _⟩
  · rw [if_neg (by omega)]
    exact ⟨rfl, fun j => by rw [if_neg (by omega)]⟩
  · rw [if_pos hk]
    simpa only [Nat.zero_div, Nat.add_zero] using
      pairLoop_spec f d off k k 0 l rfl (by omega) (by omega) (by omega)

theorem foldG_half (rhoInv gamma rhoF k : Nat) (n : List Nat) (g : List Pt) :
    (if k > 1 then foldG rhoInv gamma rhoF k k 0 n g else (n, g)) =
      (halfLoop (fun x y => Sc.add (Sc.mul x rhoInv) (Sc.mul y gamma)) 0 0 k n,
       halfLoop (fun p q => Pt.add (Pt.mul rhoF p) (Pt.mul gamma q)) .inf 0 k g) := by
  unfold halfLoop
  split
  · exact foldG_eq _ _ _ _ _ _ _ _
  · rfl

theorem foldH_half (gamma G k : Nat) (c l : List Nat) (g : List Pt) :
    (if k > 1 then foldH gamma G k k 0 c l g else (c, l, g)) =
      (halfLoop (fun x y => Sc.add x (Sc.mul y gamma)) 0 0 k c,
       halfLoop (fun x y => Sc.add x (Sc.mul y gamma)) 0 0 k l,
       halfLoop (fun p q => Pt.add (Pt.mul gamma q) p) .inf G k g) := by
  unfold halfLoop
  split
  · exact foldH_eq _ _ _ _ _ _ _ _
  · rfl

theorem cast_scSqr (x : Nat) : ((scSqr x : Nat) : ZMod N) = (x : ZMod N) ^ 2 := by
  rw [scSqr, cast_mul, sq]

/-- `x_v = 2 ρ⁻¹ ⟨n_even, n_odd⟩_{μ²} + ⟨c_even, l_odd⟩ + ⟨c_odd, l_even⟩`; the factor 2 is `x_v + x_v` as in C
    (see `fold_norm_identity`) -/
def xvOf (st : ProveState) : Nat :=
  Sc.add (Sc.add (Sc.add
    (Sc.mul (weightedScalarInnerProduct st.n 0 st.n 1 2 (st.gLen / 2) (scSqr st.muF)) (Sc.inv st.rhoF))
    (Sc.mul (weightedScalarInnerProduct st.n 0 st.n 1 2 (st.gLen / 2) (scSqr st.muF)) (Sc.inv st.rhoF)))
    (scalarInnerProduct st.c 0 st.l 1 2 (st.hLen / 2))) (scalarInnerProduct st.c 1 st.l 0 2 (st.hLen / 2))

/-- `r_v = |n_odd|²_{μ²} + ⟨c_odd, l_odd⟩` -/
def rvOf (st : ProveState) : Nat :=
  Sc.add (weightedScalarInnerProduct st.n 1 st.n 1 2 (st.gLen / 2) (scSqr st.muF))
    (scalarInnerProduct st.c 1 st.l 1 2 (st.hLen / 2))

/-- `G : Nat`, here and below, is the model's `gGensLen` (C: `G_GENS_LEN`), the index in `st.g` at which the `H` generators
    start; the base point is `GT`. -/
def foldSt (G : Nat) (st : ProveState) (γ : Nat) (t : Sha256.State) (pf : Bytes) : ProveState :=
  let ng := if st.gLen > 1 then foldG (Sc.inv st.rhoF) γ st.rhoF st.gLen st.gLen 0 st.n st.g else (st.n, st.g)
  let clg := if st.hLen > 1 then foldH γ G st.hLen st.hLen 0 st.c st.l ng.2 else (st.c, st.l, ng.2)
  { transcript := t, g := clg.2.2, n := ng.1, l := clg.2.1, c := clg.1, gLen := st.gLen / 2,
    hLen := st.hLen / 2, rhoF := st.muF, muF := scSqr st.muF, proof := pf }

theorem proveRound_eq (G : Nat) (st : ProveState) :
    proveRound G st =
      (ecmultMulti (some (xvOf st))
        (xCb st.n st.l st.g st.rhoF (Sc.inv st.rhoF) G (if st.gLen ≥ 2 then st.gLen else 0))
        ((if st.gLen ≥ 2 then st.gLen else 0) + (if st.hLen ≥ 2 then st.hLen else 0))).bind fun x =>
      (ecmultMulti (some (rvOf st)) (rCb st.n st.l st.g G (st.gLen / 2)) (st.gLen / 2 + st.hLen / 2)).bind fun r =>
      some (foldSt G st (challengeScalar (Sha256.write st.transcript (serializePoints x r)) 0)
        (Sha256.write st.transcript (serializePoints x r)) (st.proof ++ serializePoints x r)) := by
  rfl

section Round
variable [hgl : HasGroupLaw]

theorem toT_add {p q : Pt} (hp : Good p) (hq : Good q) : toT (Pt.add p q) = toT p + toT q := by
  apply ofT_injective; rw [ofT_toT (good_add hp hq), ofT_add, ofT_toT hp, ofT_toT hq]

theorem toT_mul {k : Nat} (hk : k < mulBound) {p : Pt} (hp : Good p) :
    toT (Pt.mul k p) = (k : ZMod N) • toT p := by
  apply ofT_injective; rw [ofT_toT (good_mul hk hp), ← ofT_smul hk, ofT_toT hp]

theorem ofT_pv {g : List Pt} (h : ∀ j, Good (g.getD j .inf)) (i : Nat) : ofT (pv g i) = g.getD i .inf :=
  ofT_toT (h i)

def normS (n : List Nat) (len : Nat) (mu : ZMod N) : ZMod N :=
  ∑ i ∈ range len, sv n i * sv n i * mu ^ (i + 1)

def dotS (c l : List Nat) (len : Nat) : ZMod N := ∑ i ∈ range len, sv c i * sv l i

def gP (n : List Nat) (g : List Pt) (off len : Nat) : TPt := ∑ i ∈ range len, sv n i • pv g (off + i)

/-- The commitment described by a prover state: `v • GT + ⟨n, G_vec⟩ + ⟨l, H_vec⟩`, `v = |n|²_μ + ⟨c, l⟩`. -/
def comT (G : Nat) (st : ProveState) (mu : ZMod N) : TPt :=
  (normS st.n (eL st.gLen) mu + dotS st.c st.l (eL st.hLen)) • GT +
    gP st.n st.g 0 (eL st.gLen) + gP st.l st.g G (eL st.hLen)

def xsG (n : List Nat) (rho rhoInv : Nat) (i : Nat) : ZMod N :=
  if i % 2 = 0 then sv n (i + 1) * (rho : ZMod N) else sv n (i - 1) * (rhoInv : ZMod N)

def xsH (l : List Nat) (i : Nat) : ZMod N := if i % 2 = 0 then sv l (i + 1) else sv l (i - 1)

theorem halfLoop_sv (f : Nat → Nat → Nat) (F : ZMod N → ZMod N → ZMod N)
    (hf : ∀ x y, ((f x y : Nat) : ZMod N) = F x y) (hflt : ∀ x y, f x y < N) {k a : Nat} (l : List Nat)
    (hlen : eL k = 2 ^ a) (hl : eL k ≤ l.length) :
    (halfLoop f 0 0 k l).length = l.length ∧
    ((∀ j, l.getD j 0 < N) → ∀ j, (halfLoop f 0 0 k l).getD j 0 < N) ∧
    ∀ j, sv (halfLoop f 0 0 k l) j = if j < k / 2 then F (sv l (2 * j)) (sv l (2 * j + 1)) else sv l j := by
  obtain ⟨h1, h2⟩ := halfLoop_spec f 0 0 l hlen (by omega)
  simp only [Nat.zero_le, true_and, Nat.zero_add, Nat.sub_zero] at h2
  refine ⟨h1, fun hllt j => ?_, fun j => ?_⟩
  · rw [h2 j]; split
    · exact hflt _ _
    · exact hllt j
  · unfold sv; rw [h2 j]; split
    · exact hf _ _
    · rfl

theorem halfLoop_pv (f : Pt → Pt → Pt) (F : TPt → TPt → TPt)
    (hf : ∀ p q, Good p → Good q → Good (f p q) ∧ toT (f p q) = F (toT p) (toT q)) (off : Nat) {k a : Nat}
    (g : List Pt) (hlen : eL k = 2 ^ a) (hg : off + eL k ≤ g.length) (hgood : ∀ j, Good (g.getD j .inf)) :
    (halfLoop f .inf off k g).length = g.length ∧ (∀ j, Good ((halfLoop f .inf off k g).getD j .inf)) ∧
    (∀ j, j < off → pv (halfLoop f .inf off k g) j = pv g j) ∧
    ∀ j, pv (halfLoop f .inf off k g) (off + j) =
      if j < k / 2 then F (pv g (off + 2 * j)) (pv g (off + (2 * j + 1))) else pv g (off + j) := by
  obtain ⟨h1, h2⟩ := halfLoop_spec f .inf off g hlen hg
  refine ⟨h1, fun j => ?_, fun j hj => ?_, fun j => ?_⟩
  · rw [h2 j]; split
    · exact (hf _ _ (hgood _) (hgood _)).1
    · exact hgood j
  · unfold pv; rw [h2 j, if_neg (by omega)]
  · unfold pv
    by_cases hj : j < k / 2
    · rw [h2, if_pos (by omega), if_pos hj, show 2 * (off + j) - off = off + 2 * j by omega,
        (hf _ _ (hgood _) (hgood _)).2]
      rfl
    · rw [h2, if_neg (by omega), if_neg hj]

end Round

section Comp
variable [hgl : HasGroupLaw]

/-- `mu'` is the weight after the round (`mu²` if the vector is folded, else `mu`); `musq` is what `x_v`, `r_v` are computed
    with, always `muF²`, and does not matter when `k ≤ 1` (no pair). -/
theorem normS_fold (n n' : List Nat) {k a : Nat} (rho rhoInv gamma mu mu' musq : ZMod N) (hlen : eL k = 2 ^ a)
    (hn : ∀ j, sv n' j = if j < k / 2 then sv n (2 * j) * rhoInv + sv n (2 * j + 1) * gamma else sv n j)
    (hr : rhoInv * rho = 1) (h0 : k ≤ 1 → mu' = mu)
    (h1 : 1 < k → mu = rho ^ 2 ∧ mu' = mu ^ 2 ∧ musq = mu ^ 2) :
    normS n' (eL (k / 2)) mu' = normS n (eL k) mu +
      (gamma * ((∑ j ∈ range (k / 2), sv n (2 * j) * sv n (2 * j + 1) * musq ^ (j + 1)) * rhoInv +
                (∑ j ∈ range (k / 2), sv n (2 * j) * sv n (2 * j + 1) * musq ^ (j + 1)) * rhoInv) +
       (gamma ^ 2 - 1) * ∑ j ∈ range (k / 2), sv n (2 * j + 1) * sv n (2 * j + 1) * musq ^ (j + 1)) := by
  unfold normS
  refine sum_eL_half hlen _ _ _ (fun hk => ?_) (fun hk _ => ?_)
  · rw [hn 0, if_neg (by omega), h0 hk, show k / 2 = 0 by omega]
    simp
  · obtain ⟨hmu, hmu', hsq⟩ := h1 hk
    rw [← add_assoc, hsq, ← fold_norm_identity (sv n) rho rhoInv mu gamma hr hmu]
    exact sum_congr rfl fun j hj => by rw [hn j, if_pos (mem_range.1 hj), hmu']

theorem dotS_fold (c l c' l' : List Nat) {k b : Nat} (gamma : ZMod N) (hlen : eL k = 2 ^ b)
    (hc : ∀ j, sv c' j = if j < k / 2 then sv c (2 * j) + sv c (2 * j + 1) * gamma else sv c j)
    (hl : ∀ j, sv l' j = if j < k / 2 then sv l (2 * j) + sv l (2 * j + 1) * gamma else sv l j) :
    dotS c' l' (eL (k / 2)) = dotS c l (eL k) +
      (gamma * (∑ j ∈ range (k / 2), sv c (2 * j) * sv l (2 * j + 1) +
                ∑ j ∈ range (k / 2), sv c (2 * j + 1) * sv l (2 * j)) +
       (gamma ^ 2 - 1) * ∑ j ∈ range (k / 2), sv c (2 * j + 1) * sv l (2 * j + 1)) := by
  unfold dotS
  refine sum_eL_half hlen _ _ _ (fun hk => ?_) (fun hk _ => ?_)
  · rw [hc 0, hl 0, if_neg (by omega), if_neg (by omega), show k / 2 = 0 by omega]
    simp
  · rw [← add_assoc, ← fold_dot_identity (sv c) (sv l) gamma]
    exact sum_congr rfl fun j hj => by rw [hc j, hl j, if_pos (mem_range.1 hj), if_pos (mem_range.1 hj)]

theorem gP_fold_G (n n' : List Nat) (g g' : List Pt) {k a : Nat} (rho rhoInv gamma : Nat) (hlen : eL k = 2 ^ a)
    (hn : ∀ j, sv n' j =
      if j < k / 2 then sv n (2 * j) * (rhoInv : ZMod N) + sv n (2 * j + 1) * (gamma : ZMod N) else sv n j)
    (hg : ∀ j, j ≤ k / 2 → pv g' j =
      if j < k / 2 then (rho : ZMod N) • pv g (2 * j) + (gamma : ZMod N) • pv g (2 * j + 1) else pv g j)
    (hr : (rhoInv : ZMod N) * (rho : ZMod N) = 1) :
    gP n' g' 0 (eL (k / 2)) = gP n g 0 (eL k) +
      ((gamma : ZMod N) • (∑ i ∈ range (if k ≥ 2 then k else 0), xsG n rho rhoInv i • pv g i) +
       ((gamma : ZMod N) ^ 2 - 1) • ∑ j ∈ range (k / 2), sv n (2 * j + 1) • pv g (2 * j + 1)) := by
  unfold gP
  simp only [Nat.zero_add]
  refine sum_eL_half hlen _ _ _ (fun hk => ?_) (fun hk hk2 => ?_)
  · rw [hn 0, hg 0 (Nat.zero_le _), if_neg (by omega), if_neg (by omega), if_neg (by omega),
      show k / 2 = 0 by omega]
    simp
  · rw [if_pos (by omega), ← add_assoc]
    unfold xsG
    have := fold_G_identity (sv n) (pv g) (rho : ZMod N) (rhoInv : ZMod N) (gamma : ZMod N) hr (k / 2)
    rw [hk2] at this ⊢
    rw [← this]
    exact sum_congr rfl fun j hj => by
      rw [hn j, hg j (mem_range.1 hj).le, if_pos (mem_range.1 hj), if_pos (mem_range.1 hj)]

theorem gP_fold_H (l l' : List Nat) (g g' : List Pt) (G : Nat) {k b : Nat} (gamma : Nat) (hlen : eL k = 2 ^ b)
    (hl : ∀ j, sv l' j = if j < k / 2 then sv l (2 * j) + sv l (2 * j + 1) * (gamma : ZMod N) else sv l j)
    (hg : ∀ j, pv g' (G + j) =
      if j < k / 2 then (gamma : ZMod N) • pv g (G + (2 * j + 1)) + pv g (G + 2 * j) else pv g (G + j)) :
    gP l' g' G (eL (k / 2)) = gP l g G (eL k) +
      ((gamma : ZMod N) • (∑ i ∈ range (if k ≥ 2 then k else 0), xsH l i • pv g (G + i)) +
       ((gamma : ZMod N) ^ 2 - 1) • ∑ j ∈ range (k / 2), sv l (2 * j + 1) • pv g (G + (2 * j + 1))) := by
  unfold gP
  refine sum_eL_half hlen _ _ _ (fun hk => ?_) (fun hk hk2 => ?_)
  · rw [hl 0, hg 0, if_neg (by omega), if_neg (by omega), if_neg (by omega), show k / 2 = 0 by omega]
    simp
  · rw [if_pos (by omega), ← add_assoc]
    unfold xsH
    have := fold_H_identity (sv l) (fun i => pv g (G + i)) (gamma : ZMod N) (k / 2)
    rw [hk2] at this ⊢
    rw [← this]
    exact sum_congr rfl fun j hj => by rw [hl j, hg j, if_pos (mem_range.1 hj), if_pos (mem_range.1 hj)]

end Comp

section Multi
variable [hgl : HasGroupLaw]

theorem xMulti (n l : List Nat) (g : List Pt) (rho rhoInv G xn xh xv : Nat)
    (hgood : ∀ j, Good (g.getD j .inf)) (hllt : ∀ j, l.getD j 0 < N) (hxv : xv < N) :
    ecmultMulti (some xv) (xCb n l g rho rhoInv G xn) (xn + xh) =
      some (ofT ((xv : ZMod N) • GT + (∑ i ∈ range xn, xsG n rho rhoInv i • pv g i +
        ∑ i ∈ range xh, xsH l i • pv g (G + i)))) := by
  rw [ecmultMulti_two (some xv) _ xn xh
    (fun i => if i % 2 = 0 then Sc.mul (n.getD (i + 1) 0) rho else Sc.mul (n.getD (i - 1) 0) rhoInv)
    (fun i => if i % 2 = 0 then l.getD (i + 1) 0 else l.getD (i - 1) 0) (pv g) (fun i => pv g (G + i))]
  · congr 4
    · exact sum_congr rfl fun i _ => by unfold xsG; split <;> simp [sv]
    · exact sum_congr rfl fun i _ => by unfold xsH; split <;> rfl
  · intro i hi
    simp only [xCb, if_pos hi, ofT_pv hgood]
    split <;> rfl
  · intro i _
    simp only [xCb, if_neg (show ¬ xn + i < xn by omega), Nat.add_sub_cancel_left, ofT_pv hgood]
    split <;> rfl
  · intro i _; split <;> exact Sc.mul_lt _ _
  · intro i _; split <;> exact hllt _
  · rintro s ⟨⟩; exact hxv

theorem rMulti (n l : List Nat) (g : List Pt) (G rn rh rv : Nat)
    (hgood : ∀ j, Good (g.getD j .inf)) (hnlt : ∀ j, n.getD j 0 < N) (hllt : ∀ j, l.getD j 0 < N)
    (hrv : rv < N) :
    ecmultMulti (some rv) (rCb n l g G rn) (rn + rh) =
      some (ofT ((rv : ZMod N) • GT + (∑ j ∈ range rn, sv n (2 * j + 1) • pv g (2 * j + 1) +
        ∑ j ∈ range rh, sv l (2 * j + 1) • pv g (G + (2 * j + 1))))) :=
  ecmultMulti_two (some rv) _ rn rh (fun i => n.getD (2 * i + 1) 0) (fun i => l.getD (2 * i + 1) 0)
    (fun i => pv g (2 * i + 1)) (fun i => pv g (G + (2 * i + 1)))
    (fun i hi => by simp only [rCb, if_pos hi, ofT_pv hgood])
    (fun i _ => by
      simp only [rCb, if_neg (show ¬ rn + i < rn by omega), Nat.add_sub_cancel_left, ofT_pv hgood, Nat.add_assoc])
    (fun _ _ => hnlt _) (fun _ _ => hllt _) (by rintro s ⟨⟩; exact hrv)

/-- the multi-exponentiation of `secp256k1_bppp_commit` and, the model's `verifyCb2` being the same function as
`commitCb`, the right-hand side of the verifier -/
theorem commitMulti (a b : List Nat) (g : List Pt) (n m v : Nat) (hgood : ∀ j, Good (g.getD j .inf))
    (ha : ∀ j, a.getD j 0 < N) (hb : ∀ j, b.getD j 0 < N) (hv : v < N) :
    ecmultMulti (some v) (commitCb a b g n) (n + m) =
      some (ofT ((v : ZMod N) • GT + (gP a g 0 n + gP b g n m))) :=
  ecmultMulti_two (some v) _ n m (fun i => a.getD i 0) (fun i => b.getD i 0)
    (fun i => pv g (0 + i)) (fun i => pv g (n + i))
    (fun i hi => by simp only [commitCb, if_pos hi, Nat.zero_add, ofT_pv hgood])
    (fun i _ => by
      simp only [commitCb, if_neg (show ¬ n + i < n by omega), Nat.add_sub_cancel_left, ofT_pv hgood])
    (fun _ _ => ha _) (fun _ _ => hb _) (by rintro s ⟨⟩; exact hv)

end Multi

section Spec
variable [hgl : HasGroupLaw]

structure WF (G : Nat) (st : ProveState) (a b : Nat) : Prop where
  glen : eL st.gLen = 2 ^ a
  hlen : eL st.hLen = 2 ^ b
  gG : eL st.gLen ≤ G
  nlen : eL st.gLen ≤ st.n.length
  llen : eL st.hLen ≤ st.l.length
  clen : eL st.hLen ≤ st.c.length
  gvlen : G + eL st.hLen ≤ st.g.length
  good : ∀ j, Good (st.g.getD j .inf)
  nlt : ∀ j, st.n.getD j 0 < N
  llt : ∀ j, st.l.getD j 0 < N
  rho_lt : st.rhoF < N
  mu_lt : st.muF < N
  rho_ne : (st.rhoF : ZMod N) ≠ 0
  mu_eq : (st.muF : ZMod N) = (st.rhoF : ZMod N) ^ 2

/-- of the hash the proofs use only `challengeScalar_lt` -/
def gammaOf (t : Sha256.State) (X R : TPt) : Nat :=
  challengeScalar (Sha256.write t (serializePoints (ofT X) (ofT R))) 0

omit hgl in
theorem challengeScalar_lt (t : Sha256.State) (i : Nat) : challengeScalar t i < N :=
  Sc.setB32_fst_lt _

/-- `X = x_v • GT + ⟨ρ n_odd, G_even⟩ + ⟨ρ⁻¹ n_even, G_odd⟩ + ⟨l_odd, H_even⟩ + ⟨l_even, H_odd⟩` -/
def xPt (G : Nat) (st : ProveState) : TPt :=
  (xvOf st : ZMod N) • GT +
    (∑ i ∈ range (if st.gLen ≥ 2 then st.gLen else 0), xsG st.n st.rhoF (Sc.inv st.rhoF) i • pv st.g i +
      ∑ i ∈ range (if st.hLen ≥ 2 then st.hLen else 0), xsH st.l i • pv st.g (G + i))

def rPt (G : Nat) (st : ProveState) : TPt :=
  (rvOf st : ZMod N) • GT +
    (∑ j ∈ range (st.gLen / 2), sv st.n (2 * j + 1) • pv st.g (2 * j + 1) +
      ∑ j ∈ range (st.hLen / 2), sv st.l (2 * j + 1) • pv st.g (G + (2 * j + 1)))

theorem proveRound_some (G : Nat) (st : ProveState) (hgood : ∀ j, Good (st.g.getD j .inf))
    (hnlt : ∀ j, st.n.getD j 0 < N) (hllt : ∀ j, st.l.getD j 0 < N) :
    proveRound G st = some (foldSt G st (gammaOf st.transcript (xPt G st) (rPt G st))
      (Sha256.write st.transcript (serializePoints (ofT (xPt G st)) (ofT (rPt G st))))
      (st.proof ++ serializePoints (ofT (xPt G st)) (ofT (rPt G st)))) := by
  rw [proveRound_eq, xMulti st.n st.l st.g st.rhoF (Sc.inv st.rhoF) G _ _ (xvOf st) hgood hllt (Sc.add_lt _ _),
    rMulti st.n st.l st.g G _ _ (rvOf st) hgood hnlt hllt (Sc.add_lt _ _)]
  rfl

/-- `mu` is tied to `st.muF` only while the `n` vector is still being folded (`0 < a`): after that `muF` goes on being
squared, but the weight of the one entry stays. -/
theorem foldSt_spec (G : Nat) (st : ProveState) (a b : Nat) (hwf : WF G st a b) (γ : Nat) (hγ : γ < N)
    (t : Sha256.State) (pf : Bytes) :
    WF G (foldSt G st γ t pf) (a - 1) (b - 1) ∧
    (∀ mu : ZMod N, (0 < a → mu = (st.muF : ZMod N)) →
      comT G (foldSt G st γ t pf) (if 0 < a then mu ^ 2 else mu) =
        comT G st mu + (γ : ZMod N) • xPt G st + ((γ : ZMod N) ^ 2 - 1) • rPt G st) ∧
    ((foldSt G st γ t pf).rhoF : ZMod N) = (st.rhoF : ZMod N) ^ 2 ∧
    (∀ j, j < G → pv (foldSt G st γ t pf).g j =
      if j < st.gLen / 2 then (st.rhoF : ZMod N) • pv st.g (2 * j) + (γ : ZMod N) • pv st.g (2 * j + 1)
      else pv st.g j) ∧
    (∀ j, pv (foldSt G st γ t pf).g (G + j) =
      if j < st.hLen / 2 then (γ : ZMod N) • pv st.g (G + (2 * j + 1)) + pv st.g (G + 2 * j)
      else pv st.g (G + j)) ∧
    (∀ j, sv (foldSt G st γ t pf).c j =
      if j < st.hLen / 2 then sv st.c (2 * j) + sv st.c (2 * j + 1) * (γ : ZMod N) else sv st.c j) := by
  obtain ⟨hga, hhb, hgG, hnl, hll, hcl, hgv, hgood, hnlt, hllt, hrlt, hmlt, hrne, hmueq⟩ := hwf
  have hr : ((Sc.inv st.rhoF : Nat) : ZMod N) * (st.rhoF : ZMod N) = 1 := by
    rw [cast_inv]; exact inv_mul_cancel₀ hrne
  have hρ' := lt_mulBound_of_lt_N hrlt
  have hγ' := lt_mulBound_of_lt_N hγ
  unfold foldSt
  simp only [foldG_half, foldH_half]
  obtain ⟨g1, g4, g5⟩ := halfLoop_sv (fun x y => Sc.add (Sc.mul x (Sc.inv st.rhoF)) (Sc.mul y γ))
    (fun x y => x * ((Sc.inv st.rhoF : Nat) : ZMod N) + y * (γ : ZMod N))
    (fun x y => by rw [cast_add, cast_mul, cast_mul]) (fun _ _ => Sc.add_lt _ _) st.n hga hnl
  obtain ⟨h1, _, h7⟩ := halfLoop_sv (fun x y => Sc.add x (Sc.mul y γ)) (fun x y => x + y * (γ : ZMod N))
    (fun x y => by rw [cast_add, cast_mul]) (fun _ _ => Sc.add_lt _ _) st.c hhb hcl
  obtain ⟨h2, h5, h8⟩ := halfLoop_sv (fun x y => Sc.add x (Sc.mul y γ)) (fun x y => x + y * (γ : ZMod N))
    (fun x y => by rw [cast_add, cast_mul]) (fun _ _ => Sc.add_lt _ _) st.l hhb hll
  obtain ⟨g2, g3, _, g6⟩ := halfLoop_pv (fun p q => Pt.add (Pt.mul st.rhoF p) (Pt.mul γ q))
    (fun P Q => (st.rhoF : ZMod N) • P + (γ : ZMod N) • Q)
    (fun p q hp hq => ⟨good_add (good_mul hρ' hp) (good_mul hγ' hq),
      by rw [toT_add (good_mul hρ' hp) (good_mul hγ' hq), toT_mul hρ' hp, toT_mul hγ' hq]⟩)
    0 st.g hga (by omega) hgood
  simp only [Nat.zero_add] at g6
  generalize halfLoop (fun p q => Pt.add (Pt.mul st.rhoF p) (Pt.mul γ q)) .inf 0 st.gLen st.g = g' at *
  obtain ⟨h3, h4, h6, h9⟩ := halfLoop_pv (fun p q => Pt.add (Pt.mul γ q) p) (fun P Q => (γ : ZMod N) • Q + P)
    (fun p q hp hq => ⟨good_add (good_mul hγ' hq) hp, by rw [toT_add (good_mul hγ' hq) hp, toT_mul hγ' hq]⟩)
    G g' hhb (by rw [g2]; exact hgv) g3
  -- the `H` loop does not touch the `G` part, the `G` loop does not touch the `H` part
  have hlow := fun j (hj : j < G) => (h6 j hj).trans (g6 j)
  have hhigh : ∀ j, pv g' (G + j) = pv st.g (G + j) := fun j => by
    rw [g6, if_neg (by have := half_lt_eL st.gLen; omega)]
  simp only [hhigh] at h9
  refine ⟨⟨eL_half hga, eL_half hhb, (eL_half_le hga).trans hgG, (eL_half_le hga).trans (hnl.trans_eq g1.symm),
    (eL_half_le hhb).trans (hll.trans_eq h2.symm), (eL_half_le hhb).trans (hcl.trans_eq h1.symm),
    (Nat.add_le_add_left (eL_half_le hhb) G).trans (hgv.trans_eq (h3.trans g2).symm), h4, g4 hnlt, h5 hllt, hmlt,
    Sc.mul_lt _ _, ?_, cast_scSqr _⟩, fun mu hmu => ?_, hmueq, hlow, h9, h7⟩
  · show ((st.muF : Nat) : ZMod N) ≠ 0
    rw [hmueq]; exact pow_ne_zero 2 hrne
  · have ha := one_lt_iff_of_eL hga
    have hN := normS_fold st.n _ (st.rhoF : ZMod N) ((Sc.inv st.rhoF : Nat) : ZMod N) (γ : ZMod N) mu
      (if 0 < a then mu ^ 2 else mu) ((st.muF : ZMod N) ^ 2) hga g5 hr (fun hk => if_neg (by omega))
      (fun hk => ⟨by rw [hmu (ha.1 hk), hmueq], if_pos (ha.1 hk), by rw [hmu (ha.1 hk)]⟩)
    have hD := dotS_fold st.c st.l _ _ (γ : ZMod N) hhb h7 h8
    have hG := gP_fold_G st.n _ st.g _ st.rhoF (Sc.inv st.rhoF) γ hga g5
      (fun j hj => hlow j (by have := half_lt_eL st.gLen; omega)) hr
    have hH := gP_fold_H st.l _ st.g _ G γ hhb h8 h9
    unfold comT xPt rPt xvOf rvOf
    simp only []
    rw [hN, hD, hG, hH]
    simp only [cast_add, cast_mul, cast_wsip, cast_sip, cast_scSqr, Nat.zero_add, Nat.add_comm 1]
    module

end Spec
end Bppp
end SecpZkp
