import SecpZkp.Model.Bppp
import SecpZkp.Proofs.GroupExtra
import SecpZkp.Proofs.Codec
import SecpZkp.Proofs.Bytes
/-
  The two-points-in-65-bytes codec (`bppp_util.h`) round-trips on all valid points (including infinity):
  `parse_one_of_points (serialize_points X R) idx` gives back `X` (idx 0) and `R` (idx 1).
-/
namespace SecpZkp
namespace Bppp

theorem sqrt_seven : Fe.sqrt 7 = none := by decide +kernel

theorem isZero_toNat (bs : Bytes) (h : Bytes.isZero bs = true) : Bytes.toNat bs = 0 := by
  induction bs with
  | nil => rfl
  | cons b t ih =>
    simp only [Bytes.isZero, List.all_cons, Bool.and_eq_true, beq_iff_eq] at h
    rw [h.1, SecpZkp.Bytes.toNat_zero_cons]
    exact ih (by simpa [Bytes.isZero] using h.2)

section
-- `valid_aff_iff`, `W_equation_iff` (Affine) and `liftX_of_valid` (GroupExtra) are stated with this instance
variable [Fact (Nat.Prime P)]

/-- so 32 zero bytes are free to stand for infinity in the 65-byte codec (7 is not a square mod `P`) -/
theorem valid_x_ne_zero {x y : Nat} (h : (Pt.aff x y).valid = true) : x ≠ 0 := by
  intro hx
  subst hx
  obtain ⟨_, _, hn⟩ := (valid_aff_iff 0 y).1 h
  have he := (W_equation_iff _ _).1 hn.1
  have h7 := (Fe.sqrt_eq_none_iff 7).1 sqrt_seven
  apply h7
  refine ⟨(y : ZMod P), ?_⟩
  rw [he]; simp

theorem ser33_shape (p : Pt) (hv : p.valid = true) :
    (p = .inf ∧ geSerializeExt p = 0 :: Bytes.zeros 32) ∨
    (∃ x y, p = .aff x y ∧ geSerializeExt p = (if Fe.isOdd y then (3 : UInt8) else 2) :: Bytes.be32 x ∧
      Bytes.isZero (Bytes.be32 x) = false) := by
  cases p with
  | inf => exact Or.inl ⟨rfl, rfl⟩
  | aff x y =>
    refine Or.inr ⟨x, y, rfl, rfl, ?_⟩
    have hx0 := valid_x_ne_zero hv
    have hxP := ((valid_aff_iff x y).1 hv).1
    cases hz : Bytes.isZero (Bytes.be32 x) with
    | false => rfl
    | true =>
      have := isZero_toNat _ hz
      rw [SecpZkp.Bytes.toNat_be32_of_lt_P hxP] at this
      exact absurd this hx0

omit [Fact (Nat.Prime P)] in
theorem geParseExt_zeros : geParseExt (Bytes.zeros 33) = some .inf := by decide

theorem geParseExt_aff {x y : Nat} (hv : (Pt.aff x y).valid = true) :
    geParseExt ((if Fe.isOdd y then (3 : UInt8) else 2) :: Bytes.be32 x) = some (.aff x y) := by
  have hxP := ((valid_aff_iff x y).1 hv).1
  have hnz : Bytes.isZero ((if Fe.isOdd y then (3 : UInt8) else 2) :: Bytes.be32 x) = false := by
    simp only [Bytes.isZero, List.all_cons]
    split <;> simp
  unfold geParseExt
  rw [hnz]
  simp only [Bool.false_eq_true, if_false]
  rw [CodecLemmas.pubkeyParse_cons, if_pos ⟨Bytes.be32_length x, by split <;> simp⟩,
    SecpZkp.Bytes.toNat_be32_of_lt_P hxP, if_pos hxP]
  have := liftX_of_valid hv
  cases ho : Fe.isOdd y
  · rw [ho] at this; simpa using this
  · rw [ho] at this; simpa using this

omit [Fact (Nat.Prime P)] in
theorem parse_shape (b0 : UInt8) (xa xb : Bytes) (ha : xa.length = 32) (hb : xb.length = 32) :
    parseOneOfPoints (b0 :: (xa ++ xb)) 0 =
      (if b0 > 3 then none else
       if !Bytes.isZero xa then geParseExt (((2 : UInt8) ||| ((b0 &&& 2) >>> 1)) :: xa)
       else if b0 &&& 2 ≠ 0 then none else geParseExt (Bytes.zeros 33)) ∧
    parseOneOfPoints (b0 :: (xa ++ xb)) 1 =
      (if b0 > 3 then none else
       if !Bytes.isZero xb then geParseExt (((2 : UInt8) ||| ((b0 &&& 1) >>> 0)) :: xb)
       else if b0 &&& 1 ≠ 0 then none else geParseExt (Bytes.zeros 33)) := by
  have h0 : ((b0 :: (xa ++ xb)).drop (1 + 32 * 0)).take 32 = xa := by
    show ((xa ++ xb).drop 0).take 32 = xa
    rw [List.drop_zero, List.take_append_of_le_length (by omega), List.take_of_length_le (by omega)]
  have h1 : ((b0 :: (xa ++ xb)).drop (1 + 32 * 1)).take 32 = xb := by
    show ((xa ++ xb).drop 32).take 32 = xb
    rw [List.drop_append_of_le_length (by omega), List.drop_of_length_le (by omega), List.nil_append,
      List.take_of_length_le (by omega)]
  unfold parseOneOfPoints
  simp only [h0, h1, List.headD_cons]
  exact ⟨rfl, rfl⟩

omit [Fact (Nat.Prime P)] in
/-- The tags `t1, t2 ∈ {0, 2, 3}` of `ge_serialize_ext` share the byte `b0 = ((t1 & 1) << 1) | (t2 & 1)`; the parser
    takes a tag back out as `2 | ((b0 & mask) >> shift)`. -/
theorem tag_facts : ∀ t1 ∈ [(0 : UInt8), 2, 3], ∀ t2 ∈ [(0 : UInt8), 2, 3],
    ¬ (((t1 &&& 1) <<< 1) ||| (t2 &&& 1)) > 3 ∧
    (t1 ≠ 0 → (2 : UInt8) ||| (((((t1 &&& 1) <<< 1) ||| (t2 &&& 1)) &&& 2) >>> 1) = t1) ∧
    (t1 = 0 → (((t1 &&& 1) <<< 1) ||| (t2 &&& 1)) &&& 2 = 0) ∧
    (t2 ≠ 0 → (2 : UInt8) ||| (((((t1 &&& 1) <<< 1) ||| (t2 &&& 1)) &&& 1) >>> 0) = t2) ∧
    (t2 = 0 → (((t1 &&& 1) <<< 1) ||| (t2 &&& 1)) &&& 1 = 0) := by decide

theorem slot (p : Pt) (hv : p.valid = true) :
    ∃ (t : UInt8) (xb : Bytes), geSerializeExt p = t :: xb ∧ xb.length = 32 ∧ t ∈ [(0 : UInt8), 2, 3] ∧
      ((t = 0 ∧ Bytes.isZero xb = true ∧ p = .inf) ∨
       (t ≠ 0 ∧ Bytes.isZero xb = false ∧ geParseExt (t :: xb) = some p)) := by
  rcases ser33_shape p hv with ⟨rfl, sp⟩ | ⟨x, y, rfl, sp, nz⟩
  · exact ⟨0, Bytes.zeros 32, sp, by simp [Bytes.zeros], by simp, Or.inl ⟨rfl, by decide, rfl⟩⟩
  · refine ⟨_, _, sp, Bytes.be32_length x, ?_, Or.inr ⟨?_, nz, geParseExt_aff hv⟩⟩
    · split <;> simp
    · split <;> simp

theorem parse_serializePoints (p q : Pt) (hp : p.valid = true) (hq : q.valid = true) :
    parseOneOfPoints (serializePoints p q) 0 = some p ∧ parseOneOfPoints (serializePoints p q) 1 = some q := by
  obtain ⟨t1, xa, s1, la, m1, c1⟩ := slot p hp
  obtain ⟨t2, xb, s2, lb, m2, c2⟩ := slot q hq
  have hser : serializePoints p q = (((t1 &&& 1) <<< 1) ||| (t2 &&& 1)) :: (xa ++ xb) := by
    unfold serializePoints; rw [s1, s2]; rfl
  obtain ⟨f1, f2, f3, f4, f5⟩ := tag_facts t1 m1 t2 m2
  obtain ⟨e0, e1⟩ := parse_shape (((t1 &&& 1) <<< 1) ||| (t2 &&& 1)) xa xb la lb
  rw [hser, e0, e1]
  simp only [if_neg f1]
  constructor
  · rcases c1 with ⟨h0, hz, rfl⟩ | ⟨h0, hz, hparse⟩
    · rw [hz]; simp only [Bool.not_true, Bool.false_eq_true, if_false]
      rw [f3 h0]; simp [geParseExt_zeros]
    · rw [hz]; simp only [Bool.not_false, if_true]
      rw [f2 h0, hparse]
  · rcases c2 with ⟨h0, hz, rfl⟩ | ⟨h0, hz, hparse⟩
    · rw [hz]; simp only [Bool.not_true, Bool.false_eq_true, if_false]
      rw [f5 h0]; simp [geParseExt_zeros]
    · rw [hz]; simp only [Bool.not_false, if_true]
      rw [f4 h0, hparse]

omit [Fact (Nat.Prime P)] in
theorem length_serializePoints (p q : Pt) : (serializePoints p q).length = 65 := by
  have h33 : ∀ r : Pt, (geSerializeExt r).length = 33 := by
    intro r; cases r with
    | inf => simp [geSerializeExt, Codec.serialize33, Bytes.zeros]
    | aff x y => simp [geSerializeExt, Codec.serialize33]
  unfold serializePoints
  simp only [List.length_cons, List.length_append, List.length_drop, h33]

end
end Bppp
end SecpZkp

