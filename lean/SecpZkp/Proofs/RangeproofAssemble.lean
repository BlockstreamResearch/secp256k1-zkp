import SecpZkp.Proofs.RangeproofVerify
import SecpZkp.Proofs.RangeproofAlgebra
import SecpZkp.Proofs.BorromeanApps
/-
  The last steps of `rangeproof_complete`: the ring scalars written as `be32` blocks are read back (`readScalars_flat`),
  and the ring keys depend on the exponent only through `max 0 exp` (`pubExpand_exp`).  Its imports are the
  Proofs files Props/C09_complete.lean rests on.
-/
namespace SecpZkp

namespace Rangeproof

theorem readScalars_flat (rest : Bytes) : ∀ (s : List Nat), (∀ x ∈ s, x < N) →
    readScalars s.length (s.flatMap Bytes.be32 ++ rest) = some s := by
  intro s
  induction s with
  | nil => intro _; rfl
  | cons x xs ih =>
    intro hs
    simp only [List.length_cons, List.flatMap_cons, List.append_assoc]
    rw [readScalars, Algebra.take_be32_append, Sc.setB32_be32 (hs x (by simp)), Algebra.drop_be32_append]
    simp only [Bool.false_eq_true, if_false]
    rw [ih (fun y hy => hs y (by simp [hy]))]
    rfl

theorem pubExpand_exp (firsts : List Pt) (e1 e2 : Int) (rsizes : List Nat) (genp : Pt)
    (h : (if e1 < 0 then 0 else e1.toNat) = (if e2 < 0 then 0 else e2.toNat)) :
    pubExpand firsts e1 rsizes genp = pubExpand firsts e2 rsizes genp := by
  unfold pubExpand
  simp only []
  rw [h]

end Rangeproof
end SecpZkp
