/-
  The 10×26-limb field kernels (`secp256k1_fe_mul_inner`, `secp256k1_fe_sqr_inner` of src/field_10x26_impl.h, the 32-bit
  configuration): the value of a limb vector and the contracts that the C code VERIFY-checks, as bound environments.
  The masks `M = 0x3FFFFFF`, `M >> 4` as arithmetic are in `Proofs/LimbArith.lean`.
-/
import SecpZkp.Proofs.FieldKernel

namespace SecpZkp
namespace FieldKernel10x26
open MiniC MiniC.Bounds FieldKernel

def val10 (x0 x1 x2 x3 x4 x5 x6 x7 x8 x9 : Nat) : Nat :=
  x0 + x1 * 2 ^ 26 + x2 * 2 ^ 52 + x3 * 2 ^ 78 + x4 * 2 ^ 104 + x5 * 2 ^ 130 + x6 * 2 ^ 156 + x7 * 2 ^ 182 +
    x8 * 2 ^ 208 + x9 * 2 ^ 234

/-- the `VERIFY_BITS(a[i], 30)` … `VERIFY_BITS(b[9], 26)` lines at the head of `secp256k1_fe_mul_inner` -/
def mulB : BEnv :=
  [(("a", 0), 2 ^ 30 - 1), (("a", 1), 2 ^ 30 - 1), (("a", 2), 2 ^ 30 - 1), (("a", 3), 2 ^ 30 - 1), (("a", 4), 2 ^ 30 - 1),
   (("a", 5), 2 ^ 30 - 1), (("a", 6), 2 ^ 30 - 1), (("a", 7), 2 ^ 30 - 1), (("a", 8), 2 ^ 30 - 1), (("a", 9), 2 ^ 26 - 1),
   (("b", 0), 2 ^ 30 - 1), (("b", 1), 2 ^ 30 - 1), (("b", 2), 2 ^ 30 - 1), (("b", 3), 2 ^ 30 - 1), (("b", 4), 2 ^ 30 - 1),
   (("b", 5), 2 ^ 30 - 1), (("b", 6), 2 ^ 30 - 1), (("b", 7), 2 ^ 30 - 1), (("b", 8), 2 ^ 30 - 1), (("b", 9), 2 ^ 26 - 1)]

def sqrB : BEnv :=
  [(("a", 0), 2 ^ 30 - 1), (("a", 1), 2 ^ 30 - 1), (("a", 2), 2 ^ 30 - 1), (("a", 3), 2 ^ 30 - 1), (("a", 4), 2 ^ 30 - 1),
   (("a", 5), 2 ^ 30 - 1), (("a", 6), 2 ^ 30 - 1), (("a", 7), 2 ^ 30 - 1), (("a", 8), 2 ^ 30 - 1), (("a", 9), 2 ^ 26 - 1)]

/-- the `VERIFY_BITS` lines on `r` at the end of the C functions; the entry for the 64-bit scalar `d`, of which `r[2]` is
    the `uint32_t` conversion, says that this conversion does not truncate -/
def outB : List ((String × Nat) × Nat) :=
  [(("r", 0), 2 ^ 26 - 1), (("r", 1), 2 ^ 26 - 1), (("r", 2), 2 ^ 27 - 1), (("r", 3), 2 ^ 26 - 1), (("r", 4), 2 ^ 26 - 1),
   (("r", 5), 2 ^ 26 - 1), (("r", 6), 2 ^ 26 - 1), (("r", 7), 2 ^ 26 - 1), (("r", 8), 2 ^ 26 - 1), (("r", 9), 2 ^ 22 - 1),
   (("d", 0), 2 ^ 27 - 1)]

theorem mod32_of_le (x : Nat) (h : x ≤ 4294967295) : x % 4294967296 = x :=
  Nat.mod_eq_of_lt (Nat.lt_succ_of_le h)

end FieldKernel10x26
end SecpZkp
