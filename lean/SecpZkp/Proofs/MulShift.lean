/-
  Helpers for `Props/C05_mulshift.lean`: the second half of `secp256k1_scalar_mul_shift_var`
  (`Gen.scalar4x64.scalar_mul_shift_var`, generated from `src/scalar_4x64_impl.h`): the limb selection
  `r->d[j] = l[j + shiftlimbs] >> shiftlow | l[j + 1 + shiftlimbs] << shifthigh` with its guards, the rounding bit
  `(l[(shift-1) >> 6] >> ((shift-1) & 0x3f)) & 1`, and the final `secp256k1_scalar_cadd_bit(r, 0, bit)`.

  Each `r->d[j]`, guards included, is shown to be a 64-bit window of the number `L8 f` held by the eight limbs
  (`limb_spec`, `limb3_spec`, from `win_f`, which is the window lemma `valL_win` for limb lists at eight limbs: a read
  beyond the list counts as `0`, which is what the guards of the C code make it), the rounding bit to be its bit
  `shift - 1` (`flag_spec`), for EVERY
  `256 ≤ shift ≤ 512`; `mulshift_arith` puts these together with `round_div`
  (`(L + 2^(s-1)) / 2^s = L / 2^s + (L / 2^(s-1)) mod 2`).
-/
import SecpZkp.Proofs.ScalarKernel
import SecpZkp.Proofs.LimbList
import Mathlib.Tactic.Ring
import Mathlib.Tactic.Linarith

namespace SecpZkp
namespace MulShift
open MiniC ScalarKernel LimbList

/-- value of `c ? a : b` under the wrap-around semantics (only the chosen arm is evaluated) -/
theorem ev_cond (env : Env) (c a b : Expr) :
    ev env (.cond c a b) = if ev env c ≠ 0 then ev env a else ev env b := by
  by_cases h : (evalE env c).1 = 0 <;> simp [ev, evalE, h]

theorem binWrap_ne (w a b : Nat) : binWrap .ne w a b = if a ≠ b then 1 else 0 := rfl

theorem two_pow_split {low : Nat} (h : low ≤ 64) : 2 ^ low * 2 ^ (64 - low) = 2 ^ 64 := by
  rw [← Nat.pow_add]; congr 1; omega

/-- the 64-bit window at bit offset `low < 64` of `x + y·2^64 + z·2^128`: the top of `x` and the bottom `low` bits of `y` -/
theorem win2 (x y z low : Nat) (hx : x < 2 ^ 64) (hlow : low < 64) :
    (x + y * 2 ^ 64 + z * 2 ^ 128) / 2 ^ low % 2 ^ 64 = x / 2 ^ low + (y % 2 ^ low) * 2 ^ (64 - low) := by
  have hpq := two_pow_split (Nat.le_of_lt hlow)
  have hp : 0 < 2 ^ low := Nat.pow_pos (by decide)
  generalize 2 ^ low = p at *
  generalize 2 ^ (64 - low) = q at *
  have e128 : 2 ^ 128 = (p * q) * (p * q) := by rw [hpq]; decide
  have e1 : x + y * 2 ^ 64 + z * 2 ^ 128 = x + p * (q * y + q * (p * q) * z) := by
    rw [e128, ← hpq]; ring
  rw [e1, Nat.add_mul_div_left _ _ hp]
  have e2 : x / p + (q * y + q * (p * q) * z) = (x / p + (y % p) * q) + 2 ^ 64 * (y / p + q * z) := by
    rw [← hpq]
    conv => lhs; rw [← Nat.div_add_mod y p]
    ring
  rw [e2, Nat.add_mul_mod_self_left]
  apply Nat.mod_eq_of_lt
  have h1 : x / p < q := by
    apply Nat.div_lt_of_lt_mul; rw [hpq]; exact hx
  have h2 : y % p < p := Nat.mod_lt _ hp
  have h3 : (y % p + 1) * q ≤ p * q := Nat.mul_le_mul_right q h2
  rw [← hpq]
  nlinarith

/-- rounding to nearest (ties up) = truncation + the bit just below the cut -/
theorem round_div (L s : Nat) (hs : 1 ≤ s) :
    (L + 2 ^ (s - 1)) / 2 ^ s = L / 2 ^ s + L / 2 ^ (s - 1) % 2 := by
  have e : 2 ^ s = 2 ^ (s - 1) * 2 := by rw [← Nat.pow_succ]; congr 1; omega
  have hp : 0 < 2 ^ (s - 1) := Nat.pow_pos (by decide)
  rw [e]
  generalize 2 ^ (s - 1) = h at *
  rw [← Nat.div_div_eq_div_mul, ← Nat.div_div_eq_div_mul, Nat.add_div_right _ hp]
  omega

theorem val4_windows (X : Nat) (hX : X < 2 ^ 256) :
    val4 (X % 2 ^ 64) (X / 2 ^ 64 % 2 ^ 64) (X / 2 ^ 128 % 2 ^ 64) (X / 2 ^ 192 % 2 ^ 64) = X := by
  unfold val4; omega

theorem valL_head (w : Nat) : ∀ xs : List Nat, valL w xs = xs.getD 0 0 + 2 ^ w * valL w xs.tail
  | [] => by simp [valL]
  | _ :: _ => rfl

/-- the 64-bit window at bit offset `64·m + low` of the number with the 64-bit limbs `ls`: parts of limb `m` and limb
    `m + 1` (limbs beyond the end of the list count as `0`) -/
theorem valL_win : ∀ (ls : List Nat) (m low : Nat), (∀ d ∈ ls, d < 2 ^ 64) → low < 64 →
    valL 64 ls / 2 ^ (64 * m + low) % 2 ^ 64 = ls.getD m 0 / 2 ^ low + (ls.getD (m + 1) 0 % 2 ^ low) * 2 ^ (64 - low)
  | [], m, low, _, _ => by simp [valL]
  | x :: xs, 0, low, h, hl => by
    rw [valL, valL_head 64 xs, Nat.mul_zero, Nat.zero_add,
      show x + 2 ^ 64 * (xs.getD 0 0 + 2 ^ 64 * valL 64 xs.tail) = x + xs.getD 0 0 * 2 ^ 64 + valL 64 xs.tail * 2 ^ 128 by ring]
    exact win2 x _ _ low (h x List.mem_cons_self) hl
  | x :: xs, m + 1, low, h, hl => by
    rw [valL, show 64 * (m + 1) + low = 64 + (64 * m + low) by omega, Nat.pow_add, ← Nat.div_div_eq_div_mul,
      Nat.add_mul_div_left _ _ (by decide : 0 < 2 ^ 64), Nat.div_eq_of_lt (h x List.mem_cons_self), Nat.zero_add,
      valL_win xs m low (fun d hd => h d (List.mem_cons_of_mem _ hd)) hl]
    rfl

def L8 (f : Nat → Nat) : Nat := valL 64 ((List.range 8).map f)

theorem getD8 (f : Nat → Nat) : ∀ m, ((List.range 8).map f).getD m 0 = if m < 8 then f m else 0
  | 0 | 1 | 2 | 3 | 4 | 5 | 6 | 7 => rfl
  | m + 8 => by rw [if_neg (by omega)]; rfl

theorem win_f (f : Nat → Nat) (hf : ∀ i, i < 8 → f i < 2 ^ 64) (m low : Nat) (hlow : low < 64) :
    L8 f / 2 ^ (64 * m + low) % 2 ^ 64 =
      if m < 8 then f m / 2 ^ low + ((if m + 1 < 8 then f (m + 1) else 0) % 2 ^ low) * 2 ^ (64 - low) else 0 := by
  rw [L8, valL_win _ m low (fun d hd => by obtain ⟨i, hi, rfl⟩ := List.mem_map.1 hd; exact hf i (List.mem_range.1 hi)) hlow,
    getD8, getD8]
  by_cases hm : m < 8
  · rw [if_pos hm, if_pos hm]
  · rw [if_neg hm, if_neg hm, if_neg (by omega), Nat.zero_div, Nat.zero_mod, Nat.zero_mul]

theorem bit_f (f : Nat → Nat) (hf : ∀ i, i < 8 → f i < 2 ^ 64) (m t : Nat) (hm : m < 8) (ht : t < 64) :
    L8 f / 2 ^ (64 * m + t) % 2 = f m / 2 ^ t % 2 := by
  have h := win_f f hf m t ht
  rw [if_pos hm] at h
  have e : 2 ^ (64 - t) = 2 * 2 ^ (63 - t) := by rw [← Nat.pow_succ']; congr 1; omega
  rw [← Nat.mod_mod_of_dvd (L8 f / 2 ^ (64 * m + t)) (show 2 ∣ 2 ^ 64 by decide), h, e]
  rw [show ∀ a b c : Nat, a + b * (2 * c) = a + 2 * (b * c) by intros; ring, Nat.add_mul_mod_self_left]

theorem shr_or_shl (x y low : Nat) (hx : x < 2 ^ 64) (hlow : low < 64) :
    (x / 2 ^ low) ||| (y * 2 ^ (64 - low) % 2 ^ 64) = x / 2 ^ low + (y % 2 ^ low) * 2 ^ (64 - low) := by
  have hpq := two_pow_split (Nat.le_of_lt hlow)
  have h1 : x / 2 ^ low < 2 ^ (64 - low) := by
    apply Nat.div_lt_of_lt_mul; rw [hpq]; exact hx
  have e : y * 2 ^ (64 - low) % 2 ^ 64 = (y % 2 ^ low) * 2 ^ (64 - low) := by
    rw [← hpq, Nat.mul_mod_mul_right]
  rw [e, Nat.or_comm, FieldKernel.shl_or _ _ _ h1, Nat.add_comm]

theorem sub32_small (a b : Nat) (hb : b ≤ a) (ha : a < 2 ^ 32) : binWrap BinOp.sub 32 a b = a - b := by
  simp only [binWrap_sub]; omega

theorem add32_small (a b : Nat) (h : a + b < 2 ^ 32) : binWrap BinOp.add 32 a b = a + b := by
  simp only [binWrap_add]; omega

theorem shr6 (s : Nat) : binWrap BinOp.shr 32 s 6 = s / 64 := rfl

theorem and63 (s : Nat) : binWrap BinOp.and 32 s 63 = s % 64 := Nat.and_two_pow_sub_one_eq_mod s 6

theorem lt_ne_zero (a b : Nat) : (¬binWrap BinOp.lt 32 a b = 0) ↔ a < b := by
  simp only [binWrap_lt]; split <;> simp [*]

theorem ne_lt_ne_zero (a b : Nat) : (¬binWrap BinOp.ne 32 (binWrap BinOp.lt 32 a b) 0 = 0) ↔ a < b := by
  simp only [binWrap_lt, binWrap_ne]; split <;> simp [*]

-- no proof applies it
theorem ne0_ne_zero (a : Nat) : (¬binWrap BinOp.ne 32 a 0 = 0) ↔ a ≠ 0 := by
  simp only [binWrap_ne]; split <;> simp [*]

/-- `r->d[j]` for `j = 0, 1, 2` (thresholds `T1 = 512 - 64j`, `T2 = 448 - 64j`), exactly as the C code computes it
    (guards included), is the 64-bit window of the product at bit offset `shift + 64j` — for every
    `256 ≤ shift ≤ 512`.  `j1`, `T1`, `T2` are variables with equations because the three instances are matched by `rw`
    against the literals of the generated code (`1`/`512`/`448`, …). -/
theorem limb_spec (f : Nat → Nat) (hf : ∀ i, i < 8 → f i < 2 ^ 64) (s j j1 T1 T2 : Nat)
    (hs : 256 ≤ s) (hs' : s ≤ 512) (hj : j ≤ 2) (hj1 : j1 = j + 1) (hT1 : T1 = 512 - 64 * j) (hT2 : T2 = 448 - 64 * j) :
    (if ¬binWrap BinOp.lt 32 s T1 = 0 then
      binWrap BinOp.or 64
        (binWrap BinOp.shr 64 (f (binWrap BinOp.add 32 j (binWrap BinOp.shr 32 s 6))) (binWrap BinOp.and 32 s 63))
        (if ¬(if ¬binWrap BinOp.ne 32 (binWrap BinOp.lt 32 s T2) 0 = 0 then
                binWrap BinOp.ne 32 (binWrap BinOp.and 32 s 63) 0 else 0) = 0 then
          binWrap BinOp.shl 64 (f (binWrap BinOp.add 32 j1 (binWrap BinOp.shr 32 s 6)))
            (binWrap BinOp.sub 32 64 (binWrap BinOp.and 32 s 63))
        else 0)
    else 0) = L8 f / 2 ^ (s + 64 * j) % 2 ^ 64 := by
  have hlow : s % 64 < 64 := Nat.mod_lt _ (by decide)
  have eS : s + 64 * j = 64 * (j + s / 64) + s % 64 := by omega
  rw [eS, win_f f hf _ _ hlow]
  simp only [shr6, and63, lt_ne_zero, ne_lt_ne_zero]
  rw [add32_small j (s / 64) (by omega), add32_small j1 (s / 64) (by omega),
    sub32_small 64 (s % 64) (by omega) (by decide)]
  simp only [binWrap_or, binWrap_shr, binWrap_shl]
  by_cases c1 : s < T1
  · have hm : j + s / 64 < 8 := by omega
    rw [if_pos c1, if_pos hm]
    by_cases c2 : s < T2
    · have hm' : j + s / 64 + 1 < 8 := by omega
      rw [if_pos c2, if_pos hm', hj1]
      by_cases c3 : s % 64 = 0
      · have : binWrap BinOp.ne 32 (s % 64) 0 = 0 := by simp [binWrap_ne, c3]
        rw [this, if_neg (by simp), c3]
        simp [Nat.mod_one]
      · have : binWrap BinOp.ne 32 (s % 64) 0 = 1 := by simp [binWrap_ne, c3]
        rw [this, if_pos (by simp)]
        have e : j + 1 + s / 64 = j + s / 64 + 1 := by omega
        rw [e]
        exact shr_or_shl _ _ _ (hf _ hm) hlow
    · have hm' : ¬ j + s / 64 + 1 < 8 := by omega
      rw [if_neg c2, if_neg hm', if_neg (by simp)]
      simp
  · have hm : ¬ j + s / 64 < 8 := by omega
    rw [if_neg c1, if_neg hm]

/-- `r->d[3]`, as the C code computes it, is the window at bit offset `shift + 192` -/
theorem limb3_spec (f : Nat → Nat) (hf : ∀ i, i < 8 → f i < 2 ^ 64) (s : Nat) (hs : 256 ≤ s) (hs' : s ≤ 512) :
    (if ¬binWrap BinOp.lt 32 s 320 = 0 then
      binWrap BinOp.shr 64 (f (binWrap BinOp.add 32 3 (binWrap BinOp.shr 32 s 6))) (binWrap BinOp.and 32 s 63)
    else 0) = L8 f / 2 ^ (s + 64 * 3) % 2 ^ 64 := by
  have hlow : s % 64 < 64 := Nat.mod_lt _ (by decide)
  have eS : s + 64 * 3 = 64 * (3 + s / 64) + s % 64 := by omega
  rw [eS, win_f f hf _ _ hlow]
  simp only [shr6, and63, lt_ne_zero]
  rw [add32_small 3 (s / 64) (by omega)]
  simp only [binWrap_shr]
  by_cases c1 : s < 320
  · have hm : 3 + s / 64 < 8 := by omega
    have hm' : ¬ 3 + s / 64 + 1 < 8 := by omega
    rw [if_pos c1, if_pos hm, if_neg hm']
    simp
  · have hm : ¬ 3 + s / 64 < 8 := by omega
    rw [if_neg c1, if_neg hm]

/-- the rounding bit `(l[(shift-1) >> 6] >> ((shift-1) & 0x3f)) & 1`, converted to `int`, is bit `shift - 1` of the
    product -/
theorem flag_spec (f : Nat → Nat) (hf : ∀ i, i < 8 → f i < 2 ^ 64) (s : Nat) (hs : 256 ≤ s) (hs' : s ≤ 512) :
    binWrap BinOp.and 64
        (binWrap BinOp.shr 64 (f (binWrap BinOp.shr 32 (binWrap BinOp.sub 32 s 1) 6))
          (binWrap BinOp.and 32 (binWrap BinOp.sub 32 s 1) 63)) 1 % 2 ^ 32 = L8 f / 2 ^ (s - 1) % 2 := by
  rw [sub32_small s 1 (by omega) (by omega)]
  simp only [shr6, and63]
  simp only [binWrap_and, binWrap_shr, Nat.and_one_is_mod]
  have eS : s - 1 = 64 * ((s - 1) / 64) + (s - 1) % 64 := by omega
  conv => rhs; rw [eS]
  rw [bit_f f hf _ _ (by omega) (Nat.mod_lt _ (by decide))]
  omega

/-- the four windows and the rounding bit: adding the bit does not overflow 256 bits and rounds the quotient -/
theorem mulshift_arith (f : Nat → Nat) (s : Nat) (hs : 256 ≤ s) (hs' : s ≤ 512)
    (hL : L8 f ≤ (2 ^ 256 - 1) * (2 ^ 256 - 1)) {r0 r1 r2 r3 flag : Nat}
    (r0_def : r0 = L8 f / 2 ^ (s + 64 * 0) % 2 ^ 64) (r1_def : r1 = L8 f / 2 ^ (s + 64 * 1) % 2 ^ 64)
    (r2_def : r2 = L8 f / 2 ^ (s + 64 * 2) % 2 ^ 64) (r3_def : r3 = L8 f / 2 ^ (s + 64 * 3) % 2 ^ 64)
    (flag_def : flag = L8 f / 2 ^ (s - 1) % 2) :
    -- `flag * 2 ^ 0`: the form in which `cadd_run` states the sum, at `bit = 0`
    flag ≤ 1 ∧ val4 r0 r1 r2 r3 + flag * 2 ^ 0 < 2 ^ 256 ∧
      val4 r0 r1 r2 r3 + flag * 2 ^ 0 = (L8 f + 2 ^ (s - 1)) / 2 ^ s := by
  have hX256 : L8 f / 2 ^ s ≤ 2 ^ 256 - 2 := by
    have h1 : L8 f / 2 ^ s ≤ L8 f / 2 ^ 256 :=
      Nat.div_le_div_left (Nat.pow_le_pow_right (by decide) hs) (Nat.pow_pos (by decide))
    have h2 : L8 f / 2 ^ 256 ≤ (2 ^ 256 - 1) * (2 ^ 256 - 1) / 2 ^ 256 := Nat.div_le_div_right hL
    have h3 : (2 ^ 256 - 1) * (2 ^ 256 - 1) / 2 ^ 256 = 2 ^ 256 - 2 := by decide
    omega
  have hval : val4 r0 r1 r2 r3 = L8 f / 2 ^ s := by
    rw [r0_def, r1_def, r2_def, r3_def]
    simp only [Nat.pow_add, ← Nat.div_div_eq_div_mul, Nat.mul_zero, Nat.pow_zero, Nat.div_one, Nat.reduceMul]
    exact val4_windows _ (by omega)
  have hflag : flag ≤ 1 := by rw [flag_def]; omega
  rw [hval, round_div _ _ (by omega), ← flag_def]
  omega

end MulShift
end SecpZkp
