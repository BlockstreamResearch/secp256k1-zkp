import SecpZkp.Model.Musig
/-
  Helper lemmas for property C13 ("a MuSig secret nonce can sign at most once"): the outcomes of
  `partialSign` and of the nonce generators as case lists (`partialSign_cases`, `nonceGen*_cases`), and
  what one step of the two-slot history machine does to the slot it names and to the other slot.
  Core Lean only.
-/
namespace SecpZkp
namespace Musig


/-- The two `ARG_CHECK`s of `secp256k1_musig_secnonce_load`. -/
theorem secnonceLoad_eq (sn : Secnonce) :
    secnonceLoad sn = if sn.magic = secnonceMagic ∧ ¬ (sn.k1 = 0 ∧ sn.k2 = 0)
      then some (sn.k1 % N, sn.k2 % N, sn.pk) else none := by
  unfold secnonceLoad
  by_cases hm : sn.magic = secnonceMagic <;> by_cases hz : sn.k1 = 0 ∧ sn.k2 = 0 <;> simp [hm, hz]

theorem secnonceLoad_zero : secnonceLoad Secnonce.zero = none := by decide

theorem Secnonce.zero_isZero : Secnonce.zero.isZero = true := by decide

theorem secnonceLoad_bad_magic {sn : Secnonce} (h : sn.magic ≠ secnonceMagic) : secnonceLoad sn = none := by
  rw [secnonceLoad_eq, if_neg fun hl => h hl.1]

theorem secnonceLoad_zero_scalars {sn : Secnonce} (h1 : sn.k1 = 0) (h2 : sn.k2 = 0) : secnonceLoad sn = none := by
  rw [secnonceLoad_eq, if_neg fun hl => hl.2 ⟨h1, h2⟩]

theorem secnonceLoad_isZero {sn : Secnonce} (h : sn.isZero = true) : secnonceLoad sn = none := by
  apply secnonceLoad_bad_magic
  intro hm
  simp only [Secnonce.isZero, Bool.and_eq_true, hm] at h
  exact absurd h.1.1.1 (by decide)

theorem secnonceLoad_some {sn : Secnonce} {k1 k2 : Nat} {pk : Pt} (h : secnonceLoad sn = some (k1, k2, pk)) :
    sn.magic = secnonceMagic ∧ ¬ (sn.k1 = 0 ∧ sn.k2 = 0) ∧ k1 = sn.k1 % N ∧ k2 = sn.k2 % N ∧ pk = sn.pk := by
  rw [secnonceLoad_eq] at h
  split at h
  · rename_i hl
    cases h
    exact ⟨hl.1, hl.2, rfl, rfl, rfl⟩
  · cases h

theorem secnonceLoad_isSome_iff (sn : Secnonce) :
    (secnonceLoad sn).isSome = true ↔ sn.magic = secnonceMagic ∧ ¬ (sn.k1 = 0 ∧ sn.k2 = 0) := by
  rw [secnonceLoad_eq]
  by_cases hl : sn.magic = secnonceMagic ∧ ¬ (sn.k1 = 0 ∧ sn.k2 = 0)
  · rw [if_pos hl]; exact ⟨fun _ => hl, fun _ => rfl⟩
  · rw [if_neg hl]; exact ⟨fun h => absurd h (by decide), fun h => absurd h hl⟩

theorem secnonceSave_ne_zero (k1 k2 : Nat) (pk : Pt) : secnonceSave k1 k2 pk ≠ Secnonce.zero :=
  fun h => absurd (show secnonceMagic = Bytes.zeros 4 from congrArg Secnonce.magic h) (by decide)


theorem keypairLoad_cases (kp : Keys.Keypair) :
    Keys.keypairLoad kp true = (false, 1, Pt.G, 1) ∨
    ∃ sk, kp.pk ≠ Pt.inf ∧ Keys.keypairLoad kp true = (true, sk, kp.pk, 0) := by
  unfold Keys.keypairLoad
  cases kp.pk with
  | inf => exact Or.inl rfl
  | aff x y =>
    cases hs : Sc.setB32Seckey kp.sk with
    | mk d ok =>
      cases ok
      · exact Or.inl rfl
      · exact Or.inr ⟨d, Pt.noConfusion, rfl⟩

/-- `ARG_CHECK(secnonce != NULL)` is the first statement of the C function. -/
theorem partialSign_null (w : Bool) (kp : Option Keys.Keypair) (c : Option KeyaggCache) (s : Option Session) :
    partialSign w none kp c s = ⟨0, ⟨none, none⟩, 1⟩ := rfl

/-- Every failure path gives the same triple, whichever check fails.  `kp'.pk = sn.pk` is equality of points, i.e. of both
    coordinates (two `fe_equal` in the C code). -/
theorem partialSign_cases (w : Bool) (sn : Secnonce) (kp : Option Keys.Keypair) (c : Option KeyaggCache)
    (s : Option Session) :
    partialSign w (some sn) kp c s = ⟨0, ⟨none, some Secnonce.zero⟩, 1⟩ ∨
    ∃ sig, partialSign w (some sn) kp c s = ⟨1, ⟨some sig, some Secnonce.zero⟩, 0⟩ ∧
      ∃ kp' c' ci s' si, sn.magic = secnonceMagic ∧ ¬ (sn.k1 = 0 ∧ sn.k2 = 0) ∧ w = true ∧
        kp = some kp' ∧ kp'.pk = sn.pk ∧ kp'.pk ≠ Pt.inf ∧
        c = some c' ∧ cacheLoad c' = some ci ∧ s = some s' ∧ sessionLoad s' = some si := by
  unfold partialSign
  dsimp only
  cases hl : secnonceLoad sn with
  | none => exact Or.inl rfl
  | some v =>
    obtain ⟨k1, k2, pk⟩ := v
    obtain ⟨hm, hz, -, -, rfl⟩ := secnonceLoad_some hl
    cases w
    · exact Or.inl rfl
    cases kp with
    | none => exact Or.inl rfl
    | some kp' =>
    cases c with
    | none => exact Or.inl rfl
    | some c' =>
    cases s with
    | none => exact Or.inl rfl
    | some s' =>
    dsimp only
    rcases keypairLoad_cases kp' with hk | ⟨sk, hne, hk⟩
    · rw [hk]; exact Or.inl rfl
    rw [hk]
    by_cases hpk : sn.pk = kp'.pk
    case neg => exact Or.inl (by simp [hpk])
    cases hci : cacheLoad c' with
    | none => exact Or.inl (by simp [hpk])
    | some ci =>
    cases hsi : sessionLoad s' with
    | none => exact Or.inl (by simp [hpk])
    | some si =>
      exact Or.inr ⟨_, by simp [hpk]; rfl, kp', c', ci, s', si, hm, hz, rfl, rfl, hpk.symm, hne, rfl, hci, rfl, hsi⟩

theorem partialSign_wipes (w : Bool) (sn : Secnonce) (kp : Option Keys.Keypair) (c : Option KeyaggCache)
    (s : Option Session) :
    (partialSign w (some sn) kp c s).out.secnonce = some Secnonce.zero := by
  rcases partialSign_cases w sn kp c s with h | ⟨_, h, _⟩ <;> rw [h]

theorem partialSign_dead (w : Bool) {sn : Secnonce} (kp : Option Keys.Keypair) (c : Option KeyaggCache)
    (s : Option Session) (h : secnonceLoad sn = none) :
    partialSign w (some sn) kp c s = ⟨0, ⟨none, some Secnonce.zero⟩, 1⟩ := by
  unfold partialSign
  simp [h]

theorem partialSign_ret_illegal (w : Bool) (sn : Option Secnonce) (kp : Option Keys.Keypair) (c : Option KeyaggCache)
    (s : Option Session) :
    ((partialSign w sn kp c s).ret = 1 ∧ (partialSign w sn kp c s).illegal = 0) ∨
    ((partialSign w sn kp c s).ret = 0 ∧ (partialSign w sn kp c s).illegal = 1) := by
  cases sn with
  | none => exact Or.inr ⟨rfl, rfl⟩
  | some sn =>
    rcases partialSign_cases w sn kp c s with h | ⟨_, h, _⟩ <;> rw [h]
    · exact Or.inr ⟨rfl, rfl⟩
    · exact Or.inl ⟨rfl, rfl⟩

theorem partialSign_ret01 (w : Bool) (sn : Option Secnonce) (kp : Option Keys.Keypair) (c : Option KeyaggCache)
    (s : Option Session) :
    (partialSign w sn kp c s).ret = 0 ∨ (partialSign w sn kp c s).ret = 1 :=
  (partialSign_ret_illegal w sn kp c s).symm.imp And.left And.left

theorem partialSign_sig_iff (w : Bool) (sn : Option Secnonce) (kp : Option Keys.Keypair) (c : Option KeyaggCache)
    (s : Option Session) :
    (partialSign w sn kp c s).out.sig.isSome = true ↔ (partialSign w sn kp c s).ret = 1 := by
  cases sn with
  | none => simp [partialSign_null]
  | some sn =>
    rcases partialSign_cases w sn kp c s with h | ⟨_, h, _⟩ <;> rw [h] <;> simp

theorem partialSign_fail_no_sig (w : Bool) (sn : Option Secnonce) (kp : Option Keys.Keypair) (c : Option KeyaggCache)
    (s : Option Session) (h : (partialSign w sn kp c s).ret ≠ 1) :
    (partialSign w sn kp c s).out.sig = none := by
  have := partialSign_sig_iff w sn kp c s
  cases hs : (partialSign w sn kp c s).out.sig with
  | none => rfl
  | some v => rw [hs] at this; exact absurd (this.1 rfl) h


theorem nonceFunction_lt (secrand : Bytes) (msg32 seckey32 : Option Bytes) (pk33 : Bytes) (aggPk32 extra32 : Option Bytes) :
    (nonceFunction secrand msg32 seckey32 pk33 aggPk32 extra32).1 < N ∧
    (nonceFunction secrand msg32 seckey32 pk33 aggPk32 extra32).2 < N :=
  ⟨Nat.mod_lt _ (by decide), Nat.mod_lt _ (by decide)⟩

theorem nonceGenInternal_cases (wp : Bool) (inp : Bytes) (sk : Option Bytes) (pk : Option Pt) (msg : Option Bytes)
    (c : Option KeyaggCache) (ex : Option Bytes) :
    ((nonceGenInternal wp inp sk pk msg c ex).ret = 0 ∧
      (nonceGenInternal wp inp sk pk msg c ex).out.secnonce.getD Secnonce.zero = Secnonce.zero) ∨
    ∃ k1 k2 p, nonceGenInternal wp inp sk pk msg c ex =
        ⟨1, ⟨some (secnonceSave k1 k2 p), some (pubnonceSave (Pt.mulG k1) (Pt.mulG k2))⟩, 0⟩ ∧
      k1 < N ∧ k2 < N ∧ wp = true ∧ pk = some p ∧ p ≠ Pt.inf := by
  unfold nonceGenInternal
  cases wp
  · exact Or.inl ⟨rfl, rfl⟩
  cases pk with
  | none => exact Or.inl ⟨rfl, rfl⟩
  | some p =>
  simp only [Bool.not_true, Bool.false_eq_true, if_false]
  split
  · exact Or.inl ⟨rfl, rfl⟩
  cases p with
  | inf => exact Or.inl ⟨rfl, rfl⟩
  | aff x y =>
    cases sk with
    | none => exact Or.inr ⟨_, _, _, rfl, (nonceFunction_lt ..).1, (nonceFunction_lt ..).2, trivial, rfl, Pt.noConfusion⟩
    | some d =>
      by_cases hd : (Sc.setB32Seckey d).2 = true
      · simp only [hd, if_true]
        exact Or.inr ⟨_, _, _, rfl, (nonceFunction_lt ..).1, (nonceFunction_lt ..).2, trivial, rfl, Pt.noConfusion⟩
      · simp only [hd]
        exact Or.inl ⟨rfl, rfl⟩

theorem nonceGen_cases (ws wp : Bool) (sr sk : Option Bytes) (pk : Option Pt) (msg : Option Bytes)
    (c : Option KeyaggCache) (ex : Option Bytes) :
    ((nonceGen ws wp sr sk pk msg c ex).ret = 0 ∧ (nonceGen ws wp sr sk pk msg c ex).out.secrand = sr ∧
      (ws = true → (nonceGen ws wp sr sk pk msg c ex).out.secnonce = some Secnonce.zero)) ∨
    ∃ k1 k2 p r, nonceGen ws wp sr sk pk msg c ex =
        ⟨1, ⟨some (secnonceSave k1 k2 p), some (pubnonceSave (Pt.mulG k1) (Pt.mulG k2)), some (Bytes.zeros 32)⟩, 0⟩ ∧
      k1 < N ∧ k2 < N ∧ ws = true ∧ pk = some p ∧ p ≠ Pt.inf ∧ sr = some r ∧ Bytes.isZero r = false := by
  unfold nonceGen
  cases ws
  · exact Or.inl ⟨rfl, rfl, fun h => absurd h (by decide)⟩
  cases sr with
  | none => exact Or.inl ⟨rfl, rfl, fun _ => rfl⟩
  | some r =>
    dsimp only
    cases hz : Bytes.isZero r
    case true => exact Or.inl ⟨rfl, rfl, fun _ => rfl⟩
    rcases nonceGenInternal_cases wp r sk pk msg c ex with ⟨h0, hsn⟩ | ⟨k1, k2, p, he, h1, h2, -, hp, hp0⟩
    · exact Or.inl (by simp [h0, hsn])
    · exact Or.inr ⟨k1, k2, p, r, by simp [he], h1, h2, rfl, hp, hp0, rfl, hz⟩

theorem nonceGenCounter_cases (ws wp : Bool) (cnt : Nat) (kp : Option Keys.Keypair) (msg : Option Bytes)
    (c : Option KeyaggCache) (ex : Option Bytes) :
    ((nonceGenCounter ws wp cnt kp msg c ex).ret = 0 ∧
      (ws = true → (nonceGenCounter ws wp cnt kp msg c ex).out.secnonce = some Secnonce.zero)) ∨
    ∃ k1 k2 kp', nonceGenCounter ws wp cnt kp msg c ex =
        ⟨1, ⟨some (secnonceSave k1 k2 kp'.pk), some (pubnonceSave (Pt.mulG k1) (Pt.mulG k2)), none⟩, 0⟩ ∧
      k1 < N ∧ k2 < N ∧ ws = true ∧ kp = some kp' ∧ kp'.pk ≠ Pt.inf := by
  unfold nonceGenCounter
  cases ws
  · exact Or.inl ⟨rfl, fun h => absurd h (by decide)⟩
  cases kp with
  | none => exact Or.inl ⟨rfl, fun _ => rfl⟩
  | some kp' =>
    dsimp only
    rcases nonceGenInternal_cases wp (Bytes.be8 cnt ++ Bytes.zeros 24) (some kp'.sk) (some kp'.pk) msg c ex with
      ⟨h0, hsn⟩ | ⟨k1, k2, p, he, h1, h2, -, hp, hp0⟩
    · exact Or.inl (by simp [h0, hsn])
    · cases hp
      exact Or.inr ⟨k1, k2, kp', by simp [he], h1, h2, rfl, rfl, hp0⟩

/-- two slot numbers name the same of the two slots (`0` = slot 0, anything else = slot 1) -/
def SameSlot (i j : Nat) : Prop := (i = 0 ↔ j = 0)

instance (i j : Nat) : Decidable (SameSlot i j) := by unfold SameSlot; infer_instance

theorem SameSlot.refl (i : Nat) : SameSlot i i := Iff.rfl
theorem SameSlot.symm {i j : Nat} (h : SameSlot i j) : SameSlot j i := Iff.symm h

theorem get_set (st : HistState) (i j : Nat) (v : Secnonce) :
    (st.set i v).get j = if SameSlot i j then v else st.get j := by
  unfold SameSlot HistState.set HistState.get
  by_cases hi : i = 0 <;> by_cases hj : j = 0 <;> simp [hi, hj]

theorem get_set_same (st : HistState) {i j : Nat} (v : Secnonce) (h : SameSlot i j) :
    (st.set i v).get j = v := by rw [get_set, if_pos h]

theorem get_set_other (st : HistState) {i j : Nat} (v : Secnonce) (h : ¬ SameSlot i j) :
    (st.set i v).get j = st.get j := by rw [get_set, if_neg h]

@[simp] theorem get_set_self (st : HistState) (i : Nat) (v : Secnonce) : (st.set i v).get i = v :=
  get_set_same st v (SameSlot.refl i)

theorem get_congr (st : HistState) {i j : Nat} (h : SameSlot i j) : st.get i = st.get j := by
  unfold SameSlot at h
  unfold HistState.get
  by_cases hi : i = 0 <;> by_cases hj : j = 0 <;> simp_all

theorem init_get (k : Nat) : HistState.init.get k = Secnonce.zero := by
  unfold HistState.get HistState.init; split <;> rfl

/-- the state a `sign` step hands to the library: after the caller-side manipulation -/
def preSign (st : HistState) (slot : Nat) : SignMode → HistState
  | .zeroed => st.set slot Secnonce.zero
  | .badMagic => st.set slot { st.get slot with magic := flipFirst (st.get slot).magic }
  | _ => st

/-- the library call of a `sign` step whose mode passes a non-NULL secnonce pointer -/
def signCall (su : HistSetup) (sn : Secnonce) : SignMode → Ret SignOut
  | .ok | .zeroed | .badMagic => partialSign true (some sn) (some su.kp) (some su.cache) (some su.session)
  | .session2 => partialSign true (some sn) (some su.kp) (some su.cache) (some su.session2)
  | .wrongKp => partialSign true (some sn) (some su.kp2) (some su.cache) (some su.session)
  | .negKp => partialSign true (some sn) (some (negKeypair su.kp)) (some su.cache) (some su.session)
  | .zeroKp => partialSign true (some sn) (some Keys.Keypair.zero) (some su.cache) (some su.session)
  | .nullOut => partialSign false (some sn) (some su.kp) (some su.cache) (some su.session)
  | .nullKp => partialSign true (some sn) none (some su.cache) (some su.session)
  | .nullCache => partialSign true (some sn) (some su.kp) none (some su.session)
  | .nullSession => partialSign true (some sn) (some su.kp) (some su.cache) none
  | .badCache => partialSign true (some sn) (some su.kp) (some (badCacheOf su.cache)) (some su.session)
  | .badSession => partialSign true (some sn) (some su.kp) (some su.cache) (some (badSessionOf su.session))
  | .nullNonce => partialSign true none (some su.kp) (some su.cache) (some su.session)

theorem runStep_sign (su : HistSetup) (j : Nat) (st : HistState) (slot : Nat) (m : SignMode) :
    runStep su j st (.sign slot m) =
      let st0 := preSign st slot m
      let r := signCall su (st0.get slot) m
      ((match r.out.secnonce with
        | some sn' => st0.set slot sn'
        | none => st0),
       ⟨r.ret, r.illegal, none, if r.ret = 1 then r.out.sig.map (·.s) else none⟩) := by
  cases m <;> rfl

theorem signCall_nullNonce (su : HistSetup) (sn : Secnonce) :
    signCall su sn .nullNonce = ⟨0, ⟨none, none⟩, 1⟩ := rfl

theorem signCall_elim {P : Ret SignOut → Prop} (su : HistSetup) (sn : Secnonce) {m : SignMode} (hm : m ≠ .nullNonce)
    (h : ∀ w kp c s, P (partialSign w (some sn) kp c s)) : P (signCall su sn m) := by
  cases m <;> first | exact absurd rfl hm | (unfold signCall; exact h _ _ _ _)

theorem set_set (st : HistState) (i : Nat) (v w : Secnonce) : (st.set i v).set i w = st.set i w := by
  unfold HistState.set; split <;> rfl

theorem preSign_set (st : HistState) (slot : Nat) (m : SignMode) (v : Secnonce) :
    (preSign st slot m).set slot v = st.set slot v := by
  cases m <;> first | rfl | exact set_set ..

theorem preSign_dead {st : HistState} {slot : Nat} (m : SignMode) (h : st.get slot = Secnonce.zero) :
    secnonceLoad ((preSign st slot m).get slot) = none := by
  cases m
  case zeroed => simp only [preSign, get_set_self]; rfl
  case badMagic => simp only [preSign, get_set_self, h]; exact secnonceLoad_bad_magic (by decide)
  all_goals (simp only [preSign, h]; rfl)

/-- All that `Props/C13` uses about a signing step: outside the NULL-pointer mode the slot is all-zero afterwards whatever
    `partial_sign` returned, the rest of the state is untouched, and a slot that was all-zero does not sign (also after the
    caller-side tampering of `preSign`). -/
theorem sign_step_eq (su : HistSetup) (j : Nat) (st : HistState) (slot : Nat) (m : SignMode) :
    (m = .nullNonce ∧ runStep su j st (.sign slot m) = (st, ⟨0, 1, none, none⟩)) ∨
    (m ≠ .nullNonce ∧ ∃ r : Ret SignOut, (r.ret = 0 ∨ r.ret = 1) ∧ (st.get slot = Secnonce.zero → r.ret = 0) ∧
      runStep su j st (.sign slot m) =
        (st.set slot Secnonce.zero, ⟨r.ret, r.illegal, none, if r.ret = 1 then r.out.sig.map (·.s) else none⟩)) := by
  by_cases hm : m = .nullNonce
  · subst hm; exact Or.inl ⟨rfl, rfl⟩
  refine Or.inr ⟨hm, signCall su ((preSign st slot m).get slot) m, ?_, fun h => ?_, ?_⟩
  · exact signCall_elim (P := fun r => r.ret = 0 ∨ r.ret = 1) su _ hm fun _ _ _ _ => partialSign_ret01 ..
  · exact signCall_elim (P := fun r => r.ret = 0) su _ hm fun _ _ _ _ => by
      rw [partialSign_dead _ _ _ _ (preSign_dead m h)]
  · rw [runStep_sign]
    simp only [signCall_elim (P := fun r => r.out.secnonce = some Secnonce.zero) su _ hm fun _ _ _ _ =>
      partialSign_wipes .., preSign_set]

theorem sign_step_ret01 (su : HistSetup) (j : Nat) (st : HistState) (slot : Nat) (m : SignMode) :
    (runStep su j st (.sign slot m)).2.ret = 0 ∨ (runStep su j st (.sign slot m)).2.ret = 1 := by
  rcases sign_step_eq su j st slot m with ⟨-, h⟩ | ⟨-, r, h01, -, h⟩ <;> rw [h]
  · exact Or.inl rfl
  · exact h01

theorem runHistory_cons (su : HistSetup) (j : Nat) (st : HistState) (s : Step) (rest : List Step) :
    runHistory su j st (s :: rest) =
      ((runHistory su (j + 1) (runStep su j st s).1 rest).1,
       ((runStep su j st s).2, (runStep su j st s).1.slot0.isZero, (runStep su j st s).1.slot1.isZero) ::
         (runHistory su (j + 1) (runStep su j st s).1 rest).2) := rfl

theorem runHistory_nil (su : HistSetup) (j : Nat) (st : HistState) : runHistory su j st [] = (st, []) := rfl

theorem runHistory_append_fst (su : HistSetup) (j : Nat) (st : HistState) (a b : List Step) :
    (runHistory su j st (a ++ b)).1 = (runHistory su (j + a.length) (runHistory su j st a).1 b).1 := by
  induction a generalizing j st with
  | nil => simp [runHistory_nil]
  | cons s a ih =>
    simp only [List.cons_append, runHistory_cons, List.length_cons]
    rw [ih]
    congr 2
    omega

theorem runHistory_length (su : HistSetup) (j : Nat) (st : HistState) (steps : List Step) :
    (runHistory su j st steps).2.length = steps.length := by
  induction steps generalizing j st with
  | nil => rfl
  | cons s rest ih => simp [runHistory_cons, ih]

end Musig
end SecpZkp
