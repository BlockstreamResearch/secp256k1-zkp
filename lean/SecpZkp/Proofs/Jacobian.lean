import SecpZkp.Proofs.Affine
/-
  The Jacobian-coordinate formulas (`Jac.dbl`, `Jac.addAff`, `Jac.mulAux`) used to execute `Pt.mul`
  compute the same canonical affine points as the affine specification (`Pt.dbl`, `Pt.add`,
  `Pt.mulSpec`).
-/
namespace SecpZkp
open Pt

section PrimeP
variable [Fact (Nat.Prime P)]

theorem aff_eq_of_cast {a b c d : ℕ} (ha : a < P) (hb : b < P) (hc : c < P) (hd : d < P)
    (h1 : (a : ZMod P) = c) (h2 : (b : ZMod P) = d) : Pt.aff a b = Pt.aff c d := by
  rw [Fe.eq_of_cast_eq ha hc h1, Fe.eq_of_cast_eq hb hd h2]

namespace Pt.Jac

omit [Fact (Nat.Prime P)] in
theorem toPt_mk_zero {x y z : ℕ} (h : z % P = 0) : Jac.toPt ⟨x, y, z⟩ = .inf := by
  unfold Jac.toPt; rw [if_pos h]

omit [Fact (Nat.Prime P)] in
theorem toPt_mk_ne {x y z : ℕ} (h : z % P ≠ 0) : Jac.toPt ⟨x, y, z⟩ =
    .aff (Fe.mul x (Fe.sqr (Fe.inv z))) (Fe.mul y (Fe.mul (Fe.sqr (Fe.inv z)) (Fe.inv z))) := by
  unfold Jac.toPt; rw [if_neg h]

omit [Fact (Nat.Prime P)] in
theorem toPt_infinity : Jac.toPt Jac.infinity = .inf := toPt_mk_zero (by decide)

theorem toPt_dbl (j : Jac) : (Jac.dbl j).toPt = Pt.dbl j.toPt := by
  obtain ⟨x, y, z⟩ := j
  by_cases hz : z % P = 0
  · have : Jac.dbl ⟨x, y, z⟩ = Jac.infinity := by
      unfold Jac.dbl; rw [if_pos (Or.inl hz)]
    rw [this, toPt_mk_zero hz, toPt_infinity]; rfl
  · by_cases hy : y % P = 0
    · have : Jac.dbl ⟨x, y, z⟩ = Jac.infinity := by
        unfold Jac.dbl; rw [if_pos (Or.inr hy)]
      rw [this, toPt_infinity, toPt_mk_ne hz, Pt.dbl, if_pos]
      rw [← Fe.cast_eq_zero_iff, Fe.cast_mul, (Fe.cast_eq_zero_iff _).2 hy, zero_mul]
    · have hzc := cast_ne_zero_of_mod hz
      have hyc := cast_ne_zero_of_mod hy
      have h2 : (2 : ZMod P) ≠ 0 := zmodP_two_ne_zero
      have hz3 : Fe.mul 2 (Fe.mul y z) % P ≠ 0 := by
        apply mod_ne_zero_of_cast
        simp only [Fe.cast_mul, Nat.cast_ofNat]
        exact mul_ne_zero h2 (mul_ne_zero hyc hzc)
      have hY : Fe.mul y (Fe.mul (Fe.sqr (Fe.inv z)) (Fe.inv z)) % P ≠ 0 := by
        apply mod_ne_zero_of_cast
        simp only [Fe.cast_mul, Fe.cast_sqr, Fe.cast_inv]
        exact mul_ne_zero hyc (mul_ne_zero (mul_ne_zero (inv_ne_zero hzc) (inv_ne_zero hzc))
          (inv_ne_zero hzc))
      unfold Jac.dbl
      rw [if_neg (not_or.2 ⟨hz, hy⟩)]
      dsimp only
      rw [toPt_mk_ne hz3, toPt_mk_ne hz, Pt.dbl, if_neg hY]
      dsimp only
      apply aff_eq_of_cast (Fe.mul_lt_P _ _) (Fe.mul_lt_P _ _) (Fe.sub_lt_P _ _) (Fe.sub_lt_P _ _) <;>
      · simp only [Fe.cast_mul, Fe.cast_sqr, Fe.cast_inv, Fe.cast_sub, Fe.cast_add,
          Nat.cast_ofNat]
        field_simp
        ring

theorem toPt_addAff (j : Jac) (x2 y2 : ℕ) (hj : j.toPt.valid = true)
    (hq : (Pt.aff x2 y2).valid = true) :
    (Jac.addAff j x2 y2).toPt = Pt.add j.toPt (.aff x2 y2) := by
  obtain ⟨x, y, z⟩ := j
  obtain ⟨hx2, hy2, hn2⟩ := (valid_aff_iff x2 y2).1 hq
  by_cases hz : z % P = 0
  · have : Jac.addAff ⟨x, y, z⟩ x2 y2 = ⟨x2, y2, 1⟩ := by
      unfold Jac.addAff; rw [if_pos hz]
    rw [this, toPt_mk_zero hz, toPt_mk_ne (by decide), Pt.add]
    apply aff_eq_of_cast (Fe.mul_lt_P _ _) (Fe.mul_lt_P _ _) hx2 hy2 <;>
      simp only [Fe.cast_mul, Fe.cast_sqr, Fe.cast_inv, Nat.cast_one, inv_one, mul_one]
  · have hzc := cast_ne_zero_of_mod hz
    rw [toPt_mk_ne hz] at hj ⊢
    obtain ⟨hX1, hY1, hn1⟩ := (valid_aff_iff _ _).1 hj
    -- the two branch conditions, in the field: `a w - b = 0 ↔ b w⁻¹ = a` for `w = z²` and `w = z³`
    have key : ∀ {a b w wi : ℕ}, a < P → (w : ZMod P) * wi = 1 →
        (Fe.sub (Fe.mul a w) b = 0 ↔ Fe.mul b wi = a) := fun {a b w wi} ha hw => by
      rw [← Field.cast_eq_iff (Fe.sub_lt_P _ _) P_pos, ← Field.cast_eq_iff (Fe.mul_lt_P _ _) ha]
      simp only [Fe.cast_mul, Fe.cast_sub, Nat.cast_zero]
      constructor
      · intro h; linear_combination (wi : ZMod P) * (-h) + (a : ZMod P) * hw
      · intro h; rw [← h]; linear_combination (b : ZMod P) * hw
    have hh : Fe.sub (Fe.mul x2 (Fe.sqr z)) x = 0 ↔ Fe.mul x (Fe.sqr (Fe.inv z)) = x2 :=
      key hx2 (by simp only [Fe.cast_sqr, Fe.cast_inv]; field_simp)
    have hr : Fe.sub (Fe.mul y2 (Fe.mul z (Fe.sqr z))) y = 0 ↔
        Fe.mul y (Fe.mul (Fe.sqr (Fe.inv z)) (Fe.inv z)) = y2 :=
      key hy2 (by simp only [Fe.cast_mul, Fe.cast_sqr, Fe.cast_inv]; field_simp)
    by_cases h0 : Fe.sub (Fe.mul x2 (Fe.sqr z)) x = 0
    · have hxe := hh.1 h0
      by_cases r0 : Fe.sub (Fe.mul y2 (Fe.mul z (Fe.sqr z))) y = 0
      · have hye := hr.1 r0
        have : Jac.addAff ⟨x, y, z⟩ x2 y2 = Jac.dbl ⟨x, y, z⟩ := by
          unfold Jac.addAff; rw [if_neg hz]; dsimp only; rw [if_pos h0, if_pos r0]
        rw [this, toPt_dbl, toPt_mk_ne hz, ← hxe, ← hye]
        exact dbl_eq_add_self hj
      · have hye : ¬ Fe.mul y (Fe.mul (Fe.sqr (Fe.inv z)) (Fe.inv z)) = y2 := fun h => r0 (hr.2 h)
        have : Jac.addAff ⟨x, y, z⟩ x2 y2 = Jac.infinity := by
          unfold Jac.addAff; rw [if_neg hz]; dsimp only; rw [if_pos h0, if_neg r0]
        rw [this, toPt_infinity, Pt.add, if_pos hxe, if_pos]
        have hxc : ((Fe.mul x (Fe.sqr (Fe.inv z)) : ℕ) : ZMod P) = (x2 : ZMod P) := by rw [hxe]
        rcases WeierstrassCurve.Affine.Y_eq_of_X_eq hn1.1 hn2.1 hxc with h | h
        · exact absurd (Fe.eq_of_cast_eq hY1 hy2 h) hye
        · rw [← Fe.cast_eq_zero_iff, Nat.cast_add, h, W_negY]; ring
    · have hxe : ¬ Fe.mul x (Fe.sqr (Fe.inv z)) = x2 := fun h => h0 (hh.2 h)
      have h0c : (x2 : ZMod P) * ((z : ZMod P) * z) - x ≠ 0 := by
        intro h
        apply h0
        apply Fe.eq_of_cast_eq (Fe.sub_lt_P _ _) P_pos
        simp only [Fe.cast_mul, Fe.cast_sqr, Fe.cast_sub, Nat.cast_zero]
        exact h
      have hz3 : Fe.mul z (Fe.sub (Fe.mul x2 (Fe.sqr z)) x) % P ≠ 0 := by
        apply mod_ne_zero_of_cast
        simp only [Fe.cast_mul, Fe.cast_sqr, Fe.cast_sub]
        exact mul_ne_zero hzc h0c
      unfold Jac.addAff
      rw [if_neg hz]
      dsimp only
      rw [if_neg h0, toPt_mk_ne hz3, Pt.add, if_neg hxe]
      dsimp only
      -- `H = x₂z² − x` is the denominator of the chord slope: eliminate `x` in favour of `H`, then `field_simp`
      -- needs only `H ≠ 0` and `z ≠ 0`
      obtain ⟨H, hHdef⟩ : ∃ H : ZMod P, H = (x2 : ZMod P) * ((z : ZMod P) * z) - x := ⟨_, rfl⟩
      have hH0 : H ≠ 0 := by rw [hHdef]; exact h0c
      have hx : (x : ZMod P) = x2 * ((z : ZMod P) * z) - H := by rw [hHdef]; ring
      have e : (x2 : ZMod P) - (x2 * ((z : ZMod P) * z) - H) * ((z : ZMod P)⁻¹ * (z : ZMod P)⁻¹)
          = H * ((z : ZMod P)⁻¹ * (z : ZMod P)⁻¹) := by field_simp; ring
      apply aff_eq_of_cast (Fe.mul_lt_P _ _) (Fe.mul_lt_P _ _) (Fe.sub_lt_P _ _) (Fe.sub_lt_P _ _) <;>
      · simp only [Fe.cast_mul, Fe.cast_sqr, Fe.cast_inv, Fe.cast_sub, Nat.cast_ofNat]
        rw [hx]
        simp only [sub_sub_cancel]
        rw [e]
        field_simp
        ring

theorem toPt_mulAux {x y : ℕ} (hp : (Pt.aff x y).valid = true) : ∀ (fuel k : ℕ),
    (Jac.mulAux fuel k x y).toPt = Pt.mulSpecAux fuel k (.aff x y) := by
  intro fuel
  induction fuel with
  | zero => intro k; exact toPt_infinity
  | succ n ih =>
    intro k
    rw [Jac.mulAux, Pt.mulSpecAux]
    split
    · exact toPt_infinity
    · dsimp only
      have hd : (Jac.dbl (Jac.mulAux n (k / 2) x y)).toPt =
          Pt.dbl (Pt.mulSpecAux n (k / 2) (.aff x y)) := by rw [toPt_dbl, ih]
      split
      · rw [toPt_addAff _ _ _ _ hp, hd]
        rw [hd]; exact valid_dbl (valid_mulSpecAux hp _ _)
      · exact hd

end Pt.Jac

omit [Fact (Nat.Prime P)] in
theorem mulSpecAux_inf : ∀ (fuel k : ℕ), Pt.mulSpecAux fuel k .inf = .inf := by
  intro fuel
  induction fuel with
  | zero => intro k; rfl
  | succ n ih =>
    intro k
    rw [Pt.mulSpecAux]
    split
    · rfl
    · dsimp only; rw [ih]; split <;> rfl

theorem mul_eq_mulSpec (k : ℕ) {p : Pt} (hp : p.valid = true) : Pt.mul k p = Pt.mulSpec k p := by
  cases p with
  | inf => rw [Pt.mul, Pt.mulSpec, mulSpecAux_inf]
  | aff x y => rw [Pt.mul, Pt.mulSpec, Jac.toPt_mulAux hp]

theorem valid_mul (k : ℕ) {p : Pt} (hp : p.valid = true) : (Pt.mul k p).valid = true := by
  rw [mul_eq_mulSpec k hp]; exact valid_mulSpecAux hp _ _

theorem toPoint_mul {k : ℕ} (hk : k < 2 ^ 264) {p : Pt} (hp : p.valid = true) :
    toPoint (Pt.mul k p) = k • toPoint p := by
  rw [mul_eq_mulSpec k hp]; exact toPoint_mulSpec hp hk

end PrimeP
end SecpZkp
