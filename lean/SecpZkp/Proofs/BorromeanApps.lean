import SecpZkp.Proofs.Borromean
import SecpZkp.Proofs.BorromeanReject
import SecpZkp.Proofs.Readers
import SecpZkp.Proofs.Sha256
import SecpZkp.Model.Whitelist
/-
  What the constructions built on the Borromean ring signature (whitelist, surjection, range proofs) use of it: the shape
  of the signer's output (`sign_out`), the single-ring case of `borromean_complete` with everything an application reads
  off a successful run (`sign_single_spec`), an infinite key defeats the verifier (`verify_single_inf`).
  Namespace `Whitelist`: the derived nonce and forged scalars are non-zero and reduced, a written signature is read back
  (`readScalars_sigData`), the tweaked ring key is `sec•G` (`ringKey_eq_mulG`).
-/
namespace SecpZkp
namespace Borromean
open SecpZkp.Algebra

theorem borromean_complete_single {s : List Nat} {pubs : List Pt} {k x n t : Nat} {m e0 : Bytes} {sOut : List Nat}
    (hP : ∀ p ∈ pubs, p ≠ .inf) (ht : t < n) (hnp : n ≤ pubs.length) (hns : n ≤ s.length) (hx : x < N) (hk : k < N)
    (hkey : pubs[t]? = some (Pt.mulG x)) (hforged : ∀ j, j ≠ t → s[j]? ≠ some 0)
    (h : sign s pubs [k] [x] [n] [t] m = some (e0, sOut)) : (verify e0 sOut pubs [n] m).1 = true := by
  refine borromean_complete m [n] [t] [k] [x] s pubs e0 sOut hP ?_ h
  unfold Consistent
  refine ⟨ht, by omega, by omega, hx, hk, by simpa using hkey, fun j _ hjt => by simpa using hforged j hjt, ?_⟩
  unfold Consistent; trivial

/-- `hn`: the single ring covers every entry of `pubs`, so the infinite key is one the verifier meets. -/
theorem verify_single_inf (e0 : Bytes) (s : List Nat) (pubs : List Pt) (n : Nat) (m : Bytes)
    (hn : pubs.length ≤ n) (h : Pt.inf ∈ pubs) : (verify e0 s pubs [n] m).1 = false := by
  obtain ⟨k, hk, hpk⟩ := List.getElem_of_mem h
  refine Bool.eq_false_iff.mpr fun hv => (verify_true_imp hv k (by simp; omega) hk).2 ?_
  rw [List.getElem?_eq_getElem hk, hpk]

theorem phase2_lt (pubs : List Pt) (m e0 : Bytes) :
    ∀ (rings : List (Nat × Nat × Nat × Nat)) (i count : Nat) (sCur sOut : List Nat),
      sign.phase2 pubs m e0 rings i count sCur = some sOut → (∀ x ∈ sCur, x < N) → ∀ x ∈ sOut, x < N := by
  intro rings
  induction rings with
  | nil => intro i count sCur sOut h hs; simp [sign.phase2] at h; subst h; exact hs
  | cons r rest ih =>
    intro i count sCur sOut h hs
    obtain ⟨rs, si, ki, seci⟩ := r
    obtain ⟨-, ens, -, -, h⟩ := phase2_cons_some h
    apply ih _ _ _ _ h
    intro x hx
    rcases List.mem_or_eq_of_mem_set hx with h' | h'
    · exact hs x h'
    · subst h'; exact Sc.add_lt _ _

theorem sign_out {s : List Nat} {pubs : List Pt} {k sec rsizes secidx : List Nat} {m e0 : Bytes} {sOut : List Nat}
    (h : sign s pubs k sec rsizes secidx m = some (e0, sOut)) :
    e0.length = 32 ∧ sOut.length = s.length ∧ ((∀ x ∈ s, x < N) → ∀ x ∈ sOut, x < N) := by
  obtain ⟨acc, -, rfl, h2⟩ := sign_eq_some h
  exact ⟨Sha256.length_sha256 _, (phase2_take _ _ _ _ _ _ _ _ h2).2, fun hs => phase2_lt _ _ _ _ _ _ _ _ h2 hs⟩

theorem sign_single_spec {s : List Nat} {pubs : List Pt} {k x n t : Nat} {m e0 : Bytes} {sOut : List Nat}
    (hP : ∀ p ∈ pubs, p ≠ .inf) (ht : t < n) (hnp : pubs.length = n) (hns : s.length = n) (hsN : ∀ y ∈ s, y < N)
    (hx : x < N) (hk : k < N) (hkey : pubs[t]? = some (Pt.mulG x)) (hforged : ∀ j, j ≠ t → s[j]? ≠ some 0)
    (h : sign s pubs [k] [x] [n] [t] m = some (e0, sOut)) :
    e0.length = 32 ∧ sOut.length = n ∧ (∀ y ∈ sOut, y ≠ 0 ∧ y < N) ∧ (verify e0 sOut pubs [n] m).1 = true := by
  have hv := borromean_complete_single hP ht (by omega) (by omega) hx hk hkey hforged h
  obtain ⟨he, hl, hN⟩ := sign_out h
  refine ⟨he, hl.trans hns, fun y hy => ⟨fun h0 => ?_, hN hsN y hy⟩, hv⟩
  -- no output scalar is zero because the verifier accepted them
  obtain ⟨j, hj, rfl⟩ := List.mem_iff_getElem.mp hy
  exact (verify_true_imp hv j (by simp; omega) (by omega)).1 (by rw [List.getElem?_eq_getElem hj, h0])

end Borromean

namespace Whitelist
open SecpZkp.Algebra

theorem deriveS_spec (msg key : Bytes) (count : Nat) :
    ∀ (todo i : Nat) (s : List Nat), deriveS msg key count todo i = some s →
      s.length = todo ∧ ∀ x ∈ s, x ≠ 0 ∧ x < N := by
  intro todo
  induction todo with
  | zero => intro i s h; simp [deriveS] at h; subst h; simp
  | succ todo ih =>
    intro i s h
    rw [deriveS] at h
    split at h
    · simp at h
    next b _ =>
    obtain ⟨hc, h⟩ := Option.ite_none_left_eq_some.1 h
    split at h
    · simp at h
    next rest hr =>
    simp only [Option.some.injEq] at h
    subst h
    obtain ⟨h1, h2⟩ := ih _ _ hr
    refine ⟨by simp [h1], ?_⟩
    intro x hx
    rcases List.mem_cons.mp hx with hx | hx
    · subst hx
      exact ⟨fun h0 => hc (Or.inr h0), Sc.setB32_fst_lt _⟩
    · exact h2 x hx

theorem nonceLoop_spec (msg key : Bytes) (n : Nat) :
    ∀ (fuel count non : Nat) (s : List Nat), nonceLoop fuel msg key n count = some (non, s) →
      non ≠ 0 ∧ non < N ∧ s.length = n ∧ ∀ x ∈ s, x ≠ 0 ∧ x < N := by
  intro fuel
  induction fuel with
  | zero => intro count non s h; simp [nonceLoop] at h
  | succ fuel ih =>
    intro count non s h
    rw [nonceLoop] at h
    split at h
    · simp at h
    next nonce32 _ =>
    simp only [] at h
    split at h
    · exact ih _ _ _ h
    next hc =>
    split at h
    · next s' hs' =>
      simp only [Option.some.injEq, Prod.mk.injEq] at h
      obtain ⟨h1, h2⟩ := h
      subst h1 h2
      obtain ⟨h3, h4⟩ := deriveS_spec _ _ _ _ _ _ hs'
      exact ⟨fun h0 => hc (Or.inr h0), Sc.setB32_fst_lt _, h3, h4⟩
    · exact ih _ _ _ h

/-- `pre` is `e0 ‖ s_0 … s_{i-1}`: `Sig.sBytes i` starts at byte `32·(i+1)`. -/
theorem readScalars_append (n : Nat) :
    ∀ (s : List Nat) (i : Nat) (pre : Bytes), pre.length = 32 * (i + 1) → (∀ x ∈ s, x ≠ 0 ∧ x < N) →
      readScalars ⟨n, pre ++ (s.map Bytes.be32).flatten⟩ s.length i = some s := by
  intro s
  induction s with
  | nil => intro i pre _ _; simp [readScalars]
  | cons x xs ih =>
    intro i pre hpre hs
    have hx := hs x (by simp)
    have hsb : Sig.sBytes ⟨n, pre ++ ((x :: xs).map Bytes.be32).flatten⟩ i = Bytes.be32 x := by
      simp only [Sig.sBytes, List.map_cons, List.flatten_cons]
      rw [← hpre, List.drop_left, List.take_left' (Bytes.be32_length x)]
    simp only [List.length_cons]
    rw [readScalars, hsb, Sc.setB32_be32 hx.2]
    simp only [Bool.false_eq_true, false_or, if_neg hx.1]
    have := ih (i + 1) (pre ++ Bytes.be32 x) (by simp [hpre]; omega) (fun y hy => hs y (by simp [hy]))
    simp only [List.map_cons, List.flatten_cons, ← List.append_assoc]
    rw [this]

theorem readScalars_sigData (n : Nat) (e0 : Bytes) (s : List Nat) (he0 : e0.length = 32)
    (hs : ∀ x ∈ s, x ≠ 0 ∧ x < N) : readScalars ⟨n, sigData e0 s⟩ s.length 0 = some s :=
  readScalars_append n s 0 e0 (by simp [he0]) hs

theorem computeKeys_snd (online offline : List Pt) (sub : Pt) :
    (computeKeysAndMessage online offline sub).2 = (List.zip offline online).map (fun p => ringKey p.2 p.1 sub) := rfl

theorem hashPubkey_lt {p : Pt} {t : Nat} (h : hashPubkey p = some t) : t < N := by
  cases p with
  | inf => simp [hashPubkey] at h
  | aff x y =>
    simp only [hashPubkey] at h
    split at h
    · simp at h
    · simp only [Option.some.injEq] at h
      rw [← h]; exact Sc.setB32_fst_lt _

theorem computeTweakedPrivkey_some {onlineSeckey summedSeckey : Bytes} {sec : Nat}
    (hsec : computeTweakedPrivkey onlineSeckey summedSeckey = some sec) :
    ∃ tweak, hashPubkey (Pt.mulG (Sc.setB32 summedSeckey).1) = some tweak ∧
      sec = Sc.add (Sc.mul (Sc.setB32 summedSeckey).1 tweak) (Sc.setB32 onlineSeckey).1 ∧ sec ≠ 0 := by
  rw [computeTweakedPrivkey] at hsec
  obtain ⟨-, hsec⟩ := Option.ite_none_left_eq_some.1 hsec
  split at hsec
  · simp at hsec
  next tweak ht =>
  obtain ⟨-, hsec⟩ := Option.ite_none_left_eq_some.1 hsec
  obtain ⟨hne, hsec⟩ := Option.ite_none_left_eq_some.1 hsec
  cases hsec
  exact ⟨tweak, ht, rfl, hne⟩

theorem computeTweakedPrivkey_none_of_zero {onlineSeckey summedSeckey : Bytes} {tweak : Nat}
    (ht : hashPubkey (Pt.mulG (Sc.setB32 summedSeckey).1) = some tweak)
    (h0 : Sc.add (Sc.mul (Sc.setB32 summedSeckey).1 tweak) (Sc.setB32 onlineSeckey).1 = 0) :
    computeTweakedPrivkey onlineSeckey summedSeckey = none := by
  cases h : computeTweakedPrivkey onlineSeckey summedSeckey with
  | none => rfl
  | some sec =>
    obtain ⟨tweak', ht', hs, hne⟩ := computeTweakedPrivkey_some h
    rw [ht] at ht'
    simp only [Option.some.injEq] at ht'
    subst ht'
    exact absurd (hs.trans h0) hne

section
variable [HasGroupLaw]

theorem ringKey_eq_mulG_tweaked {so sk tweak : Nat} {on off sub : Pt} (hso : so < N) (hsk : sk < N)
    (ht : hashPubkey (Pt.mulG sk) = some tweak)
    (hon : on = Pt.mulG so) (hoff : Pt.add off sub = Pt.mulG sk) :
    ringKey on off sub = Pt.mulG (Sc.add (Sc.mul sk tweak) so) := by
  have htw : tweak < N := hashPubkey_lt ht
  rw [ringKey, hoff, tweakPubkey, ht, hon]
  simp only []
  rw [mulG_eq_gmul (lt_mulBound_of_lt_N hsk), mul_gmul (lt_mulBound_of_lt_N htw),
    mulG_eq_gmul (lt_mulBound_of_lt_N hso), mulG_eq_gmul (lt_mulBound_of_lt_N (Sc.add_lt _ _)), add_gmul]
  apply gmul_congr
  simp only [cast_add, cast_mul]
  ring

theorem ringKey_eq_mulG {onlineSeckey summedSeckey : Bytes} {sec : Nat} {on off sub : Pt}
    (hsec : computeTweakedPrivkey onlineSeckey summedSeckey = some sec)
    (hon : on = Pt.mulG (Sc.setB32 onlineSeckey).1)
    (hoff : Pt.add off sub = Pt.mulG (Sc.setB32 summedSeckey).1) :
    ringKey on off sub = Pt.mulG sec ∧ sec < N ∧ sec ≠ 0 := by
  obtain ⟨tweak, ht, hs, hne⟩ := computeTweakedPrivkey_some hsec
  subst hs
  exact ⟨ringKey_eq_mulG_tweaked (Sc.setB32_fst_lt _) (Sc.setB32_fst_lt _) ht hon hoff,
    Sc.add_lt _ _, hne⟩

end

end Whitelist
end SecpZkp
