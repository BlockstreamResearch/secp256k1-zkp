/-
  Carry chains with SATURATED limbs (digit = low word of an accumulator of twice the width), for any limb width and any
  number of limbs: the pure function `chain` with its one specification, and the PROGRAM of a chain (`Cfg.prog`: per limb
  some addends `t += e`, the store of the low word, the shift of the accumulator) with its one execution theorem
  (`prog_run`, from `limbs_run` by induction on the list of limbs).  Both limb widths of the scalar code are instances:
  `Cfg` gives widths and names; an addend is a sum of atoms and may pass through a temporary, as the arguments of the
  inlined `secp256k1_u128_*` accessors of the 4×64 code do.  On it, each once for every width: the scalar operations that
  are chains (`negate_run`, `cond_negate_run`, `half_run`, `cadd_run`, `chain_run` for a plain sum) and the common tail
  `scalar_reduce(r, c + scalar_check_overflow(r))` (`reduce_tail_run`); beside it the comparison with a constant from the
  top limb down (`cmp_run`: its own program `cmpProg`, invariant `CmpInv`; for `scalar_check_overflow`, `scalar_is_high`
  and the tail).  A kernel of a given width is then: its generated body is the generic program (checked by evaluation),
  the closed facts about its constants, and the bridge between its limb predicates and `valL` / `readL`.  At the end: how
  each width writes a limb (`limbs32`, `limbs64`), and ALL constants of the 4×64 width that the chains are instantiated
  with (`c64`, store filters, limbs of `N`, `N_C`, the closed facts `*_ok`); the 8×32 ones are at the end of
  `Proofs/ScalarKernel32.lean`.
-/
import SecpZkp.Proofs.ScalarKernel
import SecpZkp.Proofs.LimbList

namespace SecpZkp
namespace LimbChain
open MiniC ScalarKernel LimbList

/-- add the summands `ss` limb by limb to the carry `c`: digits and carry out -/
def chain (w : Nat) : Nat → List Nat → List Nat × Nat
  | c, [] => ([], c)
  | c, s :: ss => ((c + s) % 2 ^ w :: (chain w ((c + s) / 2 ^ w) ss).1, (chain w ((c + s) / 2 ^ w) ss).2)

theorem chain_length (w : Nat) : ∀ (c : Nat) (ss : List Nat), (chain w c ss).1.length = ss.length
  | _, [] => rfl
  | c, s :: ss => by simp only [chain, List.length_cons, chain_length w _ ss]

theorem chain_val (w : Nat) : ∀ (c : Nat) (ss : List Nat),
    valL w (chain w c ss).1 + 2 ^ (w * ss.length) * (chain w c ss).2 = c + valL w ss
  | c, [] => by simp [chain, valL]
  | c, s :: ss => by
    have ih := chain_val w ((c + s) / 2 ^ w) ss
    have e1 : (c + s) % 2 ^ w + 2 ^ w * ((c + s) / 2 ^ w) = c + s := Nat.mod_add_div _ _
    rw [chain, valL, valL, List.length_cons, show w * (ss.length + 1) = w + w * ss.length by ring, Nat.pow_add]
    generalize 2 ^ w = W at *
    calc (c + s) % W + W * valL w (chain w ((c + s) / W) ss).1 + W * 2 ^ (w * ss.length) * (chain w ((c + s) / W) ss).2
        = (c + s) % W + W * (valL w (chain w ((c + s) / W) ss).1 + 2 ^ (w * ss.length) * (chain w ((c + s) / W) ss).2) := by
          ring
      _ = ((c + s) % W + W * ((c + s) / W)) + W * valL w ss := by rw [ih]; ring
      _ = c + (s + W * valL w ss) := by rw [e1]; ring

theorem chain_lt (w : Nat) : ∀ (c : Nat) (ss : List Nat), ∀ d ∈ (chain w c ss).1, d < 2 ^ w
  | _, [], _, h => by simp [chain] at h
  | c, s :: ss, d, h => by
    simp only [chain, List.mem_cons] at h
    rcases h with rfl | h
    · exact Nat.mod_lt _ (Nat.two_pow_pos w)
    · exact chain_lt w _ ss d h

def NoWrap (aw w : Nat) : Nat → List Nat → Prop
  | _, [] => True
  | c, s :: ss => c + s < 2 ^ aw ∧ NoWrap aw w ((c + s) / 2 ^ w) ss

theorem noWrap_of_le {aw w k : Nat} (hk : (k + 1) * 2 ^ w ≤ 2 ^ aw) : ∀ (c : Nat) (ss : List Nat), c ≤ k →
    (∀ s ∈ ss, s + (k + 1) ≤ (k + 1) * 2 ^ w) → NoWrap aw w c ss
  | _, [], _, _ => trivial
  | c, s :: ss, hc, hs => by
    have h := hs s List.mem_cons_self
    refine ⟨by omega, noWrap_of_le hk _ ss ?_ fun y hy => hs y (List.mem_cons_of_mem _ hy)⟩
    exact Nat.le_of_lt_succ (Nat.div_lt_of_lt_mul (by rw [Nat.mul_comm, Nat.succ_eq_add_one]; omega))

theorem chain_carry_le {w k : Nat} : ∀ (c : Nat) (ss : List Nat), c ≤ k → (∀ s ∈ ss, s + (k + 1) ≤ (k + 1) * 2 ^ w) →
    (chain w c ss).2 ≤ k
  | _, [], hc, _ => hc
  | c, s :: ss, hc, hs => by
    have h := hs s List.mem_cons_self
    exact chain_carry_le _ ss (Nat.le_of_lt_succ (Nat.div_lt_of_lt_mul (by rw [Nat.mul_comm, Nat.succ_eq_add_one]; omega)))
      fun y hy => hs y (List.mem_cons_of_mem _ hy)

theorem chain_concat (w : Nat) : ∀ (c : Nat) (ss : List Nat) (s : Nat), chain w c (ss ++ [s]) =
    ((chain w c ss).1 ++ [((chain w c ss).2 + s) % 2 ^ w], ((chain w c ss).2 + s) / 2 ^ w)
  | _, [], _ => rfl
  | c, x :: ss, s => by rw [List.cons_append, chain, chain_concat w _ ss s, chain, List.cons_append]

structure Cfg where
  w : Nat
  aw : Nat
  /-- the accumulator variable -/
  t : String
  dst : String

/-- an addend: a sum of atoms (`x + y + …` at the width of the accumulator), optionally passed through a temporary -/
abbrev Addend := Option String × List Expr

/-- `x = e₁; y = e₂; t += x * y` at width `w` -/
structure Mul where
  x : String
  y : String
  w : Nat
  e1 : Expr
  e2 : Expr

structure Limb where
  adds : List Addend
  /-- the temporary for the low word, if any -/
  out : Option String
  /-- a product added after the addends (the inlined `secp256k1_u128_accum_mul`; only stage 3 of the 4×64
      `scalar_reduce_512` has one) -/
  mul : Option Mul

def Limb.mulAtoms (l : Limb) : List Expr := (l.mul.map fun m => .bin .mul m.w m.e1 m.e2).toList

def Limb.atoms (l : Limb) : List Expr := l.adds.flatMap (·.2) ++ l.mulAtoms

def sumAt (env : Env) (es : List Expr) : Nat := (es.map (ev env)).sum

def Limb.sum (env : Env) (l : Limb) : Nat := (l.adds.map fun a => sumAt env a.2).sum + sumAt env l.mulAtoms

theorem sumAt_append (env : Env) (xs ys : List Expr) : sumAt env (xs ++ ys) = sumAt env xs + sumAt env ys := by
  rw [sumAt, List.map_append, List.sum_append, sumAt, sumAt]

theorem Limb.sum_eq (env : Env) (l : Limb) : l.sum env = sumAt env l.atoms := by
  rw [Limb.sum, Limb.atoms, sumAt_append]
  congr 1
  induction l.adds with
  | nil => rfl
  | cons a as ih => rw [List.map_cons, List.sum_cons, List.flatMap_cons, sumAt_append, ih]

def sumE (aw : Nat) : List Expr → Expr
  | [] => .lit 0
  | e :: es => es.foldl (.bin .add aw) e

theorem ev_foldl_add (env : Env) (aw : Nat) : ∀ (es : List Expr) (e : Expr), ev env e + sumAt env es < 2 ^ aw →
    ev env (es.foldl (.bin .add aw) e) = ev env e + sumAt env es
  | [], _, _ => rfl
  | x :: es, e, h => by
    rw [sumAt, List.map_cons, List.sum_cons, ← Nat.add_assoc] at h ⊢
    have h' : ev env (.bin .add aw e x) = ev env e + ev env x := by
      rw [ev_bin, binWrap_add, Nat.mod_eq_of_lt (Nat.lt_of_le_of_lt (Nat.le_add_right _ _) h)]
    rw [List.foldl_cons, ev_foldl_add env aw es _ (by rw [h', sumAt]; exact h), h', sumAt]

theorem ev_sumE {env : Env} {aw : Nat} {es : List Expr} (h : sumAt env es < 2 ^ aw) : ev env (sumE aw es) = sumAt env es := by
  obtain _ | ⟨e, es⟩ := es
  · rfl
  · rw [sumE, ev_foldl_add env aw es e (by rwa [sumAt, List.map_cons, List.sum_cons] at h), sumAt, sumAt, List.map_cons,
      List.sum_cons]

theorem map_sum_eq (env : Env) (ls : List Limb) : ls.map (Limb.sum env) = (ls.map Limb.atoms).map (sumAt env) := by
  rw [List.map_map]; exact List.map_congr_left fun l _ => Limb.sum_eq env l

namespace Cfg
variable (c : Cfg)

def add (r : List Stmt) : Addend → List Stmt
  | (none, es) => .assign c.t (.bin .add c.aw (.var c.t) (sumE c.aw es)) :: r
  | (some x, es) => .assign x (sumE c.aw es) :: .assign c.t (.bin .add c.aw (.var c.t) (.var x)) :: r

def set (r : List Stmt) : Addend → List Stmt
  | (none, es) => .assign c.t (sumE c.aw es) :: r
  | (some x, es) => .assign x (sumE c.aw es) :: .assign c.t (.var x) :: r

def adds : List Addend → List Stmt → List Stmt
  | [], r => r
  | a :: as, r => c.add (adds as r) a

def mulS (r : List Stmt) : Option Mul → List Stmt
  | some ⟨x, y, w, e1, e2⟩ =>
    .assign x e1 :: .assign y e2 :: .assign c.t (.bin .add c.aw (.var c.t) (.bin .mul w (.var x) (.var y))) :: r
  | none => r

def out (g : Expr → Expr) (i : Nat) (r : List Stmt) : Option String → List Stmt
  | none => .store c.dst (.lit i) (g (.var c.t)) :: r
  | some x => .assign x (.cast c.w (.var c.t)) :: .store c.dst (.lit i) (g (.var x)) :: r

def shr : Stmt := .assign c.t (.bin .shr c.aw (.var c.t) (.lit c.w))

/-- the limbs `ls`, stored from index `i`; `fin`: the accumulator is shifted after the last limb too -/
def limbs (fin : Bool) (g : Expr → Expr) : Nat → List Limb → List Stmt → List Stmt
  | _, [], r => r
  | i, l :: ls, r =>
    c.adds l.adds (c.mulS (c.out g i (if ls.isEmpty && !fin then r else c.shr :: limbs fin g (i + 1) ls r) l.out) l.mul)

/-- a whole chain: the first addend of the first limb initialises the accumulator -/
def prog (fin : Bool) (g : Expr → Expr) (r : List Stmt) : List Limb → List Stmt
  | ⟨a :: as, o, m⟩ :: ls => c.set (c.limbs fin g 0 (⟨as, o, m⟩ :: ls) r) a
  | _ => r

end Cfg

theorem get_set_ne (env : Env) {x y : String} (h : y ≠ x) (i v j : Nat) : (env.set x i v).get y j = env.get y j :=
  Env.get_set_other _ _ _ _ _ _ fun e => h (congrArg Prod.fst e)

/-- `env'` is `env` except for the variables `S` and the cells `dst[lo..hi)` -/
def Agree (S : List String) (dst : String) (lo hi : Nat) (env env' : Env) : Prop :=
  ∀ x j, x ∉ S → (x = dst → j < lo ∨ hi ≤ j) → env'.get x j = env.get x j

theorem Agree.refl (S : List String) (dst : String) (lo hi : Nat) (env : Env) : Agree S dst lo hi env env :=
  fun _ _ _ _ => rfl

theorem Agree.set {S : List String} {dst : String} {lo hi : Nat} {e1 e2 : Env} (h : Agree S dst lo hi e1 e2)
    {x : String} (hx : x ∈ S) (i v : Nat) : Agree S dst lo hi e1 (e2.set x i v) := by
  intro y j hy hd
  rw [Env.get_set_other _ _ _ _ _ _ (by intro h'; injection h' with h1 _; exact hy (h1 ▸ hx))]
  exact h y j hy hd

theorem Agree.store {S : List String} {dst : String} {lo hi : Nat} {e1 e2 : Env} (h : Agree S dst lo hi e1 e2)
    (hlo : lo ≤ hi) (v : Nat) : Agree S dst lo (hi + 1) e1 (e2.set dst hi v) := by
  intro y j hy hd
  rw [Env.get_set_other _ _ _ _ _ _ (by intro h'; injection h' with h1 h2; have := hd h1; omega)]
  exact h y j hy fun e => by have := hd e; omega

theorem Agree.trans {S : List String} {dst : String} {lo mid hi : Nat} {e1 e2 e3 : Env}
    (h12 : Agree S dst lo mid e1 e2) (h23 : Agree S dst mid hi e2 e3) (hm : lo ≤ mid) (hh : mid ≤ hi) :
    Agree S dst lo hi e1 e3 := fun x j hx hd =>
  (h23 x j hx fun e => by have := hd e; omega).trans (h12 x j hx fun e => by have := hd e; omega)

theorem Agree.mono {S : List String} {dst : String} {lo hi hi' : Nat} {e1 e2 : Env} (h : Agree S dst lo hi e1 e2)
    (hh : hi ≤ hi') : Agree S dst lo hi' e1 e2 := fun x j hx hd => h x j hx fun e => by have := hd e; omega

/-- the value of `e` does not depend on the variables `S` nor on the cells of `dst` below `i` -/
def Stable (S : List String) (dst : String) (i : Nat) (e : Expr) : Prop :=
  ∀ env env' lo, Agree S dst lo i env env' → ev env' e = ev env e

theorem Stable.bin {S : List String} {dst : String} {i : Nat} {op : BinOp} {w : Nat} {a b : Expr}
    (ha : Stable S dst i a) (hb : Stable S dst i b) : Stable S dst i (.bin op w a b) := fun env env' lo h => by
  rw [ev_bin, ev_bin, ha env env' lo h, hb env env' lo h]

def Good (S : List String) (t dst : String) : Nat → List Limb → Prop
  | _, [] => True
  | i, l :: ls =>
    (∀ a ∈ l.adds, (∀ e ∈ a.2, Stable S dst i e) ∧ ∀ x, a.1 = some x → x ∈ S ∧ x ≠ t) ∧
    (∀ x, l.out = some x → x ∈ S ∧ x ≠ t) ∧
    (∀ m, l.mul = some m → (Stable S dst i m.e1 ∧ Stable S dst i m.e2) ∧ (m.x ∈ S ∧ m.x ≠ t) ∧
      (m.y ∈ S ∧ m.y ≠ t) ∧ m.x ≠ m.y) ∧ Good S t dst (i + 1) ls

theorem sumAt_congr {S : List String} {dst : String} {lo i : Nat} {env env' : Env} {es : List Expr}
    (h : ∀ e ∈ es, Stable S dst i e) (hag : Agree S dst lo i env env') : sumAt env' es = sumAt env es := by
  rw [sumAt, sumAt, List.map_congr_left fun e he => h e he env env' lo hag]

theorem mulAtoms_stable {S : List String} {dst : String} {i : Nat} {l : Limb}
    (h : ∀ m, l.mul = some m → Stable S dst i m.e1 ∧ Stable S dst i m.e2) : ∀ e ∈ l.mulAtoms, Stable S dst i e := by
  intro e he
  rw [Limb.mulAtoms] at he
  cases hm : l.mul with
  | none => rw [hm] at he; cases he
  | some m =>
    rw [hm] at he
    exact List.mem_singleton.1 he ▸ Stable.bin (h m hm).1 (h m hm).2

theorem sum_congr {S : List String} {t dst : String} {lo : Nat} {env env' : Env} : ∀ (ls : List Limb) (i : Nat),
    Good S t dst i ls → Agree S dst lo i env env' → ls.map (Limb.sum env') = ls.map (Limb.sum env)
  | [], _, _, _ => rfl
  | l :: ls, i, ⟨hadds, _, hmul, hgood⟩, hag => by
    rw [List.map_cons, List.map_cons, sum_congr ls (i + 1) hgood (hag.mono (Nat.le_succ i)), Limb.sum, Limb.sum,
      List.map_congr_left fun a ha => sumAt_congr (hadds a ha).1 hag, sumAt_congr (mulAtoms_stable fun m hm => (hmul m hm).1) hag]

def stableB (S : List String) (dst : String) (i : Nat) : Expr → Bool
  | .lit _ => true
  | .var x => decide (x ∉ S ∧ x ≠ dst)
  | .idx a (.lit j) => decide (a ∉ S ∧ (a = dst → i ≤ j))
  | .bin _ _ a b => stableB S dst i a && stableB S dst i b
  | .cast _ a => stableB S dst i a
  | .not _ a => stableB S dst i a
  | _ => false

theorem stableB_sound {S : List String} {dst : String} {i : Nat} : ∀ (e : Expr), stableB S dst i e = true → Stable S dst i e
  | .lit _, _ => fun _ _ _ _ => rfl
  | .var x, h => fun _ _ _ hag => by
    simp only [stableB, decide_eq_true_eq] at h; exact hag x 0 h.1 fun e => (h.2 e).elim
  | .idx a (.lit j), h => fun env env' _ hag => by
    simp only [stableB, decide_eq_true_eq] at h
    rw [ev_idx, ev_idx, ev_lit, ev_lit]; exact hag a j h.1 fun e => .inr (h.2 e)
  | .bin _ _ a b, h => by
    simp only [stableB, Bool.and_eq_true] at h; exact Stable.bin (stableB_sound a h.1) (stableB_sound b h.2)
  | .cast _ a, h => fun env env' lo hag => by rw [ev_cast, ev_cast, stableB_sound a h env env' lo hag]
  | .not _ a, h => fun env env' lo hag => by rw [ev_not, ev_not, stableB_sound a h env env' lo hag]

def goodB (S : List String) (t dst : String) : Nat → List Limb → Bool
  | _, [] => true
  | i, l :: ls =>
    l.adds.all (fun a => a.2.all (stableB S dst i) && a.1.all fun x => decide (x ∈ S ∧ x ≠ t)) &&
    l.out.all (fun x => decide (x ∈ S ∧ x ≠ t)) &&
    l.mul.all (fun m => stableB S dst i m.e1 && stableB S dst i m.e2 &&
      decide ((m.x ∈ S ∧ m.x ≠ t) ∧ (m.y ∈ S ∧ m.y ≠ t) ∧ m.x ≠ m.y)) && goodB S t dst (i + 1) ls

theorem goodB_sound {S : List String} {t dst : String} : ∀ (ls : List Limb) (i : Nat), goodB S t dst i ls = true →
    Good S t dst i ls
  | [], _, _ => trivial
  | l :: ls, i, h => by
    rw [goodB, Bool.and_eq_true, Bool.and_eq_true, Bool.and_eq_true] at h
    obtain ⟨⟨⟨h1, h2⟩, h3⟩, h4⟩ := h
    simp only [Bool.and_eq_true, List.all_eq_true, Option.all_eq_true_iff_get, decide_eq_true_eq] at h1 h2
    refine ⟨fun a ha => ⟨fun e he => stableB_sound _ ((h1 a ha).1 e he), fun x hx => ?_⟩, fun x hx => ?_, fun m hm => ?_,
      goodB_sound ls _ h4⟩
    · have := (h1 a ha).2; rw [hx] at this; exact this rfl
    · rw [hx] at h2; exact h2 rfl
    · rw [hm, Option.all_some, Bool.and_eq_true, Bool.and_eq_true, decide_eq_true_eq] at h3
      exact ⟨⟨stableB_sound _ h3.1.1, stableB_sound _ h3.1.2⟩, h3.2⟩

section rules
variable {P : Env × Option Nat → Prop} (c : Cfg) {S : List String} (hS : c.t ∈ S) (hdst : c.dst ∉ S)
include hS

theorem add_rule {r : List Stmt} {a : Addend} {env0 env : Env} {lo i cv : Nat} (hag : Agree S c.dst lo i env0 env)
    (hst : ∀ e ∈ a.2, Stable S c.dst i e) (hx : ∀ x, a.1 = some x → x ∈ S ∧ x ≠ c.t) (ht : env.get c.t 0 = cv)
    (hnw : cv + sumAt env0 a.2 < 2 ^ c.aw)
    (K : ∀ env', Agree S c.dst lo i env0 env' → env'.get c.t 0 = cv + sumAt env0 a.2 → P (runR env' r)) :
    P (runR env (c.add r a)) := by
  have he : ev env (sumE c.aw a.2) = sumAt env0 a.2 := by
    rw [ev_sumE (by rw [sumAt_congr hst hag]; omega), sumAt_congr hst hag]
  obtain ⟨_ | x, es⟩ := a
  · rw [Cfg.add, runR_assign]
    refine K _ (hag.set hS _ _) ?_
    rw [Env.get_set_same, ev_bin, ev_var, ht, he, binWrap_add, Nat.mod_eq_of_lt hnw]
  · obtain ⟨hxS, hxt⟩ := hx x rfl
    rw [Cfg.add, runR_assign, runR_assign]
    refine K _ ((hag.set hxS _ _).set hS _ _) ?_
    rw [Env.get_set_same, ev_bin, ev_var, ev_var, Env.get_set_same,
      get_set_ne _ (Ne.symm hxt) _ _ _, ht, he,
      binWrap_add, Nat.mod_eq_of_lt hnw]

theorem adds_rule {r : List Stmt} {env0 : Env} {lo i : Nat} : ∀ (as : List Addend) {env : Env} {cv : Nat},
    Agree S c.dst lo i env0 env → (∀ a ∈ as, (∀ e ∈ a.2, Stable S c.dst i e) ∧ ∀ x, a.1 = some x → x ∈ S ∧ x ≠ c.t) →
    env.get c.t 0 = cv → cv + (as.map fun a => sumAt env0 a.2).sum < 2 ^ c.aw →
    (∀ env', Agree S c.dst lo i env0 env' → env'.get c.t 0 = cv + (as.map fun a => sumAt env0 a.2).sum →
      P (runR env' r)) →
    P (runR env (c.adds as r))
  | [], env, cv, hag, _, ht, _, K => K env hag (by simpa using ht)
  | a :: as, env, cv, hag, hg, ht, hnw, K => by
    simp only [List.map_cons, List.sum_cons] at hnw K
    obtain ⟨hst, hx⟩ := hg a List.mem_cons_self
    refine add_rule c hS hag hst hx ht (by omega) fun env1 hag1 ht1 => ?_
    refine adds_rule as hag1 (fun b hb => hg b (List.mem_cons_of_mem _ hb)) ht1 (by omega) fun env' hag' ht' => ?_
    exact K env' hag' (by omega)

theorem mul_rule {r : List Stmt} {m : Option Mul} {env0 env : Env} {lo i cv : Nat}
    (hag : Agree S c.dst lo i env0 env)
    (hm : ∀ p, m = some p → (Stable S c.dst i p.e1 ∧ Stable S c.dst i p.e2) ∧ (p.x ∈ S ∧ p.x ≠ c.t) ∧
      (p.y ∈ S ∧ p.y ≠ c.t) ∧ p.x ≠ p.y)
    (ht : env.get c.t 0 = cv) (hnw : cv + sumAt env0 (Limb.mulAtoms ⟨[], none, m⟩) < 2 ^ c.aw)
    (K : ∀ env', Agree S c.dst lo i env0 env' → env'.get c.t 0 = cv + sumAt env0 (Limb.mulAtoms ⟨[], none, m⟩) →
      P (runR env' r)) :
    P (runR env (c.mulS r m)) := by
  obtain _ | ⟨x, y, w, e1, e2⟩ := m
  · exact K env hag ht
  · obtain ⟨⟨h1, h2⟩, ⟨hx, hxt⟩, ⟨hy, hyt⟩, hxy⟩ := hm _ rfl
    rw [Cfg.mulS, runR_assign, runR_assign, runR_assign]
    refine K _ (((hag.set hx _ _).set hy _ _).set hS _ _) ?_
    rw [Env.get_set_same, ev_bin, ev_var, ev_bin, ev_var, ev_var, Env.get_set_same, get_set_ne _ hxy _ _ _, Env.get_set_same,
      get_set_ne _ (Ne.symm hyt) _ _ _, get_set_ne _ (Ne.symm hxt) _ _ _, ht, h1 env0 env lo hag,
      h2 env0 _ lo (hag.set hx _ _), binWrap_add]
    exact Nat.mod_eq_of_lt hnw

include hdst

theorem out_rule {r : List Stmt} {g : Expr → Expr} {G : Nat → Nat} {o : Option String} {env0 env : Env} {lo i cv : Nat}
    (hg : ∀ env' x, Agree S c.dst lo i env0 env' → (o.isSome → env'.get x 0 < 2 ^ c.w) →
      ev env' (g (.var x)) = G (env'.get x 0 % 2 ^ c.w))
    (hag : Agree S c.dst lo i env0 env) (hlo : lo ≤ i) (hx : ∀ x, o = some x → x ∈ S ∧ x ≠ c.t)
    (ht : env.get c.t 0 = cv)
    (K : ∀ env', Agree S c.dst lo (i + 1) env0 env' → env'.get c.t 0 = cv → env'.get c.dst i = G (cv % 2 ^ c.w) →
      P (runR env' r)) :
    P (runR env (c.out g i r o)) := by
  have htd : (c.t, 0) ≠ (c.dst, i) := by intro h; injection h with h _; exact hdst (h ▸ hS)
  obtain _ | x := o
  · rw [Cfg.out, runR_store, ev_lit]
    refine K _ (hag.store hlo _) ?_ ?_
    · rw [Env.get_set_other _ _ _ _ _ _ htd, ht]
    · rw [Env.get_set_same, hg env _ hag (fun h => by cases h), ht]
  · obtain ⟨hxS, hxt⟩ := hx x rfl
    rw [Cfg.out, runR_assign, runR_store, ev_lit]
    refine K _ ((hag.set hxS _ _).store hlo _) ?_ ?_
    · rw [Env.get_set_other _ _ _ _ _ _ htd,
        get_set_ne _ (Ne.symm hxt) _ _ _, ht]
    · have hlt : cv % 2 ^ c.w < 2 ^ c.w := Nat.mod_lt _ (Nat.two_pow_pos _)
      rw [Env.get_set_same, hg _ _ (hag.set hxS _ _) (fun _ => by rw [Env.get_set_same, ev_cast, ev_var, ht]; exact hlt),
        Env.get_set_same, ev_cast, ev_var, ht, Nat.mod_mod]

/-- from a state where the accumulator holds `cv`, the limbs `ls` leave in `dst[i..]` the digits of `chain` applied to the
    sums of the addends (as evaluated at the start), each passed through `G`, and in the accumulator the carry out,
    provided the accumulator does not wrap.
    `hg` says what the store filter `g` computes.  `g` is applied to the accumulator itself (no temporary: it must cut the
    low word itself, hence `% 2^w` on the right) or to the temporary that holds the low word (all limbs have one: then
    `env'.get x 0 < 2^w` is known, which is the premise, and `g` may be the identity as in the 4×64 code).  `env'` is any
    memory the chain can be in (`Agree`), so `g` may read a variable the chain does not write (the mask `nonzero`). -/
theorem limbs_run {r : List Stmt} {fin : Bool} {g : Expr → Expr} {G : Nat → Nat} : ∀ (ls : List Limb) {i : Nat}
    {env : Env} {cv : Nat},
    (∀ env' x hi, Agree S c.dst i hi env env' → ((∀ l ∈ ls, l.out.isSome) → env'.get x 0 < 2 ^ c.w) →
      ev env' (g (.var x)) = G (env'.get x 0 % 2 ^ c.w)) →
    Good S c.t c.dst i ls → env.get c.t 0 = cv → NoWrap c.aw c.w cv (ls.map (Limb.sum env)) →
    (∀ env', Agree S c.dst i (i + ls.length) env env' →
      readL env' c.dst i ls.length = (chain c.w cv (ls.map (Limb.sum env))).1.map G →
      (fin = true ∨ ls = [] → env'.get c.t 0 = (chain c.w cv (ls.map (Limb.sum env))).2) →
      (fin = false → ls ≠ [] → env'.get c.t 0 / 2 ^ c.w = (chain c.w cv (ls.map (Limb.sum env))).2) → P (runR env' r)) →
    P (runR env (c.limbs fin g i ls r))
  | [], i, env, cv, _, _, ht, _, K => K env (Agree.refl _ _ _ _ _) rfl (fun _ => ht) fun _ h => absurd rfl h
  | l :: ls, i, env, cv, hg, ⟨hadds, hout, hmul, hgood⟩, ht, ⟨hnw, hnws⟩, K => by
    rw [Cfg.limbs]
    have hnw' : cv + (l.adds.map fun a => sumAt env a.2).sum + sumAt env l.mulAtoms < 2 ^ c.aw := by
      rwa [Limb.sum, ← Nat.add_assoc] at hnw
    refine adds_rule c hS l.adds (Agree.refl S c.dst i i env) hadds ht (by omega) fun env1 hag1 ht1 => ?_
    refine mul_rule c hS hag1 hmul ht1 hnw' fun env1' hag1' ht1' => ?_
    replace ht1' : env1'.get c.t 0 = cv + l.sum env := by rw [ht1', Limb.sum, Nat.add_assoc]; rfl
    refine out_rule c hS hdst (fun env' x h hb => hg env' x i h fun ho => hb (ho l List.mem_cons_self)) hag1' (Nat.le_refl i) hout
      ht1' fun env2 hag2 ht2 hd2 => ?_
    have hdS : c.dst ∉ S := hdst
    split
    · rename_i hb
      simp only [Bool.and_eq_true, List.isEmpty_iff, Bool.not_eq_true'] at hb
      obtain ⟨rfl, rfl⟩ := hb
      refine K env2 hag2 ?_ (fun h => ?_) fun _ _ => by rw [ht2]; rfl
      · simp only [List.length_cons, List.length_nil, readL, hd2, List.map_cons, List.map_nil, chain]
      · rcases h with h | h
        · cases h
        · cases h
    · rename_i hb
      rw [Cfg.shr, runR_assign, ev_bin, ev_var, ev_lit, ht2, binWrap_shr]
      have hag3 := hag2.set hS 0 ((cv + l.sum env) / 2 ^ c.w)
      have hsum := sum_congr ls (i + 1) hgood hag3
      refine limbs_run ls (fun env' x hi h hb => hg env' x (max hi (i + 1)) ?_ fun ho => hb fun l' hl' => ho l' (List.mem_cons_of_mem _ hl'))
        hgood (Env.get_set_same ..) ?_
        fun env' hag' hread' hcarry' hdiv' => ?_
      · exact hag3.trans (h.mono (Nat.le_max_left ..)) (Nat.le_succ i) (Nat.le_max_right ..)
      · rw [hsum]; exact hnws
      · rw [hsum] at hread' hcarry' hdiv'
        refine K env' ?_ ?_ (fun h => ?_) fun hf _ => hdiv' hf fun hl => hb (by rw [hl, hf]; rfl)
        · rw [List.length_cons, ← Nat.add_assoc, Nat.add_right_comm]
          exact hag3.trans hag' (Nat.le_succ i) (Nat.le_add_right ..)
        · rw [List.length_cons, readL, hread', hag' c.dst i hdS fun _ => .inl (Nat.lt_succ_self i),
            Env.get_set_other _ _ _ _ _ _ (by intro h; injection h with h _; exact hdS (h ▸ hS)), hd2]
          rfl
        · rcases h with h | h
          · exact hcarry' (.inl h)
          · cases h

/-- the first limb has an addend (it initialises the accumulator) -/
def Shape (ls : List Limb) : Prop := ∃ a as o m ls', ls = ⟨a :: as, o, m⟩ :: ls'

/-- `limbs_run` from the start: `t = a` for the first addend, carry in `0` -/
theorem prog_run {r : List Stmt} {fin : Bool} {g : Expr → Expr} {G : Nat → Nat} {ls : List Limb} {env : Env}
    (hsh : Shape ls)
    (hg : ∀ env' x hi, Agree S c.dst 0 hi env env' → ((∀ l ∈ ls, l.out.isSome) → env'.get x 0 < 2 ^ c.w) →
      ev env' (g (.var x)) = G (env'.get x 0 % 2 ^ c.w))
    (hgood : Good S c.t c.dst 0 ls) (hnw : NoWrap c.aw c.w 0 (ls.map (Limb.sum env)))
    (K : ∀ env', Agree S c.dst 0 ls.length env env' →
      readL env' c.dst 0 ls.length = (chain c.w 0 (ls.map (Limb.sum env))).1.map G →
      (fin = true → env'.get c.t 0 = (chain c.w 0 (ls.map (Limb.sum env))).2) →
      (fin = false → env'.get c.t 0 / 2 ^ c.w = (chain c.w 0 (ls.map (Limb.sum env))).2) → P (runR env' r)) :
    P (runR env (c.prog fin g r ls)) := by
  obtain ⟨a, as, o, m, ls, rfl⟩ := hsh
  obtain ⟨hadds, hout, hmul, hgood'⟩ := hgood
  have hgood1 : Good S c.t c.dst 0 (⟨as, o, m⟩ :: ls) := ⟨fun b hb => hadds b (List.mem_cons_of_mem _ hb), hout, hmul, hgood'⟩
  obtain ⟨hst, hx⟩ := hadds a List.mem_cons_self
  simp only [List.map_cons, Limb.sum, Limb.mulAtoms, List.sum_cons, chain, NoWrap, Nat.zero_add, List.length_cons] at hnw K
  have key : ∀ env1, Agree S c.dst 0 0 env env1 → env1.get c.t 0 = sumAt env a.2 →
      P (runR env1 (c.limbs fin g 0 (⟨as, o, m⟩ :: ls) r)) := fun env1 hag1 ht1 => by
    have hsum := sum_congr (⟨as, o, m⟩ :: ls) 0 hgood1 hag1
    refine limbs_run c hS hdst (⟨as, o, m⟩ :: ls) (fun env' x hi h hb => hg env' x hi (hag1.trans h (Nat.le_refl 0) (Nat.zero_le _))
        fun ho => hb fun l' hl' => by
          rcases List.mem_cons.1 hl' with rfl | hl'
          · exact ho ⟨a :: as, o, m⟩ List.mem_cons_self
          · exact ho l' (List.mem_cons_of_mem _ hl'))
      hgood1 ht1 ?_ fun env' hag' hread' hcarry' hdiv' => ?_
    · rw [hsum]; simpa only [List.map_cons, Limb.sum, Limb.mulAtoms, NoWrap, Nat.add_assoc] using hnw
    · rw [hsum] at hread' hcarry' hdiv'
      simp only [List.map_cons, Limb.sum, Limb.mulAtoms, chain, List.length_cons, Nat.zero_add, ← Nat.add_assoc] at hread' hcarry' hdiv' hag'
      exact K env' (hag1.trans hag' (Nat.le_refl 0) (Nat.zero_le _)) hread' (fun h => hcarry' (.inl h)) fun h =>
        hdiv' h (List.cons_ne_nil _ _)
  have he : ev env (sumE c.aw a.2) = sumAt env a.2 := ev_sumE (by omega)
  obtain ⟨_ | x, e⟩ := a
  · rw [Cfg.prog, Cfg.set, runR_assign]
    exact key _ ((Agree.refl S c.dst 0 0 env).set hS _ _) ((Env.get_set_same ..).trans he)
  · obtain ⟨hxS, hxt⟩ := hx x rfl
    rw [Cfg.prog, Cfg.set, runR_assign, runR_assign]
    refine key _ (((Agree.refl S c.dst 0 0 env).set hxS _ _).set hS _ _) ?_
    rw [Env.get_set_same, ev_var, Env.get_set_same, he]

end rules

section chain
variable {P : Env × Option Nat → Prop} (c : Cfg) {S : List String} (hS : c.t ∈ S) (hdst : c.dst ∉ S)
include hS hdst

/-- a chain whose summands are known, without masks: the digits and the carry out `cc` represent the sum.  At most `k + 1`
    summands `< 2^w` per limb (`hb`), so carries stay `≤ k` and an accumulator with `(k+1)·2^w ≤ 2^aw` (`hk`) does not wrap. -/
theorem chain_run {r : List Stmt} {fin : Bool} {g : Expr → Expr} {ls : List Limb} {ss : List Nat} {k : Nat} {env : Env}
    (hsh : Shape ls) (hgood : Good S c.t c.dst 0 ls)
    (hg : ∀ env x, ((∀ l ∈ ls, l.out.isSome) → env.get x 0 < 2 ^ c.w) → ev env (g (.var x)) = env.get x 0 % 2 ^ c.w)
    (hs : ls.map (Limb.sum env) = ss) (hk : (k + 1) * 2 ^ c.w ≤ 2 ^ c.aw) (hb : ∀ s ∈ ss, s + (k + 1) ≤ (k + 1) * 2 ^ c.w)
    (K : ∀ env' cc, Agree S c.dst 0 ls.length env env' → (∀ d ∈ readL env' c.dst 0 ls.length, d < 2 ^ c.w) → cc ≤ k →
      valL c.w (readL env' c.dst 0 ls.length) + 2 ^ (c.w * ls.length) * cc = valL c.w ss →
      (fin = true → env'.get c.t 0 = cc) → (fin = false → env'.get c.t 0 / 2 ^ c.w = cc) → P (runR env' r)) :
    P (runR env (c.prog fin g r ls)) := by
  subst hs
  refine prog_run c hS hdst (G := id) hsh (fun env' x hi _ hb => hg env' x hb) hgood
    (noWrap_of_le hk 0 _ (Nat.zero_le _) hb) fun env' hag hread hcar hdiv => ?_
  rw [List.map_id] at hread
  have hv := chain_val c.w 0 (ls.map (Limb.sum env))
  rw [← hread, List.length_map, Nat.zero_add] at hv
  exact K env' _ hag (by rw [hread]; exact chain_lt _ _ _) (chain_carry_le 0 _ (Nat.zero_le _) hb) hv hcar hdiv

end chain

def cellsE (a : String) : Nat → Nat → List Expr
  | _, 0 => []
  | i, n + 1 => .idx a (.lit i) :: cellsE a (i + 1) n

theorem map_ev_cellsE (env : Env) (a : String) : ∀ (n i : Nat), (cellsE a i n).map (ev env) = readL env a i n
  | 0, _ => rfl
  | n + 1, i => by rw [cellsE, List.map_cons, readL, map_ev_cellsE env a n, ev_idx, ev_lit]

theorem sumAt_lits (env : Env) : ∀ (ks : List Nat), sumAt env (ks.map .lit) = ks.sum
  | [] => rfl
  | k :: ks => by
    have := sumAt_lits env ks
    rw [sumAt] at this ⊢
    rw [List.map_cons, List.map_cons, List.sum_cons, List.sum_cons, this, ev_lit]

theorem ev_foldl_or (env : Env) (w : Nat) : ∀ (es : List Expr) (e : Expr),
    ev env (es.foldl (.bin .or w) e) = (es.map (ev env)).foldl (· ||| ·) (ev env e)
  | [], _ => rfl
  | x :: es, e => by rw [List.foldl_cons, ev_foldl_or env w es, List.map_cons, List.foldl_cons, ev_bin, binWrap_or]

theorem foldl_or_eq_zero : ∀ (xs : List Nat) (x : Nat), xs.foldl (· ||| ·) x = 0 ↔ x = 0 ∧ ∀ y ∈ xs, y = 0
  | [], x => by simp
  | y :: ys, x => by
    rw [List.foldl_cons, foldl_or_eq_zero ys, Nat.or_eq_zero_iff, List.forall_mem_cons, and_assoc]

/-- `(a[0] | … | a[n]) == 0` -/
def isZeroE (w : Nat) (a : String) (n : Nat) : Expr :=
  .bin .eq w ((cellsE a 1 n).foldl (.bin .or w) (.idx a (.lit 0))) (.lit 0)

theorem ev_isZeroE (env : Env) (w : Nat) (a : String) (n : Nat) :
    ev env (isZeroE w a n) = if valL w (readL env a 0 (n + 1)) = 0 then 1 else 0 := by
  rw [isZeroE, ev_bin, ev_foldl_or, map_ev_cellsE, ev_idx, ev_lit, binWrap_eq]
  simp only [foldl_or_eq_zero, valL_eq_zero, readL, List.forall_mem_cons]

/-! ### `N − a` as `~a + N + 1`, masked -/

/-- `~a + (M + 1)` summed limb by limb, carry out dropped, is `M - a` for `0 < a < M` -/
theorem neg_val {w M : Nat} {as ss : List Nat} (ha : ∀ x ∈ as, x < 2 ^ w) (hlen : ss.length = as.length)
    (hss : valL w ss = valL w (as.map (2 ^ w - 1 - ·)) + (M + 1)) (hpos : 0 < valL w as) (hlt : valL w as < M)
    (hM : M < 2 ^ (w * as.length)) : valL w (chain w 0 ss).1 = M - valL w as := by
  have h1 := chain_val w 0 ss
  have h2 := valL_compl ha
  have h3 : valL w (chain w 0 ss).1 < 2 ^ (w * as.length) := by
    have := valL_lt_pow (chain_lt w 0 ss); rwa [chain_length, hlen] at this
  rw [hlen] at h1
  generalize 2 ^ (w * as.length) = X at *
  generalize valL w (chain w 0 ss).1 = R at *
  have e : R = (R + X * (chain w 0 ss).2) % X := by rw [Nat.add_mul_mod_self_left, Nat.mod_eq_of_lt h3]
  have e' : valL w (as.map (2 ^ w - 1 - ·)) + (M + 1) = (M - valL w as) + X * 1 := by omega
  rw [e, h1, hss, Nat.zero_add, e', Nat.add_mul_mod_self_left, Nat.mod_eq_of_lt (by omega)]

/-- the same under the mask `nonzero` of `secp256k1_scalar_negate`: all ones, or zero when `a = 0` -/
theorem negmask_val {w M nz : Nat} {as ss : List Nat} (hw : 0 < w) (ha : ∀ x ∈ as, x < 2 ^ w) (hlen : ss.length = as.length)
    (hss : valL w ss = valL w (as.map (2 ^ w - 1 - ·)) + (M + 1)) (hlt : valL w as < M) (hM : M < 2 ^ (w * as.length))
    (hmask : valL w as = 0 ∧ nz = 0 ∨ valL w as ≠ 0 ∧ nz = 2 ^ w - 1) :
    valL w ((chain w 0 ss).1.map (· &&& nz)) = (M - valL w as) % M ∧ ∀ d ∈ (chain w 0 ss).1.map (· &&& nz), d < 2 ^ w := by
  obtain ⟨hv, hl⟩ := valL_map_and hw (chain_lt w 0 ss) (hmask.imp And.right And.right)
  refine ⟨?_, hl⟩
  have h1 : 1 < 2 ^ w := Nat.one_lt_two_pow (by omega)
  rcases hmask with ⟨h0, rfl⟩ | ⟨h0, rfl⟩
  · rw [hv, if_pos rfl, h0, Nat.sub_zero, Nat.mod_self]
  · rw [hv, if_neg (by omega), neg_val ha hlen hss (by omega) hlt hM, Nat.mod_eq_of_lt (by omega)]

theorem zipWith_add_le {X Y : Nat} : ∀ {xs ys : List Nat}, (∀ x ∈ xs, x ≤ X) → (∀ y ∈ ys, y ≤ Y) →
    ∀ s ∈ List.zipWith (· + ·) xs ys, s ≤ X + Y
  | [], _, _, _, _, h => by simp at h
  | _ :: _, [], _, _, _, h => by simp at h
  | x :: xs, y :: ys, hx, hy, s, h => by
    rw [List.zipWith_cons_cons, List.mem_cons] at h
    rcases h with rfl | h
    · exact Nat.add_le_add (hx x List.mem_cons_self) (hy y List.mem_cons_self)
    · exact zipWith_add_le (fun x h => hx x (List.mem_cons_of_mem _ h)) (fun y h => hy y (List.mem_cons_of_mem _ h)) s h

/-- atoms of the limbs of `~a + k`: the complement of `a[i]` and the constants of limb `i` -/
def negAtoms (w : Nat) (a : String) : Nat → List (List Nat) → List (List Expr)
  | _, [] => []
  | i, ks :: kss => (.not w (.idx a (.lit i)) :: ks.map .lit) :: negAtoms w a (i + 1) kss

theorem negAtoms_sum {env : Env} {w : Nat} {a : String} : ∀ (kss : List (List Nat)) (i : Nat),
    (∀ d ∈ readL env a i kss.length, d < 2 ^ w) →
    (negAtoms w a i kss).map (sumAt env) =
      List.zipWith (· + ·) ((readL env a i kss.length).map (2 ^ w - 1 - ·)) (kss.map List.sum)
  | [], _, _ => rfl
  | ks :: kss, i, h => by
    rw [List.length_cons, readL, List.forall_mem_cons] at h
    rw [negAtoms, List.map_cons, negAtoms_sum kss (i + 1) h.2, List.length_cons, readL, List.map_cons, List.map_cons,
      List.zipWith_cons_cons, sumAt, List.map_cons, List.sum_cons, ← sumAt, sumAt_lits, ev_not, ev_idx, ev_lit,
      Nat.mod_eq_of_lt h.1]

section negate
variable {P : Env × Option Nat → Prop} (c : Cfg) {S : List String} (hS : c.t ∈ S) (hdst : c.dst ∉ S)
include hS hdst

/-- the chain of `secp256k1_scalar_negate`: the limbs add `~a[i]` and constants `ns` with value
    `M + 1`, the stores are masked by the variable `nzn` (all ones, or zero when `a = 0`): `dst = (M - a) mod M` -/
theorem negchain_run {r : List Stmt} {a nzn : String} {g : Expr → Expr} {ls : List Limb} {ns : List Nat} {M : Nat}
    {env : Env} (hw : 0 < c.w) (haw : 2 * 2 ^ c.w ≤ 2 ^ c.aw) (hsh : Shape ls) (hgood : Good S c.t c.dst 0 ls)
    (hnz : nzn ∉ S ∧ nzn ≠ c.dst)
    (hg : ∀ env x, env.get nzn 0 < 2 ^ c.w → ev env (g (.var x)) = env.get x 0 % 2 ^ c.w &&& env.get nzn 0)
    (hs : ls.map (Limb.sum env) = List.zipWith (· + ·) ((readL env a 0 ls.length).map (2 ^ c.w - 1 - ·)) ns)
    (hlen : ns.length = ls.length) (hns : valL c.w ns = M + 1) (hnb : ∀ k ∈ ns, k < 2 ^ c.w)
    (ha : ∀ d ∈ readL env a 0 ls.length, d < 2 ^ c.w) (hA : valL c.w (readL env a 0 ls.length) < M)
    (hM : M < 2 ^ (c.w * ls.length))
    (hmask : valL c.w (readL env a 0 ls.length) = 0 ∧ env.get nzn 0 = 0 ∨
      valL c.w (readL env a 0 ls.length) ≠ 0 ∧ env.get nzn 0 = 2 ^ c.w - 1)
    (K : ∀ env', Agree S c.dst 0 ls.length env env' → (∀ d ∈ readL env' c.dst 0 ls.length, d < 2 ^ c.w) →
      valL c.w (readL env' c.dst 0 ls.length) = (M - valL c.w (readL env a 0 ls.length)) % M → P (runR env' r)) :
    P (runR env (c.prog false g r ls)) := by
  have h1 : 1 < 2 ^ c.w := Nat.one_lt_two_pow (by omega)
  have hnzlt : env.get nzn 0 < 2 ^ c.w := by rcases hmask with ⟨_, h⟩ | ⟨_, h⟩ <;> omega
  have hla : (readL env a 0 ls.length).length = ls.length := readL_length ..
  refine prog_run c hS hdst (G := (· &&& env.get nzn 0)) hsh (fun env' x hi h _ => ?_) hgood ?_ fun env' hag hread _ _ => ?_
  · have e := h nzn 0 hnz.1 fun e => (hnz.2 e).elim
    rw [hg env' x (by rw [e]; exact hnzlt), e]
  · rw [hs]
    refine noWrap_of_le (k := 1) haw 0 _ (by omega) fun s hs' => ?_
    have := zipWith_add_le (X := 2 ^ c.w - 1) (Y := 2 ^ c.w - 1) (fun x hx => ?_) (fun k hk => by have := hnb k hk; omega) s hs'
    · omega
    · obtain ⟨d, -, rfl⟩ := List.mem_map.1 hx; omega
  · rw [hs] at hread
    have hss : valL c.w (List.zipWith (· + ·) ((readL env a 0 ls.length).map (2 ^ c.w - 1 - ·)) ns) =
        valL c.w ((readL env a 0 ls.length).map (2 ^ c.w - 1 - ·)) + (M + 1) := by
      rw [valL_zipWith_add _ _ _ (by rw [List.length_map, hla, hlen]), hns]
    obtain ⟨hv, hl⟩ := negmask_val hw ha (by rw [List.length_zipWith, List.length_map, hla, hlen, Nat.min_self]) hss hA
      (by rwa [hla]) hmask
    rw [← hread] at hv hl
    exact K env' hag hl hv

theorem negate_run {r : List Stmt} {a zn nzn : String} {m : Expr} {g : Expr → Expr} {ls : List Limb}
    {kss : List (List Nat)} {M n : Nat} {env : Env} (hw : 0 < c.w) (haw : 2 * 2 ^ c.w ≤ 2 ^ c.aw) (hsh : Shape ls)
    (hgood : Good S c.t c.dst 0 ls) (hnz : nzn ∉ S ∧ nzn ≠ c.dst) (hna : a ≠ zn ∧ a ≠ nzn)
    (hg : ∀ env x, env.get nzn 0 < 2 ^ c.w → ev env (g (.var x)) = env.get x 0 % 2 ^ c.w &&& env.get nzn 0)
    (hm : ∀ env, env.get zn 0 ≤ 1 → ev env m = if env.get zn 0 = 0 then 2 ^ c.w - 1 else 0)
    (hat : ls.map Limb.atoms = negAtoms c.w a 0 kss) (hlen : ls.length = n + 1)
    (hns : valL c.w (kss.map List.sum) = M + 1) (hnb : ∀ k ∈ kss.map List.sum, k < 2 ^ c.w)
    (ha : ∀ d ∈ readL env a 0 (n + 1), d < 2 ^ c.w) (hA : valL c.w (readL env a 0 (n + 1)) < M)
    (hM : M < 2 ^ (c.w * (n + 1)))
    (K : ∀ env', (∀ d ∈ readL env' c.dst 0 (n + 1), d < 2 ^ c.w) →
      valL c.w (readL env' c.dst 0 (n + 1)) = (M - valL c.w (readL env a 0 (n + 1))) % M → P (runR env' r)) :
    P (runR env (.assign zn (isZeroE c.w a n) :: .assign nzn m :: c.prog false g r ls)) := by
  rw [runR_assign, runR_assign]
  have hz := ev_isZeroE env c.w a n
  generalize ev env (isZeroE c.w a n) = z at hz ⊢
  have hnzv := hm (env.set zn 0 z) (by rw [Env.get_set_same, hz]; split <;> omega)
  rw [Env.get_set_same] at hnzv
  generalize ev (env.set zn 0 z) m = nz at hnzv ⊢
  have hrd : readL ((env.set zn 0 z).set nzn 0 nz) a 0 (n + 1) = readL env a 0 (n + 1) := readL_congr _ _ fun j _ _ => by
    rw [get_set_ne _ hna.2 _ _ _,
      get_set_ne _ hna.1 _ _ _]
  have hkl : kss.length = n + 1 := by
    have := congrArg List.length hat
    rw [List.length_map, hlen] at this
    rw [this]; clear * -
    generalize 0 = i
    induction kss generalizing i with
    | nil => rfl
    | cons ks kss ih => rw [negAtoms, List.length_cons, List.length_cons, ← ih]
  rw [← hrd] at ha hA
  rw [← hlen] at hrd ha hA hM K
  refine negchain_run c hS hdst (a := a) hw haw hsh hgood hnz hg ?_ (by rw [List.length_map, hkl, hlen]) hns hnb
    ha hA hM ?_ fun env' _ h1 h2 => K env' h1 (by rw [h2, hrd])
  · rw [map_sum_eq, hat, hlen, ← hkl, negAtoms_sum kss 0 (by rw [hkl, ← hlen]; exact ha)]
  · rw [Env.get_set_same, hrd, hnzv, hlen, hz]
    by_cases h0 : valL c.w (readL env a 0 (n + 1)) = 0
    · rw [if_pos h0, if_neg Nat.one_ne_zero]; exact .inl ⟨h0, rfl⟩
    · rw [if_neg h0, if_pos rfl]; exact .inr ⟨h0, rfl⟩

end negate

/-! ### `secp256k1_scalar_cond_negate`: the same chain under a mask that is all ones or zero -/

theorem xor_ones (x n : Nat) (h : x < 2 ^ n) : x ^^^ (2 ^ n - 1) = 2 ^ n - 1 - x := by
  apply Nat.eq_of_testBit_eq
  intro i
  have e : 2 ^ n - 1 - x = 2 ^ n - (x + 1) := by omega
  rw [Nat.testBit_xor, Nat.testBit_two_pow_sub_one, e, Nat.testBit_two_pow_sub_succ h]
  by_cases hi : i < n
  · simp [hi]
  · have : x.testBit i = false := Nat.testBit_lt_two_pow (Nat.lt_of_lt_of_le h (Nat.pow_le_pow_right (by decide) (by omega)))
    simp [hi, this]

theorem chain_small {w : Nat} : ∀ {ss : List Nat}, (∀ s ∈ ss, s < 2 ^ w) → chain w 0 ss = (ss, 0)
  | [], _ => rfl
  | s :: ss, h => by
    have hs := h s List.mem_cons_self
    rw [chain, Nat.zero_add, Nat.div_eq_of_lt hs, Nat.mod_eq_of_lt hs, chain_small fun x hx => h x (List.mem_cons_of_mem _ hx)]

/-- atoms of limb `i`: `a[i] ^ mask` and `k & mask` -/
def cnegAtoms (w : Nat) (a mn : String) : Nat → List Nat → List (List Expr)
  | _, [] => []
  | i, k :: ks => [.bin .xor w (.idx a (.lit i)) (.var mn), .bin .and w (.lit k) (.var mn)] :: cnegAtoms w a mn (i + 1) ks

theorem cnegAtoms_length (w : Nat) (a mn : String) : ∀ (ks : List Nat) (i : Nat), (cnegAtoms w a mn i ks).length = ks.length
  | [], _ => rfl
  | _ :: ks, i => by rw [cnegAtoms, List.length_cons, List.length_cons, cnegAtoms_length w a mn ks]

theorem cnegAtoms_zero {env : Env} {w : Nat} {a mn : String} (h0 : env.get mn 0 = 0) : ∀ (ks : List Nat) (i : Nat),
    (cnegAtoms w a mn i ks).map (sumAt env) = readL env a i ks.length
  | [], _ => rfl
  | k :: ks, i => by
    rw [cnegAtoms, List.map_cons, cnegAtoms_zero h0 ks, List.length_cons, readL]
    simp only [sumAt, List.map_cons, List.map_nil, List.sum_cons, List.sum_nil, ev_bin, ev_idx, ev_lit, ev_var, h0,
      binWrap_xor, binWrap_and, Nat.xor_zero, Nat.and_zero, Nat.add_zero]

theorem cnegAtoms_ones {env : Env} {w : Nat} {a mn : String} (h1 : env.get mn 0 = 2 ^ w - 1) : ∀ (ks : List Nat) (i : Nat),
    (∀ d ∈ readL env a i ks.length, d < 2 ^ w) → (∀ k ∈ ks, k < 2 ^ w) →
    (cnegAtoms w a mn i ks).map (sumAt env) = List.zipWith (· + ·) ((readL env a i ks.length).map (2 ^ w - 1 - ·)) ks
  | [], _, _, _ => rfl
  | k :: ks, i, h, hk => by
    rw [List.length_cons, readL, List.forall_mem_cons] at h
    rw [List.forall_mem_cons] at hk
    rw [cnegAtoms, List.map_cons, cnegAtoms_ones h1 ks (i + 1) h.2 hk.2, List.length_cons, readL, List.map_cons,
      List.zipWith_cons_cons]
    simp only [sumAt, List.map_cons, List.map_nil, List.sum_cons, List.sum_nil, ev_bin, ev_idx, ev_lit, ev_var, h1,
      binWrap_xor, binWrap_and, xor_ones _ _ h.1, Nat.and_two_pow_sub_one_eq_mod, Nat.mod_eq_of_lt hk.1, Nat.add_zero]

section cond_negate
variable {P : Env × Option Nat → Prop} (c : Cfg) {S : List String} (hS : c.t ∈ S) (hdst : c.dst ∉ S)
include hS hdst

/-- `mask = -flag`, the zero test and its mask, the chain
    `(r ^ mask) + (N + 1 & mask)`, and what is returned -/
theorem cond_negate_run {fn vf mn zn nzn : String} {mE nzE retE : Expr} {g : Expr → Expr} {ls : List Limb}
    {ks : List Nat} {M n : Nat} {env : Env} (hw : 0 < c.w) (haw : 2 * 2 ^ c.w ≤ 2 ^ c.aw) (hsh : Shape ls)
    (hgood : Good S c.t c.dst 0 ls) (hnz : nzn ∉ S ∧ nzn ≠ c.dst) (hmn : mn ∉ S ∧ mn ≠ c.dst ∧ mn ≠ zn ∧ mn ≠ nzn)
    (hna : c.dst ≠ vf ∧ c.dst ≠ zn)
    (hg : ∀ env x, env.get nzn 0 < 2 ^ c.w → ev env (g (.var x)) = env.get x 0 % 2 ^ c.w &&& env.get nzn 0)
    (hmE : ∀ env, env.get vf 0 ≤ 1 → ev env mE = if env.get vf 0 = 1 then 2 ^ c.w - 1 else 0)
    (hm : ∀ env, env.get zn 0 ≤ 1 → ev env nzE = if env.get zn 0 = 0 then 2 ^ c.w - 1 else 0)
    (hret : ∀ env, ev env retE = if env.get mn 0 = 0 then 1 else 4294967295)
    (hat : ls.map Limb.atoms = cnegAtoms c.w c.dst mn 0 ks) (hlen : ks.length = n + 1)
    (hns : valL c.w ks = M + 1) (hnb : ∀ k ∈ ks, k < 2 ^ c.w) (hf : env.get fn 0 ≤ 1)
    (ha : ∀ d ∈ readL env c.dst 0 (n + 1), d < 2 ^ c.w) (hA : valL c.w (readL env c.dst 0 (n + 1)) < M)
    (hM : M < 2 ^ (c.w * (n + 1)))
    (K : ∀ env', (∀ d ∈ readL env' c.dst 0 (n + 1), d < 2 ^ c.w) →
      valL c.w (readL env' c.dst 0 (n + 1)) =
        (if env.get fn 0 = 1 then (M - valL c.w (readL env c.dst 0 (n + 1))) % M else valL c.w (readL env c.dst 0 (n + 1))) →
      P (env', some (if env.get fn 0 = 1 then 4294967295 else 1))) :
    P (runR env (.assign vf (.var fn) :: .assign mn mE :: .assign zn (isZeroE c.w c.dst n) :: .assign nzn nzE ::
      c.prog false g [.ret retE] ls)) := by
  have h1 : 1 < 2 ^ c.w := Nat.one_lt_two_pow (by omega)
  rw [runR_assign, runR_assign, runR_assign, runR_assign, ev_var]
  generalize env.get fn 0 = f at hf K ⊢
  have hmv := hmE (env.set vf 0 f) (by rw [Env.get_set_same]; exact hf)
  rw [Env.get_set_same] at hmv
  generalize ev (env.set vf 0 f) mE = mv at hmv ⊢
  have hrd0 : readL ((env.set vf 0 f).set mn 0 mv) c.dst 0 (n + 1) = readL env c.dst 0 (n + 1) := readL_congr _ _ fun j _ _ => by
    rw [get_set_ne _ hmn.2.1.symm _ _ _,
      get_set_ne _ hna.1 _ _ _]
  have hz := ev_isZeroE ((env.set vf 0 f).set mn 0 mv) c.w c.dst n
  rw [hrd0] at hz
  generalize ev ((env.set vf 0 f).set mn 0 mv) (isZeroE c.w c.dst n) = z at hz ⊢
  have hnzv := hm (((env.set vf 0 f).set mn 0 mv).set zn 0 z) (by rw [Env.get_set_same, hz]; split <;> omega)
  rw [Env.get_set_same] at hnzv
  generalize ev (((env.set vf 0 f).set mn 0 mv).set zn 0 z) nzE = nz at hnzv ⊢
  generalize henv : ((((env.set vf 0 f).set mn 0 mv).set zn 0 z).set nzn 0 nz) = env2
  have hrd : readL env2 c.dst 0 (n + 1) = readL env c.dst 0 (n + 1) := by
    rw [← henv, ← hrd0]
    exact readL_congr _ _ fun j _ _ => by
      rw [get_set_ne _ hnz.2.symm _ _ _,
        get_set_ne _ hna.2 _ _ _]
  have hmv2 : env2.get mn 0 = mv := by
    rw [← henv, get_set_ne _ hmn.2.2.2 _ _ _,
      get_set_ne _ hmn.2.2.1 _ _ _, Env.get_set_same]
  have hnz2 : env2.get nzn 0 = nz := by rw [← henv, Env.get_set_same]
  have hll : ls.length = n + 1 := by
    have := congrArg List.length hat
    rwa [List.length_map, cnegAtoms_length, hlen] at this
  have hmask : valL c.w (readL env c.dst 0 (n + 1)) = 0 ∧ nz = 0 ∨ valL c.w (readL env c.dst 0 (n + 1)) ≠ 0 ∧ nz = 2 ^ c.w - 1 := by
    rw [hnzv, hz]
    by_cases h0 : valL c.w (readL env c.dst 0 (n + 1)) = 0
    · rw [if_pos h0, if_neg Nat.one_ne_zero]; exact .inl ⟨h0, rfl⟩
    · rw [if_neg h0, if_pos rfl]; exact .inr ⟨h0, rfl⟩
  have hfin : ∀ env', Agree S c.dst 0 ls.length env2 env' → ev env' retE = if f = 1 then 4294967295 else 1 := fun env' hag => by
    rw [hret, hag mn 0 hmn.1 (fun e => (hmn.2.1 e).elim), hmv2, hmv]
    obtain rfl | rfl : f = 0 ∨ f = 1 := by omega
    · rfl
    · rw [if_pos rfl, if_neg (by omega), if_pos rfl]
  obtain rfl | rfl : f = 0 ∨ f = 1 := by omega
  · -- mask = 0: the digits are the limbs of `r`, nothing is carried
    rw [if_neg Nat.zero_ne_one] at hmv K
    have hs : ls.map (Limb.sum env2) = readL env c.dst 0 (n + 1) := by
      rw [map_sum_eq, hat, cnegAtoms_zero (hmv2.trans hmv), hlen, hrd]
    have hnzlt : nz < 2 ^ c.w := by rcases hmask with ⟨_, h⟩ | ⟨_, h⟩ <;> omega
    refine prog_run c hS hdst (G := (· &&& nz)) hsh (fun env' x hi h _ => ?_) hgood ?_ fun env' hag hread _ _ => ?_
    · have e := (h nzn 0 hnz.1 fun e => (hnz.2 e).elim).trans hnz2
      rw [hg env' x (by rw [e]; exact hnzlt), e]
    · rw [hs]
      exact noWrap_of_le (k := 1) haw 0 _ (by omega) fun s hs' => by have := ha s hs'; omega
    · rw [hs, chain_small ha, ← hll] at hread
      obtain ⟨hv, hl⟩ := valL_map_and hw ha (hmask.imp And.right And.right)
      rw [hll] at hread
      rw [← hread] at hv hl
      rw [runR_ret, hfin env' hag]
      refine K env' hl (hv.trans ?_)
      rcases hmask with ⟨h0, rfl⟩ | ⟨h0, rfl⟩
      · rw [if_pos rfl, h0]
      · rw [if_neg (by omega)]
  · rw [if_pos rfl] at hmv K
    rw [← hll] at hrd ha hA hM K
    refine negchain_run c hS hdst (a := c.dst) (ns := ks) hw haw hsh hgood hnz hg ?_ (by rw [hlen, hll]) hns
      hnb (by rwa [hrd]) (by rwa [hrd]) hM (by rw [hrd, hnz2, hll]; exact hmask)
      fun env' hag h1 h2 => ?_
    · rw [map_sum_eq, hat, cnegAtoms_ones (hmv2.trans hmv) ks 0 (by rw [hlen, ← hll, hrd]; exact ha) hnb, hlen, hll]
    · rw [runR_ret, hfin env' hag]
      exact K env' h1 (by rw [h2, hrd])

end cond_negate

/-! ### `secp256k1_scalar_half`: `(a >> 1) + (H & -(a & 1))` -/

/-- `-(x & 1)`: all ones iff `x` is odd -/
theorem neg_bit (w x : Nat) (hw : 0 < w) : (2 ^ w - (x &&& 1) % 2 ^ w) % 2 ^ w = if x % 2 = 1 then 2 ^ w - 1 else 0 := by
  have h1 : 1 < 2 ^ w := Nat.one_lt_two_pow (by omega)
  rw [Nat.and_one_is_mod]
  obtain h | h : x % 2 = 0 ∨ x % 2 = 1 := by omega
  · rw [h, Nat.zero_mod, Nat.sub_zero, Nat.mod_self, if_neg (by omega)]
  · rw [h, Nat.mod_eq_of_lt h1, Nat.mod_eq_of_lt (by omega), if_pos rfl]

theorem and_bit_mask {w k m x : Nat} (hk : k < 2 ^ w) (hm : m = if x % 2 = 1 then 2 ^ w - 1 else 0) : k &&& m = x % 2 * k := by
  obtain h | h : x % 2 = 0 ∨ x % 2 = 1 := by omega
  · rw [hm, h, if_neg (by omega), Nat.and_zero, Nat.zero_mul]
  · rw [hm, h, if_pos rfl, Nat.and_two_pow_sub_one_eq_mod, Nat.mod_eq_of_lt hk, Nat.one_mul]

/-- `(x >> 1) | (y << w-1)`: a limb of `a >> 1` -/
theorem shr1_or_shl {k x y : Nat} (hx : x < 2 ^ (k + 1)) :
    binWrap .or (k + 1) (binWrap .shr (k + 1) x 1) (binWrap .shl (k + 1) y k) = x / 2 + y % 2 * 2 ^ k := by
  rw [binWrap_or, binWrap_shr, binWrap_shl, Nat.pow_one, Nat.pow_succ, Nat.mul_comm (2 ^ k) 2, Nat.mul_mod_mul_right,
    Nat.or_comm, FieldKernel.shl_or _ _ k (by rw [Nat.pow_succ] at hx; omega), Nat.add_comm]

/-- atoms of limb `i`: `(a[i] >> 1) | (a[i+1] << w-1)` and `k & mask` -/
def halfAtoms (w : Nat) (a mn : String) : Nat → List Nat → List (List Expr)
  | _, [] => []
  | i, k :: ks =>
    [.bin .or w (.bin .shr w (.idx a (.lit i)) (.lit 1)) (.bin .shl w (.idx a (.lit (i + 1))) (.lit (w - 1))),
     .bin .and w (.lit k) (.var mn)] :: halfAtoms w a mn (i + 1) ks

theorem halfAtoms_length (w : Nat) (a mn : String) : ∀ (ks : List Nat) (i : Nat), (halfAtoms w a mn i ks).length = ks.length
  | [], _ => rfl
  | _ :: ks, i => by rw [halfAtoms, List.length_cons, List.length_cons, halfAtoms_length w a mn ks]

/-- the limbs below the top one add up with the top limb `a[n]/2 + (k & mask)` to the limbs of `(a >> 1) + b·H` -/
theorem halfAtoms_sum {env : Env} {k : Nat} {a mn : String} {b kt : Nat}
    (hm : env.get mn 0 = if b % 2 = 1 then 2 ^ (k + 1) - 1 else 0) : ∀ (ks : List Nat) (i : Nat),
    (∀ d ∈ readL env a i (ks.length + 1), d < 2 ^ (k + 1)) → (∀ x ∈ ks, x < 2 ^ (k + 1)) →
    (halfAtoms (k + 1) a mn i ks).map (sumAt env) ++ [env.get a (i + ks.length) / 2 + b % 2 * kt] =
      List.zipWith (· + ·) (shr1L k (readL env a i (ks.length + 1))) ((ks ++ [kt]).map (b % 2 * ·))
  | [], _, _, _ => rfl
  | x :: ks, i, h, hk => by
    rw [List.length_cons, readL, List.forall_mem_cons] at h
    rw [List.forall_mem_cons] at hk
    have ih := halfAtoms_sum (kt := kt) hm ks (i + 1) h.2 hk.2
    rw [readL] at ih
    rw [halfAtoms, List.map_cons, List.cons_append, List.length_cons, show i + (ks.length + 1) = i + 1 + ks.length by omega, ih,
      readL, readL, shr1L, List.cons_append, List.map_cons, List.zipWith_cons_cons]
    simp only [sumAt, List.map_cons, List.map_nil, List.sum_cons, List.sum_nil, ev_bin, ev_idx, ev_lit, ev_var,
      Nat.add_sub_cancel, shr1_or_shl h.1, binWrap_and, and_bit_mask hk.1 hm, Nat.add_zero]

/-- the chain over the limbs of `a >> 1` plus those of `b·H`, `b` the low bit of `a`: nothing is carried out -/
theorem half_val {k : Nat} {as ks : List Nat} (ha : ∀ x ∈ as, x < 2 ^ (k + 1)) (hlen : ks.length = as.length)
    (hH : valL (k + 1) ks ≤ 2 ^ ((k + 1) * as.length - 1)) (hpos : 0 < as.length) :
    valL (k + 1) (chain (k + 1) 0 (List.zipWith (· + ·) (shr1L k as) (ks.map (as.headD 0 % 2 * ·)))).1 =
      valL (k + 1) as / 2 + valL (k + 1) as % 2 * valL (k + 1) ks := by
  generalize hss : List.zipWith (· + ·) (shr1L k as) (ks.map (as.headD 0 % 2 * ·)) = ss
  have hl : ss.length = as.length := by
    rw [← hss, List.length_zipWith, shr1L_length, List.length_map, hlen, Nat.min_self]
  have h1 := chain_val (k + 1) 0 ss
  have h2 : valL (k + 1) ss = valL (k + 1) (shr1L k as) + as.headD 0 % 2 * valL (k + 1) ks := by
    rw [← hss, valL_zipWith_add _ _ _ (by rw [shr1L_length, List.length_map, hlen]), valL_map_mul]
  have h3 := valL_shr1L k as
  have h4 := valL_lt_pow ha
  have h5 : valL (k + 1) (chain (k + 1) 0 ss).1 < 2 ^ ((k + 1) * as.length) := by
    have := valL_lt_pow (chain_lt (k + 1) 0 ss); rwa [chain_length, hl] at this
  have hb : as.headD 0 % 2 * valL (k + 1) ks ≤ 1 * valL (k + 1) ks := Nat.mul_le_mul_right _ (by omega)
  have hX : 2 ^ ((k + 1) * as.length) = 2 * 2 ^ ((k + 1) * as.length - 1) := by
    rw [← Nat.pow_succ', Nat.succ_eq_add_one, Nat.sub_add_cancel (Nat.mul_pos (Nat.succ_pos k) hpos)]
  rw [hl, Nat.zero_add, h2] at h1
  generalize valL (k + 1) (chain (k + 1) 0 ss).1 = R at *
  generalize valL (k + 1) (shr1L k as) = Q at *
  generalize valL (k + 1) as = A at *
  generalize valL (k + 1) ks = H at *
  have hA : A / 2 = Q ∧ A % 2 = as.headD 0 % 2 := by omega
  rw [hA.1, hA.2]
  generalize as.headD 0 % 2 * H = bH at *
  rw [hX] at h1 h4 h5
  generalize 2 ^ ((k + 1) * as.length - 1) = X at *
  have e : R = (R + 2 * X * (chain (k + 1) 0 ss).2) % (2 * X) := by rw [Nat.add_mul_mod_self_left, Nat.mod_eq_of_lt h5]
  rw [e, h1, Nat.mod_eq_of_lt (by omega)]

/-- `dst[i] = low + (a[i] >> 1) + (k & mask)`, the low word of the accumulator possibly through a temporary -/
def Cfg.halfTop (c : Cfg) (a mn : String) (i k : Nat) : Option String → List Stmt
  | none => [.store c.dst (.lit i) (topE (.cast c.w (.var c.t)))]
  | some x => [.assign x (.cast c.w (.var c.t)), .store c.dst (.lit i) (topE (.var x))]
where topE (x : Expr) : Expr :=
  .bin .add c.w (.bin .add c.w x (.bin .shr c.w (.idx a (.lit i)) (.lit 1))) (.bin .and c.w (.lit k) (.var mn))

section half
variable {P : Env × Option Nat → Prop} (c : Cfg) {S : List String} (hS : c.t ∈ S) (hdst : c.dst ∉ S)
include hS hdst

/-- the mask `-(a[0] & 1)`, the chain over all limbs but the top one, and
    the top limb, which is added at the width of a limb: `r = a/2 + (a mod 2)·H` for the constant `H` with limbs
    `ks ++ [kt]` (the code needs `H ≤ 2^(bits-1)` not to lose a carry) -/
theorem half_run {a mn : String} {g : Expr → Expr} {ls : List Limb} {ks : List Nat} {kt n k : Nat} {o : Option String}
    {env : Env} (hw : c.w = k + 1) (haw : 2 * 2 ^ c.w ≤ 2 ^ c.aw) (hsh : Shape ls) (hgood : Good S c.t c.dst 0 ls)
    (hmn : mn ∉ S ∧ mn ≠ c.dst) (hna : a ∉ S ∧ a ≠ c.dst ∧ a ≠ mn) (ho : ∀ x, o = some x → x ≠ c.dst ∧ x ≠ a ∧ x ≠ mn)
    (hg : ∀ env x, ((∀ l ∈ ls, l.out.isSome) → env.get x 0 < 2 ^ c.w) → ev env (g (.var x)) = env.get x 0 % 2 ^ c.w)
    (hat : ls.map Limb.atoms = halfAtoms c.w a mn 0 ks) (hlen : ks.length = n) (hk : ∀ x ∈ ks ++ [kt], x < 2 ^ c.w)
    (hH : valL c.w (ks ++ [kt]) ≤ 2 ^ (c.w * (n + 1) - 1)) (ha : ∀ d ∈ readL env a 0 (n + 1), d < 2 ^ c.w)
    (K : ∀ env', (∀ d ∈ readL env' c.dst 0 (n + 1), d < 2 ^ c.w) →
      valL c.w (readL env' c.dst 0 (n + 1)) =
        valL c.w (readL env a 0 (n + 1)) / 2 + valL c.w (readL env a 0 (n + 1)) % 2 * valL c.w (ks ++ [kt]) →
      P (env', none)) :
    P (runR env (.assign mn (.neg c.w (.bin .and c.w (.idx a (.lit 0)) (.lit 1))) ::
      c.prog true g (c.halfTop a mn n kt o) ls)) := by
  obtain ⟨w, aw, t, dst⟩ := c
  dsimp only at hw haw hgood hmn hna ho hg hat hk hH ha K hS hdst ⊢
  subst hw
  have hW : 1 < 2 ^ (k + 1) := Nat.one_lt_two_pow (Nat.succ_ne_zero k)
  rw [runR_assign, ev_neg, ev_bin, ev_idx, ev_lit, ev_lit, binWrap_and, neg_bit _ _ (Nat.succ_pos k)]
  generalize hmv : (if env.get a 0 % 2 = 1 then 2 ^ (k + 1) - 1 else 0) = mv
  have hga : ∀ j, (env.set mn 0 mv).get a j = env.get a j := fun j =>
    get_set_ne _ hna.2.2 _ _ _
  have hrd : readL (env.set mn 0 mv) a 0 (n + 1) = readL env a 0 (n + 1) := readL_congr _ _ fun j _ _ => hga j
  have hm : (env.set mn 0 mv).get mn 0 = if env.get a 0 % 2 = 1 then 2 ^ (k + 1) - 1 else 0 := by rw [Env.get_set_same, hmv]
  have hll : ls.length = n := by
    have := congrArg List.length hat
    rwa [List.length_map, halfAtoms_length, hlen] at this
  have hks : ∀ x ∈ ks, x < 2 ^ (k + 1) := fun x hx => hk x (List.mem_append_left _ hx)
  have hsum := halfAtoms_sum (kt := kt) hm ks 0 (by rw [hlen, hrd]; exact ha) hks
  rw [hlen, hrd, Nat.zero_add, hga, ← hat, ← map_sum_eq] at hsum
  obtain ⟨ss, hssd⟩ : ∃ ss, ss = ls.map (Limb.sum (env.set mn 0 mv)) := ⟨_, rfl⟩
  rw [← hssd] at hsum
  have hle : ∀ s ∈ ss ++ [env.get a n / 2 + env.get a 0 % 2 * kt], s ≤ 2 ^ (k + 1) - 1 + (2 ^ (k + 1) - 1) := by
    rw [hsum]
    refine zipWith_add_le (fun x hx => ?_) fun y hy => ?_
    · have := shr1L_lt ha x hx; omega
    · obtain ⟨z, hz, rfl⟩ := List.mem_map.1 hy
      have := hk z hz
      have : env.get a 0 % 2 * z ≤ 1 * z := Nat.mul_le_mul_right _ (by omega)
      omega
  have hss : ∀ s ∈ ss, s + (1 + 1) ≤ (1 + 1) * 2 ^ (k + 1) := fun s hs => by
    have := hle s (List.mem_append_left _ hs); omega
  refine prog_run ⟨k + 1, aw, t, dst⟩ hS hdst (G := id) hsh (fun env' x hi _ hb => hg env' x hb) hgood
    (hssd ▸ noWrap_of_le (k := 1) haw 0 _ (Nat.zero_le _) hss) fun env2 hag hread hcar _ => ?_
  replace hcar := hcar rfl
  rw [← hssd] at hread hcar
  dsimp only at hag hread hcar
  have hcv := chain_carry_le (w := k + 1) (k := 1) 0 ss (Nat.zero_le _) hss
  rw [List.map_id, hll] at hread
  rw [hll] at hag
  obtain ⟨cv, hcvd⟩ : ∃ cv, cv = (chain (k + 1) 0 ss).2 := ⟨_, rfl⟩
  rw [← hcvd] at hcar hcv
  have ha2 : env2.get a n = env.get a n := (hag a n hna.1 fun e => (hna.2.1 e).elim).trans (hga n)
  have hm2 : env2.get mn 0 = mv := (hag mn 0 hmn.1 fun e => (hmn.2 e).elim).trans (Env.get_set_same ..)
  -- the top limb, whichever way the low word of `t` gets there
  have key : ∀ (env3 : Env) (low : Expr), env3.get a n = env.get a n → env3.get mn 0 = mv → ev env3 low = cv % 2 ^ (k + 1) →
      (∀ j, j < n → env3.get dst j = env2.get dst j) →
      P (runR env3 [.store dst (.lit n) (Cfg.halfTop.topE ⟨k + 1, aw, t, dst⟩ a mn n kt low)]) := fun env3 low h1 h2 h3 h4 => by
    rw [runR_store, runR_nil, ev_lit, Cfg.halfTop.topE, ev_bin, ev_bin, ev_bin, ev_bin, ev_idx, ev_lit, ev_lit, ev_lit, ev_var, h1,
      h2, h3, binWrap_add, binWrap_add, binWrap_shr, Nat.pow_one, binWrap_and, and_bit_mask (hk kt (by simp)) hmv.symm,
      Nat.mod_eq_of_lt (show cv < 2 ^ (k + 1) by omega), Nat.mod_add_mod, Nat.add_assoc]
    have hr : readL (env3.set dst n ((cv + (env.get a n / 2 + env.get a 0 % 2 * kt)) % 2 ^ (k + 1))) dst 0 (n + 1) =
        (chain (k + 1) 0 (ss ++ [env.get a n / 2 + env.get a 0 % 2 * kt])).1 := by
      rw [readL_succ, Nat.zero_add, Env.get_set_same, chain_concat, ← hread, ← hcvd]
      congr 1
      exact readL_congr _ _ fun j _ hj => by
        rw [Env.get_set_other _ _ _ _ _ _ (by intro h; injection h with _ h; omega), h4 j (by omega)]
    refine K _ ?_ ?_
    · rw [hr]; exact chain_lt _ _ _
    · rw [hr, hsum]
      exact half_val ha (by rw [List.length_append, hlen, readL_length]; rfl) (by rwa [readL_length]) (by rw [readL_length]; omega)
  obtain _ | x := o
  · exact key env2 _ ha2 hm2 (by rw [ev_cast, ev_var, hcar]) fun _ _ => rfl
  · obtain ⟨hx1, hx2, hx3⟩ := ho x rfl
    rw [Cfg.halfTop, runR_assign]
    refine key _ _ ?_ ?_ (by rw [ev_var, Env.get_set_same, ev_cast, ev_var, hcar]) fun j _ => ?_
    · rw [get_set_ne _ (Ne.symm hx2) _ _ _, ha2]
    · rw [get_set_ne _ (Ne.symm hx3) _ _ _, hm2]
    · rw [get_set_ne _ (Ne.symm hx1) _ _ _]

end half

/-! ### `secp256k1_scalar_cadd_bit`: `r += flag << bit` -/

/-- the limbs `i, …, i+n-1` of `2^b`: one of them is `2^(b mod w)` if `b / w` is among the indices -/
def indL (w b : Nat) : Nat → Nat → List Nat
  | _, 0 => []
  | i, n + 1 => (if b / w = i then 2 ^ (b % w) else 0) :: indL w b (i + 1) n

theorem indL_length (w b : Nat) : ∀ (n i : Nat), (indL w b i n).length = n
  | 0, _ => rfl
  | n + 1, i => by rw [indL, List.length_cons, indL_length w b n]

theorem indL_lt {w b : Nat} (hw : 0 < w) : ∀ (n i : Nat), ∀ y ∈ indL w b i n, y < 2 ^ w
  | 0, _, _, h => by simp [indL] at h
  | n + 1, i, y, h => by
    rw [indL, List.mem_cons] at h
    rcases h with rfl | h
    · split
      · exact Nat.pow_lt_pow_right (by decide) (Nat.mod_lt _ hw)
      · exact Nat.two_pow_pos w
    · exact indL_lt hw n _ y h

theorem valL_indL (w b : Nat) : ∀ (n i : Nat),
    valL w (indL w b i n) * 2 ^ (w * i) = if i ≤ b / w ∧ b / w < i + n then 2 ^ b else 0
  | 0, i => by rw [indL, valL, Nat.zero_mul, if_neg (by omega)]
  | n + 1, i => by
    have ih := valL_indL w b n (i + 1)
    have e : 2 ^ w * valL w (indL w b (i + 1) n) * 2 ^ (w * i) = valL w (indL w b (i + 1) n) * 2 ^ (w * (i + 1)) := by
      rw [Nat.mul_succ, Nat.pow_add]; ring
    rw [indL, valL, Nat.add_mul, e, ih]
    by_cases hq : b / w = i
    · rw [if_pos hq, if_neg (by omega), if_pos (by omega), ← Nat.pow_add, ← hq, Nat.add_zero, Nat.mod_add_div]
    · rw [if_neg hq, Nat.zero_mul, Nat.zero_add]
      by_cases h : i + 1 ≤ b / w ∧ b / w < i + 1 + n
      · rw [if_pos h, if_pos (by omega)]
      · rw [if_neg h, if_neg (by omega)]

/-- atoms of limb `i`: `a[i]` and the increment `inc i` -/
def caddAtoms (a : String) (inc : Nat → Expr) : Nat → Nat → List (List Expr)
  | _, 0 => []
  | i, n + 1 => [.idx a (.lit i), inc i] :: caddAtoms a inc (i + 1) n

theorem caddAtoms_length (a : String) (inc : Nat → Expr) : ∀ (n i : Nat), (caddAtoms a inc i n).length = n
  | 0, _ => rfl
  | n + 1, i => by rw [caddAtoms, List.length_cons, caddAtoms_length a inc n]

theorem caddAtoms_sum {env : Env} {a : String} {inc : Nat → Expr} {w b : Nat}
    (hinc : ∀ i, ev env (inc i) = if b / w = i then 2 ^ (b % w) else 0) : ∀ (n i : Nat),
    (caddAtoms a inc i n).map (sumAt env) = List.zipWith (· + ·) (readL env a i n) (indL w b i n)
  | 0, _ => rfl
  | n + 1, i => by
    rw [caddAtoms, List.map_cons, caddAtoms_sum hinc n, readL, indL, List.zipWith_cons_cons]
    simp only [sumAt, List.map_cons, List.map_nil, List.sum_cons, List.sum_nil, ev_idx, ev_lit, hinc, Nat.add_zero]

section cadd
variable {P : Env × Option Nat → Prop} (c : Cfg) {S : List String} (hS : c.t ∈ S) (hdst : c.dst ∉ S)
include hS hdst

/-- for `w·n = 256`: the bit index is moved out of range when
    `flag = 0`, then the chain adds the limbs of `2^bit` to `r` in place; nothing is carried out by hypothesis -/
theorem cadd_run {fn vf bitn : String} {inc : Nat → Expr} {g : Expr → Expr} {ls : List Limb} {n : Nat} {env : Env}
    (haw : 2 * 2 ^ c.w ≤ 2 ^ c.aw) (hwn : c.w * n = 256) (hsh : Shape ls) (hgood : Good S c.t c.dst 0 ls)
    (hb : bitn ≠ vf) (hna : c.dst ≠ vf ∧ c.dst ≠ bitn)
    (hg : ∀ env x, ((∀ l ∈ ls, l.out.isSome) → env.get x 0 < 2 ^ c.w) → ev env (g (.var x)) = env.get x 0 % 2 ^ c.w)
    (hinc : ∀ env i, ev env (inc i) = if env.get bitn 0 / c.w = i then 2 ^ (env.get bitn 0 % c.w) else 0)
    (hat : ls.map Limb.atoms = caddAtoms c.dst inc 0 n) (hr : ∀ d ∈ readL env c.dst 0 n, d < 2 ^ c.w)
    (hbit : env.get bitn 0 < 256) (hflag : env.get fn 0 ≤ 1)
    (hno : valL c.w (readL env c.dst 0 n) + env.get fn 0 * 2 ^ env.get bitn 0 < 2 ^ (c.w * n))
    (K : ∀ env', (∀ d ∈ readL env' c.dst 0 n, d < 2 ^ c.w) →
      valL c.w (readL env' c.dst 0 n) = valL c.w (readL env c.dst 0 n) + env.get fn 0 * 2 ^ env.get bitn 0 → P (env', none)) :
    P (runR env (.assign vf (.var fn) ::
      .assign bitn (.bin .add 32 (.var bitn) (.bin .and 32 (.bin .sub 32 (.var vf) (.lit 1)) (.lit 256))) ::
      c.prog false g [] ls)) := by
  have hw : 0 < c.w := Nat.pos_of_ne_zero fun h => by rw [h, Nat.zero_mul] at hwn; cases hwn
  have hW : 1 < 2 ^ c.w := Nat.one_lt_two_pow (by omega)
  rw [runR_assign, runR_assign, ev_var, ev_bin, ev_bin, ev_bin, ev_var, ev_var, ev_lit, ev_lit, Env.get_set_same,
    get_set_ne _ hb _ _ _]
  have hb' := cadd_bit_index _ _ _ hbit hflag rfl
  generalize binWrap .add 32 (env.get bitn 0) (binWrap .and 32 (binWrap .sub 32 (env.get fn 0) 1) 256) = b at hb' ⊢
  generalize henv : (env.set vf 0 (env.get fn 0)).set bitn 0 b = env1
  have hrd : readL env1 c.dst 0 n = readL env c.dst 0 n := by
    rw [← henv]
    exact readL_congr _ _ fun j _ _ => by
      rw [get_set_ne _ hna.2 _ _ _,
        get_set_ne _ hna.1 _ _ _]
  have hb1 : env1.get bitn 0 = b := by rw [← henv, Env.get_set_same]
  have hll : ls.length = n := by
    have := congrArg List.length hat
    rwa [List.length_map, caddAtoms_length] at this
  have hs : ls.map (Limb.sum env1) = List.zipWith (· + ·) (readL env c.dst 0 n) (indL c.w b 0 n) := by
    rw [map_sum_eq, hat, caddAtoms_sum (w := c.w) (b := b) (fun i => by rw [hinc, hb1]), hrd]
  refine chain_run c hS hdst (k := 1) hsh hgood hg hs haw (fun s h => ?_) fun env' cc _ hd _ hv _ _ => ?_
  · have := zipWith_add_le (X := 2 ^ c.w - 1) (Y := 2 ^ c.w - 1) (fun x hx => by have := hr x hx; omega)
      (fun y hy => by have := indL_lt hw _ _ y hy; omega) s h
    omega
  rw [hll] at hd hv
  rw [valL_zipWith_add _ _ _ (by rw [readL_length, indL_length])] at hv
  have hlt := valL_lt_pow hd
  have hi := valL_indL c.w b n 0
  rw [readL_length] at hlt
  rw [Nat.mul_zero, Nat.pow_zero, Nat.mul_one, Nat.zero_add] at hi
  have hcond : (0 ≤ b / c.w ∧ b / c.w < n) ↔ b < 256 := by
    rw [← hwn, Nat.div_lt_iff_lt_mul hw, Nat.mul_comm]; exact ⟨fun h => h.2, fun h => ⟨Nat.zero_le _, h⟩⟩
  rw [runR_nil]
  refine K env' hd ?_
  rw [hi] at hv
  generalize valL c.w (readL env' c.dst 0 n) = R' at *
  generalize valL c.w (readL env c.dst 0 n) = R at *
  generalize 2 ^ (c.w * n) = X at *
  have e : R' = (R' + X * cc) % X := by rw [Nat.add_mul_mod_self_left, Nat.mod_eq_of_lt hlt]
  rw [e, hv]
  rcases hb' with ⟨h1, rfl⟩ | ⟨h0, rfl⟩
  · rw [h1, Nat.one_mul] at hno ⊢
    rw [if_pos (hcond.2 hbit)]
    exact Nat.mod_eq_of_lt hno
  · rw [h0, Nat.zero_mul] at hno ⊢
    rw [if_neg (fun h => by have := hcond.1 h; omega)]
    exact Nat.mod_eq_of_lt hno

end cadd

/-! ### comparing with a constant, limb by limb from the top (`scalar_check_overflow`, `scalar_is_high`)

Two flags: `yes` (the number is already known to be larger) and `no` (already known to be smaller).  The C code leaves
out what cannot matter: no `yes` update at a limb whose constant is all ones, no mask `& ~yes` on a `no` update while
`yes` cannot be set yet; and `no` is only meaningful as long as `yes` is `0`. -/

theorem lex_lt {W D E d k : Nat} (hd : d < W) (hk : k < W) : D * W + d < E * W + k ↔ D < E ∨ D = E ∧ d < k := by
  rcases Nat.lt_trichotomy D E with h | rfl | h
  · have := Nat.mul_le_mul_right W (Nat.succ_le_of_lt h)
    rw [Nat.succ_mul] at this
    exact ⟨fun _ => .inl h, fun _ => by omega⟩
  · exact ⟨fun h => .inr ⟨rfl, by omega⟩, fun h => by rcases h with h | h <;> omega⟩
  · have := Nat.mul_le_mul_right W (Nat.succ_le_of_lt h)
    rw [Nat.succ_mul] at this
    exact ⟨fun _ => by omega, fun h' => by rcases h' with h' | h' <;> omega⟩

/-- one limb `d` against `k`: the new `no` (`v`, updated plainly or under `~yes`) and the new `yes` (`y'`; not updated
    when `k` is all ones), given what the flags `yv`, `nv` know about the limbs above, `D` against `E` -/
theorem cmp_limb {W D E d k yv nv v y' : Nat} (hd : d < W) (hk : k < W) (hy : yv = if E < D then 1 else 0) (hn1 : nv ≤ 1)
    (hn : ¬E < D → nv = if D < E then 1 else 0)
    (hv : v = (if nv = 1 ∨ d < k then 1 else 0) ∨ v = if nv = 1 ∨ (d < k ∧ yv = 0) then 1 else 0)
    (hy' : y' = (if yv = 1 ∨ (k < d ∧ v = 0) then 1 else 0) ∨ (k = W - 1 ∧ y' = yv)) :
    y' = (if E * W + k < D * W + d then 1 else 0) ∧ v ≤ 1 ∧
      (¬ E * W + k < D * W + d → v = if D * W + d < E * W + k then 1 else 0) := by
  simp only [lex_lt hd hk, lex_lt hk hd]
  subst hy
  rcases Nat.lt_trichotomy D E with h | rfl | h
  · have h1 : ¬ E < D := by omega
    have := hn h1
    have h2 : ¬ E = D := by omega
    simp only [h, h1, h2, if_true, if_false, true_or, false_or, and_true, false_and] at *
    subst this
    simp only [true_or, if_true] at hv
    rcases hv with rfl | rfl <;> simp at hy' <;> omega
  · have := hn (Nat.lt_irrefl _)
    simp only [Nat.lt_irrefl, if_false, false_or, true_and, and_true, not_false_eq_true, true_implies] at *
    subst this
    simp only [Nat.zero_ne_one, false_or] at hv hy'
    have hv' : v = if d < k then 1 else 0 := by rcases hv with h | h <;> exact h
    subst hv'
    rcases Nat.lt_trichotomy d k with h | rfl | h
    · simp [h, Nat.lt_asymm h] at hy' ⊢
      rcases hy' with h' | h' <;> omega
    · simp at hy' ⊢; omega
    · simp [h, Nat.lt_asymm h] at hy' ⊢
      rcases hy' with h' | h' <;> omega
  · simp only [h, if_true, true_or, Nat.lt_asymm h, false_or] at *
    refine ⟨by rcases hy' with h' | h' <;> omega, by rcases hv with rfl | rfl <;> split <;> omega, fun h' => (h' trivial).elim⟩

/-- the last limb: `yes |= (k ≤ d) & ~no` decides `≥`, `yes |= (k < d) & ~no` decides `>` -/
theorem cmp_last {W D E d k yv nv : Nat} (hd : d < W) (hk : k < W) (hy : yv = if E < D then 1 else 0) (hn1 : nv ≤ 1)
    (hn : ¬E < D → nv = if D < E then 1 else 0) :
    (if yv = 1 ∨ (k ≤ d ∧ nv = 0) then 1 else 0) = (if E * W + k ≤ D * W + d then 1 else 0) ∧
    (if yv = 1 ∨ (k < d ∧ nv = 0) then 1 else 0) = (if E * W + k < D * W + d then 1 else 0) := by
  have hle : E * W + k ≤ D * W + d ↔ ¬ (D * W + d < E * W + k) := Nat.not_lt.symm
  simp only [hle, lex_lt hd hk, lex_lt hk hd]
  subst hy
  rcases Nat.lt_trichotomy D E with h | rfl | h
  · have := hn (by omega)
    rw [if_pos h] at this
    subst this
    have h2 : ¬ E = D := by omega
    simp [h, Nat.lt_asymm h, h2]
  · have := hn (Nat.lt_irrefl _)
    rw [if_neg (Nat.lt_irrefl _)] at this
    subst this
    simp
  · simp [h]
    omega

theorem flag_or {f : Nat} {p : Prop} [Decidable p] (hf : f ≤ 1) :
    binWrap .or 32 f (if p then 1 else 0) = if f = 1 ∨ p then 1 else 0 := by
  obtain rfl | rfl : f = 0 ∨ f = 1 := by omega
  all_goals by_cases hp : p <;> simp only [hp, if_true, if_false, or_true, or_false] <;> decide

theorem flag_or_and_not {f g : Nat} {p : Prop} [Decidable p] (hf : f ≤ 1) (hg : g ≤ 1) :
    binWrap .or 32 f (binWrap .and 32 (if p then 1 else 0) (2 ^ 32 - 1 - g % 2 ^ 32)) = if f = 1 ∨ p ∧ g = 0 then 1 else 0 := by
  obtain rfl | rfl : f = 0 ∨ f = 1 := by omega
  all_goals obtain rfl | rfl : g = 0 ∨ g = 1 := by omega
  all_goals by_cases hp : p <;> simp only [hp, if_true, if_false, true_and, false_and, or_true, or_false] <;> decide

/-- one limb of the comparison: its constant, whether the `no` update is masked, whether there is a `yes` update -/
structure CmpLimb where
  k : Nat
  masked : Bool
  yes : Bool

/-- the limbs `ls` (top first; the head is limb `ls.length`) of the array `a` -/
def cmpSteps (w : Nat) (yn nn a : String) : List CmpLimb → List Stmt → List Stmt
  | [], r => r
  | l :: ls, r =>
    let d : Expr := .idx a (.lit (ls.length + 1))
    let lt : Expr := .bin .lt w d (.lit l.k)
    .assign nn (.bin .or 32 (.var nn) (if l.masked then .bin .and 32 lt (.not 32 (.var yn)) else lt)) ::
    (if l.yes then
      .assign yn (.bin .or 32 (.var yn) (.bin .and 32 (.bin .lt w (.lit l.k) d) (.not 32 (.var nn)))) :: cmpSteps w yn nn a ls r
    else cmpSteps w yn nn a ls r)

/-- the last step decides `≥` (`strict = false`) or `>` -/
def cmpProg (w : Nat) (yn nn a : String) (ls : List CmpLimb) (k0 : Nat) (strict : Bool) (r : List Stmt) : List Stmt :=
  .assign yn (.lit 0) :: .assign nn (.lit 0) :: cmpSteps w yn nn a ls
    (.assign yn (.bin .or 32 (.var yn) (.bin .and 32 (.bin (if strict then .lt else .le) w (.lit k0) (.idx a (.lit 0)))
      (.not 32 (.var nn)))) :: r)

/-- what the flags know after the limbs whose value (read from the top) is `D`, against the constant `E` -/
def CmpInv (yn nn : String) (env : Env) (D E : Nat) : Prop :=
  env.get yn 0 = (if E < D then 1 else 0) ∧ env.get nn 0 ≤ 1 ∧ (¬ E < D → env.get nn 0 = if D < E then 1 else 0)

section cmp
variable {P : Env × Option Nat → Prop} {w : Nat} {yn nn a : String} (hyn : yn ≠ nn) (hay : a ≠ yn) (han : a ≠ nn)
include hyn hay han

theorem cmpSteps_run {r : List Stmt} : ∀ (ls : List CmpLimb) {env : Env} {D E : Nat}, CmpInv yn nn env D E →
    (∀ l ∈ ls, l.k < 2 ^ w ∧ (l.yes = false → l.k = 2 ^ w - 1)) → (∀ d ∈ readL env a 1 ls.length, d < 2 ^ w) →
    (∀ env', (∀ x i, x ≠ yn → x ≠ nn → env'.get x i = env.get x i) →
      CmpInv yn nn env' (D * 2 ^ (w * ls.length) + valL w (readL env a 1 ls.length))
        (E * 2 ^ (w * ls.length) + valL w (ls.reverse.map (·.k))) → P (runR env' r)) →
    P (runR env (cmpSteps w yn nn a ls r))
  | [], env, D, E, hinv, _, _, K => K env (fun _ _ _ _ => rfl) (by simpa [valL, readL] using hinv)
  | ⟨kl, m, y⟩ :: ls, env, D, E, ⟨hy, hn1, hn⟩, hk, ha, K => by
    obtain ⟨hkl, hky⟩ := hk _ List.mem_cons_self
    rw [List.length_cons, readL_succ, Nat.add_comm 1] at ha K
    have hd : env.get a (ls.length + 1) < 2 ^ w := ha _ (List.mem_append_right _ List.mem_cons_self)
    have hy1 : env.get yn 0 ≤ 1 := by rw [hy]; split <;> omega
    rw [cmpSteps, runR_assign]
    dsimp only
    generalize hv : ev env _ = v
    have hv' : v = (if env.get nn 0 = 1 ∨ env.get a (ls.length + 1) < kl then 1 else 0) ∨
        v = if env.get nn 0 = 1 ∨ (env.get a (ls.length + 1) < kl ∧ env.get yn 0 = 0) then 1 else 0 := by
      rw [← hv]
      cases m
      · left; simp only [Bool.false_eq_true, if_false, ev_bin, ev_var, ev_idx, ev_lit, binWrap_lt]; exact flag_or hn1
      · right; simp only [if_true, ev_bin, ev_not, ev_var, ev_idx, ev_lit, binWrap_lt]; exact flag_or_and_not hn1 hy1
    have hfr1 : ∀ x i, x ≠ nn → (env.set nn 0 v).get x i = env.get x i := fun x i h =>
      get_set_ne _ h _ _ _
    have key : ∀ env2, (∀ x i, x ≠ yn → x ≠ nn → env2.get x i = env.get x i) →
        CmpInv yn nn env2 (D * 2 ^ w + env.get a (ls.length + 1)) (E * 2 ^ w + kl) →
        P (runR env2 (cmpSteps w yn nn a ls r)) := fun env2 hfr2 hinv2 => by
      have hrd : readL env2 a 1 ls.length = readL env a 1 ls.length := readL_congr _ _ fun j _ _ => hfr2 a j hay han
      refine cmpSteps_run ls hinv2 (fun l hl => hk l (List.mem_cons_of_mem _ hl))
        (by rw [hrd]; exact fun d hd => ha d (List.mem_append_left _ hd)) fun env' hfr hinv => ?_
      refine K env' (fun x i h1 h2 => (hfr x i h1 h2).trans (hfr2 x i h1 h2)) ?_
      rw [hrd] at hinv
      have e1 : D * 2 ^ (w * (ls.length + 1)) + valL w (readL env a 1 ls.length ++ [env.get a (ls.length + 1)]) =
          (D * 2 ^ w + env.get a (ls.length + 1)) * 2 ^ (w * ls.length) + valL w (readL env a 1 ls.length) := by
        rw [valL_append, readL_length, valL, valL, Nat.mul_zero, Nat.add_zero, Nat.mul_succ, Nat.pow_add]; ring
      have e2 : E * 2 ^ (w * (ls.length + 1)) + valL w (List.map (·.k) (⟨kl, m, y⟩ :: ls : List CmpLimb).reverse) =
          (E * 2 ^ w + kl) * 2 ^ (w * ls.length) + valL w (ls.reverse.map (·.k)) := by
        rw [List.reverse_cons, List.map_append, valL_append, List.length_map, List.length_reverse, List.map_cons,
          List.map_nil, valL, valL, Nat.mul_zero, Nat.add_zero, Nat.mul_succ, Nat.pow_add]; ring
      rw [e1, e2]; exact hinv
    cases y
    · obtain ⟨h1, h2, h3⟩ := cmp_limb hd hkl hy hn1 hn hv' (.inr ⟨hky rfl, rfl⟩)
      exact key _ (fun x i _ h => hfr1 x i h) ⟨(hfr1 yn 0 hyn).trans h1, by rw [Env.get_set_same]; exact h2,
        by rw [Env.get_set_same]; exact h3⟩
    · rw [if_pos rfl, runR_assign]
      generalize hy' : ev (env.set nn 0 v) _ = y'
      have hv1 : v ≤ 1 := by rcases hv' with rfl | rfl <;> split <;> omega
      have hy'' : y' = if env.get yn 0 = 1 ∨ (kl < env.get a (ls.length + 1) ∧ v = 0) then 1 else 0 := by
        rw [← hy']
        simp only [ev_bin, ev_not, ev_var, ev_idx, ev_lit, binWrap_lt, Env.get_set_same, hfr1 yn 0 hyn, hfr1 a _ han]
        exact flag_or_and_not hy1 hv1
      obtain ⟨h1, h2, h3⟩ := cmp_limb hd hkl hy hn1 hn hv' (.inl hy'')
      refine key _ (fun x i hx1 hx2 => ?_) ⟨by rw [Env.get_set_same]; exact h1, ?_, ?_⟩
      · rw [get_set_ne _ hx1 _ _ _, hfr1 x i hx2]
      all_goals rw [get_set_ne _ (Ne.symm hyn) _ _ _, Env.get_set_same]
      exacts [h2, h3]

/-- `yes` ends as `[E ≤ a]` (or `[E < a]`), `E` the constant with limbs `k0` and those of `ls` -/
theorem cmp_run {r : List Stmt} {ls : List CmpLimb} {k0 : Nat} {strict : Bool} {env : Env}
    (hk : ∀ l ∈ ls, l.k < 2 ^ w ∧ (l.yes = false → l.k = 2 ^ w - 1)) (hk0 : k0 < 2 ^ w)
    (ha : ∀ d ∈ readL env a 0 (ls.length + 1), d < 2 ^ w)
    (K : ∀ env', (∀ x i, x ≠ yn → x ≠ nn → env'.get x i = env.get x i) →
      env'.get yn 0 = (if strict then
        (if valL w (k0 :: ls.reverse.map (·.k)) < valL w (readL env a 0 (ls.length + 1)) then 1 else 0)
        else if valL w (k0 :: ls.reverse.map (·.k)) ≤ valL w (readL env a 0 (ls.length + 1)) then 1 else 0) →
      P (runR env' r)) :
    P (runR env (cmpProg w yn nn a ls k0 strict r)) := by
  rw [readL, List.forall_mem_cons] at ha
  rw [cmpProg, runR_assign, runR_assign, ev_lit, ev_lit]
  have hfr0 : ∀ x i, x ≠ yn → x ≠ nn → ((env.set yn 0 0).set nn 0 0).get x i = env.get x i := fun x i h1 h2 => by
    rw [get_set_ne _ h2 _ _ _,
      get_set_ne _ h1 _ _ _]
  have hrd : readL ((env.set yn 0 0).set nn 0 0) a 1 ls.length = readL env a 1 ls.length :=
    readL_congr _ _ fun j _ _ => hfr0 a j hay han
  refine cmpSteps_run hyn hay han ls (D := 0) (E := 0) ⟨?_, ?_, fun _ => ?_⟩ hk (by rw [hrd]; exact ha.2)
    fun env1 hfr1 ⟨hy, hn1, hn⟩ => ?_
  · rw [get_set_ne _ hyn _ _ _, Env.get_set_same]; rfl
  · rw [Env.get_set_same]; exact Nat.zero_le _
  · rw [Env.get_set_same]; rfl
  rw [hrd, Nat.zero_mul, Nat.zero_add, Nat.zero_add] at hy hn
  have hy1 : env1.get yn 0 ≤ 1 := by rw [hy]; split <;> omega
  have ha0 : env1.get a 0 = env.get a 0 := (hfr1 a 0 hay han).trans (hfr0 a 0 hay han)
  obtain ⟨h1, h2⟩ := cmp_last ha.1 hk0 hy hn1 hn
  rw [runR_assign]
  refine K _ (fun x i h1 h2 => ?_) ?_
  · rw [get_set_ne _ h1 _ _ _, hfr1 x i h1 h2, hfr0 x i h1 h2]
  rw [Env.get_set_same, readL, valL, valL, Nat.zero_add, Nat.add_comm k0, Nat.mul_comm, Nat.add_comm (env.get a 0),
    Nat.mul_comm (2 ^ w)]
  cases strict
  · simp only [Bool.false_eq_true, if_false, ev_bin, ev_not, ev_var, ev_idx, ev_lit, binWrap_le, ha0]
    rw [flag_or_and_not hy1 hn1, h1]
  · simp only [if_true, ev_bin, ev_not, ev_var, ev_idx, ev_lit, binWrap_lt, ha0]
    rw [flag_or_and_not hy1 hn1, h2]

end cmp

/-! ### `secp256k1_scalar_reduce(r, c + secp256k1_scalar_check_overflow(r))`, the tail of `scalar_add` and `scalar_reduce_512` -/

/-- `overflow = c + check_overflow(r)` is `[N ≤ r + c·X]` when `r + c·X < 2N`, and adding `overflow · N_C` and
    dropping the carry out of `X = 2^256` subtracts `overflow · N` -/
theorem final_reduce {X NC R cc yes ov : Nat} (hN : NC + N = X) (hcc : cc ≤ 1) (hlt : R + cc * X < 2 * N) (hR : R < X)
    (hyes : yes = if N ≤ R then 1 else 0)
    (hov : ov = binWrap .add 64 cc (binWrap .sub 64 (binWrap .xor 64 yes 2147483648) 2147483648) % 2 ^ 32) :
    ov ≤ 1 ∧ ov = (if N ≤ R + cc * X then 1 else 0) ∧
      ∀ Q u, Q < X → Q + X * u = R + ov * NC → Q = (R + cc * X) % N := by
  have hy1 : yes ≤ 1 := by rw [hyes]; split <;> omega
  rw [sext_01 yes hy1, binWrap_add] at hov
  have hov' : ov = if N ≤ R + cc * X then 1 else 0 := by
    obtain rfl | rfl : cc = 0 ∨ cc = 1 := by omega
    · rw [Nat.zero_mul, Nat.add_zero] at *; rw [hov, hyes]; split <;> rfl
    · rw [Nat.one_mul] at *
      rw [if_neg (by omega)] at hyes
      rw [if_pos (by omega), hov, hyes]; rfl
  refine ⟨by rw [hov']; split <;> omega, hov', fun Q u hQ hq => ?_⟩
  have hu : u = 0 ∨ u = 1 ∨ 2 * X ≤ X * u := by
    rcases u with _ | _ | u
    · exact .inl rfl
    · exact .inr (.inl rfl)
    · right; right; rw [Nat.mul_comm]; exact Nat.mul_le_mul_left X (by omega)
  by_cases h : N ≤ R + cc * X
  · rw [if_pos h] at hov'
    subst hov'
    have e : R + cc * X = Q + N * 1 := by
      obtain rfl | rfl : cc = 0 ∨ cc = 1 := by omega
      all_goals rcases hu with rfl | rfl | hu <;> omega
    rw [e, Nat.add_mul_mod_self_left, Nat.mod_eq_of_lt (by omega)]
  · rw [if_neg h] at hov'
    subst hov'
    obtain rfl : cc = 0 := by
      obtain rfl | rfl : cc = 0 ∨ cc = 1 := by omega
      · rfl
      · omega
    rw [Nat.zero_mul, Nat.add_zero] at *
    rw [Nat.mod_eq_of_lt (by omega)]
    rcases hu with rfl | rfl | hu <;> omega

theorem zipCons_sum (env : Env) : ∀ (hs : List Expr) (es : List (List Expr)),
    (List.zipWith (· :: ·) hs es).map (sumAt env) = List.zipWith (· + ·) (hs.map (ev env)) (es.map (sumAt env))
  | [], _ => by simp
  | _ :: _, [] => by simp
  | h :: hs, e :: es => by
    rw [List.zipWith_cons_cons, List.map_cons, zipCons_sum env hs es, List.map_cons, List.map_cons, List.zipWith_cons_cons,
      sumAt, List.map_cons, List.sum_cons, ← sumAt]

/-- atoms of limb `i` of `a + b` -/
def addAtoms (a b : String) : Nat → Nat → List (List Expr)
  | _, 0 => []
  | i, n + 1 => [.idx a (.lit i), .idx b (.lit i)] :: addAtoms a b (i + 1) n

theorem addAtoms_sum {env : Env} {a b : String} : ∀ (n i : Nat),
    (addAtoms a b i n).map (sumAt env) = List.zipWith (· + ·) (readL env a i n) (readL env b i n)
  | 0, _ => rfl
  | n + 1, i => by
    rw [addAtoms, List.map_cons, addAtoms_sum n, readL, readL, List.zipWith_cons_cons]
    simp only [sumAt, List.map_cons, List.map_nil, List.sum_cons, List.sum_nil, ev_idx, ev_lit, Nat.add_zero]

/-- atoms of limb `i` of `r += overflow · N_C`: `r[i]` and what `es` has for it (`overflow * k`, or nothing) -/
def redAtoms (a : String) : Nat → List (List Expr) → List (List Expr)
  | _, [] => []
  | i, e :: es => (.idx a (.lit i) :: e) :: redAtoms a (i + 1) es

theorem redAtoms_length (a : String) : ∀ (es : List (List Expr)) (i : Nat), (redAtoms a i es).length = es.length
  | [], _ => rfl
  | _ :: es, i => by rw [redAtoms, List.length_cons, List.length_cons, redAtoms_length a es]

theorem redAtoms_sum {env : Env} {a : String} : ∀ (es : List (List Expr)) (i : Nat),
    (redAtoms a i es).map (sumAt env) = List.zipWith (· + ·) (readL env a i es.length) (es.map (sumAt env))
  | [], _ => rfl
  | e :: es, i => by
    rw [redAtoms, List.map_cons, redAtoms_sum es, List.length_cons, readL, List.map_cons, List.zipWith_cons_cons, sumAt,
      List.map_cons, List.sum_cons, ev_idx, ev_lit, ← sumAt]

/-- what a limb gets of `x · K` (`K` a constant number): nothing, `x * e` at some width, or `x` itself -/
inductive ScaleAtom where
  | zero
  | times (w : Nat) (e : Expr)
  | one

/-- the atoms, with `x` the first factor or (`flip`) the second -/
def scaleE (x : String) (flip : Bool) : List ScaleAtom → List (List Expr)
  | [] => []
  | .zero :: l => [] :: scaleE x flip l
  | .times w e :: l => [if flip then .bin .mul w e (.var x) else .bin .mul w (.var x) e] :: scaleE x flip l
  | .one :: l => [.var x] :: scaleE x flip l

/-- the constant expressions have the values `ks`, and `x ≤ B` does not make a product wrap -/
def ScaleOk (env : Env) (B : Nat) : List ScaleAtom → List Nat → Prop
  | [], [] => True
  | .zero :: l, k :: ks => k = 0 ∧ ScaleOk env B l ks
  | .times w e :: l, k :: ks => (ev env e = k ∧ B * k < 2 ^ w) ∧ ScaleOk env B l ks
  | .one :: l, k :: ks => k = 1 ∧ ScaleOk env B l ks
  | _, _ => False

theorem scaleE_sum {x : String} {flip : Bool} {env : Env} {B : Nat} (h : env.get x 0 ≤ B) : ∀ (l : List ScaleAtom) (ks : List Nat),
    ScaleOk env B l ks → (scaleE x flip l).map (sumAt env) = ks.map (env.get x 0 * ·)
  | [], [], _ => rfl
  | .zero :: l, k :: ks, ⟨h0, hl⟩ => by
    rw [scaleE, List.map_cons, List.map_cons, scaleE_sum h l ks hl, h0, Nat.mul_zero]; rfl
  | .one :: l, k :: ks, ⟨h1, hl⟩ => by
    rw [scaleE, List.map_cons, List.map_cons, scaleE_sum h l ks hl, h1, Nat.mul_one, sumAt, List.map_cons, List.map_nil,
      List.sum_cons, List.sum_nil, Nat.add_zero, ev_var]
  | .times w e :: l, k :: ks, ⟨⟨he, hk⟩, hl⟩ => by
    have : env.get x 0 * k ≤ B * k := Nat.mul_le_mul_right _ h
    rw [scaleE, List.map_cons, List.map_cons, scaleE_sum h l ks hl, sumAt, List.map_cons, List.map_nil, List.sum_cons, List.sum_nil,
      Nat.add_zero]
    cases flip
    · rw [if_neg (by decide), ev_bin, ev_var, he, binWrap_mul, Nat.mod_eq_of_lt (by omega)]
    · rw [if_pos rfl, ev_bin, ev_var, he, binWrap_mul, Nat.mul_comm, Nat.mod_eq_of_lt (by omega)]
  | [], _ :: _, h => h.elim
  | .zero :: _, [], h => h.elim
  | .times _ _ :: _, [], h => h.elim
  | .one :: _, [], h => h.elim

/-- the conversion `int → uint64_t` of a comparison result, as clang spells the sign extension -/
def sext64 (e : Expr) : Expr := .bin .sub 64 (.bin .xor 64 e (.lit 2147483648)) (.lit 2147483648)

/-- the tail: the comparison with `N` (result in `ret`), `overflow` (in `ovn`, copied to `ov` if that is another
    variable), the chain `r += overflow · N_C` -/
def Cfg.reduceTail (c : Cfg) (yn nn ret ccn ovn ov rret : String) (g : Expr → Expr) (cl : List CmpLimb) (k0 : Nat)
    (ls : List Limb) (r : List Stmt) : List Stmt :=
  cmpProg c.w yn nn c.dst cl k0 false (.assign ret (.var yn) ::
    .assign ovn (.cast 32 (.bin .add 64 (.var ccn) (sext64 (.var ret)))) ::
    (if ovn = ov then id else (Stmt.assign ov (.var ovn) :: ·)) (c.prog false g (.assign rret (.var ov) :: r) ls))

/-- what the tail asks of its names: what is read has not been overwritten since it was written -/
def TailNames (S : List String) (dst yn nn ret ccn ovn ov rret : String) : Prop :=
  yn ≠ nn ∧ (dst ≠ yn ∧ dst ≠ nn ∧ dst ≠ ret ∧ dst ≠ ovn ∧ dst ≠ ov ∧ dst ≠ rret) ∧ (ccn ≠ yn ∧ ccn ≠ nn ∧ ccn ≠ ret) ∧
    (ovn ∉ S ∧ ovn ≠ rret)

instance (S : List String) (dst yn nn ret ccn ovn ov rret : String) : Decidable (TailNames S dst yn nn ret ccn ovn ov rret) := by
  unfold TailNames; infer_instance

section tail
variable {P : Env × Option Nat → Prop} (c : Cfg) {S : List String} (hS : c.t ∈ S) (hdst : c.dst ∉ S)
include hS hdst

/-- the `n` limbs of `dst` and the carry in `ccn` represent `V < 2N`; afterwards `dst` holds `V mod N` in limbs `< 2^w` and
    `ovn` is `[N ≤ V]`.  `cl`, `k0`: the limbs of `N` for the comparison (`hE`); `es`: per limb the atoms of `overflow · N_C`
    with values `ov · ks` (`hes`), `valL ks = N_C = 2^(w·n) − N`. -/
theorem reduce_tail_run {yn nn ret ccn ovn ov rret : String} {g : Expr → Expr} {cl : List CmpLimb} {k0 n NC V : Nat}
    {ls : List Limb} {es : List (List Expr)} {ks : List Nat} {r : List Stmt} {env : Env}
    (hnm : TailNames S c.dst yn nn ret ccn ovn ov rret)
    (haw : 2 * 2 ^ c.w ≤ 2 ^ c.aw) (hcl : ∀ l ∈ cl, l.k < 2 ^ c.w ∧ (l.yes = false → l.k = 2 ^ c.w - 1)) (hk0 : k0 < 2 ^ c.w)
    (hE : valL c.w (k0 :: cl.reverse.map (·.k)) = N) (hn : cl.length + 1 = n) (hsh : Shape ls)
    (hgood : Good S c.t c.dst 0 ls)
    (hg : ∀ env x, ((∀ l ∈ ls, l.out.isSome) → env.get x 0 < 2 ^ c.w) → ev env (g (.var x)) = env.get x 0 % 2 ^ c.w)
    (hat : ls.map Limb.atoms = redAtoms c.dst 0 es) (hes : ∀ env, env.get ov 0 ≤ 1 → es.map (sumAt env) = ks.map (env.get ov 0 * ·))
    (hkl : ks.length = n) (hks : valL c.w ks = NC) (hNC : NC + N = 2 ^ (c.w * n)) (hkb : ∀ k ∈ ks, k < 2 ^ c.w)
    (hr : ∀ d ∈ readL env c.dst 0 n, d < 2 ^ c.w)
    (hv : valL c.w (readL env c.dst 0 n) + 2 ^ (c.w * n) * env.get ccn 0 = V) (hV : V < 2 * N)
    (K : ∀ env', (∀ d ∈ readL env' c.dst 0 n, d < 2 ^ c.w) → valL c.w (readL env' c.dst 0 n) = V % N →
      env'.get ovn 0 = (if N ≤ V then 1 else 0) → P (runR env' r)) :
    P (runR env (c.reduceTail yn nn ret ccn ovn ov rret g cl k0 ls r)) := by
  obtain ⟨hyn, ⟨hd1, hd2, hd3, hd4, hd5, hd6⟩, ⟨hc1, hc2, hc3⟩, ⟨ho1, ho2⟩⟩ := hnm
  subst hn
  rw [Nat.mul_comm] at hv
  subst hv
  have hcc : env.get ccn 0 ≤ 1 := by
    generalize 2 ^ (c.w * (cl.length + 1)) = X at hNC hV
    exact Nat.le_of_lt_succ (Nat.lt_of_mul_lt_mul_right (a := X) (by omega))
  have hlt := hV
  rw [Cfg.reduceTail]
  refine cmp_run hyn hd1 hd2 hcl hk0 hr fun env1 hfr1 hy => ?_
  simp only [Bool.false_eq_true, if_false] at hy
  rw [hE] at hy
  have hrd1 : readL env1 c.dst 0 (cl.length + 1) = readL env c.dst 0 (cl.length + 1) := readL_congr _ _ fun j _ _ => hfr1 _ j hd1 hd2
  rw [runR_assign, runR_assign, ev_var, ev_cast, sext64, ev_bin, ev_bin, ev_bin, ev_var, ev_var, ev_lit, Env.get_set_same,
    get_set_ne _ hc3 _ _ _, hfr1 ccn 0 hc1 hc2]
  obtain ⟨hov1, hovv, hfin⟩ := final_reduce hNC hcc hlt (by have := valL_lt_pow hr; rwa [readL_length] at this) hy rfl
  generalize binWrap .add 64 (env.get ccn 0) _ % 2 ^ 32 = ovv at hov1 hovv hfin ⊢
  -- the memory in front of the chain, with or without the copy of `overflow`
  have key : ∀ env4, readL env4 c.dst 0 (cl.length + 1) = readL env c.dst 0 (cl.length + 1) → env4.get ov 0 = ovv →
      env4.get ovn 0 = ovv → P (runR env4 (c.prog false g (.assign rret (.var ov) :: r) ls)) := fun env4 hrd4 hov4 hovn4 => by
    have hll : ls.length = cl.length + 1 := by
      have := congrArg List.length hat
      rw [List.length_map, redAtoms_length] at this
      have h2 := congrArg List.length (hes env4 (by rw [hov4]; exact hov1))
      rw [List.length_map, List.length_map] at h2
      omega
    have hel : es.length = cl.length + 1 := by
      have := congrArg List.length hat
      rw [List.length_map, redAtoms_length] at this
      omega
    refine chain_run c hS hdst (k := 1) hsh hgood hg
      (by rw [map_sum_eq, hat, redAtoms_sum, hel, hrd4, hes env4 (by rw [hov4]; exact hov1), hov4]) haw (fun s hs => ?_)
      fun env5 u hag hd _ hv _ _ => ?_
    · have := zipWith_add_le (X := 2 ^ c.w - 1) (Y := 2 ^ c.w - 1) (fun x hx => by have := hr x hx; omega)
        (fun y hy => by
          obtain ⟨z, hz, rfl⟩ := List.mem_map.1 hy
          have := hkb z hz
          have : ovv * z ≤ 1 * z := Nat.mul_le_mul_right _ hov1
          omega) s hs
      omega
    · rw [hll] at hag hd hv
      rw [valL_zipWith_add _ _ _ (by rw [readL_length, List.length_map, hkl]), valL_map_mul, hks] at hv
      rw [runR_assign]
      refine K _ ?_ ?_ ?_
      · rw [readL_congr _ _ fun j _ _ => get_set_ne _ hd6 _ _ _]; exact hd
      · rw [readL_congr _ _ fun j _ _ => get_set_ne _ hd6 _ _ _]
        exact hfin _ u (by have := valL_lt_pow hd; rwa [readL_length] at this) hv
      · rw [get_set_ne _ ho2 _ _ _, hag ovn 0 ho1 (fun e => (hd4 e.symm).elim), hovn4, hovv]
  have hrd3 : ∀ v, readL ((env1.set ret 0 (env1.get yn 0)).set ovn 0 v) c.dst 0 (cl.length + 1) = readL env c.dst 0 (cl.length + 1) :=
    fun v => (readL_congr _ _ fun j _ _ => by
      rw [get_set_ne _ hd4 _ _ _, get_set_ne _ hd3 _ _ _]).trans hrd1
  by_cases hoo : ovn = ov
  · subst hoo
    rw [if_pos rfl]
    exact key _ (hrd3 _) (Env.get_set_same ..) (Env.get_set_same ..)
  · rw [if_neg hoo, runR_assign, ev_var, Env.get_set_same]
    refine key _ ((readL_congr _ _ fun j _ _ => get_set_ne _ hd5 _ _ _).trans (hrd3 _)) (Env.get_set_same ..) ?_
    rw [get_set_ne _ hoo _ _ _, Env.get_set_same]

end tail

/-! ### how the two widths write a limb

8×32: all atoms of a limb in one expression `t += x + y`, no temporaries (`scalar_half` alone writes `t += x; t += y`:
`limbs32s`).  4×64: `t` is a `secp256k1_uint128` and every
atom that is not a literal is the argument of an inlined `secp256k1_u128_from_u64` / `_accum_u64`, the low word the
result of `_to_u64`; the translator numbers the inlined calls through (the shift is a call too). -/

def limbs32 (ass : List (List Expr)) : List Limb := ass.map fun as => ⟨[(none, as)], none, none⟩

theorem atoms_limbs32 : ∀ (ass : List (List Expr)), (limbs32 ass).map Limb.atoms = ass
  | [] => rfl
  | as :: ass => by
    have := atoms_limbs32 ass
    rw [limbs32] at this ⊢
    rw [List.map_cons, List.map_cons, this, Limb.atoms, List.flatMap_cons, List.flatMap_nil, List.append_nil]
    exact congrArg (· :: ass) (List.append_nil as)

def limbs32s (ass : List (List Expr)) : List Limb := ass.map fun as => ⟨as.map fun e => (none, [e]), none, none⟩

theorem atoms_limbs32s : ∀ (ass : List (List Expr)), (limbs32s ass).map Limb.atoms = ass
  | [] => rfl
  | as :: ass => by
    have := atoms_limbs32s ass
    rw [limbs32s] at this ⊢
    rw [List.map_cons, List.map_cons, this, Limb.atoms, List.flatMap_map]
    simp only [List.flatMap_singleton']
    exact congrArg (· :: ass) (List.append_nil as)

def isLit : Expr → Bool
  | .lit _ => true
  | _ => false

def adds64 (first : Bool) (k : Nat) : List Expr → List Addend
  | [] => []
  | e :: es =>
    (if isLit e then none else some ((if first then "u128_from_u64_" else "u128_accum_u64_") ++ toString k ++ ".a"), [e]) ::
      adds64 false (k + 1) es

def limbs64 : Bool → Nat → List (List Expr) → List Limb
  | _, _, [] => []
  | first, k, as :: ass =>
    ⟨adds64 first k as, some ("u128_to_u64_" ++ toString (k + as.length) ++ ".ret"), none⟩ :: limbs64 false (k + as.length + 2) ass

theorem atoms_adds64 : ∀ (es : List Expr) (first : Bool) (k : Nat), (adds64 first k es).flatMap (·.2) = es
  | [], _, _ => rfl
  | e :: es, _, k => by rw [adds64, List.flatMap_cons, atoms_adds64 es]; rfl

theorem atoms_limbs64 : ∀ (ass : List (List Expr)) (first : Bool) (k : Nat), (limbs64 first k ass).map Limb.atoms = ass
  | [], _, _ => rfl
  | as :: ass, _, k => by
    rw [limbs64, List.map_cons, atoms_limbs64 ass, Limb.atoms, atoms_adds64]
    exact congrArg (· :: ass) (List.append_nil as)

theorem limbs64_out : ∀ (ass : List (List Expr)) (first : Bool) (k : Nat), ∀ l ∈ limbs64 first k ass, l.out.isSome
  | [], _, _, _, h => by simp [limbs64] at h
  | as :: ass, _, k, l, h => by
    rw [limbs64, List.mem_cons] at h
    rcases h with rfl | h
    · rfl
    · exact limbs64_out ass _ _ l h

def written (t : String) (ls : List Limb) : List String :=
  t :: ls.flatMap fun l => l.adds.filterMap (·.1) ++ (l.mul.map fun m => [m.x, m.y]).getD [] ++ l.out.toList

end LimbChain

namespace ScalarKernel
open MiniC LimbList LimbChain

/-! ### the constants of the 4×64 width -/

theorem val4_valL (x0 x1 x2 x3 : Nat) : val4 x0 x1 x2 x3 = valL 64 [x0, x1, x2, x3] := by
  simp only [val4, valL]; omega

/-- the destination is fixed: the translator prefixes the locals of inlined callees, never the out-parameter -/
def c64 (t : String) : Cfg := ⟨64, 128, t, "r.d"⟩

theorem ev_id64 (env : Env) (x : String) (h : env.get x 0 < 2 ^ 64) : ev env (.var x) = env.get x 0 % 2 ^ 64 := by
  rw [ev_var, Nat.mod_eq_of_lt h]

/-- `r.d[i] = low & nonzero` -/
def maskG64 (nzn : String) (x : Expr) : Expr := .bin .and 64 x (.var nzn)

theorem ev_maskG64 (nzn : String) (env : Env) (x : String) (h : env.get nzn 0 < 2 ^ 64) :
    ev env (maskG64 nzn (.var x)) = env.get x 0 % 2 ^ 64 &&& env.get nzn 0 := by
  rw [maskG64, ev_bin, ev_var, ev_var, binWrap_and, ← Nat.mod_eq_of_lt (Nat.and_lt_two_pow (env.get x 0) h),
    Nat.and_mod_two_pow, Nat.mod_eq_of_lt h]

/-- the summand `((bit >> 6) == i) << (bit & 0x3F)` of `secp256k1_scalar_cadd_bit` -/
def caddInc64 (bitn : String) (i : Nat) : Expr :=
  .bin .shl 64 (.bin .sub 64 (.bin .xor 64 (.bin .eq 32 (.bin .shr 32 (.var bitn) (.lit 6)) (.lit i)) (.lit 2147483648))
    (.lit 2147483648)) (.bin .and 32 (.var bitn) (.lit 63))

theorem ev_caddInc64 (bitn : String) (env : Env) (i : Nat) :
    ev env (caddInc64 bitn i) = if env.get bitn 0 / 64 = i then 2 ^ (env.get bitn 0 % 64) else 0 := by
  simp only [caddInc64, ev_bin, ev_var, ev_lit, cadd_inc]

/-- `secp256k1_scalar_check_overflow`: the limbs of `N` above the lowest, from the top -/
def ovLimbs64 : List CmpLimb :=
  [⟨18446744073709551615, false, false⟩, ⟨18446744073709551614, false, true⟩, ⟨13451932020343611451, false, true⟩]

/-- `N_C[i]` as `secp256k1_scalar_reduce` spells it (`N_C` has three limbs) -/
def redE64 : List ScaleAtom :=
  [.times 64 (.bin .add 64 (.not 64 (.lit 13822214165235122497)) (.lit 1)), .times 64 (.not 64 (.lit 13451932020343611451)),
   .times 32 (.lit 1), .zero]

/-- the limbs of `N_C = 2^256 - N` -/
def ncLimbs64 : List Nat := [4624529908474429119, 4994812053365940164, 1, 0]

theorem redE64_ok (env : Env) : ScaleOk env 1 redE64 ncLimbs64 :=
  ⟨⟨ev_nc0_64 env, by decide⟩, ⟨ev_nc1_64 env, by decide⟩,
    ⟨rfl, by decide⟩, rfl, trivial⟩

/-- `nonzero = 0xFFFFFFFFFFFFFFFF * (is_zero == 0)` -/
def nzMask64 (zn : String) : Expr := .bin .mul 64 (.lit 18446744073709551615) (sext64 (.bin .eq 32 (.var zn) (.lit 0)))

theorem ev_nzMask64 (zn : String) (env : Env) (h : env.get zn 0 ≤ 1) :
    ev env (nzMask64 zn) = if env.get zn 0 = 0 then 2 ^ 64 - 1 else 0 := by
  simp only [nzMask64, sext64, ev_bin, ev_var, ev_lit]
  generalize env.get zn 0 = z at h ⊢
  obtain rfl | rfl : z = 0 ∨ z = 1 := by omega
  all_goals decide

/-- what limb `i` gets of `p4 · N_C` in the last stage of `scalar_reduce_512`: `N_C[i] * p4` through
    `secp256k1_u128_accum_mul`, or `p4` -/
def red3E64 : List ScaleAtom :=
  [.times 128 (.bin .add 64 (.not 64 (.lit 13822214165235122497)) (.lit 1)), .times 128 (.not 64 (.lit 13451932020343611451)),
   .one, .zero]

theorem red3E64_ok (env : Env) : ScaleOk env 3 red3E64 ncLimbs64 :=
  ⟨⟨ev_nc0_64 env, by decide⟩, ⟨ev_nc1_64 env, by decide⟩, rfl, rfl, trivial⟩

/-! The closed facts that the chain theorems ask for.  They are stated with `(c64 t).w`, not `64`, so that they unify with the
hypotheses of `chain_run`, `reduce_tail_run (c64 t)` as these stand; the `show` line is the numeral form that `decide`
evaluates. -/

theorem c64_aw {k : Nat} (hk : k ≤ 3) (t : String) : (k + 1) * 2 ^ (c64 t).w ≤ 2 ^ (c64 t).aw := by
  show (k + 1) * 2 ^ 64 ≤ 2 ^ 128; omega

theorem ovLimbs64_ok (t : String) : (∀ l ∈ ovLimbs64, l.k < 2 ^ (c64 t).w ∧ (l.yes = false → l.k = 2 ^ (c64 t).w - 1)) ∧
    13822214165235122497 < 2 ^ (c64 t).w ∧ valL (c64 t).w (13822214165235122497 :: ovLimbs64.reverse.map (·.k)) = N := by
  show (∀ l ∈ ovLimbs64, l.k < 2 ^ 64 ∧ (l.yes = false → l.k = 2 ^ 64 - 1)) ∧ 13822214165235122497 < 2 ^ 64 ∧ valL 64 _ = N
  decide +kernel

theorem ncLimbs64_ok (t : String) : valL (c64 t).w ncLimbs64 = 4624529908474429119 + 4994812053365940164 * 2 ^ 64 + 2 ^ 128 ∧
    4624529908474429119 + 4994812053365940164 * 2 ^ 64 + 2 ^ 128 + N = 2 ^ ((c64 t).w * (ovLimbs64.length + 1)) ∧
    ∀ k ∈ ncLimbs64, k < 2 ^ (c64 t).w := by
  show valL 64 ncLimbs64 = _ ∧ _ + N = 2 ^ (64 * 4) ∧ ∀ k ∈ ncLimbs64, k < 2 ^ 64
  decide +kernel

end ScalarKernel
end SecpZkp
