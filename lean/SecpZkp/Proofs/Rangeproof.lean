/-
  The pure-arithmetic layer of the range-proof properties C09 / C10: the loops and the three branches of
  `secp256k1_range_proveparams`, the header codec (`HeaderAccepts` is the one notion of a valid header), what `verifyImpl`
  checks before the rewind (`VerifyChecks`), and what an accepting run has therefore seen at which byte offset
  (`verifyImpl_accept_facts`).  Core Lean + `omega` / `decide`; no Mathlib.
-/
import SecpZkp.Model.Rangeproof
import SecpZkp.Proofs.BorromeanReject
import SecpZkp.Proofs.Readers

namespace SecpZkp
namespace Rangeproof

theorem u64Max_eq : u64Max = 18446744073709551615 := by decide
theorem i64Max_eq : i64Max = 9223372036854775807 := by decide
theorem U64_eq : U64 = 18446744073709551616 := by decide

theorem clz64_spec {x : Nat} (hx : x ≠ 0) (hlt : x < 2 ^ 64) :
    ∃ m, clz64 x = 64 - m ∧ 1 ≤ m ∧ m ≤ 64 ∧ 2 ^ (m - 1) ≤ x ∧ x < 2 ^ m := by
  have h1 : Nat.log2 x < 64 := (Nat.log2_lt hx).2 hlt
  refine ⟨Nat.log2 x + 1, ?_, by omega, by omega, ?_, Nat.lt_log2_self⟩
  · simp only [clz64, hx, if_false]; omega
  · simpa using Nat.log2_self_le hx

theorem clz64_zero : clz64 0 = 64 := by simp [clz64]

theorem clz64_le (x : Nat) : clz64 x ≤ 64 := by
  unfold clz64; split <;> omega

theorem bitLength_spec {x : Nat} (hx : x ≠ 0) (hlt : x < 2 ^ 64) :
    1 ≤ 64 - clz64 x ∧ clz64 x ≤ 63 ∧ 2 ^ (64 - clz64 x) ≤ 2 * x ∧ x < 2 ^ (64 - clz64 x) := by
  obtain ⟨m, hm, h1, h2, h3, h4⟩ := clz64_spec hx hlt
  have : 64 - clz64 x = m := by omega
  rw [this]
  refine ⟨h1, by omega, ?_, h4⟩
  obtain ⟨m', rfl⟩ : ∃ m', m = m' + 1 := ⟨m - 1, by omega⟩
  rw [Nat.pow_succ]; simp at h3; omega

theorem reduceExp_spec (fuel i exp v v2 : Nat) :
    ∃ k, reduceExp fuel i exp v v2 = (i + k, v / 10 ^ k) ∧ k ≤ fuel ∧ (k = 0 ∨ i + k ≤ exp) ∧
      (k = 0 ∨ v2 * 10 ^ k ≤ u64Max) := by
  induction fuel generalizing i v v2 with
  | zero => exact ⟨0, by simp [reduceExp], by omega, Or.inl rfl, Or.inl rfl⟩
  | succ fuel ih =>
    unfold reduceExp
    by_cases hc : i < exp ∧ v2 ≤ u64Max / 10
    · rw [if_pos hc]
      obtain ⟨k, hk, hkf, hke, hkv⟩ := ih (i + 1) (v / 10) (v2 * 10)
      refine ⟨k + 1, ?_, by omega, Or.inr (by omega), Or.inr ?_⟩
      · rw [hk, Nat.div_div_eq_div_mul, Nat.pow_succ, Nat.mul_comm (10 ^ k) 10]
        congr 1; omega
      · rcases hkv with h0 | h
        · subst h0
          have := hc.2; rw [u64Max_eq] at this ⊢; omega
        · rw [Nat.pow_succ, Nat.mul_comm (10 ^ k) 10, ← Nat.mul_assoc]; exact h
    · rw [if_neg hc]
      exact ⟨0, by simp, by omega, Or.inl rfl, Or.inl rfl⟩

theorem scaleUp_spec (e a b : Nat) (ha : a * 10 ^ e < 2 ^ 64) (hb : b * 10 ^ e < 2 ^ 64) :
    scaleUp e a b = (a * 10 ^ e, b * 10 ^ e) := by
  induction e generalizing a b with
  | zero => simp [scaleUp]
  | succ e ih =>
    have hp : 0 < 10 ^ e := Nat.pow_pos (by omega)
    rw [Nat.pow_succ, Nat.mul_comm (10 ^ e) 10, ← Nat.mul_assoc] at ha hb
    have ha' : a * 10 < 2 ^ 64 := Nat.lt_of_le_of_lt (Nat.le_mul_of_pos_right _ hp) ha
    have hb' : b * 10 < 2 ^ 64 := Nat.lt_of_le_of_lt (Nat.le_mul_of_pos_right _ hp) hb
    unfold scaleUp
    simp only [u64, Nat.mod_eq_of_lt ha', Nat.mod_eq_of_lt hb']
    rw [ih _ _ ha hb, Nat.pow_succ, Nat.mul_comm (10 ^ e) 10, ← Nat.mul_assoc, ← Nat.mul_assoc]

/-- the number whose little-endian base-4 digits are the list (`secidx`: one digit per ring) -/
def digitsValue : List Nat → Nat
  | [] => 0
  | d :: ds => d + 4 * digitsValue ds

theorem ringsOf_length (rings mantissa v n i : Nat) :
    (ringsOf rings mantissa v n i).1.length = n ∧ (ringsOf rings mantissa v n i).2.1.length = n := by
  induction n generalizing i with
  | zero => simp [ringsOf]
  | succ n ih => simp [ringsOf, ih (i + 1)]

theorem ringsOf_npub (rings mantissa v n i : Nat) :
    (ringsOf rings mantissa v n i).2.2 = (ringsOf rings mantissa v n i).1.sum := by
  induction n generalizing i with
  | zero => simp [ringsOf]
  | succ n ih => simp [ringsOf, ih (i + 1)]

theorem ringsOf_rsizes_eq (rings mantissa v n i : Nat) (hi : i + n = rings) :
    (ringsOf rings mantissa v n i).1 =
      if mantissa % 2 = 0 ∨ n = 0 then List.replicate n 4 else List.replicate (n - 1) 4 ++ [2] := by
  induction n generalizing i with
  | zero => simp [ringsOf]
  | succ n ih =>
    simp only [ringsOf]
    rw [ih (i + 1) (by omega)]
    by_cases hm : mantissa % 2 = 0
    · simp [hm, List.replicate_succ]
    · by_cases hn : n = 0
      · subst hn
        have : ¬ (i + 1 < rings) := by omega
        simp [hm, this]
      · have : i + 1 < rings := by omega
        obtain ⟨n', rfl⟩ : ∃ n', n = n' + 1 := ⟨n - 1, by omega⟩
        simp [hm, this, List.replicate_succ]

theorem ringsOf_digit_lt (rings mantissa v n i : Nat) (hr : rings = (mantissa + 1) / 2)
    (hv : v < 2 ^ mantissa) (hi : i + n = rings) :
    ∀ p ∈ List.zip (ringsOf rings mantissa v n i).2.1 (ringsOf rings mantissa v n i).1, p.1 < p.2 := by
  induction n generalizing i with
  | zero => simp [ringsOf]
  | succ n ih =>
    simp only [ringsOf, List.zip_cons_cons, List.mem_cons]
    intro p hp
    rcases hp with rfl | hp
    · have h3 : (v >>> (i * 2)) &&& 3 ≤ 3 := Nat.and_le_right
      dsimp only
      split
      · omega
      · rename_i hc
        have hm : mantissa = i * 2 + 1 := by omega
        have h1 : (v >>> (i * 2)) &&& 3 ≤ v >>> (i * 2) := Nat.and_le_left
        have h2 : v >>> (i * 2) < 2 := by
          rw [Nat.shiftRight_eq_div_pow, Nat.div_lt_iff_lt_mul (Nat.pow_pos (by omega))]
          rw [hm, Nat.pow_succ] at hv; omega
        omega
    · exact ih (i + 1) (by omega) p hp

theorem ringsOf_digits (rings mantissa v n i : Nat) :
    digitsValue (ringsOf rings mantissa v n i).2.1 = (v >>> (i * 2)) % 4 ^ n := by
  induction n generalizing i with
  | zero => simp [ringsOf, digitsValue, Nat.mod_one]
  | succ n ih =>
    simp only [ringsOf, digitsValue]
    rw [ih (i + 1), Nat.pow_succ, Nat.mul_comm (4 ^ n) 4, Nat.mod_mul]
    have h1 : v >>> ((i + 1) * 2) = (v >>> (i * 2)) / 4 := by
      rw [show (i + 1) * 2 = i * 2 + 2 by omega, Nat.shiftRight_add, Nat.shiftRight_eq_div_pow _ 2]
    have h2 : (v >>> (i * 2)) &&& 3 = (v >>> (i * 2)) % 4 := Nat.and_two_pow_sub_one_eq_mod _ 2
    rw [h1, h2]

theorem layout_spec (m : Nat) :
    (layout m).1 = (if m = 0 then 1 else (m + 1) / 2) ∧ (layout m).2.2 = (if m = 0 then 1 else 2 * m) ∧
    (layout m).2.1.length = (layout m).1 ∧ (layout m).2.1.sum = (layout m).2.2 ∧
    ∀ r ∈ (layout m).2.1, r = 1 ∨ r = 2 ∨ r = 4 := by
  unfold layout
  by_cases h0 : m = 0
  · simp [h0]
  · by_cases h1 : m % 2 = 1
    · simp [h0, h1]
      refine ⟨by omega, by omega, ?_⟩
      intro r hr; omega
    · simp [h0, h1]
      omega

theorem layout_bounds (m : Nat) (hm : m ≤ 64) :
    1 ≤ (layout m).1 ∧ (layout m).1 ≤ 32 ∧ 1 ≤ (layout m).2.2 ∧ (layout m).2.2 ≤ 128 := by
  obtain ⟨h1, h2, -⟩ := layout_spec m
  rw [h1, h2]; split <;> omega

theorem ringsOf_layout (m v : Nat) (hm : m ≠ 0) :
    (layout m).1 = (m + 1) / 2 ∧ (ringsOf ((m + 1) / 2) m v ((m + 1) / 2) 0).1 = (layout m).2.1 ∧
    (ringsOf ((m + 1) / 2) m v ((m + 1) / 2) 0).2.2 = (layout m).2.2 := by
  have h1 : (ringsOf ((m + 1) / 2) m v ((m + 1) / 2) 0).1 = (layout m).2.1 := by
    rw [ringsOf_rsizes_eq _ _ _ _ _ (Nat.zero_add _), layout, if_neg hm]
    by_cases hodd : m % 2 = 1
    · rw [if_pos hodd, if_neg (by omega), show (m + 1) / 2 - 1 = m / 2 by omega]
    · rw [if_neg hodd, if_pos (by omega), show (m + 1) / 2 = m / 2 by omega]
  refine ⟨by rw [(layout_spec m).1, if_neg hm], h1, ?_⟩
  rw [ringsOf_npub, h1]
  exact (layout_spec m).2.2.2.1

theorem shr_mask : ∀ m < 65, u64Max >>> (64 - m) = 2 ^ m - 1 := by decide +kernel

/-- The case of `range_lt` with mantissa `mb` after `k ≥ 1` divisions by ten: there `min' + span < min + 2^mb·10^k` with
`min < 2^(64−mb)`, which stays below `2^64` whenever the span alone fits 64 bits.  Finite: `mb ≤ 64`, `k ≤ 18`. -/
theorem pow_boundk : ∀ mb < 65, ∀ k < 19, 1 ≤ mb → 1 ≤ k → (2 ^ mb - 1) * 10 ^ k ≤ u64Max →
    2 ^ (64 - mb) + 2 ^ mb * 10 ^ k ≤ 2 ^ 64 + 1 := by decide +kernel

theorem pow10_le : ∀ k < 19, 10 ^ k ≤ 10 ^ 18 := by decide +kernel

theorem add_le_mul_add_one {x y : Nat} (hx : 1 ≤ x) (hy : 1 ≤ y) : x + y ≤ x * y + 1 := by
  obtain ⟨x, rfl⟩ : ∃ x', x = x' + 1 := ⟨x - 1, by omega⟩
  obtain ⟨y, rfl⟩ : ∃ y', y = y' + 1 := ⟨y - 1, by omega⟩
  rw [Nat.add_mul, Nat.mul_add]; omega

/-- The range `[min', min' + (2^m − 1)·10^k]` chosen by `proveParams` ends below `2^64`.  `k` divisions by ten were made
(`v = ⌊(value − min)/10^k⌋`), which for `k ≠ 0` needs `value ≤ INT64_MAX` and `(2^mb − 1)·10^k ≤ UINT64_MAX`; `min` has at
most `64 − mb` bits and is 0 unless `value ≤ INT64_MAX`; the mantissa is `mb` or the bit length of `v`. -/
theorem range_lt {value minValue0 v k m mb : Nat} (hmin : minValue0 ≤ value) (hval : value < 2 ^ 64)
    (hv1 : v * 10 ^ k ≤ value - minValue0) (hv2 : value - minValue0 < (v + 1) * 10 ^ k) (hk : k ≤ 18)
    (hk0 : k = 0 ∨ (value ≤ i64Max ∧ (2 ^ mb - 1) * 10 ^ k ≤ u64Max))
    (hg : minValue0 = 0 ∨ value ≤ i64Max) (hmb : mb ≤ 64) (hminlt : minValue0 < 2 ^ (64 - mb)) (hm64 : m ≤ 64)
    (hm : (m = mb) ∨ 2 ^ m ≤ 2 * v ∨ (v = 0 ∧ m = 1)) :
    (value - v * 10 ^ k) + (2 ^ m - 1) * 10 ^ k < 2 ^ 64 := by
  have hi := i64Max_eq
  have hu := u64Max_eq
  have hT : 1 ≤ 10 ^ k := Nat.pow_pos (by omega)
  have hS : 10 ^ k ≤ 10 ^ 18 := pow10_le k (by omega)
  have h2m : 1 ≤ 2 ^ m := Nat.pow_pos (by omega)
  rw [Nat.sub_mul, Nat.one_mul]
  rw [Nat.add_mul, Nat.one_mul] at hv2
  rcases Nat.eq_zero_or_pos k with rfl | hkpos
  · simp only [Nat.pow_zero, Nat.mul_one] at *
    rcases hm with rfl | h | ⟨rfl, rfl⟩
    · have := add_le_mul_add_one (Nat.pow_pos (n := 64 - m) (by omega : 0 < 2)) h2m
      rw [← Nat.pow_add, Nat.sub_add_cancel hmb] at this
      omega
    · have : 2 ^ m ≤ 2 ^ 64 := Nat.pow_le_pow_right (by omega) hm64
      omega
    · omega
  · obtain ⟨hvi, hb⟩ := hk0.resolve_left (by omega)
    rcases hm with rfl | h | ⟨rfl, rfl⟩
    · by_cases hm0 : m = 0
      · subst hm0; simp only [Nat.pow_zero] at *; omega
      have := pow_boundk m (by omega) k (by omega) (by omega) hkpos hb
      have hT' : 10 ^ k ≤ 2 ^ m * 10 ^ k := Nat.le_mul_of_pos_left _ h2m
      omega
    · have hTS : 2 ^ m * 10 ^ k ≤ 2 * (v * 10 ^ k) := by
        rw [← Nat.mul_assoc]; exact Nat.mul_le_mul_right _ h
      have hT' : 10 ^ k ≤ 2 ^ m * 10 ^ k := Nat.le_mul_of_pos_left _ h2m
      omega
    · simp only [Nat.zero_mul, Nat.pow_one] at *
      omega

/-- The branch of `proveParams` that codes a range: `k` divisions by ten were made, `m` is the mantissa, `minBits` the
clamped `min_bits`. -/
theorem proveParams_general (v0 minValue0 value : Nat) (exp0 minBits0 : Int)
   (hmin : minValue0 ≤ value) (hval : value < 2 ^ 64) (he2 : exp0 ≤ 18)
   (hb1 : 0 ≤ minBits0) (hb2 : minBits0 ≤ 64)
   (hne : minValue0 ≠ u64Max) (hge : exp0 ≥ 0)
   (hg : ¬ ((minValue0 ≠ 0 ∧ value > i64Max) ∨ (value ≠ 0 ∧ minValue0 ≥ i64Max))) :
   ∃ (k v m : Nat) (minBits : Int),
      proveParams v0 minValue0 exp0 minBits0 value =
        ⟨true, v, (layout m).1, (layout m).2.1, (layout m).2.2, (ringsOf ((m + 1) / 2) m v ((m + 1) / 2) 0).2.1,
          value - v * 10 ^ k, m, 10 ^ k, (k : Int), minBits⟩ ∧
      k ≤ 18 ∧ (k : Int) ≤ exp0 ∧ v * 10 ^ k ≤ value - minValue0 ∧
      1 ≤ m ∧ m ≤ 64 ∧ v < 2 ^ m ∧
      0 ≤ minBits ∧ minBits ≤ minBits0 ∧ minBits ≤ m ∧
      (value - v * 10 ^ k) + (2 ^ m - 1) * 10 ^ k < 2 ^ 64 ∧
      ((m : Int) = minBits ∨ 2 ^ m ≤ 2 * v ∨ (v = 0 ∧ m = 1)) := by
  have hi := i64Max_eq
  have hu := u64Max_eq
  unfold proveParams
  rw [if_neg hne, if_pos hge, if_neg hg]
  extract_lets maxBits minBits exp2 v1 mb v2
  have hguard : minValue0 = 0 ∨ value ≤ i64Max := by omega
  clear hg hne
  have hmaxBits : 0 ≤ maxBits ∧ maxBits ≤ 64 ∧ minValue0 < 2 ^ (64 - maxBits.toNat) := by
    by_cases h0 : minValue0 = 0
    · simp [maxBits, h0]
    · have := bitLength_spec h0 (by omega)
      simp only [maxBits, if_pos h0, Int.toNat_natCast]
      exact ⟨by omega, by omega, this.2.2.2⟩
  clear_value maxBits
  have hminBits : minBits = (mb : Int) ∧ (mb : Int) ≤ minBits0 ∧ mb ≤ 64 ∧ 64 - maxBits.toNat ≤ 64 - mb := by
    simp only [mb, minBits]; split <;> omega
  have hminlt : minValue0 < 2 ^ (64 - mb) :=
    Nat.lt_of_lt_of_le hmaxBits.2.2 (Nat.pow_le_pow_right (by omega) hminBits.2.2.2)
  obtain ⟨hmb, hmbb, hmb64, -⟩ := hminBits
  have hexp2 : exp2.toNat ≤ 18 ∧ (exp2.toNat : Int) ≤ exp0 ∧ (exp2.toNat = 0 ∨ value ≤ i64Max) := by
    simp only [exp2]; split <;> omega
  have hv1 : v1 = value - minValue0 := by simp only [v1, u64, U64_eq]; omega
  have hv2 : v2 = 2 ^ mb - 1 := by
    simp only [v2, shr_mask mb (by omega)]
    split
    · rfl
    · rw [show mb = 0 by omega]
  clear_value minBits exp2 v1 v2 mb
  subst hv1 hv2 hmb
  clear hmaxBits hb1 hb2 he2 hge maxBits
  obtain ⟨k, hk, -, hke, hkv⟩ := reduceExp_spec 20 0 exp2.toNat (value - minValue0) (2 ^ mb - 1)
  rw [hk]
  rw [Nat.zero_add] at hke ⊢
  have hk' : k ≤ 18 ∧ (k : Int) ≤ exp0 ∧ (k = 0 ∨ (value ≤ i64Max ∧ (2 ^ mb - 1) * 10 ^ k ≤ u64Max)) := by
    omega
  clear hk hke hkv hexp2 exp2
  obtain ⟨hk18, hkexp, hk0⟩ := hk'
  have hS : 10 ^ k ≤ 10 ^ 18 := pow10_le k (by omega)
  have hSpos : 0 < 10 ^ k := Nat.pow_pos (by omega)
  generalize hv : (value - minValue0) / 10 ^ k = v
  have hvS : v * 10 ^ k ≤ value - minValue0 := hv ▸ Nat.div_mul_le_self _ _
  have hvS2 : value - minValue0 < (v + 1) * 10 ^ k := by
    subst hv; rw [Nat.mul_comm]; exact Nat.lt_mul_div_succ _ hSpos
  have hv64 : v < 2 ^ 64 := by
    have := Nat.le_trans (Nat.le_mul_of_pos_right v hSpos) hvS
    omega
  clear hv
  dsimp only
  rw [scaleUp_spec k v 1 (by omega) (by omega)]
  dsimp only
  rw [Nat.one_mul, show u64 (value + U64 - v * 10 ^ k) = value - v * 10 ^ k by simp only [u64, U64_eq]; omega]
  obtain ⟨mant0, hm0e, hm01, hm064, hvm0, hm0t⟩ : ∃ mant0, (if v ≠ 0 then 64 - clz64 v else 1) = mant0 ∧
      1 ≤ mant0 ∧ mant0 ≤ 64 ∧ v < 2 ^ mant0 ∧ (2 ^ mant0 ≤ 2 * v ∨ (v = 0 ∧ mant0 = 1)) := by
    by_cases h0 : v = 0
    · exact ⟨1, by simp [h0], by omega, by omega, by omega, Or.inr ⟨h0, rfl⟩⟩
    · have := bitLength_spec h0 hv64
      exact ⟨_, if_pos h0, this.1, by omega, this.2.2.2, Or.inl this.2.2.1⟩
  rw [hm0e]
  generalize hmt : (if (mb : Int) > (mant0 : Int) then mb else mant0) = m
  have hmt' : (m = mb ∧ mant0 < mb) ∨ (m = mant0 ∧ mb ≤ mant0) := by
    subst hmt; split <;> omega
  clear hmt hm0e
  have hm : (m = mb ∨ 2 ^ m ≤ 2 * v ∨ (v = 0 ∧ m = 1)) ∧ v < 2 ^ m ∧ 1 ≤ m ∧ m ≤ 64 ∧ mb ≤ m := by
    rcases hmt' with ⟨rfl, hlt⟩ | ⟨rfl, hle⟩
    · exact ⟨Or.inl rfl, Nat.lt_of_lt_of_le hvm0 (Nat.pow_le_pow_right (by omega) (by omega)), by omega, by omega,
        by omega⟩
    · exact ⟨Or.inr hm0t, hvm0, by omega, by omega, by omega⟩
  obtain ⟨hmt, hvm, hm1, hm64, hmbm⟩ := hm
  obtain ⟨l1, l2, l3⟩ := ringsOf_layout m v (by omega)
  refine ⟨k, v, m, mb, by rw [Nat.shiftRight_eq_div_pow, Nat.pow_one, l1, ← l2, ← l3], hk18, hkexp, hvS, hm1, hm64, hvm,
    Int.natCast_nonneg _, hmbb, Int.ofNat_le.mpr hmbm,
    range_lt hmin hval hvS hvS2 hk18 hk0 hguard hmb64 hminlt hm64 hmt, ?_⟩
  rcases hmt with h | h
  · exact Or.inl (congrArg Nat.cast h)
  · exact Or.inr h

theorem proveParams_exact (v0 minValue0 value : Nat) (exp0 minBits0 : Int)
    (h : minValue0 = u64Max ∨ exp0 < 0) :
    proveParams v0 minValue0 exp0 minBits0 value = ⟨true, 0, 1, [1], 2, [0], value, 0, 1, 0, minBits0⟩ := by
  unfold proveParams
  by_cases h1 : minValue0 = u64Max
  · simp [h1]
  · have h2 : ¬ exp0 ≥ 0 := by omega
    simp [h1, h2]

theorem proveParams_fail (v0 minValue0 value : Nat) (exp0 minBits0 : Int)
    (h1 : minValue0 ≠ u64Max) (h2 : exp0 ≥ 0)
    (hg : (minValue0 ≠ 0 ∧ value > i64Max) ∨ (value ≠ 0 ∧ minValue0 ≥ i64Max)) :
    proveParams v0 minValue0 exp0 minBits0 value = ⟨false, v0, 1, [1], 0, [0], minValue0, 0, 1, exp0, minBits0⟩ := by
  unfold proveParams
  simp only [h1, if_false, h2, if_true, hg]

/- the proofs about `getHeader` hand one `simp only` list to every shape of header (range or not, minimum or not), so in
   each branch some of its entries idle -/
set_option linter.unusedSimpArgs false

theorem toNat_take8_lt (bs : Bytes) : Bytes.toNat (bs.take 8) < 2 ^ 64 := by
  have h1 := Bytes.toNat_lt (bs.take 8)
  have h2 : (bs.take 8).length ≤ 8 := by simp; omega
  have h3 : 256 ^ (bs.take 8).length ≤ 256 ^ 8 := Nat.pow_le_pow_right (by omega) h2
  have : (256 : Nat) ^ 8 = 2 ^ 64 := by decide
  omega

theorem headerScale_ok (e mx sc : Nat) (h1 : mx * 10 ^ e ≤ u64Max) (h2 : sc * 10 ^ e < 2 ^ 64) :
    headerScale e mx sc = (true, mx * 10 ^ e, sc * 10 ^ e) := by
  induction e generalizing mx sc with
  | zero => simp [headerScale]
  | succ e ih =>
    have hp : 0 < 10 ^ e := Nat.pow_pos (by omega)
    rw [Nat.pow_succ, Nat.mul_comm (10 ^ e) 10, ← Nat.mul_assoc] at h1 h2
    have h1' : mx * 10 ≤ u64Max := Nat.le_trans (Nat.le_mul_of_pos_right _ hp) h1
    have h2' : sc * 10 < 2 ^ 64 := Nat.lt_of_le_of_lt (Nat.le_mul_of_pos_right _ hp) h2
    unfold headerScale
    have : ¬ mx > u64Max / 10 := by rw [u64Max_eq] at h1' ⊢; omega
    simp only [this, if_false, u64, Nat.mod_eq_of_lt h2']
    rw [ih _ _ h1 h2, Nat.pow_succ, Nat.mul_comm (10 ^ e) 10, ← Nat.mul_assoc, ← Nat.mul_assoc]

theorem headerScale_fail (e mx sc : Nat) (h0 : mx ≤ u64Max) (h1 : mx * 10 ^ e > u64Max) :
    (headerScale e mx sc).1 = false := by
  induction e generalizing mx sc with
  | zero => simp at h1; omega
  | succ e ih =>
    unfold headerScale
    split
    · rfl
    · rename_i hc
      apply ih
      · rw [u64Max_eq] at hc ⊢; omega
      · rw [Nat.pow_succ, Nat.mul_comm (10 ^ e) 10, ← Nat.mul_assoc] at h1
        exact h1

theorem headerScale_span {e m : Nat} (he : e ≤ 18) (hm : m ≤ 64) (h : (2 ^ m - 1) * 10 ^ e ≤ u64Max) :
    headerScale ((e : Int)).toNat (u64Max >>> (64 - m)) 1 = (true, (2 ^ m - 1) * 10 ^ e, 10 ^ e) := by
  have hS : 10 ^ e ≤ 10 ^ 18 := pow10_le _ (by omega)
  rw [Int.toNat_natCast, shr_mask m (by omega), headerScale_ok _ _ _ h (by omega), Nat.one_mul]

/-- byte 0 of the proof as a number (0 for the empty string, which `HeaderAccepts` excludes) -/
def hdrB0 (proof : Bytes) : Nat := (proof.headD 0).toNat
/-- bit 6 of byte 0: a non-zero range is coded (exponent in the low five bits, `mantissa − 1` in byte 1) -/
def hdrHasNz (proof : Bytes) : Prop := hdrB0 proof &&& 64 ≠ 0
/-- bit 5 of byte 0: an 8-byte big-endian minimum value follows -/
def hdrHasMin (proof : Bytes) : Prop := hdrB0 proof &&& 32 ≠ 0
instance (p : Bytes) : Decidable (hdrHasNz p) := by unfold hdrHasNz; infer_instance
instance (p : Bytes) : Decidable (hdrHasMin p) := by unfold hdrHasMin; infer_instance
def hdrExpField (proof : Bytes) : Nat := hdrB0 proof &&& 31
/-- the exponent as `getHeader` reports it: `-1` for a proof without a range -/
def hdrExp (proof : Bytes) : Int := if hdrHasNz proof then (hdrExpField proof : Int) else -1
def hdrMantissa (proof : Bytes) : Nat := if hdrHasNz proof then (proof.getD 1 0).toNat + 1 else 0
def hdrScale (proof : Bytes) : Nat := if hdrHasNz proof then 10 ^ hdrExpField proof else 1
def hdrLen (proof : Bytes) : Nat :=
  1 + (if hdrHasNz proof then 1 else 0) + (if hdrHasMin proof then 8 else 0)
def hdrMin (proof : Bytes) : Nat :=
  if hdrHasMin proof then Bytes.toNat ((proof.drop (1 + (if hdrHasNz proof then 1 else 0))).take 8) else 0
/-- width of the coded range, `max_value − min_value` -/
def hdrSpan (proof : Bytes) : Nat :=
  if hdrHasNz proof then (2 ^ hdrMantissa proof - 1) * 10 ^ hdrExpField proof else 0

/-- The exact acceptance condition of `secp256k1_rangeproof_getheader_impl`, as a predicate over the first
(at most ten) bytes and the length. -/
def HeaderAccepts (proof : Bytes) : Prop :=
  65 ≤ proof.length ∧ hdrB0 proof &&& 128 = 0 ∧
  (hdrHasNz proof → hdrExpField proof ≤ 18 ∧ hdrMantissa proof ≤ 64) ∧
  hdrMin proof + hdrSpan proof < 2 ^ 64

instance (p : Bytes) : Decidable (HeaderAccepts p) := by unfold HeaderAccepts; infer_instance

theorem getHeader_accept (init : Header) (proof : Bytes) (hoff : init.offset = 0) (h : HeaderAccepts proof) :
    getHeader init proof =
      ⟨true, hdrLen proof, hdrExp proof, hdrMantissa proof, hdrScale proof, hdrMin proof,
        hdrMin proof + hdrSpan proof⟩ := by
  obtain ⟨hlen, hb7, hnz, hsum⟩ := h
  unfold hdrLen hdrExp hdrMantissa hdrScale hdrMin hdrSpan hdrMantissa hdrExpField at *
  unfold hdrHasNz hdrHasMin hdrB0 at *
  unfold getHeader
  have hg1 : ¬ (proof.length < 65 ∨ (proof.headD 0).toNat &&& 128 ≠ 0) := by omega
  have hl1 : ¬ (proof.length - (0 + 1) < 8) := by omega
  have hl2 : ¬ (proof.length - (1 + 1) < 8) := by omega
  have hneg : (-1 : Int).toNat = 0 := rfl
  have hs0 : headerScale 0 0 1 = (true, 0, 1) := rfl
  have hu := u64Max_eq
  by_cases hz : (proof.headD 0).toNat &&& 64 ≠ 0
  · obtain ⟨he, hm64⟩ := hnz hz
    simp only [eq_true hz, if_true] at hm64 hsum
    have he' : ¬ ((proof.headD 0).toNat &&& 31 > 18) := by omega
    have hm64' : ¬ ((proof.getD 1 0).toNat + 1 > 64) := by omega
    have hs := headerScale_span (e := (proof.headD 0).toNat &&& 31) (m := (proof.getD 1 0).toNat + 1)
      (by omega) (by omega) (by omega)
    by_cases hm : (proof.headD 0).toNat &&& 32 ≠ 0
    · simp only [eq_true hm, if_true] at hsum
      simp only [hg1, eq_true hz, eq_true hm, he', hm64', hl2, hs, if_false, if_true, Bool.not_true,
        Bool.false_eq_true]
      rw [if_neg (by omega)]
      congr 1; omega
    · simp only [hm, if_false] at hsum
      simp only [hg1, eq_true hz, hm, he', hm64', hs, if_false, if_true, Bool.not_true, Bool.false_eq_true]
      rw [if_neg (by omega)]
      congr 1 <;> omega
  · simp only [hz, if_false, Nat.add_zero] at hsum
    by_cases hm : (proof.headD 0).toNat &&& 32 ≠ 0
    · simp only [eq_true hm, if_true] at hsum
      simp only [hg1, hz, eq_true hm, hoff, hl1, hneg, hs0, if_false, if_true, Bool.not_true, Bool.false_eq_true,
        Nat.add_zero, Nat.zero_add]
      rw [if_neg (by omega)]
      rfl
    · simp only [hg1, hz, hm, hoff, hneg, hs0, if_false, if_true, Bool.not_true, Bool.false_eq_true,
        Nat.add_zero, Nat.zero_add]
      rw [if_neg (by omega)]
      rfl

theorem getHeader_reject (init : Header) (proof : Bytes) (h : ¬ HeaderAccepts proof) :
    (getHeader init proof).ret = false := by
  unfold HeaderAccepts hdrMin hdrSpan hdrMantissa hdrExpField at h
  unfold hdrHasNz hdrHasMin hdrB0 at h
  unfold getHeader
  have hu := u64Max_eq
  by_cases hg1 : proof.length < 65 ∨ (proof.headD 0).toNat &&& 128 ≠ 0
  · simp only [hg1, if_true]
  have hlen : 65 ≤ proof.length := by omega
  have hb7 : (proof.headD 0).toNat &&& 128 = 0 := by omega
  have hl2 : ¬ (proof.length - (1 + 1) < 8) := by omega
  have h8 := toNat_take8_lt (proof.drop (1 + 1))
  by_cases hz : (proof.headD 0).toNat &&& 64 ≠ 0
  · by_cases he : (proof.headD 0).toNat &&& 31 > 18
    · simp only [hg1, eq_true hz, he, if_false, if_true, Bool.not_false]
    by_cases hm64 : (proof.getD 1 0).toNat + 1 > 64
    · simp only [hg1, eq_true hz, he, hm64, if_false, if_true, Bool.not_false]
    have hmask := shr_mask ((proof.getD 1 0).toNat + 1) (by omega)
    simp only [eq_true hz, if_true, hlen, hb7, true_and, not_and, forall_const] at h
    have h := h ⟨by omega, by omega⟩
    by_cases hspan : (2 ^ ((proof.getD 1 0).toNat + 1) - 1) * 10 ^ ((proof.headD 0).toNat &&& 31) ≤ u64Max
    · have hs := headerScale_span (e := (proof.headD 0).toNat &&& 31) (m := (proof.getD 1 0).toNat + 1)
        (by omega) (by omega) hspan
      by_cases hm : (proof.headD 0).toNat &&& 32 ≠ 0
      · simp only [eq_true hm, if_true] at h
        simp only [hg1, eq_true hz, eq_true hm, he, hm64, hl2, hs, if_false, if_true, Bool.not_true,
          Bool.false_eq_true]
        rw [if_pos (by omega)]
      · simp only [hm, if_false] at h
        simp only [hg1, eq_true hz, hm, he, hm64, hs, if_false, if_true, Bool.not_true, Bool.false_eq_true]
        rw [if_pos (by omega)]
    · have hf : (headerScale ((((proof.headD 0).toNat &&& 31 : Nat) : Int)).toNat
          (u64Max >>> (64 - ((proof.getD 1 0).toNat + 1))) 1).1 = false := by
        rw [Int.toNat_natCast, hmask]
        apply headerScale_fail
        · have : 2 ^ ((proof.getD 1 0).toNat + 1) ≤ 2 ^ 64 := Nat.pow_le_pow_right (by omega) (by omega)
          omega
        · omega
      rcases hr : headerScale ((((proof.headD 0).toNat &&& 31 : Nat) : Int)).toNat
          (u64Max >>> (64 - ((proof.getD 1 0).toNat + 1))) 1 with ⟨ok, mx, sc⟩
      rw [hr] at hf
      simp only at hf
      subst hf
      simp only [hg1, eq_true hz, he, hm64, hr, if_false, if_true, Bool.not_true, Bool.false_eq_true,
        Bool.not_false]
  · simp only [hz, if_false, hlen, hb7, true_and, not_and, false_imp_iff, forall_const, Nat.add_zero] at h
    have h8 := toNat_take8_lt (proof.drop 1)
    split at h <;> omega

theorem getHeader_accepts_imp (init : Header) (proof : Bytes) (h : (getHeader init proof).ret = true) :
    HeaderAccepts proof := by
  apply Classical.byContradiction
  intro hn
  rw [getHeader_reject init proof hn] at h
  exact absurd h (by simp)

theorem toNat_be8 (x : Nat) (hx : x < 2 ^ 64) : Bytes.toNat (Bytes.be8 x) = x := by
  unfold Bytes.be8; rw [Bytes.toNat_ofNat]
  exact Nat.mod_eq_of_lt (by have : (256:Nat) ^ 8 = 2 ^ 64 := by decide
                             omega)

/-- byte 0 as `headerBytes` writes it, `64 | e | (32 if min ≠ 0)`, under the bit tests of `getHeader` -/
theorem b0_facts : ∀ e : Nat, e < 19 →
    ((64 ||| e) ||| 32) &&& 128 = 0 ∧ ((64 ||| e) ||| 32) &&& 64 ≠ 0 ∧ ((64 ||| e) ||| 32) &&& 32 ≠ 0 ∧
    ((64 ||| e) ||| 32) &&& 31 = e ∧ ((64 ||| e) ||| 32) < 256 ∧
    ((64 ||| e) ||| 0) &&& 128 = 0 ∧ ((64 ||| e) ||| 0) &&& 64 ≠ 0 ∧ ((64 ||| e) ||| 0) &&& 32 = 0 ∧
    ((64 ||| e) ||| 0) &&& 31 = e ∧ ((64 ||| e) ||| 0) < 256 := by decide +kernel

theorem headerBytes_decode (rsize0 e mantissa minValue : Nat) (rest : Bytes)
    (he : e ≤ 18) (hm1 : rsize0 > 1 → 1 ≤ mantissa) (hm2 : mantissa ≤ 64) (hmin : minValue < 2 ^ 64) :
    hdrB0 (headerBytes rsize0 (e : Int) mantissa minValue ++ rest) &&& 128 = 0 ∧
    (hdrHasNz (headerBytes rsize0 (e : Int) mantissa minValue ++ rest) ↔ rsize0 > 1) ∧
    (hdrHasMin (headerBytes rsize0 (e : Int) mantissa minValue ++ rest) ↔ minValue ≠ 0) ∧
    (rsize0 > 1 → hdrExpField (headerBytes rsize0 (e : Int) mantissa minValue ++ rest) = e ∧
      hdrMantissa (headerBytes rsize0 (e : Int) mantissa minValue ++ rest) = mantissa) ∧
    hdrMin (headerBytes rsize0 (e : Int) mantissa minValue ++ rest) = minValue ∧
    hdrLen (headerBytes rsize0 (e : Int) mantissa minValue ++ rest) =
      (headerBytes rsize0 (e : Int) mantissa minValue).length := by
  obtain ⟨f1, f2, f3, f4, f5, g1, g2, g3, g4, g5⟩ := b0_facts e (by omega)
  have hl8 := Bytes.ofNat_length 8 minValue
  have hmm : rsize0 > 1 → (UInt8.ofNat (mantissa - 1)).toNat + 1 = mantissa := by
    intro h; have := hm1 h; simp; omega
  have htk : (Bytes.be8 minValue ++ rest).take 8 = Bytes.be8 minValue := by
    rw [List.take_append_of_le_length (by unfold Bytes.be8; omega), List.take_of_length_le (by unfold Bytes.be8; omega)]
  have h8 := toNat_be8 minValue hmin
  have hl8' : (Bytes.be8 minValue).length = 8 := hl8
  have hto : ∀ n, n < 256 → (UInt8.ofNat n).toNat = n := fun n hn => by simp; omega
  by_cases hr : rsize0 > 1
  · have hmm := hmm hr
    by_cases hz : minValue ≠ 0
    · have hp : headerBytes rsize0 (e : Int) mantissa minValue ++ rest =
          UInt8.ofNat ((64 ||| e) ||| 32) :: UInt8.ofNat (mantissa - 1) :: (Bytes.be8 minValue ++ rest) := by
        simp [headerBytes, hr, hz]
      have hlen : (headerBytes rsize0 (e : Int) mantissa minValue).length = 10 := by
        simp [headerBytes, hr, hz, hl8']
      rw [hp, hlen]
      simp only [hdrLen, hdrMin, hdrMantissa, hdrExpField, hdrHasNz, hdrHasMin, hdrB0, List.headD_cons, hto _ f5,
        f1, f2, f3, f4, hr, hz, ne_eq, not_false_eq_true, if_true, true_and, iff_self, forall_const,
        List.getD_cons_succ, List.getD_cons_zero, hmm, List.drop_succ_cons, List.drop_zero, htk, h8]
    · have hz0 : minValue = 0 := by omega
      have hp : headerBytes rsize0 (e : Int) mantissa minValue ++ rest =
          UInt8.ofNat ((64 ||| e) ||| 0) :: UInt8.ofNat (mantissa - 1) :: rest := by
        simp [headerBytes, hr, hz0]
      have hlen : (headerBytes rsize0 (e : Int) mantissa minValue).length = 2 := by
        simp [headerBytes, hr, hz0]
      rw [hp, hlen]
      simp only [hdrLen, hdrMin, hdrMantissa, hdrExpField, hdrHasNz, hdrHasMin, hdrB0, List.headD_cons, hto _ g5,
        g1, g2, g3, g4, hr, hz0, ne_eq, not_false_eq_true, if_true, true_and, iff_self, forall_const,
        List.getD_cons_succ, List.getD_cons_zero, hmm, not_true_eq_false, if_false]
  · have c1 : (32 : Nat) &&& 128 = 0 ∧ (32 : Nat) &&& 64 = 0 ∧ (32 : Nat) &&& 32 ≠ 0 := by decide
    by_cases hz : minValue ≠ 0
    · have hp : headerBytes rsize0 (e : Int) mantissa minValue ++ rest =
          UInt8.ofNat 32 :: (Bytes.be8 minValue ++ rest) := by
        simp [headerBytes, hr, hz]
      have hlen : (headerBytes rsize0 (e : Int) mantissa minValue).length = 9 := by
        simp [headerBytes, hr, hz, hl8']
      rw [hp, hlen]
      simp only [hdrLen, hdrMin, hdrMantissa, hdrExpField, hdrHasNz, hdrHasMin, hdrB0, List.headD_cons,
        hto 32 (by omega), c1, hr, hz, ne_eq, not_false_eq_true, if_true, true_and, iff_self, forall_const,
        not_true_eq_false, if_false, List.drop_succ_cons, List.drop_zero, htk, h8, Nat.add_zero, false_imp_iff]
    · have hz0 : minValue = 0 := by omega
      have hp : headerBytes rsize0 (e : Int) mantissa minValue ++ rest = UInt8.ofNat 0 :: rest := by
        simp [headerBytes, hr, hz0]
      have hlen : (headerBytes rsize0 (e : Int) mantissa minValue).length = 1 := by
        simp [headerBytes, hr, hz0]
      rw [hp, hlen]
      simp only [hdrLen, hdrMin, hdrMantissa, hdrExpField, hdrHasNz, hdrHasMin, hdrB0, List.headD_cons,
        hto 0 (by omega), Nat.zero_and, hr, hz0, ne_eq, not_false_eq_true, if_true, true_and, iff_self,
        forall_const, not_true_eq_false, if_false, Nat.add_zero, false_imp_iff]

/-- `hr`: `headerBytes` writes the exact-value header (mantissa 0, exponent not coded: `hk0`) when the first ring has
size 1. -/
theorem getHeader_headerBytes (init : Header) (hoff : init.offset = 0) (rsize0 k mantissa minValue : Nat) (rest : Bytes)
    (hk : k ≤ 18) (hr : rsize0 > 1 ↔ mantissa ≠ 0) (hk0 : mantissa = 0 → k = 0) (hm : mantissa ≤ 64)
    (hmax : minValue + (2 ^ mantissa - 1) * 10 ^ k < 2 ^ 64)
    (hlen : 65 ≤ (headerBytes rsize0 (k : Int) mantissa minValue ++ rest).length) :
    getHeader init (headerBytes rsize0 (k : Int) mantissa minValue ++ rest) =
      ⟨true, (headerBytes rsize0 (k : Int) mantissa minValue).length, if mantissa = 0 then -1 else (k : Int), mantissa,
        10 ^ k, minValue, minValue + (2 ^ mantissa - 1) * 10 ^ k⟩ := by
  obtain ⟨d1, d2, -, d4, d5, d6⟩ := headerBytes_decode rsize0 k mantissa minValue rest hk
    (fun h => by have := hr.1 h; omega) hm (by omega)
  generalize headerBytes rsize0 (k : Int) mantissa minValue ++ rest = proof at *
  by_cases hm0 : mantissa = 0
  · have hnz : ¬ hdrHasNz proof := fun h => hr.1 (d2.1 h) hm0
    have hacc : HeaderAccepts proof := by
      refine ⟨hlen, d1, fun h => absurd h hnz, ?_⟩
      rw [d5]; simp only [hdrSpan, hnz, if_false]; omega
    rw [getHeader_accept init _ hoff hacc, d5, d6]
    simp [hdrExp, hdrMantissa, hdrScale, hdrSpan, hnz, hm0, hk0 hm0]
  · have hnz : hdrHasNz proof := d2.2 (hr.2 hm0)
    obtain ⟨e1, e2⟩ := d4 (hr.2 hm0)
    have hacc : HeaderAccepts proof := by
      refine ⟨hlen, d1, fun _ => ⟨by omega, by omega⟩, ?_⟩
      rw [d5]; simp only [hdrSpan, hnz, if_true, e1, e2]; exact hmax
    rw [getHeader_accept init _ hoff hacc, d5, d6]
    simp only [hdrExp, hdrScale, hdrSpan, hnz, if_true, e1, e2, hm0, if_false]

theorem layout_headD (m : Nat) : (layout m).2.1.headD 1 > 1 ↔ m ≠ 0 := by
  unfold layout
  by_cases h0 : m = 0
  · simp [h0]
  · by_cases h1 : m % 2 = 1
    · rcases Nat.eq_zero_or_pos (m / 2) with h | h
      · simp [h0, h1, h]
      · obtain ⟨f, hf⟩ : ∃ f, m / 2 = f + 1 := ⟨m / 2 - 1, by omega⟩
        simp [h0, h1, hf, List.replicate_succ]
    · obtain ⟨f, hf⟩ : ∃ f, m / 2 = f + 1 := ⟨m / 2 - 1, by omega⟩
      simp [h0, h1, hf, List.replicate_succ]

/-- `if (extra_commit != NULL) sha256_write(extra_commit)` -/
def absorbExtra (sha1 : Sha256.State) (extra : Option Bytes) : Sha256.State :=
  match extra with
  | some e => Sha256.write sha1 e
  | none => sha1

/-- the header as `verifyImpl` decodes it; for an accepted header `min0`, `max0` do not matter (`vHeader_eq`) -/
def vHeader (min0 max0 : Nat) (proof : Bytes) : Header := getHeader ⟨false, 0, 0, 0, 0, min0, max0⟩ proof

/-- Everything `verifyImpl` checks between the header and the rewind, in the order of the C code.  `hd` is the decoded
header, `(rings, rsizes, npub)` the ring layout of its mantissa. -/
structure VerifyChecks (commit : Pt) (proof : Bytes) (extra : Option Bytes) (genp : Pt) (hd : Header)
    (rings : Nat) (rsizes : List Nat) (npub : Nat) (firsts0 : List Pt) (acc : Pt) (sha1 : Sha256.State)
    (s : List Nat) : Prop where
  room : ¬ proof.length - hd.offset < 32 * (npub + rings - 1) + 32 + (rings + 6) >>> 3
  spare : ¬ ((rings - 1) &&& 7 ≠ 0 ∧
    (proof.getD (hd.offset + (rings + 6) >>> 3 - 1) 0).toNat >>> ((rings - 1) &&& 7) ≠ 0)
  digits : readDigits (rings - 1) 0 ((proof.drop hd.offset).take ((rings + 6) >>> 3))
    (proof.drop (hd.offset + (rings + 6) >>> 3)) (shaPrefix commit genp (proof.take hd.offset))
    (if hd.minValue ≠ 0 then Pt.mul hd.minValue genp else Pt.inf) [] = some (firsts0, acc, sha1)
  last : (Pt.add (Pt.neg acc) commit).isInf = false
  scalars : readScalars npub (proof.drop (hd.offset + (rings + 6) >>> 3 + 32 * (rings - 1) + 32)) = some s
  len : hd.offset + (rings + 6) >>> 3 + 32 * (rings - 1) + 32 + 32 * npub = proof.length
  ring : (Borromean.verify ((proof.drop (hd.offset + (rings + 6) >>> 3 + 32 * (rings - 1))).take 32) s
    (pubExpand (firsts0 ++ [Pt.add (Pt.neg acc) commit]) hd.exp rsizes genp) rsizes
    (Sha256.finalize (absorbExtra sha1 extra))).1 = true

/-- The two ways `verifyImpl` ends: it rejects, or every check of `VerifyChecks` has passed; in both it reports the
range of the header.  `hrej` may assume that, without rewinding (`nonce = none`), the header or one of the checks
failed: this makes the case analysis an equivalence (`verifyImpl_accept_iff`). -/
theorem verifyImpl_cases {P : VerifyResult → Prop} (nonce : Option Bytes) (mlen : Option Nat) (min0 max0 : Nat)
    (commit : Pt) (proof : Bytes) (extra : Option Bytes) (genp : Pt) {rings : Nat} {rsizes : List Nat} {npub : Nat}
    (hl : layout (vHeader min0 max0 proof).mantissa.toNat = (rings, rsizes, npub))
    (hrej : ∀ msg, (nonce = none → (vHeader min0 max0 proof).ret = true → ∀ firsts0 acc sha1 s,
        ¬ VerifyChecks commit proof extra genp (vHeader min0 max0 proof) rings rsizes npub firsts0 acc sha1 s) →
      P ⟨false, (vHeader min0 max0 proof).minValue, (vHeader min0 max0 proof).maxValue, none, none, msg⟩)
    (hacc : ∀ firsts0 acc sha1 s, (vHeader min0 max0 proof).ret = true →
      VerifyChecks commit proof extra genp (vHeader min0 max0 proof) rings rsizes npub firsts0 acc sha1 s →
      ∀ blind value msg, (nonce = none → blind = none ∧ value = none ∧ msg = none) →
        P ⟨true, (vHeader min0 max0 proof).minValue, (vHeader min0 max0 proof).maxValue, blind, value, msg⟩) :
    P (verifyImpl nonce mlen min0 max0 commit proof extra genp) := by
  unfold vHeader at hl hrej hacc
  unfold verifyImpl
  generalize getHeader _ proof = hd at *
  extract_lets plen h fail hdrLen hdr sha acc0
  refine ite_elim (fun h0 => hrej _ fun _ hr => by simp [h, hr] at h0) fun h0 => ?_
  rw [hl]
  dsimp -zeta only
  refine ite_elim (fun h1 => hrej _ fun _ _ _ _ _ _ c => c.room h1) fun h1 => ?_
  extract_lets nsign signBytes offset offset1 e0 offset2 offset3
  refine ite_elim (fun h2 => hrej _ fun _ _ _ _ _ _ c => c.spare h2) fun h2 => ?_
  generalize hrd : readDigits _ _ _ _ _ _ _ = rd
  cases rd with
  | none => exact hrej _ fun _ _ _ _ _ _ c => by have := hrd.symm.trans c.digits; simp at this
  | some t =>
  obtain ⟨firsts0, acc, sha1⟩ := t
  -- a passing run reads the same digits, so its later checks are the ones made here
  have hsame : ∀ {f a sh s}, VerifyChecks commit proof extra genp hd rings rsizes npub f a sh s →
      f = firsts0 ∧ a = acc ∧ sh = sha1 := fun c => by
    have := hrd.symm.trans c.digits
    simpa [eq_comm] using this
  dsimp -zeta only
  extract_lets last pubs sha2 m
  refine ite_elim (fun h4 => hrej _ fun _ _ _ _ _ _ c => by
    obtain ⟨-, rfl, -⟩ := hsame c; exact absurd (h4.symm.trans c.last) (by simp)) fun h4 => ?_
  generalize hrs : readScalars _ _ = rs
  cases rs with
  | none => exact hrej _ fun _ _ _ _ _ _ c => by have := hrs.symm.trans c.scalars; simp at this
  | some s =>
  dsimp -zeta only
  refine ite_elim (fun h5 => hrej _ fun _ _ _ _ _ _ c => h5 c.len) fun h5 => ?_
  generalize hv : Borromean.verify e0 s pubs rsizes m = bv
  obtain ⟨ok, ev⟩ := bv
  cases ok
  · refine hrej _ fun _ _ _ _ _ s' c => ?_
    obtain ⟨rfl, rfl, rfl⟩ := hsame c
    have hs : s = s' := Option.some.inj (hrs.symm.trans c.scalars)
    subst hs
    exact absurd ((congrArg Prod.fst hv).symm.trans c.ring) (by simp)
  have hc : VerifyChecks commit proof extra genp hd rings rsizes npub firsts0 acc sha1 s :=
    ⟨h1, h2, hrd, by simpa using h4, hrs, by simpa using h5, congrArg Prod.fst hv⟩
  have h0 : hd.ret = true := by simpa using h0
  cases nonce with
  | none => exact hacc _ _ _ _ h0 hc _ _ _ fun _ => ⟨rfl, rfl, rfl⟩
  | some nc =>
  have hn : ∀ msg, P ⟨false, hd.minValue, hd.maxValue, none, none, msg⟩ :=
    fun msg => hrej msg fun h => absurd h (by simp)
  dsimp -zeta only
  extract_lets rw failR vv
  cases rw.ret
  · exact hn _
  cases pedersenEcmult rw.blind vv genp
  · exact hn _
  dsimp -zeta only
  cases (Pt.add (Pt.neg (Pt.aff _ _)) commit).isInf
  · exact hn _
  exact hacc _ _ _ _ h0 hc _ _ _ fun h => absurd h (by simp)

theorem verifyImpl_range (nonce : Option Bytes) (mlen : Option Nat) (min0 max0 : Nat) (commit : Pt)
    (proof : Bytes) (extra : Option Bytes) (genp : Pt) :
    (verifyImpl nonce mlen min0 max0 commit proof extra genp).minValue = (vHeader min0 max0 proof).minValue ∧
    (verifyImpl nonce mlen min0 max0 commit proof extra genp).maxValue = (vHeader min0 max0 proof).maxValue :=
  verifyImpl_cases (P := fun r => r.minValue = _ ∧ r.maxValue = _) nonce mlen min0 max0 commit proof extra genp rfl
    (fun _ _ => ⟨rfl, rfl⟩) (fun _ _ _ _ _ _ _ _ _ _ => ⟨rfl, rfl⟩)

theorem verifyImpl_accept_imp (nonce : Option Bytes) (mlen : Option Nat) (min0 max0 : Nat) (commit : Pt)
    (proof : Bytes) (extra : Option Bytes) (genp : Pt)
    (h : (verifyImpl nonce mlen min0 max0 commit proof extra genp).ret = true)
    {rings : Nat} {rsizes : List Nat} {npub : Nat}
    (hl : layout (vHeader min0 max0 proof).mantissa.toNat = (rings, rsizes, npub)) :
    (vHeader min0 max0 proof).ret = true ∧ ∃ firsts0 acc sha1 s,
      VerifyChecks commit proof extra genp (vHeader min0 max0 proof) rings rsizes npub firsts0 acc sha1 s :=
  verifyImpl_cases (P := fun r => r.ret = true → _) nonce mlen min0 max0 commit proof extra genp hl
    (fun _ _ h => absurd h (by simp)) (fun f a sh s h0 hc _ _ _ _ _ => ⟨h0, f, a, sh, s, hc⟩) h

theorem verifyImpl_accept_iff (mlen : Option Nat) (min0 max0 : Nat) (commit : Pt) (proof : Bytes)
    (extra : Option Bytes) (genp : Pt) {rings : Nat} {rsizes : List Nat} {npub : Nat}
    (hl : layout (vHeader min0 max0 proof).mantissa.toNat = (rings, rsizes, npub)) :
    verifyImpl none mlen min0 max0 commit proof extra genp =
        ⟨true, (vHeader min0 max0 proof).minValue, (vHeader min0 max0 proof).maxValue, none, none, none⟩ ↔
      (vHeader min0 max0 proof).ret = true ∧ ∃ firsts0 acc sha1 s,
        VerifyChecks commit proof extra genp (vHeader min0 max0 proof) rings rsizes npub firsts0 acc sha1 s := by
  refine ⟨fun h => verifyImpl_accept_imp none mlen min0 max0 commit proof extra genp (by rw [h]) hl, ?_⟩
  rintro ⟨h0, f, a, sh, s, hc⟩
  refine verifyImpl_cases (P := fun r => r = _) none mlen min0 max0 commit proof extra genp hl
    (fun _ hno => absurd hc (hno rfl h0 f a sh s)) fun _ _ _ _ _ _ _ _ _ hn => ?_
  obtain ⟨rfl, rfl, rfl⟩ := hn rfl
  rfl

def slice32 (bs : Bytes) (off : Nat) : Bytes := (bs.drop off).take 32

theorem slice32_drop (bs : Bytes) (a b : Nat) : slice32 (bs.drop a) b = slice32 bs (a + b) := by
  rw [slice32, slice32, List.drop_drop]

theorem readScalars_some (n : Nat) (bs : Bytes) (s : List Nat) (h : readScalars n bs = some s) :
    s.length = n ∧ ∀ j < n, Bytes.toNat (slice32 bs (32 * j)) < N ∧
      s[j]? = some (Bytes.toNat (slice32 bs (32 * j))) := by
  induction n generalizing bs s with
  | zero => simp [readScalars] at h; subst h; simp
  | succ n ih =>
    unfold readScalars at h
    rw [Sc.setB32_eq] at h
    obtain ⟨hov, h⟩ := Option.ite_none_left_eq_some.1 h
    obtain ⟨s', hr, rfl⟩ := Option.map_eq_some_iff.1 h
    have hov : Bytes.toNat (bs.take 32) < N := by simpa using hov
    obtain ⟨hl, hj⟩ := ih _ _ hr
    refine ⟨by simp [hl], ?_⟩
    intro j hjn
    cases j with
    | zero => simpa [slice32, Nat.mod_eq_of_lt hov] using hov
    | succ j =>
      have := hj j (by omega)
      rw [slice32_drop] at this
      simpa [Nat.mul_add, Nat.add_comm] using this

/- sealed so that `rfl` compares the two sides as they are written instead of unfolding the field and hash functions on
   open terms -/
attribute [local irreducible] SecpZkp.P SecpZkp.N Codec.feLimit Pt.liftXQuad Sha256.write Pt.add Pt.neg in
theorem readDigits_succ (n i : Nat) (signBytes xs : Bytes) (h : Sha256.State) (acc : Pt) (pubs : List Pt) :
    readDigits (n + 1) i signBytes xs h acc pubs =
    match Codec.feLimit (xs.take 32) with
    | none => none
    | some fe =>
      match Pt.liftXQuad fe with
      | none => none
      | some c0 =>
        let sign : UInt8 := if (signBytes.getD (i / 8) 0) &&& ((1 : UInt8) <<< UInt8.ofNat (i % 8)) ≠ 0 then 1 else 0
        let c := if sign = 1 then Pt.neg c0 else c0
        readDigits n (i + 1) signBytes (xs.drop 32) (Sha256.write (Sha256.write h [sign]) (xs.take 32)) (Pt.add acc c) (pubs ++ [c]) := by
  rfl

theorem readDigits_zero (i : Nat) (sb xs : Bytes) (h : Sha256.State) (acc : Pt) (pubs : List Pt) :
    readDigits 0 i sb xs h acc pubs = some (pubs, acc, h) := rfl

theorem readDigits_some (n i : Nat) (sb xs : Bytes) (h : Sha256.State) (acc : Pt) (pubs : List Pt)
    (r : List Pt × Pt × Sha256.State) (hr : readDigits n i sb xs h acc pubs = some r) :
    r.1.length = pubs.length + n ∧
    ∀ j < n, Bytes.toNat (slice32 xs (32 * j)) < P ∧ Pt.liftXQuad (Bytes.toNat (slice32 xs (32 * j))) ≠ none := by
  induction n generalizing i xs h acc pubs with
  | zero =>
    rw [readDigits_zero, Option.some.injEq] at hr
    subst hr
    exact ⟨rfl, fun j hj => absurd hj (Nat.not_lt_zero j)⟩
  | succ n ih =>
    rw [readDigits_succ] at hr
    cases hfe : Codec.feLimit (xs.take 32) with
    | none => rw [hfe] at hr; exact absurd hr (by simp)
    | some fe =>
      obtain ⟨rfl, hlt⟩ := Codec.feLimit_some hfe
      cases hc : Pt.liftXQuad (Bytes.toNat (xs.take 32)) with
      | none => rw [hfe] at hr; dsimp only at hr; rw [hc] at hr; exact absurd hr (by simp)
      | some c0 =>
        rw [hfe] at hr; dsimp only at hr; rw [hc] at hr; dsimp only at hr
        obtain ⟨hlen, hj⟩ := ih _ _ _ _ _ hr
        refine ⟨by rw [hlen, List.length_append]; simp; omega, fun j hjn => ?_⟩
        cases j with
        | zero => simpa [slice32, hc] using hlt
        | succ j =>
          have := hj j (by omega)
          rw [slice32_drop] at this
          simpa [Nat.mul_add, Nat.add_comm] using this

theorem expandRing_length (n : Nat) (prev base : Pt) : (expandRing n prev base).length = n := by
  induction n generalizing prev with
  | zero => rfl
  | succ n ih => simp [expandRing, ih]

theorem pubExpandGo_length (firsts : List Pt) (rsizes : List Nat) (base : Pt)
    (hl : firsts.length = rsizes.length) (hr : ∀ r ∈ rsizes, 1 ≤ r) :
    (pubExpandGo firsts rsizes base).length = rsizes.sum := by
  induction firsts generalizing rsizes base with
  | nil =>
    cases rsizes with
    | nil => simp [pubExpandGo]
    | cons _ _ => simp at hl
  | cons f fs ih =>
    cases rsizes with
    | nil => simp at hl
    | cons rs rss =>
      have h1 : 1 ≤ rs := hr rs (by simp)
      simp only [pubExpandGo, List.length_append, List.length_cons, expandRing_length, List.sum_cons]
      rw [ih rss _ (by simpa using hl) (fun r hr' => hr r (by simp [hr']))]
      omega

/-! ### ring layout and byte positions of a proof, as functions of its first two bytes -/

def vRings (proof : Bytes) : Nat := (layout (hdrMantissa proof)).1
def vRsizes (proof : Bytes) : List Nat := (layout (hdrMantissa proof)).2.1
/-- total number of ring members = number of `s` scalars -/
def vNpub (proof : Bytes) : Nat := (layout (hdrMantissa proof)).2.2
/-- number of sign bytes: `⌈(rings-1)/8⌉` -/
def vNsign (proof : Bytes) : Nat := (vRings proof + 6) / 8
def digitOffset (proof : Bytes) (j : Nat) : Nat := hdrLen proof + vNsign proof + 32 * j
def e0Offset (proof : Bytes) : Nat := hdrLen proof + vNsign proof + 32 * (vRings proof - 1)
def scalarOffset (proof : Bytes) (j : Nat) : Nat := e0Offset proof + 32 + 32 * j
def expectedLen (proof : Bytes) : Nat := e0Offset proof + 32 + 32 * vNpub proof

theorem HeaderAccepts.mantissa_le {proof : Bytes} (h : HeaderAccepts proof) : hdrMantissa proof ≤ 64 := by
  by_cases hnz : hdrHasNz proof
  · exact (h.2.2.1 hnz).2
  · simp [hdrMantissa, hnz]

theorem vHeader_eq (min0 max0 : Nat) {proof : Bytes} (h : HeaderAccepts proof) :
    vHeader min0 max0 proof =
      ⟨true, hdrLen proof, hdrExp proof, hdrMantissa proof, hdrScale proof, hdrMin proof,
        hdrMin proof + hdrSpan proof⟩ ∧
    layout (vHeader min0 max0 proof).mantissa.toNat = (vRings proof, vRsizes proof, vNpub proof) := by
  have hhd := getHeader_accept ⟨false, 0, 0, 0, 0, min0, max0⟩ proof rfl h
  refine ⟨hhd, ?_⟩
  rw [vHeader, hhd]
  rfl

/-- What an accepting run of `verifyImpl` has checked, by byte position of the proof; the `verify_rejects_*` theorems of
Props/C10_header.lean are its contrapositives.  (A zero ring scalar is what `secp256k1_borromean_verify` rejects.) -/
theorem verifyImpl_accept_facts (nonce : Option Bytes) (mlen : Option Nat) (min0 max0 : Nat) (commit : Pt)
    (proof : Bytes) (extra : Option Bytes) (genp : Pt)
    (h : (verifyImpl nonce mlen min0 max0 commit proof extra genp).ret = true) :
    HeaderAccepts proof ∧ proof.length = expectedLen proof ∧
    ¬ ((vRings proof - 1) &&& 7 ≠ 0 ∧
        (proof.getD (hdrLen proof + vNsign proof - 1) 0).toNat >>> ((vRings proof - 1) &&& 7) ≠ 0) ∧
    (∀ j < vRings proof - 1, Bytes.toNat (slice32 proof (digitOffset proof j)) < P ∧
      Pt.liftXQuad (Bytes.toNat (slice32 proof (digitOffset proof j))) ≠ none) ∧
    (∀ j < vNpub proof, Bytes.toNat (slice32 proof (scalarOffset proof j)) < N ∧
      Bytes.toNat (slice32 proof (scalarOffset proof j)) ≠ 0) := by
  have hacc : HeaderAccepts proof :=
    getHeader_accepts_imp _ proof (verifyImpl_accept_imp nonce mlen min0 max0 commit proof extra genp h rfl).1
  obtain ⟨hhd, hl⟩ := vHeader_eq min0 max0 hacc
  obtain ⟨-, firsts0, acc, sha1, s, -, h3, hrd, -, hrs, hlen, hbor⟩ :=
    verifyImpl_accept_imp nonce mlen min0 max0 commit proof extra genp h hl
  have hoff : (vHeader min0 max0 proof).offset = hdrLen proof := by rw [hhd]
  have hns : (vRings proof + 6) >>> 3 = vNsign proof := Nat.shiftRight_eq_div_pow _ 3
  rw [hoff, hns] at h3 hrd hrs hlen
  obtain ⟨hfl, hdig⟩ := readDigits_some _ _ _ _ _ _ _ _ hrd
  obtain ⟨hsl, hsc⟩ := readScalars_some _ _ _ hrs
  refine ⟨hacc, ?_, h3, ?_, fun j hj => ⟨?_, fun h0 => ?_⟩⟩
  · unfold expectedLen e0Offset; omega
  · intro j hj
    have := hdig j hj
    rwa [slice32_drop] at this
  · have := (hsc j hj).1
    rwa [slice32_drop] at this
  · -- the key array has `Σ rsizes = npub` entries, so scalar `j` is one the ring verifier has looked at
    have b1 : 1 ≤ vRings proof := (layout_bounds _ hacc.mantissa_le).1
    obtain ⟨-, -, l3, l4, l5⟩ := layout_spec (hdrMantissa proof)
    have l3 : (vRsizes proof).length = vRings proof := l3
    have hplen : (pubExpand (firsts0 ++ [Pt.add (Pt.neg acc) commit]) (vHeader min0 max0 proof).exp (vRsizes proof)
        genp).length = (vRsizes proof).sum := by
      apply pubExpandGo_length
      · rw [List.length_append, hfl, l3]; simp; omega
      · intro r hr
        rcases l5 r hr with h | h | h <;> omega
    have hj' : j < (vRsizes proof).sum := l4 ▸ hj
    refine (Borromean.verify_true_imp hbor j hj' (hplen ▸ hj')).1 ?_
    rw [(hsc j hj).2, slice32_drop]
    exact congrArg some h0

theorem expectedLen_congr (p q : Bytes) (h0 : p.headD 0 = q.headD 0) (h1 : p.getD 1 0 = q.getD 1 0) :
    expectedLen p = expectedLen q := by
  simp only [expectedLen, e0Offset, vNpub, vRings, vNsign, hdrLen, hdrMantissa, hdrHasNz, hdrHasMin, hdrB0, h0, h1]
  rfl

theorem expectedLen_append (p q : Bytes) (h : 2 ≤ p.length) : expectedLen (p ++ q) = expectedLen p := by
  match p, h with
  | a :: b :: t, _ => exact expectedLen_congr _ _ (by simp) (by simp)

theorem expectedLen_take (p : Bytes) (n : Nat) (h : 2 ≤ n) : expectedLen (p.take n) = expectedLen p := by
  match p, n, h with
  | [], _, _ => simp
  | [a], n + 2, _ => rfl
  | a :: b :: t, n + 2, _ => exact expectedLen_congr _ _ (by simp) (by simp)

theorem hdr_bits : ∀ n < 256, (n &&& 128 = 0 ↔ n < 128) ∧ (n &&& 64 ≠ 0 ↔ n / 64 % 2 = 1) ∧
    (n &&& 32 ≠ 0 ↔ n / 32 % 2 = 1) ∧ n &&& 31 = n % 32 := by decide +kernel

end Rangeproof
end SecpZkp
