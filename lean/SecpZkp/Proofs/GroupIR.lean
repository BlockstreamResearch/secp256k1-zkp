import SecpZkp.Proofs.FeIRRun
import SecpZkp.Proofs.GroupExtra
import SecpZkp.Proofs.Jacobian
/-
  For `Props/C05_group.lean` and the other theorems about generated group code.  The affine group law of
  `Model/Curve.lean` is restated over `ZMod P` through `IsAff p a b` ("the model point `p` is the finite point with
  coordinates `a b : ZMod P`"), so that each case of a C formula becomes a polynomial identity (`jac_add_*`,
  `jac_addvar_*`, over any commutative ring) plus non-vanishing of the new `z`; `RepJ` / `RepA` tie the variables of an
  `FeIR.State` to a model point.
-/
namespace SecpZkp
namespace FeIR
open MiniC

theorem cast_canon (v : ℕ) : ((canon v : ℕ) : ZMod P) = (v : ZMod P) := by
  unfold canon; exact ZMod.natCast_mod v P

theorem canon_eq_zero_iff (v : ℕ) : canon v = 0 ↔ (v : ZMod P) = 0 := by
  unfold canon; exact (Fe.cast_eq_zero_iff v).symm

theorem cast_half_canon (v : ℕ) : ((Fe.half (canon v) : ℕ) : ZMod P) = (v : ZMod P) * (2 : ZMod P)⁻¹ := by
  rw [Fe.cast_half, cast_canon]

theorem canon_eq_canon_iff (v w : ℕ) : canon v = canon w ↔ (v : ZMod P) = (w : ZMod P) := by
  unfold canon
  rw [ZMod.natCast_eq_natCast_iff']

theorem half_eq_of_two_mul {t : ℕ} {w : ZMod P} (h : (t : ZMod P) = 2 * w) :
    ((Fe.half (canon t) : ℕ) : ZMod P) = w := by
  have h2 : (2 : ZMod P) ≠ 0 := zmodP_two_ne_zero
  rw [cast_half_canon, h]
  field_simp

def IsAff (p : Pt) (a b : ZMod P) : Prop :=
  ∃ x y : ℕ, p = .aff x y ∧ x < P ∧ y < P ∧ (x : ZMod P) = a ∧ (y : ZMod P) = b

theorem IsAff.unique {p q : Pt} {a b : ZMod P} (h1 : IsAff p a b) (h2 : IsAff q a b) : p = q := by
  obtain ⟨x, y, rfl, hx, hy, rfl, rfl⟩ := h1
  obtain ⟨x', y', rfl, hx', hy', h1, h2⟩ := h2
  rw [Fe.eq_of_cast_eq hx' hx h1, Fe.eq_of_cast_eq hy' hy h2]

theorem IsAff.ne_inf {p : Pt} {a b : ZMod P} (h : IsAff p a b) : p ≠ .inf := by
  obtain ⟨x, y, rfl, _⟩ := h
  exact fun h => Pt.noConfusion h

theorem isAff_aff (x y : ℕ) : IsAff (.aff (x % P) (y % P)) (x : ZMod P) (y : ZMod P) :=
  ⟨_, _, rfl, Nat.mod_lt _ P_pos, Nat.mod_lt _ P_pos, ZMod.natCast_mod x P, ZMod.natCast_mod y P⟩

theorem IsAff.congr {p : Pt} {a b a' b' : ZMod P} (h : IsAff p a b) (ha : a = a') (hb : b = b') :
    IsAff p a' b' := by subst ha hb; exact h

theorem isAff_toPt {X Y Z : ℕ} (hz : Z % P ≠ 0) :
    ∃ a b : ZMod P, IsAff (Pt.Jac.toPt ⟨X, Y, Z⟩) a b ∧ (X : ZMod P) = a * ((Z : ZMod P) * Z) ∧
      (Y : ZMod P) = b * ((Z : ZMod P) * Z * Z) := by
  have hzc : (Z : ZMod P) ≠ 0 := cast_ne_zero_of_mod hz
  refine ⟨(X : ZMod P) * ((Z : ZMod P)⁻¹ * (Z : ZMod P)⁻¹),
    (Y : ZMod P) * ((Z : ZMod P)⁻¹ * (Z : ZMod P)⁻¹ * (Z : ZMod P)⁻¹), ?_, ?_, ?_⟩
  · rw [Pt.Jac.toPt_mk_ne hz]
    exact ⟨_, _, rfl, Fe.mul_lt_P _ _, Fe.mul_lt_P _ _,
      by simp only [Fe.cast_mul, Fe.cast_sqr, Fe.cast_inv],
      by simp only [Fe.cast_mul, Fe.cast_sqr, Fe.cast_inv]⟩
  · field_simp
  · field_simp

theorem IsAff.eq_toPt {q : Pt} {a b : ZMod P} {X Y Z : ℕ} (hq : IsAff q a b) (hz : (Z : ZMod P) ≠ 0)
    (hx : (X : ZMod P) = a * ((Z : ZMod P) * Z)) (hy : (Y : ZMod P) = b * ((Z : ZMod P) * Z * Z)) :
    q = Pt.Jac.toPt ⟨X, Y, Z⟩ := by
  obtain ⟨a', b', h, hX, hY⟩ := isAff_toPt (X := X) (Y := Y) (mod_ne_zero_of_cast hz)
  have ha : a' = a := mul_right_cancel₀ (mul_ne_zero hz hz) (hX.symm.trans hx)
  have hb : b' = b := mul_right_cancel₀ (mul_ne_zero (mul_ne_zero hz hz) hz) (hY.symm.trans hy)
  subst ha hb
  exact hq.unique h

theorem IsAff.valid_iff {p : Pt} {a b : ZMod P} (h : IsAff p a b) :
    p.valid = true ↔ b * b = a * a * a + 7 := by
  obtain ⟨x, y, rfl, hx, hy, rfl, rfl⟩ := h
  rw [valid_aff_iff, W_nonsingular_iff, W_equation_iff]
  exact ⟨fun h => h.2.2, fun h => ⟨hx, hy, h⟩⟩

theorem y_ne_zero_of_curve {a b : ZMod P} (hv : b * b = a * a * a + 7) : b ≠ 0 := by
  rintro rfl
  exact neg_seven_not_cube a (by linear_combination -hv)

theorem IsAff.neg {p : Pt} {a b : ZMod P} (h : IsAff p a b) : IsAff (Pt.neg p) a (-b) := by
  obtain ⟨x, y, rfl, hx, hy, rfl, rfl⟩ := h
  exact ⟨x, Fe.neg y, rfl, hx, Fe.neg_lt_P y, rfl, Fe.cast_neg y⟩

theorem IsAff.dbl {p : Pt} {a b : ZMod P} (h : IsAff p a b) (hv : b * b = a * a * a + 7) :
    IsAff (Pt.dbl p) (3 * (a * a) * (2 * b)⁻¹ * (3 * (a * a) * (2 * b)⁻¹) - 2 * a)
      (3 * (a * a) * (2 * b)⁻¹ * (a - (3 * (a * a) * (2 * b)⁻¹ * (3 * (a * a) * (2 * b)⁻¹) - 2 * a)) - b) := by
  have hb : b ≠ 0 := y_ne_zero_of_curve hv
  obtain ⟨x, y, rfl, hx, hy, rfl, rfl⟩ := h
  have hy0 : y % P ≠ 0 := mod_ne_zero_of_cast hb
  rw [Pt.dbl, if_neg hy0]
  dsimp only
  exact ⟨_, _, rfl, Fe.sub_lt_P _ _, Fe.sub_lt_P _ _,
    by simp only [Fe.cast_sub, Fe.cast_mul, Fe.cast_sqr, Fe.cast_inv, Nat.cast_ofNat],
    by simp only [Fe.cast_sub, Fe.cast_mul, Fe.cast_sqr, Fe.cast_inv, Nat.cast_ofNat]⟩

theorem IsAff.add_ne {p q : Pt} {a b c d : ZMod P} (hp : IsAff p a b) (hq : IsAff q c d) (hne : a ≠ c) :
    IsAff (Pt.add p q) ((d - b) * (c - a)⁻¹ * ((d - b) * (c - a)⁻¹) - a - c)
      ((d - b) * (c - a)⁻¹ * (a - ((d - b) * (c - a)⁻¹ * ((d - b) * (c - a)⁻¹) - a - c)) - b) := by
  obtain ⟨x1, y1, rfl, hx1, hy1, rfl, rfl⟩ := hp
  obtain ⟨x2, y2, rfl, hx2, hy2, rfl, rfl⟩ := hq
  have hx : x1 ≠ x2 := fun h => hne (by rw [h])
  rw [Pt.add, if_neg hx]
  dsimp only
  exact ⟨_, _, rfl, Fe.sub_lt_P _ _, Fe.sub_lt_P _ _,
    by simp only [Fe.cast_sub, Fe.cast_mul, Fe.cast_sqr, Fe.cast_inv],
    by simp only [Fe.cast_sub, Fe.cast_mul, Fe.cast_sqr, Fe.cast_inv]⟩

theorem IsAff.add_same {p q : Pt} {a b : ZMod P} (hp : IsAff p a b) (hq : IsAff q a b)
    (hv : b * b = a * a * a + 7) : Pt.add p q = Pt.dbl p := by
  have := hq.unique hp
  subst this
  exact (dbl_eq_add_self ((hq.valid_iff).2 hv)).symm

theorem IsAff.add_neg {p q : Pt} {a b : ZMod P} (hp : IsAff p a b) (hq : IsAff q a (-b)) :
    Pt.add p q = .inf := by
  obtain ⟨x1, y1, rfl, hx1, hy1, rfl, rfl⟩ := hp
  obtain ⟨x2, y2, rfl, hx2, hy2, h1, h2⟩ := hq
  have hx : x1 = x2 := (Fe.eq_of_cast_eq hx2 hx1 h1).symm
  have hy : (y1 + y2) % P = 0 := by
    rw [← Fe.cast_eq_zero_iff, Nat.cast_add, h2]; ring
  rw [Pt.add, if_pos hx, if_pos hy]

theorem curve_same_x {a b d : ZMod P} (h1 : b * b = a * a * a + 7) (h2 : d * d = a * a * a + 7) :
    d = b ∨ d = -b := by
  have : (d - b) * (d + b) = 0 := by linear_combination h2 - h1
  rcases mul_eq_zero.1 this with h | h
  · left; linear_combination h
  · right; linear_combination h

theorem IsAff.xOf_eq_iff {p : Pt} {a b : ZMod P} (h : IsAff p a b) (v : ℕ) :
    Pt.xOf p = v % P ↔ a = (v : ZMod P) := by
  obtain ⟨x, y, rfl, hx, hy, rfl, rfl⟩ := h
  show x = v % P ↔ _
  rw [← Field.cast_eq_iff hx (Nat.mod_lt _ P_pos), ZMod.natCast_mod]

/-- `RepJ` on the four components: the form of a goal after `fe_get` -/
def RepJ' (x y z : FeVal) (inf : ℕ) (p : Pt) (mx my mz : ℕ) : Prop :=
  x.mag ≤ mx ∧ y.mag ≤ my ∧ z.mag ≤ mz ∧
  ((inf = 1 ∧ p = .inf) ∨ (inf = 0 ∧ z.val % P ≠ 0 ∧ p = Pt.Jac.toPt ⟨x.val, y.val, z.val⟩))

/-- The Jacobian variable `pre` (`pre.x`, `pre.y`, `pre.z`, `pre.infinity`) of the state represents the model point
    `p`, with magnitudes at most `mx`, `my`, `mz` (also when the flag is 1, as in `SECP256K1_GEJ_VERIFY`): the flag is 0
    or 1; if it is 1 then `p = ∞`; otherwise `z ≠ 0 mod P` and `p` is the affine point `(x / z², y / z³)`. -/
def RepJ (st : State) (pre : String) (p : Pt) (mx my mz : ℕ) : Prop :=
  RepJ' (st.fe.get (pre ++ ".x")) (st.fe.get (pre ++ ".y")) (st.fe.get (pre ++ ".z"))
    (st.ints.get (pre ++ ".infinity") 0) p mx my mz

def RepA' (x y : FeVal) (inf : ℕ) (p : Pt) (mx my : ℕ) : Prop :=
  x.mag ≤ mx ∧ y.mag ≤ my ∧
  ((inf = 1 ∧ p = .inf) ∨ (inf = 0 ∧ p = .aff (x.val % P) (y.val % P)))

/-- the same for an affine variable `pre` (`pre.x`, `pre.y`, `pre.infinity`): `p = (x mod P, y mod P)` -/
def RepA (st : State) (pre : String) (p : Pt) (mx my : ℕ) : Prop :=
  RepA' (st.fe.get (pre ++ ".x")) (st.fe.get (pre ++ ".y")) (st.ints.get (pre ++ ".infinity") 0) p mx my

instance (x y z : FeVal) (inf : ℕ) (p : Pt) (mx my mz : ℕ) : Decidable (RepJ' x y z inf p mx my mz) := by
  unfold RepJ'; infer_instance
instance (st : State) (pre : String) (p : Pt) (mx my mz : ℕ) : Decidable (RepJ st pre p mx my mz) := by
  unfold RepJ; infer_instance
instance (x y : FeVal) (inf : ℕ) (p : Pt) (mx my : ℕ) : Decidable (RepA' x y inf p mx my) := by
  unfold RepA'; infer_instance
instance (st : State) (pre : String) (p : Pt) (mx my : ℕ) : Decidable (RepA st pre p mx my) := by
  unfold RepA; infer_instance

section rep
variable {x y z : FeVal} {i : ℕ} {p : Pt} {mx my mz : ℕ} {a b : ZMod P}

theorem RepJ'.fin
    (hmx : x.mag ≤ mx) (hmy : y.mag ≤ my) (hmz : z.mag ≤ mz) (hinf : i = 0)
    (hp : IsAff p a b) (hz : (z.val : ZMod P) ≠ 0)
    (hx : (x.val : ZMod P) = a * ((z.val : ZMod P) * z.val))
    (hy : (y.val : ZMod P) = b * ((z.val : ZMod P) * z.val * z.val)) : RepJ' x y z i p mx my mz :=
  ⟨hmx, hmy, hmz, Or.inr ⟨hinf, mod_ne_zero_of_cast hz, hp.eq_toPt hz hx hy⟩⟩

theorem RepJ'.inf
    (hmx : x.mag ≤ mx) (hmy : y.mag ≤ my) (hmz : z.mag ≤ mz) (hinf : i = 1) (hp : p = .inf) :
    RepJ' x y z i p mx my mz :=
  ⟨hmx, hmy, hmz, Or.inl ⟨hinf, hp⟩⟩

theorem RepJ'.of_aff
    (hmx : x.mag ≤ mx) (hmy : y.mag ≤ my) (hmz : z.mag ≤ mz) (hinf : i = 0) (hz : z.val = 1)
    (hp : IsAff p (x.val : ZMod P) (y.val : ZMod P)) : RepJ' x y z i p mx my mz := by
  refine RepJ'.fin hmx hmy hmz hinf hp ?_ ?_ ?_ <;> rw [hz, Nat.cast_one]
  · exact one_ne_zero
  · ring
  · ring

theorem RepJ'.elim (h : RepJ' x y z i p mx my mz) :
    x.mag ≤ mx ∧ y.mag ≤ my ∧ z.mag ≤ mz ∧
    ((i = 1 ∧ p = .inf) ∨ (i = 0 ∧ (z.val : ZMod P) ≠ 0 ∧ ∃ a b : ZMod P, IsAff p a b ∧
      (x.val : ZMod P) = a * ((z.val : ZMod P) * z.val) ∧
      (y.val : ZMod P) = b * ((z.val : ZMod P) * z.val * z.val))) := by
  obtain ⟨h1, h2, h3, h4⟩ := h
  refine ⟨h1, h2, h3, ?_⟩
  rcases h4 with h | ⟨hi, hz, hp⟩
  · exact Or.inl h
  · obtain ⟨a, b, hab, hX, hY⟩ := isAff_toPt (X := x.val) (Y := y.val) hz
    exact Or.inr ⟨hi, cast_ne_zero_of_mod hz, a, b, hp ▸ hab, hX, hY⟩

theorem RepA'.elim (h : RepA' x y i p mx my) :
    x.mag ≤ mx ∧ y.mag ≤ my ∧
    ((i = 1 ∧ p = .inf) ∨ (i = 0 ∧ IsAff p (x.val : ZMod P) (y.val : ZMod P))) := by
  obtain ⟨h1, h2, h3⟩ := h
  refine ⟨h1, h2, ?_⟩
  rcases h3 with h | ⟨hi, hp⟩
  · exact Or.inl h
  · exact Or.inr ⟨hi, hp ▸ isAff_aff _ _⟩

theorem RepA'.fin
    (hmx : x.mag ≤ mx) (hmy : y.mag ≤ my) (hinf : i = 0)
    (hp : IsAff p (x.val : ZMod P) (y.val : ZMod P)) : RepA' x y i p mx my :=
  ⟨hmx, hmy, Or.inr ⟨hinf, hp.unique (isAff_aff _ _)⟩⟩

theorem RepA'.inf
    (hmx : x.mag ≤ mx) (hmy : y.mag ≤ my) (hinf : i = 1) (hp : p = .inf) : RepA' x y i p mx my :=
  ⟨hmx, hmy, Or.inl ⟨hinf, hp⟩⟩

/-- the flag of this lemma and the next: `gej_add_ge` ends with
    `r->infinity = secp256k1_fe_normalizes_to_zero(&r->z)` -/
theorem RepJ'.isZero_fin
    (hmx : x.mag ≤ mx) (hmy : y.mag ≤ my) (hmz : z.mag ≤ mz)
    (hp : IsAff p a b) (hz : (z.val : ZMod P) ≠ 0)
    (hx : (x.val : ZMod P) = a * ((z.val : ZMod P) * z.val))
    (hy : (y.val : ZMod P) = b * ((z.val : ZMod P) * z.val * z.val)) :
    RepJ' x y z (if canon z.val = 0 then 1 else 0) p mx my mz :=
  RepJ'.fin hmx hmy hmz (by rw [if_neg]; rwa [canon_eq_zero_iff]) hp hz hx hy

theorem RepJ'.isZero_inf
    (hmx : x.mag ≤ mx) (hmy : y.mag ≤ my) (hmz : z.mag ≤ mz)
    (hz : (z.val : ZMod P) = 0) (hp : p = .inf) :
    RepJ' x y z (if canon z.val = 0 then 1 else 0) p mx my mz :=
  RepJ'.inf hmx hmy hmz (by rw [if_pos]; rwa [canon_eq_zero_iff]) hp

/-- The doubling formula of `secp256k1_gej_double` on a finite point `(a, b) = (X / Z², Y / Z³)`: `X Y Z` are the casts
    of the INPUT coordinates, `x y z` the OUTPUT; with `L = 3·X²/2`, `T = −Y²·X` the output is
    `(L² + 2T, −((T + x)·L + Y⁴), Z·Y)`, `x` in the second component being the new abscissa. -/
theorem RepJ'.dbl_fin {X Y Z L T : ZMod P}
    (hmx : x.mag ≤ mx) (hmy : y.mag ≤ my) (hmz : z.mag ≤ mz) (hinf : i = 0) (hp : IsAff p a b)
    (hc : b * b = a * a * a + 7) (hZ : Z ≠ 0) (hX : X = a * (Z * Z)) (hY : Y = b * (Z * Z * Z))
    (hL : L = X * X * 3 * 2⁻¹) (hT : T = -(Y * Y) * X) (hz : (z.val : ZMod P) = Z * Y)
    (hx : (x.val : ZMod P) = L * L + T + T) (hy : (y.val : ZMod P) = -((T + x.val) * L + Y * Y * (Y * Y))) :
    RepJ' x y z i (Pt.dbl p) mx my mz := by
  have hb := y_ne_zero_of_curve hc
  have h2 : (2 : ZMod P) ≠ 0 := zmodP_two_ne_zero
  subst hX hY hL hT
  refine RepJ'.fin hmx hmy hmz hinf (hp.dbl hc) ?_ ?_ ?_
  · rw [hz]; exact mul_ne_zero hZ (mul_ne_zero hb (mul_ne_zero (mul_ne_zero hZ hZ) hZ))
  · rw [hx, hz]; field_simp; ring
  · rw [hy, hx, hz]; field_simp; ring

end rep

/-! The unified addition formula of `secp256k1_gej_add_ge`.
  `a b` / `c d`: affine coordinates of the two points, `z`: the Jacobian `z` of the first, `l`: the slope,
  `Rr / Mm`: numerator and denominator of `l·z` (`Ralt`, `Malt` in the C code), `Nn = M·Malt³` (the C comment's
  `M³·Malt`: `Malt = M` unless `degenerate`, and then `M = 0`). -/

theorem jac_add_x {K : Type} [CommRing K] (a c z l Rr Mm : K) (hR : Rr = l * z * Mm) :
    Rr * Rr + -(a * (z * z) + c * (z * z)) * (Mm * Mm) = (l * l - a - c) * ((z * Mm) * (z * Mm)) := by
  subst hR; ring

/-- stated for `2·y3`: `gej_add_ge` halves at the end (`half_eq_of_two_mul`) -/
theorem jac_add_y {K : Type} [CommRing K] (a b c d z l Rr Mm Nn : K) (hR : Rr = l * z * Mm)
    (hN : Nn = (b + d) * (z * z * z) * (Mm * Mm * Mm)) (hl : l * (c - a) = d - b) :
    -((2 * (Rr * Rr + -(a * (z * z) + c * (z * z)) * (Mm * Mm)) + -(a * (z * z) + c * (z * z)) * (Mm * Mm)) * Rr
        + Nn) =
      2 * ((l * (a - (l * l - a - c)) - b) * ((z * Mm) * (z * Mm) * (z * Mm))) := by
  subst hR hN; linear_combination (z ^ 3 * Mm ^ 3) * hl

/-! The variable-time addition formula (`gej_add_var`, `gej_add_ge_var`, `gej_add_zinv_var`).
  `w`: the common denominator (`z1·z2`, or `z1`), `h = u2 - u1`, `i = s1 - s2`, result `z = w·h`. -/

/-- the two zero tests (`h`, `i`) decide the case: equal abscissas, then equal or opposite ordinates -/
theorem addvar_cases {H I : ℕ} {a b c d w2 w3 : ZMod P} (hw2 : w2 ≠ 0) (hw3 : w3 ≠ 0)
    (hH : (H : ZMod P) = (c - a) * w2) (hI : (I : ZMod P) = (b - d) * w3)
    (hc1 : b * b = a * a * a + 7) (hc2 : d * d = c * c * c + 7) :
    (canon H = 0 ↔ a = c) ∧ (canon I = 0 ↔ b = d) ∧ (a = c → ¬ canon I = 0 → d = -b) := by
  have e1 : canon H = 0 ↔ a = c := by
    rw [canon_eq_zero_iff, hH, mul_eq_zero, or_iff_left hw2, sub_eq_zero, eq_comm]
  have e2 : canon I = 0 ↔ b = d := by
    rw [canon_eq_zero_iff, hI, mul_eq_zero, or_iff_left hw3, sub_eq_zero]
  refine ⟨e1, e2, fun hac hne => ?_⟩
  subst hac
  exact (curve_same_x hc1 hc2).resolve_left fun h => hne (e2.2 h.symm)

theorem jac_addvar_x {K : Type} [CommRing K] (a b c d w l h i : K) (hh : h = (c - a) * (w * w))
    (hi : i = (b - d) * (w * w * w)) (hl : l * (c - a) = d - b) :
    i * i + -(h * h) * h + 2 * (a * (w * w) * -(h * h)) = (l * l - a - c) * ((w * h) * (w * h)) := by
  subst hh hi
  linear_combination (-(w ^ 6) * (d - b + l * (c - a))) * hl

theorem jac_addvar_y {K : Type} [CommRing K] (a b c d w l h i : K) (hh : h = (c - a) * (w * w))
    (hi : i = (b - d) * (w * w * w)) (hl : l * (c - a) = d - b) :
    (a * (w * w) * -(h * h) + (i * i + -(h * h) * h + 2 * (a * (w * w) * -(h * h)))) * i
        + -(h * h) * h * (b * (w * w * w)) =
      (l * (a - (l * l - a - c)) - b) * ((w * h) * (w * h) * (w * h)) := by
  subst hh hi
  linear_combination (-(w ^ 9) * (2 * a ^ 3 - 3 * a ^ 2 * c - a ^ 2 * l ^ 2 - a * b * l + 2 * a * c * l ^ 2
    + a * d * l - b ^ 2 + b * c * l + 2 * b * d + c ^ 3 - c ^ 2 * l ^ 2 - c * d * l - d ^ 2)) * hl

/-- a magnitude bound of a symbolically executed state -/
macro "mg" : tactic => `(tactic| (dsimp -failIfUnchanged only; omega))

/-- push `Nat.cast` to `ZMod P` through the field operations -/
macro "casts" "[" ts:Lean.Parser.Tactic.simpLemma,* "]" : tactic =>
  `(tactic| simp only [Fe.cast_add, Fe.cast_mul, Fe.cast_sqr, Fe.cast_neg, Fe.cast_inv, cast_half_canon, cast_canon,
      Nat.cast_ofNat, Nat.cast_one, $ts,*])

/-- read variables of a symbolically executed state (also through `RepJ` / `RepA`) -/
macro "fe_get" "[" ts:Lean.Parser.Tactic.simpLemma,* "]" loc:(Lean.Parser.Tactic.location)? : tactic =>
  `(tactic| simp only [RepJ, RepA, String.reduceAppend, FeEnv.get_set, ints_get_set, String.reduceEq, ↓reduceIte,
      $ts,*] $[$loc]?)

end FeIR
end SecpZkp
