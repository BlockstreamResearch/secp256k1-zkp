import SecpZkp.Proofs.BorromeanApps
import SecpZkp.Proofs.GroupExtra
import SecpZkp.Model.Surjection
/-
  Under the completeness of surjection proofs (`Props/C11_complete.lean`): the derived scalars are reduced (`genRand_spec`),
  written scalars are read back (`loadScalars_append`), and the ring keys of `computePublicKeys` (lemmas `go_*` about its
  loop): they do not depend on the signer's index, each is `output − input`, the one at the returned ring position is
  `output − inputs[inputIndex]` (`computePublicKeys_index`), and none is infinite when no input equals the output.
-/
namespace SecpZkp
namespace Surjection
open SecpZkp.Algebra

theorem genRand_spec (bk : Nat) : ∀ (ns i : Nat) (secInput : Bytes) (l : List Nat),
    genRand bk ns i secInput = some l → l.length = ns ∧ ∀ x ∈ l, x < N := by
  intro ns
  induction ns with
  | zero => intro i secInput l h; simp [genRand] at h; subst h; simp
  | succ ns ih =>
    intro i secInput l h
    rw [genRand] at h
    obtain ⟨-, h⟩ := Option.ite_none_left_eq_some.1 h
    split at h
    · simp at h
    next rest hr =>
    simp only [Option.some.injEq] at h
    subst h
    obtain ⟨h1, h2⟩ := ih _ _ _ hr
    refine ⟨by simp [h1], ?_⟩
    intro x hx
    rcases List.mem_cons.mp hx with hx | hx
    · subst hx; exact Sc.setB32_fst_lt _
    · exact h2 x hx

/-- `pre` is `e0 ‖ s_0 … s_{i-1}`: scalar `i` starts at byte `32 + 32·i` of the proof data. -/
theorem loadScalars_append (rest : Bytes) :
    ∀ (s : List Nat) (i : Nat) (pre : Bytes), pre.length = 32 + 32 * i → (∀ x ∈ s, x < N) →
      loadScalars (pre ++ ((s.map Bytes.be32).flatten ++ rest)) s.length i = some s := by
  intro s
  induction s with
  | nil => intro i pre _ _; simp [loadScalars]
  | cons x xs ih =>
    intro i pre hpre hs
    have hx := hs x (by simp)
    simp only [List.length_cons, List.map_cons, List.flatten_cons]
    rw [loadScalars]
    have hb : ((pre ++ (Bytes.be32 x ++ (xs.map Bytes.be32).flatten ++ rest)).drop (32 + 32 * i)).take 32 = Bytes.be32 x := by
      rw [← hpre, List.drop_left, List.append_assoc, List.take_left' (Bytes.be32_length x)]
    rw [hb, Sc.setB32_be32 hx]
    simp only [Bool.false_eq_true, if_false]
    have := ih (i + 1) (pre ++ Bytes.be32 x) (by simp [hpre]; omega) (fun y hy => hs y (by simp [hy]))
    rw [List.append_assoc] at this
    rw [List.append_assoc, this]

theorem go_fst (used : Bytes) (output : Pt) (idx idx' : Nat) :
    ∀ (ts : List Pt) (i j ring ring' : Nat),
      (computePublicKeys.go used output idx ts i j ring).1 = (computePublicKeys.go used output idx' ts i j ring').1 := by
  intro ts
  induction ts with
  | nil => intro i j ring ring'; simp [computePublicKeys.go]
  | cons t ts ih =>
    intro i j ring ring'
    rw [computePublicKeys.go, computePublicKeys.go]
    split
    · simp only []
      exact congrArg _ (ih _ _ _ _)
    · exact ih _ _ _ _

theorem computePublicKeys_fst (inputs : List Pt) (used : Bytes) (output : Pt) (idx idx' : Nat) :
    (computePublicKeys inputs used output idx).1 = (computePublicKeys inputs used output idx').1 :=
  go_fst used output idx idx' inputs 0 0 0 0

theorem go_mem (used : Bytes) (output : Pt) (idx : Nat) :
    ∀ (ts : List Pt) (i j ring : Nat) (p : Pt), p ∈ (computePublicKeys.go used output idx ts i j ring).1 →
      ∃ t ∈ ts, p = Pt.add (Pt.neg t) output := by
  intro ts
  induction ts with
  | nil => intro i j ring p h; simp [computePublicKeys.go] at h
  | cons t ts ih =>
    intro i j ring p h
    rw [computePublicKeys.go] at h
    split at h
    · simp only [List.mem_cons] at h
      rcases h with h | h
      · exact ⟨t, by simp, h⟩
      · obtain ⟨t', ht', hp⟩ := ih _ _ _ _ h
        exact ⟨t', by simp [ht'], hp⟩
    · obtain ⟨t', ht', hp⟩ := ih _ _ _ _ h
      exact ⟨t', by simp [ht'], hp⟩

/-- Invariant of `computePublicKeys.go` at input position `i` with `j` keys emitted.  Past `idx` the incoming ring index
    comes back unchanged; at or before `idx` the returned index `r` is `≥ j` and entry `r − j` of the keys emitted from
    here on is `output − inputs[idx]` (`hbit`: input `idx` is selected). -/
theorem go_index (used : Bytes) (output : Pt) (idx : Nat) (hbit : testBit used idx = true) :
    ∀ (ts : List Pt) (i j ring : Nat),
      (idx < i → (computePublicKeys.go used output idx ts i j ring).2 = ring) ∧
      (∀ t, i ≤ idx → ts[idx - i]? = some t →
        j ≤ (computePublicKeys.go used output idx ts i j ring).2 ∧
        (computePublicKeys.go used output idx ts i j ring).1[(computePublicKeys.go used output idx ts i j ring).2 - j]? =
          some (Pt.add (Pt.neg t) output)) := by
  intro ts
  induction ts with
  | nil =>
    intro i j ring
    refine ⟨fun _ => by simp [computePublicKeys.go], fun t _ h => by simp at h⟩
  | cons t ts ih =>
    intro i j ring
    rw [computePublicKeys.go]
    split
    next hb =>
      simp only []
      constructor
      · intro hlt
        rw [if_neg (by omega)]
        exact (ih (i + 1) (j + 1) ring).1 (by omega)
      · intro t' hle ht'
        by_cases heq : idx = i
        · subst heq
          rw [if_pos rfl]
          have h0 := (ih (idx + 1) (j + 1) j).1 (by omega)
          rw [h0]
          simp only [Nat.sub_self, List.getElem?_cons_zero, Option.some.injEq] at ht' ⊢
          exact ⟨Nat.le_refl _, by rw [ht']⟩
        · rw [if_neg heq]
          have hidx : idx - i = (idx - (i + 1)) + 1 := by omega
          rw [hidx, List.getElem?_cons_succ] at ht'
          obtain ⟨h1, h2⟩ := (ih (i + 1) (j + 1) ring).2 t' (by omega) ht'
          refine ⟨by omega, ?_⟩
          have : (computePublicKeys.go used output idx ts (i + 1) (j + 1) ring).2 - j =
              ((computePublicKeys.go used output idx ts (i + 1) (j + 1) ring).2 - (j + 1)) + 1 := by omega
          rw [this, List.getElem?_cons_succ]
          exact h2
    next hb =>
      constructor
      · intro hlt
        exact (ih (i + 1) j ring).1 (by omega)
      · intro t' hle ht'
        have heq : idx ≠ i := by
          intro h; subst h; exact hb hbit
        have hidx : idx - i = (idx - (i + 1)) + 1 := by omega
        rw [hidx, List.getElem?_cons_succ] at ht'
        exact (ih (i + 1) j ring).2 t' (by omega) ht'

theorem computePublicKeys_index (inputs : List Pt) (used : Bytes) (output : Pt) (idx : Nat) (t : Pt)
    (hbit : testBit used idx = true) (ht : inputs[idx]? = some t) :
    (computePublicKeys inputs used output idx).1[(computePublicKeys inputs used output idx).2]? =
      some (Pt.add (Pt.neg t) output) := by
  have := ((go_index used output idx hbit inputs 0 0 0).2 t (Nat.zero_le _) (by simpa using ht)).2
  simpa [computePublicKeys] using this

section
variable [HasGroupLaw]

theorem sub_ne_inf {t output : Pt} (ht : t.valid = true) (ho : output.valid = true) (hne : t ≠ output) :
    Pt.add (Pt.neg t) output ≠ .inf := by
  intro h
  rw [add_eq_inf_iff (gl.valid_neg _ ht) ho, neg_neg_valid ht] at h
  exact hne h.symm

end

end Surjection
end SecpZkp
