import SecpZkp.Proofs.BorromeanIndex
import SecpZkp.Proofs.Prime
import SecpZkp.Proofs.Rangeproof
/-
  Range proofs hand the Borromean signer consistent keys: `pubExpand` applied to the digit commitments
  `sec_i•G + (d_i·scale·4^i)•H` puts `sec_i•G` at position `d_i` of ring `i` (`pubExpand_secret_key`).  On the way:
  `times10Pow`, `expandRing`, `pubExpandGo` as scalar multiples in the group of valid points (`…_val`, `…_get`), and the
  digit commitments as a list, `digitPts`, which is what the signer's `digitLoop` returns (`digitLoop_spec`).
-/
namespace SecpZkp
namespace Rangeproof
open SecpZkp.Algebra

section
variable [HasGroupLaw]

theorem dbl_val (Q : VPt) : Pt.dbl Q.1 = (2 • Q).1 := by
  rw [dbl_eq_add_self Q.2, two_nsmul]; rfl

theorem times10_val (Q : VPt) : times10 Q.1 = (10 • Q).1 := by
  simp only [times10, dbl_val]
  show (2 • (2 • (2 • Q)) + 2 • Q).1 = _
  congr 1
  simp only [smul_smul]
  rw [← add_nsmul]
  norm_num

theorem times10Pow_val (e : Nat) (Q : VPt) : times10Pow e Q.1 = ((10 ^ e) • Q).1 := by
  induction e generalizing Q with
  | zero => show Q.1 = _; rw [pow_zero, one_smul]
  | succ e ih =>
    rw [times10Pow, times10_val, ih, smul_smul, pow_succ]

theorem expandRing_get (n : Nat) : ∀ (prev base : VPt) (j : Nat), j < n →
    (expandRing n prev.1 base.1)[j]? = some (prev + (j + 1) • base).1 := by
  induction n with
  | zero => intro _ _ j h; omega
  | succ n ih =>
    intro prev base j hj
    rw [expandRing]
    have hadd : Pt.add prev.1 base.1 = (prev + base).1 := rfl
    cases j with
    | zero => rw [List.getElem?_cons_zero, hadd, Nat.zero_add, one_smul]
    | succ j =>
      rw [List.getElem?_cons_succ, hadd, ih (prev + base) base j (by omega)]
      congr 2
      rw [add_assoc, ← succ_nsmul']

theorem pubExpandGo_get : ∀ (fs : List VPt) (rss : List Nat) (base : VPt) (i j : Nat) (f : VPt),
    (∀ r ∈ rss, 1 ≤ r) → fs[i]? = some f → j < rss.getD i 0 →
    (pubExpandGo (fs.map Subtype.val) rss base.1)[(rss.take i).sum + j]? = some (f + j • ((4 ^ i) • base)).1 := by
  intro fs
  induction fs with
  | nil => intro rss base i j f _ h; simp at h
  | cons f0 fs ih =>
    intro rss base i j f hrs hf hj
    cases rss with
    | nil => simp at hj
    | cons rs rss =>
      have hrs0 : 1 ≤ rs := hrs rs (by simp)
      rw [List.map_cons, pubExpandGo]
      have hlen : (f0.1 :: expandRing (rs - 1) f0.1 base.1).length = rs := by
        simp [expandRing_length]; omega
      cases i with
      | zero =>
        simp only [List.getElem?_cons_zero, Option.some.injEq] at hf
        subst hf
        simp only [List.getD_cons_zero] at hj
        simp only [List.take_zero, List.sum_nil, Nat.zero_add, pow_zero, one_smul]
        rw [List.getElem?_append_left (by omega)]
        cases j with
        | zero => simp
        | succ j =>
          rw [List.getElem?_cons_succ, expandRing_get _ _ _ _ (by omega)]
      | succ i =>
        simp only [List.getElem?_cons_succ] at hf
        simp only [List.getD_cons_succ] at hj
        simp only [List.take_succ_cons, List.sum_cons]
        rw [List.getElem?_append_right (by omega), hlen]
        have hidx : rs + (List.take i rss).sum + j - rs = (List.take i rss).sum + j := by omega
        rw [hidx]
        have hne : fs ≠ [] := by intro h; subst h; simp at hf
        have hemp : (fs.map Subtype.val).isEmpty = false := by
          cases fs with
          | nil => exact absurd rfl hne
          | cons _ _ => rfl
        rw [hemp]
        simp only [Bool.false_eq_true, if_false]
        have hb : Pt.dbl (Pt.dbl base.1) = ((4 : Nat) • base).1 := by
          rw [dbl_val, dbl_val, smul_smul]
          norm_num
        have hpow : (4 ^ i) • ((4 : Nat) • base) = (4 ^ (i + 1)) • base := by rw [smul_smul, pow_succ]
        rw [hb, ih rss (4 • base) i j f (fun r hr => hrs r (by simp [hr])) hf hj, hpow]

/-- the digit commitments `sec_i•G + digitValue(d_i, scale, i)•H` -/
def digitPts (scale : Nat) (genp : Pt) : List Nat → List Nat → Nat → List Pt
  | s :: secs, d :: idxs, i => pedersenEcmult s (digitValue d scale i) genp :: digitPts scale genp secs idxs (i + 1)
  | _, _, _ => []

omit [HasGroupLaw] in
theorem digitLoop_spec (rings scale : Nat) (genp : Pt) :
    ∀ (secs idxs : List Nat) (i : Nat) (h : Sha256.State) (signs xs : Bytes) (pubs P : List Pt)
      (h' : Sha256.State) (signs' xs' : Bytes),
      digitLoop rings scale genp secs idxs i h signs xs pubs = some (P, h', signs', xs') →
      secs.length ≤ idxs.length ∧ P = pubs ++ digitPts scale genp secs idxs i := by
  intro secs
  induction secs with
  | nil =>
    intro idxs i h signs xs pubs P h' signs' xs' hd
    simp only [digitLoop, Option.some.injEq, Prod.mk.injEq] at hd
    refine ⟨by simp, ?_⟩
    rw [← hd.1]
    cases idxs <;> simp [digitPts]
  | cons s secs ih =>
    intro idxs i h signs xs pubs P h' signs' xs' hd
    cases idxs with
    | nil => simp [digitLoop] at hd
    | cons d idxs =>
      rw [digitLoop] at hd
      split at hd
      · simp at hd
      · split at hd <;>
        · obtain ⟨h1, h2⟩ := ih _ _ _ _ _ _ _ _ _ _ hd
          exact ⟨by simpa using h1, by rw [h2, digitPts]; simp⟩

omit [HasGroupLaw] in
theorem digitPts_length (scale : Nat) (genp : Pt) : ∀ (secs idxs : List Nat) (i : Nat),
    secs.length ≤ idxs.length → (digitPts scale genp secs idxs i).length = secs.length := by
  intro secs
  induction secs with
  | nil => intro idxs i _; cases idxs <;> rfl
  | cons s secs ih =>
    intro idxs i h
    cases idxs with
    | nil => simp at h
    | cons d idxs => simp [digitPts, ih idxs (i + 1) (by simpa using h)]

omit [HasGroupLaw] in
theorem digitPts_get (scale : Nat) (genp : Pt) : ∀ (secs idxs : List Nat) (i0 i : Nat),
    i < secs.length → i < idxs.length →
    (digitPts scale genp secs idxs i0)[i]? =
      some (pedersenEcmult (secs.getD i 0) (digitValue (idxs.getD i 0) scale (i0 + i)) genp) := by
  intro secs
  induction secs with
  | nil => intro idxs i0 i h; simp at h
  | cons s secs ih =>
    intro idxs i0 i h1 h2
    cases idxs with
    | nil => simp at h2
    | cons d idxs =>
      cases i with
      | zero => simp [digitPts]
      | succ i =>
        rw [digitPts, List.getElem?_cons_succ, ih idxs (i0 + 1) i (by simpa using h1) (by simpa using h2)]
        simp only [List.getD_cons_succ]
        congr 3; omega

omit [HasGroupLaw] in
theorem digitValue_lt (d sc i : Nat) : digitValue d sc i < mulBound := by
  have h1 : digitValue d sc i < 2 ^ 64 := Nat.mod_lt _ (by decide)
  have h2 : (2 : Nat) ^ 64 < mulBound := by decide +kernel
  exact lt_trans h1 h2

/-- `hdv`: the digit values do not wrap (`digitValue` is computed in `uint64_t`). -/
theorem pubExpand_secret_key (genp : Pt) (hgen : genp.valid = true) (exp : Int) (scale : Nat)
    (hscale : scale = 10 ^ (if exp < 0 then 0 else exp.toNat))
    (rsizes secidx sec : List Nat) (hrs : ∀ r ∈ rsizes, 1 ≤ r)
    (hl1 : secidx.length = rsizes.length) (hl2 : sec.length = rsizes.length)
    (hsec : ∀ j, j < rsizes.length → sec.getD j 0 < N)
    (hdv : ∀ j, j < rsizes.length → digitValue (secidx.getD j 0) scale j = secidx.getD j 0 * scale * 4 ^ j)
    (i : Nat) (hi : i < rsizes.length) (hidx : secidx.getD i 0 < rsizes.getD i 0) :
    (pubExpand (digitPts scale genp sec secidx 0) exp rsizes genp)[Borromean.offset rsizes i + secidx.getD i 0]? =
      some (Pt.mulG (sec.getD i 0)) := by
  -- the digit commitments as valid points `fV j`; entry `d_i` of ring `i` is then `fV i + d_i•(4^i•(scale•(−H)))`
  -- (`pubExpandGo_get`), and `hdv` makes the `H` parts cancel
  let H : VPt := ⟨genp, hgen⟩
  let fV : Nat → VPt := fun j => gmulV ((sec.getD j 0 : Nat) : ZMod N) + (digitValue (secidx.getD j 0) scale j) • H
  have hfV : ∀ j, j < rsizes.length →
      pedersenEcmult (sec.getD j 0) (digitValue (secidx.getD j 0) scale j) genp = (fV j).1 := by
    intro j hj
    rw [pedersenEcmult, mulG_eq_gmul (lt_mulBound_of_lt_N (hsec j hj))]
    show Pt.add (gmulV _).1 (Pt.mul _ H.1) = _
    rw [mul_eq_nsmul (digitValue_lt _ _ _)]
    rfl
  have hmap : digitPts scale genp sec secidx 0 = ((List.range rsizes.length).map fV).map Subtype.val := by
    apply List.ext_getElem?
    intro j
    by_cases hj : j < rsizes.length
    · rw [digitPts_get _ _ _ _ _ _ (by omega) (by omega)]
      simp only [List.map_map, List.getElem?_map, List.getElem?_range hj, Option.map_some, Function.comp,
        Nat.zero_add]
      rw [hfV j hj]
    · rw [List.getElem?_eq_none (by rw [digitPts_length _ _ _ _ _ (by omega)]; omega),
        List.getElem?_eq_none (by simp; omega)]
  have hbase : times10Pow (if exp < 0 then 0 else exp.toNat) (Pt.neg genp) = (scale • (-H)).1 := by
    rw [hscale]
    exact times10Pow_val _ (-H)
  rw [pubExpand]
  rw [hbase, hmap]
  have hget := pubExpandGo_get ((List.range rsizes.length).map fV) rsizes (scale • (-H)) i (secidx.getD i 0) (fV i) hrs
    (by simp [List.getElem?_range hi]) hidx
  rw [Borromean.offset, hget, mulG_eq_gmul (lt_mulBound_of_lt_N (hsec i hi))]
  congr 1
  show (fV i + secidx.getD i 0 • ((4 ^ i) • (scale • (-H)))).1 = (gmulV ((sec.getD i 0 : Nat) : ZMod N)).1
  congr 1
  simp only [fV, hdv i hi, smul_neg, smul_smul]
  have e : secidx.getD i 0 * (4 ^ i * scale) = secidx.getD i 0 * scale * 4 ^ i := by ring
  rw [e, add_neg_cancel_right]

end

end Rangeproof
end SecpZkp
