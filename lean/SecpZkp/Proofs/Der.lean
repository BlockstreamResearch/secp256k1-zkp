import SecpZkp.Model.Der
import SecpZkp.Proofs.Readers
import SecpZkp.Proofs.EarlyReturn
/-
  L0 specification of the strict DER encoding of an ECDSA signature (X.690: minimal definite lengths,
  minimal two's-complement integers) written over naturals and byte lists, and the lemmas relating the
  model functions `Der.readLen`, `Der.parseInteger`, `Der.sigParse`, `Der.intBody`, `Der.sigSerialize`
  to it.  Core Lean only.
-/
namespace SecpZkp
namespace DerSpec
open Bytes

/-- Minimal big-endian base-256 digits: no leading zero byte, empty for 0. -/
def natBytes (x : Nat) : Bytes :=
  if x = 0 then [] else natBytes (x / 256) ++ [UInt8.ofNat (x % 256)]
decreasing_by omega

/-- DER content octets of a non-negative INTEGER: a leading digit with its top bit set would read as negative,
    hence the `00` in front of it. -/
def derInt (x : Nat) : Bytes :=
  match natBytes x with
  | [] => [0x00]
  | b :: t => if b < 0x80 then b :: t else 0x00 :: b :: t

/-- DER definite length octets in minimal form. -/
def derLen (n : Nat) : Bytes :=
  if n < 128 then [UInt8.ofNat n] else UInt8.ofNat (0x80 + (natBytes n).length) :: natBytes n

def derTLV (tag : UInt8) (content : Bytes) : Bytes := tag :: (derLen content.length ++ content)

/-- `SEQUENCE { INTEGER, INTEGER }` with the given integer content octets. -/
def derSig (rb sb : Bytes) : Bytes := derTLV 0x30 (derTLV 0x02 rb ++ derTLV 0x02 sb)

/-- Content octets of an INTEGER obeying X.690 8.3.1/8.3.2: at least one octet, and the first nine bits
    are neither all zero nor all one. -/
def MinimalInt : Bytes → Prop
  | [] => False
  | [_] => True
  | a :: b :: _ => ¬(a = 0x00 ∧ b < 0x80) ∧ ¬(a = 0xFF ∧ 0x80 ≤ b)

instance : DecidablePred MinimalInt := fun c =>
  match c with
  | [] => isFalse (fun h => h)
  | [_] => isTrue trivial
  | a :: b :: _ => inferInstanceAs (Decidable (¬(a = 0x00 ∧ b < 0x80) ∧ ¬(a = 0xFF ∧ 0x80 ≤ b)))

/-- The scalar `secp256k1_der_parse_integer` assigns to integer content octets: 0 on its `overflow` paths
    (negative, or `≥ N`). -/
def clamp : Bytes → Nat
  | [] => 0
  | b :: t => if 0x80 ≤ b then 0 else if toNat (b :: t) < N then toNat (b :: t) else 0

/-- The content octets whose value `clamp` keeps. -/
def InRange : Bytes → Prop
  | [] => False
  | b :: t => b < 0x80 ∧ toNat (b :: t) < N

instance : DecidablePred InRange := fun c =>
  match c with
  | [] => isFalse (fun h => h)
  | b :: t => inferInstanceAs (Decidable (b < 0x80 ∧ toNat (b :: t) < N))

theorem natBytes_zero : natBytes 0 = [] := by rw [natBytes]; simp

theorem natBytes_pos {x : Nat} (h : x ≠ 0) :
    natBytes x = natBytes (x / 256) ++ [UInt8.ofNat (x % 256)] := by
  rw [natBytes]; simp [h]

theorem toNat_natBytes (x : Nat) : toNat (natBytes x) = x := by
  induction x using Nat.strongRecOn with
  | _ x ih =>
    by_cases h : x = 0
    · subst h; rw [natBytes_zero]; rfl
    · rw [natBytes_pos h, toNat_concat, ih _ (by omega), byte_ofNat_toNat]; omega

/-- The digit strings `natBytes` produces: with this, `toNat` is injective (`noLeadZero_unique`). -/
def NoLeadZero (bs : Bytes) : Prop := ∀ b t, bs = b :: t → b ≠ 0

theorem noLeadZero_natBytes (x : Nat) : NoLeadZero (natBytes x) := by
  induction x using Nat.strongRecOn with
  | _ x ih =>
    intro b t hbt
    by_cases h : x = 0
    · subst h; rw [natBytes_zero] at hbt; cases hbt
    · rw [natBytes_pos h] at hbt
      by_cases h2 : x / 256 = 0
      · rw [h2, natBytes_zero] at hbt
        simp only [List.nil_append, List.cons.injEq] at hbt
        rw [← hbt.1, Ne, ← UInt8.toNat_inj, byte_ofNat_toNat, UInt8.toNat_zero]; omega
      · have := ih (x / 256) (by omega)
        cases hnb : natBytes (x / 256) with
        | nil => have := toNat_natBytes (x / 256); rw [hnb] at this; simp at this; omega
        | cons c u =>
          rw [hnb] at hbt this
          simp only [List.cons_append, List.cons.injEq] at hbt
          rw [← hbt.1]; exact this c u rfl

theorem length_le_of_noLeadZero {bs : Bytes} (h : NoLeadZero bs) {k : Nat} (hk : toNat bs < 256 ^ k) :
    bs.length ≤ k := by
  cases bs with
  | nil => simp
  | cons b t =>
    have h1 := le_toNat_cons (h b t rfl) t
    simp only [List.length_cons]
    apply Classical.byContradiction; intro hc
    have : 256 ^ k ≤ 256 ^ t.length := Nat.pow_le_pow_right (by decide) (by omega)
    omega

theorem noLeadZero_unique {bs cs : Bytes} (hb : NoLeadZero bs) (hc : NoLeadZero cs)
    (h : toNat bs = toNat cs) : bs = cs := by
  have h1 : bs.length ≤ cs.length := length_le_of_noLeadZero hb (h ▸ toNat_lt cs)
  have h2 : cs.length ≤ bs.length := length_le_of_noLeadZero hc (h ▸ toNat_lt bs)
  have hl : bs.length = cs.length := by omega
  rw [← ofNat_toNat bs rfl, ← ofNat_toNat cs rfl, h, hl]

theorem natBytes_toNat {bs : Bytes} (h : NoLeadZero bs) : natBytes (toNat bs) = bs :=
  noLeadZero_unique (noLeadZero_natBytes _) h (toNat_natBytes _)

theorem natBytes_length_le {x k : Nat} (h : x < 256 ^ k) : (natBytes x).length ≤ k :=
  length_le_of_noLeadZero (noLeadZero_natBytes x) (by rwa [toNat_natBytes])

theorem natBytes_eq_nil_iff {x : Nat} : natBytes x = [] ↔ x = 0 := by
  constructor
  · intro h; have := toNat_natBytes x; rw [h] at this; simpa using this.symm
  · rintro rfl; exact natBytes_zero

theorem ofNat_eq_replicate_append {len x : Nat} (h : x < 256 ^ len) :
    ofNat len x = List.replicate (len - (natBytes x).length) 0 ++ natBytes x := by
  have hl := natBytes_length_le h
  have : toNat (List.replicate (len - (natBytes x).length) (0 : UInt8) ++ natBytes x) = x := by
    rw [toNat_append, toNat_replicate_zero, toNat_natBytes]; simp
  rw [← ofNat_toNat (len := len) (List.replicate (len - (natBytes x).length) (0 : UInt8) ++ natBytes x)
    (by simp; omega), this]

theorem derInt_zero : derInt 0 = [0x00] := by simp [derInt, natBytes_zero]

theorem derInt_of_natBytes {x : Nat} {b : UInt8} {t : Bytes} (h : natBytes x = b :: t) :
    derInt x = if b < 0x80 then b :: t else 0x00 :: b :: t := by
  simp [derInt, h]

theorem toNat_derInt (x : Nat) : toNat (derInt x) = x := by
  cases h : natBytes x with
  | nil => rw [natBytes_eq_nil_iff.1 h, derInt_zero]; rfl
  | cons b t =>
    rw [derInt_of_natBytes h]
    split
    · rw [← h, toNat_natBytes]
    · rw [toNat_zero_cons, ← h, toNat_natBytes]

theorem derInt_length_le {x k : Nat} (h : x < 256 ^ k) : (derInt x).length ≤ k + 1 := by
  have := natBytes_length_le h
  unfold derInt; split
  · simp
  · rename_i b t hb; rw [hb] at this; simp at this; split <;> simp <;> omega

theorem derInt_length_pos (x : Nat) : 0 < (derInt x).length := by
  unfold derInt; split
  · simp
  · split <;> simp

theorem derInt_head_lt (x : Nat) : ∃ b t, derInt x = b :: t ∧ b < 0x80 := by
  unfold derInt; split
  · exact ⟨0, [], rfl, by decide⟩
  · rename_i b t _
    by_cases hb : b < 0x80
    · exact ⟨b, t, by simp [hb], hb⟩
    · exact ⟨0, b :: t, by simp [hb], by decide⟩

theorem minimalInt_derInt (x : Nat) : MinimalInt (derInt x) := by
  cases h : natBytes x with
  | nil => rw [natBytes_eq_nil_iff.1 h, derInt_zero]; trivial
  | cons b t =>
    rw [derInt_of_natBytes h]
    have hb0 : b ≠ 0 := noLeadZero_natBytes x b t h
    split
    · rename_i hb
      cases t with
      | nil => trivial
      | cons c u =>
        refine ⟨fun hh => hb0 hh.1, fun hh => ?_⟩
        rw [hh.1] at hb; exact absurd hb (by decide)
    · rename_i hb
      exact ⟨fun hh => hb hh.2, fun hh => absurd hh.1 (by decide)⟩

theorem eq_derInt_of_minimal {b : UInt8} {t : Bytes} (hm : MinimalInt (b :: t)) (hb : b < 0x80) :
    b :: t = derInt (toNat (b :: t)) := by
  by_cases hb0 : b = 0
  · subst hb0
    cases t with
    | nil => exact derInt_zero.symm
    | cons c u =>
      have hc : ¬ c < 0x80 := fun hc => hm.1 ⟨rfl, hc⟩
      have hc0 : c ≠ 0 := fun h => hc (by rw [h]; decide)
      have hnz : NoLeadZero (c :: u) := by intro b' t' e; cases e; exact hc0
      rw [toNat_zero_cons, derInt_of_natBytes (natBytes_toNat hnz), if_neg hc]
  · have hnz : NoLeadZero (b :: t) := by intro b' t' e; cases e; exact hb0
    rw [derInt_of_natBytes (natBytes_toNat hnz), if_pos hb]

/-- `00 ‖ be32 x` is `00 ‖ zeros ‖ natBytes x`.  `strip` eats a zero while the next byte is below `0x80`, so it stops on
    the first digit or one zero before it: `derInt x`.  Every stripped zero costs one unit of fuel, hence `k < fuel`. -/
theorem strip_zeros (fuel k : Nat) (hk : k < fuel) (x : Nat) :
    Der.intBody.strip fuel ((0 : UInt8) :: (List.replicate k 0 ++ natBytes x)) = derInt x := by
  induction k generalizing fuel with
  | zero =>
    obtain ⟨f, rfl⟩ : ∃ f, fuel = f + 1 := ⟨fuel - 1, by omega⟩
    simp only [List.replicate_zero, List.nil_append]
    cases h : natBytes x with
    | nil => rw [natBytes_eq_nil_iff.1 h, derInt_zero]; rfl
    | cons b t =>
      have hb0 : b ≠ 0 := noLeadZero_natBytes x b t h
      rw [derInt_of_natBytes h, Der.intBody.strip]
      by_cases hb : b < 0x80
      · simp only [hb, and_self, if_true]
        cases f with
        | zero => rfl
        | succ f =>
          cases t with
          | nil => rfl
          | cons c u => rw [Der.intBody.strip]; simp [hb0]
      · simp [hb]
  | succ k ih =>
    obtain ⟨f, rfl⟩ : ∃ f, fuel = f + 1 := ⟨fuel - 1, by omega⟩
    rw [List.replicate_succ, List.cons_append, Der.intBody.strip]
    have : (0 : UInt8) < 0x80 := by decide
    simp only [this, and_self, if_true]
    exact ih f (by omega)

theorem intBody_eq_derInt {x : Nat} (h : x < 2 ^ 256) : Der.intBody x = derInt x := by
  have h' : x < 256 ^ 32 := by simpa using h
  have hl := natBytes_length_le h'
  unfold Der.intBody
  simp only [be32]
  rw [ofNat_eq_replicate_append h']
  exact strip_zeros 33 _ (by omega) x

theorem derLen_short {n : Nat} (h : n < 128) : derLen n = [UInt8.ofNat n] := by simp [derLen, h]
theorem derLen_long {n : Nat} (h : 128 ≤ n) :
    derLen n = UInt8.ofNat (0x80 + (natBytes n).length) :: natBytes n := by
  simp [derLen]; omega

theorem readLen_derLen {n : Nat} {rest : Bytes} (hn : n < 2 ^ 64) (hr : 128 ≤ n → n ≤ rest.length) :
    Der.readLen (derLen n ++ rest) = some (n, rest) := by
  by_cases hs : n < 128
  · rw [derLen_short hs]
    have h1 : (UInt8.ofNat n).toNat = n := byte_ofNat_toNat_of_lt (by omega)
    have h2 : UInt8.ofNat n ≠ 0xFF := by
      intro h; have := congrArg UInt8.toNat h; rw [h1] at this; simp at this; omega
    have h3 : UInt8.ofNat n &&& 0x80 = 0 := (byte_and80_eq_zero_iff _).2 (by omega)
    simp [Der.readLen, h2, h3, h1]
  · -- long form: `h2`, `h3`, `h4` and the five `if_neg` at the end answer the tests of `Der.readLen` in source order
    have hs' : 128 ≤ n := by omega
    rw [derLen_long hs']
    have hL8 := natBytes_length_le (k := 8) hn
    have hL1 : 0 < (natBytes n).length := by
      apply List.length_pos_iff.2; intro h; rw [natBytes_eq_nil_iff] at h; omega
    generalize hL : (natBytes n).length = L at *
    have h1 : (UInt8.ofNat (0x80 + L)).toNat = 128 + L := byte_ofNat_toNat_of_lt (by omega)
    have h2 : UInt8.ofNat (0x80 + L) ≠ 0xFF := by
      intro h; have := congrArg UInt8.toNat h; rw [h1] at this; simp at this; omega
    have h3 : ¬ UInt8.ofNat (0x80 + L) &&& 0x80 = 0 := by
      rw [byte_and80_eq_zero_iff, h1]; omega
    have h4 : UInt8.ofNat (0x80 + L) ≠ 0x80 := by
      intro h; have := congrArg UInt8.toNat h; rw [h1] at this; simp at this; omega
    have h5 : (UInt8.ofNat (0x80 + L) &&& 0x7F).toNat = L := by rw [byte_and7F_toNat, h1]; omega
    have h6 : (natBytes n ++ rest).head? ≠ some 0 := by
      cases hnb : natBytes n with
      | nil => rw [hnb] at hL; simp at hL; omega
      | cons c u =>
        have := noLeadZero_natBytes n c u hnb
        simpa using this
    have h7 : (natBytes n ++ rest).take L = natBytes n := by rw [← hL]; simp
    have h8 : (natBytes n ++ rest).drop L = rest := by rw [← hL]; simp
    simp only [Der.readLen, List.cons_append]
    rw [if_neg h2, if_neg h3, if_neg h4]
    simp only [h5, h7, h8, toNat_natBytes]
    rw [if_neg (by simp; omega), if_neg h6, if_neg (by omega), if_neg (by have := hr hs'; omega), if_neg hs]

theorem readLen_some {bs rest : Bytes} {n : Nat} (h : Der.readLen bs = some (n, rest)) :
    bs = derLen n ++ rest ∧ n < 2 ^ 64 ∧ (128 ≤ n → n ≤ rest.length) := by
  cases bs with
  | nil => cases h
  | cons b1 tl =>
    simp only [Der.readLen] at h
    obtain ⟨hFF, h⟩ := Option.ite_none_left_eq_some.1 h
    by_cases h80 : b1 &&& 0x80 = 0
    · rw [if_pos h80] at h
      cases h
      have hlt : b1.toNat < 128 := (byte_and80_eq_zero_iff _).1 h80
      refine ⟨?_, by omega, by omega⟩
      rw [derLen_short hlt, UInt8.ofNat_toNat]; rfl
    rw [if_neg h80] at h
    obtain ⟨hne80, h⟩ := Option.ite_none_left_eq_some.1 h
    obtain ⟨hle, h⟩ := Option.ite_none_left_eq_some.1 h
    obtain ⟨hhead, h⟩ := Option.ite_none_left_eq_some.1 h
    obtain ⟨h8, h⟩ := Option.ite_none_left_eq_some.1 h
    obtain ⟨hlen, h⟩ := Option.ite_none_left_eq_some.1 h
    obtain ⟨h128, h⟩ := Option.ite_none_left_eq_some.1 h
    cases h
    rw [byte_and80_eq_zero_iff] at h80
    rw [byte_and7F_toNat] at *
    have hb := UInt8.toNat_lt b1
    have hne : b1.toNat ≠ 128 := fun hh => hne80 (UInt8.toNat_inj.1 hh)
    generalize hL : b1.toNat % 128 = L at *
    have hLlen : (tl.take L).length = L := by simp; omega
    have hnz : NoLeadZero (tl.take L) := by
      intro c u hcu
      cases tl with
      | nil => simp at hcu
      | cons d v =>
        obtain ⟨L', rfl⟩ : ∃ L', L = L' + 1 := ⟨L - 1, by omega⟩
        simp only [List.take_succ_cons, List.cons.injEq] at hcu
        rw [← hcu.1]; intro hd; apply hhead; simp [hd]
    have hnb := natBytes_toNat hnz
    have hb1 : UInt8.ofNat (0x80 + L) = b1 := by
      rw [← UInt8.toNat_inj, byte_ofNat_toNat_of_lt (by omega)]; omega
    refine ⟨?_, ?_, fun _ => by omega⟩
    · rw [derLen_long (by omega), hnb, hLlen, hb1, List.cons_append, List.take_append_drop]
    · have := toNat_lt (tl.take L)
      rw [hLlen] at this
      have : 256 ^ L ≤ 256 ^ 8 := Nat.pow_le_pow_right (by decide) (by omega)
      omega

theorem readLen_iff (bs rest : Bytes) (n : Nat) :
    Der.readLen bs = some (n, rest) ↔
      bs = derLen n ++ rest ∧ n < 2 ^ 64 ∧ (128 ≤ n → n ≤ rest.length) :=
  ⟨readLen_some, fun ⟨h1, h2, h3⟩ => h1 ▸ readLen_derLen h2 h3⟩

theorem N_le_of_long {d : Bytes} (hnz : NoLeadZero d) (hl : 32 < d.length) : N ≤ toNat d :=
  Nat.le_of_not_lt fun h => by
    have := length_le_of_noLeadZero hnz (k := 32) (by have := N_lt; omega)
    omega

/-- The model (as the C code) skips one leading `0x00` and reports overflow when the sign bit is set, more than 32
    digits remain or the value is `≥ N`.  After the padding checks the remaining digits have no leading zero, so more
    than 32 of them already mean `≥ N` (`N_le_of_long`): the three overflow tests together are `clamp`. -/
theorem parseInteger_cons (l : Bytes) :
    Der.parseInteger (0x02 :: l) =
      match Der.readLen l with
      | none => none
      | some (rlen, body) =>
        if rlen = 0 ∨ rlen > body.length then none
        else if MinimalInt (body.take rlen) then some (clamp (body.take rlen), body.drop rlen)
        else none := by
  simp only [Der.parseInteger]
  cases hrl : Der.readLen l with
  | none => simp
  | some p =>
    obtain ⟨rlen, body⟩ := p
    by_cases hg : rlen = 0 ∨ rlen > body.length
    · simp [hg]
    · simp only [ne_eq, not_true_eq_false, if_false, hg]
      obtain ⟨c, rest, rfl, rfl⟩ : ∃ c rest, body = c ++ rest ∧ rlen = c.length :=
        ⟨body.take rlen, body.drop rlen, by simp, by simp; omega⟩
      simp only [List.take_left', List.drop_left']
      cases c with
      | nil => simp at hg
      | cons a t =>
        cases t with
        | nil =>
          simp only [MinimalInt]
          by_cases ha : a = 0
          · subst ha
            have : ¬ N ≤ 0 := by decide
            simp [clamp, this]
          · have hle : ((128 : UInt8) ≤ a) ↔ 128 ≤ a.toNat := UInt8.le_iff_toNat_le
            simp only [ha, if_false, clamp, List.take_succ_cons, List.take_zero, List.drop_succ_cons, List.drop_zero,
              List.length_cons, List.length_nil, List.cons_append, List.nil_append, List.headD_cons,
              byte_and80_eq_80_iff, hle, toNat_singleton]
            have := UInt8.toNat_lt a
            by_cases h1 : 128 ≤ a.toNat <;> by_cases h2 : N ≤ a.toNat <;> simp [h1, h2] <;> omega
        | cons b u =>
          have hle : ∀ x : UInt8, ((128 : UInt8) ≤ x) ↔ 128 ≤ x.toNat := fun _ => UInt8.le_iff_toNat_le
          simp only [MinimalInt, List.length_cons, List.cons_append, List.headD_cons, List.drop_succ_cons,
            List.drop_zero, byte_and80_eq_80_iff, byte_and80_eq_zero_iff, byte_lt80_iff, hle]
          by_cases ha : a = 0
          · subst ha
            by_cases hb : b.toNat < 128
            · simp [hb]
            · have hb0 : b ≠ 0 := by intro h; subst h; simp at hb
              have hnz : NoLeadZero (b :: u) := by intro b' t' e; cases e; exact hb0
              have hlong := N_le_of_long hnz
              simp only [List.length_cons] at hlong
              have h255 : ¬ (0 : UInt8) = 255 := by decide
              simp [hb, clamp, toNat_zero_cons, h255]
              by_cases h2 : N ≤ toNat (b :: u)
              · simp [h2]; omega
              · have h3 : ¬ 32 < u.length + 1 := fun h => h2 (hlong h)
                have h4 : toNat (b :: u) < N := by omega
                simp [h2, h3, h4]
          · have hnz : NoLeadZero (a :: b :: u) := by intro b' t' e; cases e; exact ha
            have hlong := N_le_of_long hnz
            simp only [List.length_cons] at hlong
            by_cases hpad : a = 255 ∧ 128 ≤ b.toNat
            · simp [hpad]
            · simp only [ha, false_and, if_false, hpad, not_false_eq_true, and_self, if_true, clamp, hle,
                List.take_succ_cons, List.drop_succ_cons, List.take_left', List.drop_left']
              have hpad' : a = 255 → b.toNat < 128 := fun h => by
                have : ¬ 128 ≤ b.toNat := fun h' => hpad ⟨h, h'⟩
                omega
              by_cases h1 : 128 ≤ a.toNat
              · simp [h1]; exact hpad'
              · by_cases h2 : N ≤ toNat (a :: b :: u)
                · have h4 : ¬ toNat (a :: b :: u) < N := by omega
                  simp [h1, h2, h4]; exact hpad'
                · have h3 : ¬ 32 < u.length + 1 + 1 := fun h => h2 (hlong h)
                  have h4 : toNat (a :: b :: u) < N := by omega
                  simp [h1, h2, h3, h4]; exact hpad'

theorem minimalInt_ne_nil {c : Bytes} (h : MinimalInt c) : c ≠ [] := by
  intro hc; subst hc; exact h

theorem parseInteger_nil : Der.parseInteger [] = none := rfl

theorem parseInteger_tag {tag : UInt8} (l : Bytes) (h : tag ≠ 0x02) : Der.parseInteger (tag :: l) = none := by
  simp [Der.parseInteger, h]

theorem derTLV_append (tag : UInt8) (c rest : Bytes) :
    derTLV tag c ++ rest = tag :: (derLen c.length ++ (c ++ rest)) := by
  simp [derTLV]

theorem derTLV_length (tag : UInt8) (c : Bytes) :
    (derTLV tag c).length = 1 + (derLen c.length).length + c.length := by
  simp [derTLV]; omega

theorem parseInteger_derTLV_any (c rest : Bytes) (hl : c.length < 2 ^ 64) :
    Der.parseInteger (derTLV 0x02 c ++ rest) = if MinimalInt c then some (clamp c, rest) else none := by
  rw [derTLV_append, parseInteger_cons, readLen_derLen hl (by simp)]
  by_cases hm : MinimalInt c
  · have h0 : c.length ≠ 0 := fun h => minimalInt_ne_nil hm (List.length_eq_zero_iff.1 h)
    simp [h0, hm]
  · simp [hm]

theorem parseInteger_some {bs rest : Bytes} {v : Nat} (h : Der.parseInteger bs = some (v, rest)) :
    ∃ c, MinimalInt c ∧ c.length < 2 ^ 64 ∧ bs = derTLV 0x02 c ++ rest ∧ v = clamp c := by
  cases bs with
  | nil => cases h
  | cons tag l =>
    by_cases ht : tag = 0x02
    · subst ht
      rw [parseInteger_cons] at h
      cases hrl : Der.readLen l with
      | none => rw [hrl] at h; cases h
      | some p =>
        obtain ⟨rlen, body⟩ := p
        rw [hrl] at h
        obtain ⟨hl, hlt, -⟩ := readLen_some hrl
        obtain ⟨hg, h⟩ := Option.ite_none_left_eq_some.1 h
        by_cases hm : MinimalInt (body.take rlen)
        · rw [if_pos hm] at h
          cases h
          have hlen : (body.take rlen).length = rlen := by simp; omega
          refine ⟨body.take rlen, hm, by omega, ?_, rfl⟩
          rw [derTLV_append, hlen, List.take_append_drop, hl]
        · rw [if_neg hm] at h; cases h
    · rw [parseInteger_tag l ht] at h; cases h

theorem parseInteger_iff (bs rest : Bytes) (v : Nat) :
    Der.parseInteger bs = some (v, rest) ↔
      ∃ c, MinimalInt c ∧ c.length < 2 ^ 64 ∧ bs = derTLV 0x02 c ++ rest ∧ v = clamp c :=
  ⟨parseInteger_some, fun ⟨c, hm, hl, hb, hv⟩ => hb ▸ hv ▸ (parseInteger_derTLV_any c rest hl).trans (if_pos hm)⟩

theorem sigParse_cons (l : Bytes) :
    Der.sigParse (0x30 :: l) =
      match Der.readLen l with
      | none => none
      | some (rlen, body) =>
        if rlen ≠ body.length then none else
        match Der.parseInteger body with
        | none => none
        | some (r, rest1) =>
          match Der.parseInteger rest1 with
          | none => none
          | some (s, rest2) => if rest2 = [] then some (r, s) else none := by
  simp only [Der.sigParse, ne_eq, not_true_eq_false, if_false]
  rfl

theorem sigParse_tag {tag : UInt8} (l : Bytes) (h : tag ≠ 0x30) : Der.sigParse (tag :: l) = none := by
  simp [Der.sigParse, h]

theorem derSig_eq (rb sb : Bytes) :
    derSig rb sb = 0x30 :: (derLen (derTLV 0x02 rb ++ derTLV 0x02 sb).length ++
      (derTLV 0x02 rb ++ derTLV 0x02 sb)) := rfl

theorem sigParse_derSig_any (rb sb : Bytes) (hl : (derTLV 0x02 rb ++ derTLV 0x02 sb).length < 2 ^ 64) :
    Der.sigParse (derSig rb sb) =
      if MinimalInt rb ∧ MinimalInt sb then some (clamp rb, clamp sb) else none := by
  have h1 : rb.length < 2 ^ 64 := by
    simp only [List.length_append, derTLV_length] at hl; omega
  have h2 : sb.length < 2 ^ 64 := by
    simp only [List.length_append, derTLV_length] at hl; omega
  have hs := parseInteger_derTLV_any sb [] h2
  rw [List.append_nil] at hs
  rw [derSig_eq, sigParse_cons, readLen_derLen hl (fun _ => Nat.le_refl _)]
  simp only [ne_eq, not_true_eq_false, if_false]
  rw [parseInteger_derTLV_any rb _ h1]
  by_cases hr : MinimalInt rb
  · simp only [hr, if_true, true_and, hs]
    by_cases hs' : MinimalInt sb <;> simp [hs']
  · simp [hr]

theorem sigParse_derSig {rb sb : Bytes} (hr : MinimalInt rb) (hs : MinimalInt sb)
    (hl : (derTLV 0x02 rb ++ derTLV 0x02 sb).length < 2 ^ 64) :
    Der.sigParse (derSig rb sb) = some (clamp rb, clamp sb) := by
  rw [sigParse_derSig_any rb sb hl, if_pos ⟨hr, hs⟩]

theorem sigParse_some {bs : Bytes} {r s : Nat} (h : Der.sigParse bs = some (r, s)) :
    ∃ rb sb, MinimalInt rb ∧ MinimalInt sb ∧ (derTLV 0x02 rb ++ derTLV 0x02 sb).length < 2 ^ 64 ∧
      bs = derSig rb sb ∧ r = clamp rb ∧ s = clamp sb := by
  cases bs with
  | nil => cases h
  | cons tag l =>
    by_cases ht : tag = 0x30
    · subst ht
      rw [sigParse_cons] at h
      cases hrl : Der.readLen l with
      | none => rw [hrl] at h; cases h
      | some p =>
        obtain ⟨rlen, body⟩ := p
        rw [hrl] at h
        obtain ⟨hl, hlt, -⟩ := readLen_some hrl
        replace ⟨hlen, h⟩ := Option.ite_none_left_eq_some.1 h
        obtain rfl : rlen = body.length := Classical.byContradiction hlen
        cases hp1 : Der.parseInteger body with
        | none => rw [hp1] at h; cases h
        | some q =>
          obtain ⟨r', rest1⟩ := q
          rw [hp1] at h
          simp only at h
          cases hp2 : Der.parseInteger rest1 with
          | none => rw [hp2] at h; cases h
          | some q2 =>
            obtain ⟨s', rest2⟩ := q2
            rw [hp2] at h
            simp only at h
            by_cases hnil : rest2 = []
            · rw [show _ = some (r', s') from if_pos hnil] at h
              cases h
              subst hnil
              obtain ⟨rb, hmr, -, hb1, hvr⟩ := parseInteger_some hp1
              obtain ⟨sb, hms, -, hb2, hvs⟩ := parseInteger_some hp2
              rw [hb2, List.append_nil] at hb1
              subst hb1
              exact ⟨rb, sb, hmr, hms, hlt, by rw [derSig_eq, hl], hvr, hvs⟩
            · rw [show _ = none from if_neg hnil] at h; cases h
    · rw [sigParse_tag l ht] at h; cases h

theorem sigParse_iff (bs : Bytes) (r s : Nat) :
    Der.sigParse bs = some (r, s) ↔
      ∃ rb sb, MinimalInt rb ∧ MinimalInt sb ∧ (derTLV 0x02 rb ++ derTLV 0x02 sb).length < 2 ^ 64 ∧
        bs = derSig rb sb ∧ r = clamp rb ∧ s = clamp sb :=
  ⟨sigParse_some, fun ⟨_, _, hr, hs, hl, hb, hvr, hvs⟩ => hb ▸ hvr ▸ hvs ▸ sigParse_derSig hr hs hl⟩

theorem readLen_append {bs rest : Bytes} {n : Nat} (h : Der.readLen bs = some (n, rest)) (t : Bytes) :
    Der.readLen (bs ++ t) = some (n, rest ++ t) := by
  obtain ⟨h1, h2, h3⟩ := readLen_some h
  rw [h1, List.append_assoc]
  exact readLen_derLen h2 (fun h => by have := h3 h; simp; omega)

theorem derLen_length_pos (n : Nat) : 0 < (derLen n).length := by
  unfold derLen; split <;> simp

theorem readLen_bounds {bs rest : Bytes} {n : Nat} (h : Der.readLen bs = some (n, rest)) :
    rest.length < bs.length ∧ (128 ≤ n → n ≤ rest.length) ∧ n < 2 ^ 64 ∧ ∃ pre, bs = pre ++ rest := by
  obtain ⟨h1, h2, h3⟩ := readLen_some h
  have := derLen_length_pos n
  refine ⟨by rw [h1]; simp; omega, h3, by simpa using h2, derLen n, h1⟩

theorem clamp_lt (c : Bytes) : clamp c < N := by
  have hN : 0 < N := by decide
  unfold clamp; split
  · exact hN
  · split
    · exact hN
    · split
      · assumption
      · exact hN

theorem parseInteger_bounds {bs rest : Bytes} {v : Nat} (h : Der.parseInteger bs = some (v, rest)) :
    rest.length + 3 ≤ bs.length ∧ v < N ∧ ∃ pre, bs = pre ++ rest := by
  obtain ⟨c, hm, hl, hb, hv⟩ := parseInteger_some h
  have h1 := derLen_length_pos c.length
  have h2 : 0 < c.length := List.length_pos_iff.2 (minimalInt_ne_nil hm)
  refine ⟨?_, hv ▸ clamp_lt c, derTLV 0x02 c, hb⟩
  rw [hb, List.length_append, derTLV_length]; omega

theorem sigParse_bounds {bs : Bytes} {r s : Nat} (h : Der.sigParse bs = some (r, s)) :
    r < N ∧ s < N ∧ 8 ≤ bs.length := by
  obtain ⟨rb, sb, hmr, hms, hl, hb, hvr, hvs⟩ := sigParse_some h
  refine ⟨hvr ▸ clamp_lt rb, hvs ▸ clamp_lt sb, ?_⟩
  have h1 := derLen_length_pos rb.length
  have h2 : 0 < rb.length := List.length_pos_iff.2 (minimalInt_ne_nil hmr)
  have h3 := derLen_length_pos sb.length
  have h4 : 0 < sb.length := List.length_pos_iff.2 (minimalInt_ne_nil hms)
  have h5 := derLen_length_pos (derTLV 0x02 rb ++ derTLV 0x02 sb).length
  rw [hb, derSig_eq]
  simp only [List.length_cons, List.length_append, derTLV_length] at h5 ⊢
  omega

theorem sigParse_append_none {bs : Bytes} {v : Nat × Nat} (h : Der.sigParse bs = some v)
    {t : Bytes} (ht : t ≠ []) : Der.sigParse (bs ++ t) = none := by
  obtain ⟨rb, sb, -, -, hl, rfl, -, -⟩ := sigParse_some h
  have : 0 < t.length := List.length_pos_iff.2 ht
  rw [derSig_eq, List.cons_append, List.append_assoc, sigParse_cons,
    readLen_derLen hl (fun _ => by simp)]
  exact if_pos (by simp; omega)

theorem sigParse_take_none {bs : Bytes} {v : Nat × Nat} (h : Der.sigParse bs = some v)
    {k : Nat} (hk : k < bs.length) : Der.sigParse (bs.take k) = none := by
  cases hp : Der.sigParse (bs.take k) with
  | none => rfl
  | some w =>
    have := sigParse_append_none hp (t := bs.drop k) (by
      intro hd; have := congrArg List.length hd; simp at this; omega)
    rw [List.take_append_drop, h] at this; cases this

/-- 33 content octets hold every scalar below `2^256` (`derInt_length_le_33`); then all three lengths are short form. -/
theorem derSig_short {rb sb : Bytes} (hr : rb.length ≤ 33) (hs : sb.length ≤ 33) :
    derSig rb sb = [0x30, UInt8.ofNat (4 + rb.length + sb.length), 0x02, UInt8.ofNat rb.length] ++ rb ++
      [0x02, UInt8.ofNat sb.length] ++ sb ∧
    (derTLV 0x02 rb ++ derTLV 0x02 sb).length = 4 + rb.length + sb.length := by
  have e : (derTLV 0x02 rb ++ derTLV 0x02 sb).length = 4 + rb.length + sb.length := by
    simp only [List.length_append, derTLV_length, derLen_short (n := rb.length) (by omega),
      derLen_short (n := sb.length) (by omega), List.length_singleton]
    omega
  refine ⟨?_, e⟩
  rw [derSig_eq, e, derLen_short (by omega)]
  simp [derTLV, derLen_short (n := rb.length) (by omega), derLen_short (n := sb.length) (by omega)]

theorem derInt_length_le_33 {x : Nat} (h : x < 2 ^ 256) : (derInt x).length ≤ 33 :=
  derInt_length_le (k := 32) h

theorem sigSerialize_eq {r s : Nat} (hr : r < 2 ^ 256) (hs : s < 2 ^ 256) (size : Nat) :
    Der.sigSerialize r s size =
      if size < 6 + (derInt r).length + (derInt s).length
      then (0, [], 6 + (derInt r).length + (derInt s).length)
      else (1, derSig (derInt r) (derInt s), 6 + (derInt r).length + (derInt s).length) := by
  -- first the specification side, brought to the model's literal list (`derSig_short`: every length is in short form)
  rw [(derSig_short (derInt_length_le_33 hr) (derInt_length_le_33 hs)).1]
  simp only [Der.sigSerialize, intBody_eq_derInt hr, intBody_eq_derInt hs]

theorem derSig_derInt_length {r s : Nat} (hr : r < 2 ^ 256) (hs : s < 2 ^ 256) :
    (derSig (derInt r) (derInt s)).length = 6 + (derInt r).length + (derInt s).length := by
  rw [(derSig_short (derInt_length_le_33 hr) (derInt_length_le_33 hs)).1]
  simp; omega

theorem inRange_derInt {x : Nat} (h : x < N) : InRange (derInt x) := by
  obtain ⟨b, t, hbt, hb⟩ := derInt_head_lt x
  have hv := toNat_derInt x
  rw [hbt] at hv ⊢
  exact ⟨hb, hv ▸ h⟩

theorem eq_derInt_of_inRange {c : Bytes} (hm : MinimalInt c) (hr : InRange c) :
    c = derInt (clamp c) ∧ clamp c = toNat c := by
  cases c with
  | nil => exact absurd hr id
  | cons b t =>
    obtain ⟨hb, hv⟩ := hr
    have hc : clamp (b :: t) = toNat (b :: t) := by simp [clamp, UInt8.not_le.2 hb, hv]
    exact ⟨hc ▸ eq_derInt_of_minimal hm hb, hc⟩

theorem clamp_derInt {x : Nat} (h : x < N) : clamp (derInt x) = x :=
  (eq_derInt_of_inRange (minimalInt_derInt x) (inRange_derInt h)).2.trans (toNat_derInt x)

theorem inRange_of_clamp_ne_zero {c : Bytes} (h : clamp c ≠ 0) : InRange c := by
  cases c with
  | nil => exact absurd rfl h
  | cons b t =>
    simp only [clamp] at h
    split at h
    · exact absurd rfl h
    · rename_i hb
      split at h
      · exact ⟨UInt8.not_le.1 hb, ‹_›⟩
      · exact absurd rfl h

end DerSpec
end SecpZkp
