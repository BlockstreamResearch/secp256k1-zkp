/-
  A number as a LIST of limbs, little-endian in base `2^w`, and a run of memory cells read as such a list: the common
  ground of the limb-level developments for the scalars (4×64, 8×32 bits) and the field elements (5×52, 10×26 bits).
  Only natural numbers, lists and memory lookups; the carry chains built on this are in `LimbChain` (saturated limbs:
  digit = low word of a wider accumulator) and `LimbArith` (unsaturated limbs: carries kept small by magnitude bounds).
-/
import Mathlib.Tactic.Ring
import SecpZkp.Model.MiniC

namespace SecpZkp
namespace LimbList
open MiniC

def valL (w : Nat) : List Nat → Nat
  | [] => 0
  | x :: xs => x + 2 ^ w * valL w xs

theorem valL_append (w : Nat) : ∀ xs ys : List Nat, valL w (xs ++ ys) = valL w xs + 2 ^ (w * xs.length) * valL w ys
  | [], ys => by simp [valL]
  | x :: xs, ys => by
    rw [List.cons_append, valL, valL, valL_append w xs ys, List.length_cons, Nat.mul_succ, Nat.pow_add]
    ring

theorem valL_eq_zero {w : Nat} : ∀ {xs : List Nat}, valL w xs = 0 ↔ ∀ x ∈ xs, x = 0
  | [] => by simp [valL]
  | x :: xs => by
    rw [valL, Nat.add_eq_zero_iff, Nat.mul_eq_zero, valL_eq_zero, List.forall_mem_cons]
    simp

theorem valL_lt {w : Nat} : ∀ {xs : List Nat} {a : Nat}, (∀ x ∈ xs, x < 2 ^ w) →
    valL w (xs ++ [a]) < 2 ^ (w * xs.length) * (a + 1)
  | [], a, _ => by simp [valL]
  | x :: xs, a, hx => by
    have h1 := hx x List.mem_cons_self
    have h2 := valL_lt (a := a) (fun x h => hx x (List.mem_cons_of_mem _ h))
    rw [List.cons_append, valL, List.length_cons, show w * (xs.length + 1) = w + w * xs.length by ring, Nat.pow_add,
      Nat.mul_assoc]
    generalize 2 ^ (w * xs.length) * (a + 1) = B at *
    generalize valL w (xs ++ [a]) = V at *
    calc x + 2 ^ w * V < 2 ^ w + 2 ^ w * V := Nat.add_lt_add_right h1 _
      _ = 2 ^ w * (V + 1) := by ring
      _ ≤ 2 ^ w * B := Nat.mul_le_mul_left _ h2

theorem valL_lt_pow {w : Nat} {xs : List Nat} (hx : ∀ x ∈ xs, x < 2 ^ w) : valL w xs < 2 ^ (w * xs.length) := by
  simpa [valL_append, valL] using valL_lt (a := 0) hx

theorem add_mul_inj {B a a' x y : Nat} (ha : a < B) (ha' : a' < B) : a + B * x = a' + B * y ↔ a = a' ∧ x = y := by
  constructor
  · intro h
    have h1 := congrArg (· % B) h
    have h2 := congrArg (· / B) h
    simp only [Nat.add_mul_mod_self_left, Nat.mod_eq_of_lt ha, Nat.mod_eq_of_lt ha'] at h1
    simp only [Nat.add_mul_div_left _ _ (Nat.zero_lt_of_lt ha), Nat.div_eq_of_lt ha, Nat.div_eq_of_lt ha', Nat.zero_add] at h2
    exact ⟨h1, h2⟩
  · rintro ⟨rfl, rfl⟩; rfl

theorem valL_inj {w : Nat} : ∀ {xs ys : List Nat} {a b : Nat}, xs.length = ys.length → (∀ x ∈ xs, x < 2 ^ w) →
    (∀ y ∈ ys, y < 2 ^ w) → (valL w (xs ++ [a]) = valL w (ys ++ [b]) ↔ xs = ys ∧ a = b)
  | [], [], a, b, _, _, _ => by simp [valL]
  | x :: xs, y :: ys, a, b, hl, hx, hy => by
    rw [List.cons_append, List.cons_append, valL, valL, add_mul_inj (hx x List.mem_cons_self) (hy y List.mem_cons_self),
      valL_inj (Nat.succ.inj hl) (fun x h => hx x (List.mem_cons_of_mem _ h)) (fun y h => hy y (List.mem_cons_of_mem _ h)),
      List.cons.injEq, and_assoc]

theorem valL_compl {w : Nat} : ∀ {xs : List Nat}, (∀ x ∈ xs, x < 2 ^ w) →
    valL w (xs.map (2 ^ w - 1 - ·)) + valL w xs + 1 = 2 ^ (w * xs.length)
  | [], _ => by simp [valL]
  | x :: xs, h => by
    have hx := h x List.mem_cons_self
    have ih := valL_compl fun y hy => h y (List.mem_cons_of_mem _ hy)
    rw [List.map_cons, valL, valL, List.length_cons, show w * (xs.length + 1) = w + w * xs.length by ring, Nat.pow_add,
      ← ih]
    generalize valL w (xs.map (2 ^ w - 1 - ·)) = A
    generalize valL w xs = B
    generalize 2 ^ w = W at *
    obtain ⟨d, rfl⟩ : ∃ d, W = x + 1 + d := ⟨W - (x + 1), by omega⟩
    rw [show x + 1 + d - 1 - x = d by omega]
    ring

theorem valL_zipWith_add (w : Nat) : ∀ (xs ys : List Nat), xs.length = ys.length →
    valL w (List.zipWith (· + ·) xs ys) = valL w xs + valL w ys
  | [], [], _ => rfl
  | x :: xs, y :: ys, h => by
    rw [List.zipWith_cons_cons, valL, valL, valL, valL_zipWith_add w xs ys (Nat.succ.inj h)]
    ring
  | [], _ :: _, h => by simp at h
  | _ :: _, [], h => by simp at h

theorem valL_map_and {w : Nat} (hw : 0 < w) {ds : List Nat} {m : Nat} (hd : ∀ d ∈ ds, d < 2 ^ w)
    (hm : m = 0 ∨ m = 2 ^ w - 1) :
    valL w (ds.map (· &&& m)) = (if m = 0 then 0 else valL w ds) ∧ ∀ d ∈ ds.map (· &&& m), d < 2 ^ w := by
  have hW : 1 < 2 ^ w := Nat.one_lt_two_pow (by omega)
  rcases hm with rfl | rfl
  · refine ⟨?_, fun d hd' => ?_⟩
    · rw [if_pos rfl, valL_eq_zero]
      intro x hx; simp only [Nat.and_zero, List.mem_map] at hx; obtain ⟨_, _, rfl⟩ := hx; rfl
    · simp only [Nat.and_zero, List.mem_map] at hd'; obtain ⟨_, _, rfl⟩ := hd'; omega
  · have e : ds.map (· &&& (2 ^ w - 1)) = ds := by
      rw [List.map_congr_left fun d h => by rw [Nat.and_two_pow_sub_one_eq_mod, Nat.mod_eq_of_lt (hd d h)], List.map_id']
    rw [e, if_neg (by omega)]
    exact ⟨rfl, hd⟩

theorem valL_map_mul (w b : Nat) : ∀ (xs : List Nat), valL w (xs.map (b * ·)) = b * valL w xs
  | [] => rfl
  | x :: xs => by rw [List.map_cons, valL, valL, valL_map_mul w b xs]; ring

theorem eq_map_range {l : List Nat} {n : Nat} (h : l.length = n) : l = (List.range n).map (l.getD · 0) := by
  subst h
  apply List.ext_getElem
  · simp
  · intro i h1 h2
    simp [List.getD_eq_getElem?_getD, h1]

/-- `r->n[i] = (t_i >> 1) + ((t_{i+1} & 1) << k)` of `secp256k1_fe_impl_half`; `secp256k1_scalar_half` shifts the same way -/
def shr1L (k : Nat) : List Nat → List Nat
  | [] => []
  | [t] => [t / 2]
  | t :: u :: ts => (t / 2 + u % 2 * 2 ^ k) :: shr1L k (u :: ts)

theorem valL_shr1L (k : Nat) : ∀ ts : List Nat, 2 * valL (k + 1) (shr1L k ts) + ts.headD 0 % 2 = valL (k + 1) ts
  | [] => rfl
  | [t] => by simp only [shr1L, valL, List.headD]; omega
  | t :: u :: ts => by
    have ih := valL_shr1L k (u :: ts)
    rw [List.headD] at ih
    rw [shr1L, List.headD, valL, valL, ← ih, Nat.pow_succ]
    generalize valL (k + 1) (shr1L k (u :: ts)) = A
    generalize 2 ^ k = K
    have ht := Nat.div_add_mod t 2
    generalize t / 2 = q at *
    generalize t % 2 = r at *
    subst ht
    ring

theorem shr1L_length (k : Nat) : ∀ (ts : List Nat), (shr1L k ts).length = ts.length
  | [] => rfl
  | [_] => rfl
  | _ :: u :: ts => by simp only [shr1L, List.length_cons, shr1L_length k (u :: ts)]

theorem shr1L_lt {k : Nat} : ∀ {ts : List Nat}, (∀ x ∈ ts, x < 2 ^ (k + 1)) → ∀ y ∈ shr1L k ts, y < 2 ^ (k + 1)
  | [], _, _, hy => by simp [shr1L] at hy
  | [t], h, y, hy => by
    have := h t List.mem_cons_self
    simp only [shr1L, List.mem_singleton] at hy
    rw [Nat.pow_succ] at *; omega
  | t :: u :: ts, h, y, hy => by
    rw [shr1L, List.mem_cons] at hy
    rcases hy with rfl | hy
    · have := h t List.mem_cons_self
      have : u % 2 * 2 ^ k ≤ 1 * 2 ^ k := Nat.mul_le_mul_right _ (by omega)
      rw [Nat.pow_succ] at *; omega
    · exact shr1L_lt (fun x hx => h x (List.mem_cons_of_mem _ hx)) y hy

def readL (env : Env) (a : String) : Nat → Nat → List Nat
  | _, 0 => []
  | i, n + 1 => env.get a i :: readL env a (i + 1) n

theorem readL_length (env : Env) (a : String) : ∀ (n i : Nat), (readL env a i n).length = n
  | 0, _ => rfl
  | n + 1, i => congrArg Nat.succ (readL_length env a n (i + 1))

theorem readL_forall {env : Env} {a : String} {p : Nat → Prop} : ∀ {n i : Nat},
    (∀ s ∈ readL env a i n, p s) ↔ ∀ j, i ≤ j → j < i + n → p (env.get a j)
  | 0, i => by simp [readL]; omega
  | n + 1, i => by
    rw [readL, List.forall_mem_cons, readL_forall]
    constructor
    · rintro ⟨h0, h⟩ j h1 h2
      rcases Nat.eq_or_lt_of_le h1 with rfl | h1
      · exact h0
      · exact h j h1 (by omega)
    · exact fun h => ⟨h i (Nat.le_refl i) (by omega), fun j h1 h2 => h j (by omega) (by omega)⟩

theorem readL_congr {e1 e2 : Env} {a : String} : ∀ (n i : Nat), (∀ j, i ≤ j → j < i + n → e2.get a j = e1.get a j) →
    readL e2 a i n = readL e1 a i n
  | 0, _, _ => rfl
  | n + 1, i, h => by
    rw [readL, readL, h i (Nat.le_refl _) (by omega), readL_congr n (i + 1) fun j h1 h2 => h j (by omega) (by omega)]

theorem readL_zipWith_get {f : Nat → Nat → Nat} {e0 e1 e2 : Env} {r a b : String} : ∀ {n i : Nat},
    readL e0 r i n = List.zipWith f (readL e1 a i n) (readL e2 b i n) →
    ∀ k, k < n → e0.get r (i + k) = f (e1.get a (i + k)) (e2.get b (i + k))
  | _ + 1, _, h, 0, _ => (List.cons.inj h).1
  | n + 1, i, h, k + 1, hk => by
    have := readL_zipWith_get (List.cons.inj h).2 k (Nat.lt_of_succ_lt_succ hk)
    rwa [Nat.add_right_comm i] at this

theorem readL_map_get {f : Nat → Nat} {e0 e1 : Env} {r a : String} : ∀ {n i j : Nat},
    readL e0 r i n = (readL e1 a j n).map f → ∀ k, k < n → e0.get r (i + k) = f (e1.get a (j + k))
  | _ + 1, _, _, h, 0, _ => (List.cons.inj h).1
  | n + 1, i, j, h, k + 1, hk => by
    have := readL_map_get (List.cons.inj h).2 k (Nat.lt_of_succ_lt_succ hk)
    rwa [Nat.add_right_comm i, Nat.add_right_comm j] at this

theorem readL_get {e1 e2 : Env} {a b : String} {n i j : Nat} (h : readL e1 a i n = readL e2 b j n) :
    ∀ k, k < n → e1.get a (i + k) = e2.get b (j + k) :=
  readL_map_get (f := id) (by rwa [List.map_id])

theorem readL_add (env : Env) (a : String) : ∀ (m n i : Nat), readL env a i (m + n) = readL env a i m ++ readL env a (i + m) n
  | 0, n, i => by rw [Nat.zero_add]; rfl
  | m + 1, n, i => by
    rw [Nat.add_right_comm, readL, readL_add env a m n (i + 1), readL, List.cons_append, Nat.add_assoc, Nat.add_comm 1]

theorem readL_succ (env : Env) (a : String) (n i : Nat) : readL env a i (n + 1) = readL env a i n ++ [env.get a (i + n)] :=
  readL_add env a n 1 i

end LimbList
end SecpZkp
