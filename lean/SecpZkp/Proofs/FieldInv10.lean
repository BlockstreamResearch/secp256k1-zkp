/-
  Representation invariants of the 10×26 field stronger than what `secp256k1_fe_impl_verify` checks, each implying the
  condition `NoOvf10` (`Proofs/FieldLinear.lean`) under which the 10×26 `normalize` / `normalize_weak` are exact: the
  interval invariant `Tight10`, which `half` breaks, and the joint invariant `Inv10`, which every translated producer keeps
  (`Tight10 → Inv10`, `Inv10 · 32 → NoOvf10`).  The closure theorems are in `Props/C05_fieldinv.lean`.  The namespace is
  `FieldLinear`.
-/
import SecpZkp.Proofs.FieldLinear

namespace SecpZkp
namespace FieldLinear
open MiniC MiniC.Bounds FieldKernel

/-- limb `i` is at most `2 m p_i`, `p_i` the 10×26 limbs of `p` (`secp256k1_fe_impl_verify` has `2^26-1` for limbs 0 and 1) -/
def Tight10 (env : Env) (a : String) (m : Nat) : Prop :=
  env.get a 0 ≤ 2 * m * (2 ^ 26 - 977) ∧ env.get a 1 ≤ 2 * m * (2 ^ 26 - 65) ∧ env.get a 2 ≤ 2 * m * (2 ^ 26 - 1) ∧
  env.get a 3 ≤ 2 * m * (2 ^ 26 - 1) ∧ env.get a 4 ≤ 2 * m * (2 ^ 26 - 1) ∧ env.get a 5 ≤ 2 * m * (2 ^ 26 - 1) ∧
  env.get a 6 ≤ 2 * m * (2 ^ 26 - 1) ∧ env.get a 7 ≤ 2 * m * (2 ^ 26 - 1) ∧ env.get a 8 ≤ 2 * m * (2 ^ 26 - 1) ∧
  env.get a 9 ≤ 2 * m * (2 ^ 22 - 1)

instance (env : Env) (a : String) (m : Nat) : Decidable (Tight10 env a m) := inferInstanceAs (Decidable (_ ∧ _))

/-- magnitude `m` and two joint bounds on limbs 0, 1, 9 (scaled by `p_9 = 2^22-1` to stay in the integers):
    `n0 + 977 n9 / p_9 ≤ m 2^27` and `n0 + 2^26 n1 + (2^32+977) n9 / p_9 ≤ m 2^53`.  They are the two no-wrap conditions of
    `NoOvf10` with `x = n9 >> 22` bounded by `n9 / p_9` (at `m = 32`: `m 2^27 = 2^32`, `m 2^53 = 2^32·2^26`); linear in the
    limbs and proportional to `m`, so `add` and `mul_int` keep them -/
def Inv10 (env : Env) (a : String) (m : Nat) : Prop :=
  Mag10 env a m ∧
  (2 ^ 22 - 1) * env.get a 0 + 977 * env.get a 9 ≤ m * (2 ^ 27 * (2 ^ 22 - 1)) ∧
  (2 ^ 22 - 1) * (env.get a 0 + 2 ^ 26 * env.get a 1) + (2 ^ 32 + 977) * env.get a 9 ≤ m * (2 ^ 53 * (2 ^ 22 - 1))

instance (env : Env) (a : String) (m : Nat) : Decidable (Inv10 env a m) := inferInstanceAs (Decidable (_ ∧ _))

theorem mag10_of_tight10 {env : Env} {a : String} {m : Nat} (h : Tight10 env a m) : Mag10 env a m := by
  simp only [Tight10, Mag10, Nat.reducePow, Nat.reduceSub] at h ⊢
  obtain ⟨h0, h1, h2, h3, h4, h5, h6, h7, h8, h9⟩ := h
  exact ⟨Nat.le_trans h0 (Nat.mul_le_mul_left _ (by decide)), Nat.le_trans h1 (Nat.mul_le_mul_left _ (by decide)),
    h2, h3, h4, h5, h6, h7, h8, h9⟩

theorem inv10_of_tight10 {env : Env} {a : String} {m : Nat} (h : Tight10 env a m) : Inv10 env a m := by
  refine ⟨mag10_of_tight10 h, ?_⟩
  simp only [Tight10, Nat.reducePow, Nat.reduceSub, Nat.reduceMul] at h ⊢
  omega

theorem normPre10_of_tight10 {env : Env} {a : String} (h : Tight10 env a 32) : NormPre10 env a := by
  refine ⟨mag10_of_tight10 h, ?_⟩
  simp only [Tight10, Nat.reducePow, Nat.reduceSub, Nat.reduceMul] at h ⊢
  omega

theorem noOvf10_of_inv10 {env : Env} {a : String} (h : Inv10 env a 32) : NoOvf10 env a := by
  simp only [Inv10, NoOvf10, Mag10, Nat.reducePow, Nat.reduceSub, Nat.reduceMul] at h ⊢
  omega

theorem tight10_of_red10 {env : Env} {a : String} (h : Red10 env a) : Tight10 env a 1 := by
  simp only [Tight10, Red10, Nat.reducePow, Nat.reduceSub, Nat.reduceMul] at h ⊢
  omega

theorem tight10_leL {env : Env} {a : String} {m : Nat} :
    Tight10 env a m ↔ LeL (LimbList.readL env a 0 10) (pL10.map (· * (2 * m))) := by
  simp only [Tight10, LeL, LimbList.readL, pL10, List.map, Nat.reduceAdd, Nat.reducePow, Nat.reduceSub, and_true]
  constructor <;> intro h <;> omega

/-- the joint bounds of `Inv10` on limbs 0, 1, 9 survive the addition of `p` or `0` and the shift: the bit that limb 0
    receives is the one limb 1 loses (67107887, 67108799, 4194303 are `p_0`, `p_1`, `p_9`, written out for `omega`) -/
theorem half_inv_le {r0 r1 r9 u m : Nat} (j1 : (2 ^ 22 - 1) * r0 + 977 * r9 ≤ m * (2 ^ 27 * (2 ^ 22 - 1)))
    (j2 : (2 ^ 22 - 1) * (r0 + 2 ^ 26 * r1) + (2 ^ 32 + 977) * r9 ≤ m * (2 ^ 53 * (2 ^ 22 - 1))) :
    (2 ^ 22 - 1) * ((r0 + r0 % 2 * 67107887) / 2 + (r1 + r0 % 2 * 67108799) % 2 * 2 ^ 25) +
        977 * ((r9 + r0 % 2 * 4194303) / 2) ≤ (m / 2 + 1) * (2 ^ 27 * (2 ^ 22 - 1)) ∧
    (2 ^ 22 - 1) * ((r0 + r0 % 2 * 67107887) / 2 + (r1 + r0 % 2 * 67108799) % 2 * 2 ^ 25 +
        2 ^ 26 * ((r1 + r0 % 2 * 67108799) / 2 + u % 2 * 2 ^ 25)) +
        (2 ^ 32 + 977) * ((r9 + r0 % 2 * 4194303) / 2) ≤ (m / 2 + 1) * (2 ^ 53 * (2 ^ 22 - 1)) := by
  simp only [Nat.reducePow, Nat.reduceSub, Nat.reduceMul, Nat.reduceAdd] at j1 j2 ⊢
  omega

theorem fe_half_10x26_inv_key (env : Env) (m : Nat) (hm : m ≤ 31) (h : Inv10 env "r.n" m) :
    Inv10 (runW env Gen.field10x26.fe_half.body) "r.n" (m / 2 + 1) := by
  refine ⟨(fe_half_10x26_key env m hm h.1).2, ?_⟩
  have E := fe_half_10x26_ideal env hm h.1
  generalize runW env Gen.field10x26.fe_half.body = out at *
  simp only [halfI, pL10, LimbList.shr1L, List.zipWith, List.headD, LimbList.readL, Nat.reduceAdd, List.cons.injEq, and_true] at E
  obtain ⟨e0, e1, -, -, -, -, -, -, -, e9⟩ := E
  rw [e0, e1, e9]
  exact half_inv_le h.2.1 h.2.2

/-- 488 and 32: `p_0/2 + 2^25 = p_0 + 488`, `p_1/2 + 2^25 = p_1 + 32`; attained for odd `m` (`fe_half_10x26_not_tight` in
    `Props/C05_fieldinv.lean`) -/
theorem fe_half_10x26_tight_slack_key (env : Env) (m : Nat) (hm : m ≤ 31) (h : Tight10 env "r.n" m) :
    (runW env Gen.field10x26.fe_half.body).get "r.n" 0 ≤ 2 * (m / 2 + 1) * (2 ^ 26 - 977) + 488 ∧
    (runW env Gen.field10x26.fe_half.body).get "r.n" 1 ≤ 2 * (m / 2 + 1) * (2 ^ 26 - 65) + 32 ∧
    (runW env Gen.field10x26.fe_half.body).get "r.n" 2 ≤ 2 * (m / 2 + 1) * (2 ^ 26 - 1) ∧
    (runW env Gen.field10x26.fe_half.body).get "r.n" 3 ≤ 2 * (m / 2 + 1) * (2 ^ 26 - 1) ∧
    (runW env Gen.field10x26.fe_half.body).get "r.n" 4 ≤ 2 * (m / 2 + 1) * (2 ^ 26 - 1) ∧
    (runW env Gen.field10x26.fe_half.body).get "r.n" 5 ≤ 2 * (m / 2 + 1) * (2 ^ 26 - 1) ∧
    (runW env Gen.field10x26.fe_half.body).get "r.n" 6 ≤ 2 * (m / 2 + 1) * (2 ^ 26 - 1) ∧
    (runW env Gen.field10x26.fe_half.body).get "r.n" 7 ≤ 2 * (m / 2 + 1) * (2 ^ 26 - 1) ∧
    (runW env Gen.field10x26.fe_half.body).get "r.n" 8 ≤ 2 * (m / 2 + 1) * (2 ^ 26 - 1) ∧
    (runW env Gen.field10x26.fe_half.body).get "r.n" 9 ≤ 2 * (m / 2 + 1) * (2 ^ 22 - 1) := by
  have E := fe_half_10x26_ideal env hm (mag10_of_tight10 h)
  generalize runW env Gen.field10x26.fe_half.body = out at *
  obtain ⟨h0, h1, h2, h3, h4, h5, h6, h7, h8, h9⟩ := mag10_of_tight10 h
  obtain ⟨g0, g1, -⟩ := h
  simp only [halfI, pL10, LimbList.shr1L, List.zipWith, List.headD, LimbList.readL, Nat.reduceAdd, List.cons.injEq, and_true] at E
  obtain ⟨e0, e1, e2, e3, e4, e5, e6, e7, e8, e9⟩ := E
  rw [e0, e1, e2, e3, e4, e5, e6, e7, e8, e9]
  exact ⟨half_limb_le g0 (by simp), half_limb_le g1 (by simp), half_limb_le' h2 (by simp), half_limb_le' h3 (by simp),
    half_limb_le' h4 (by simp), half_limb_le' h5 (by simp), half_limb_le' h6 (by simp), half_limb_le' h7 (by simp),
    half_limb_le' h8 (by simp), half_top_le h9 (by simp)⟩

end FieldLinear
end SecpZkp
