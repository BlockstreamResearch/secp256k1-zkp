/-
  The emulated 128-bit integer of `src/int128_struct_impl.h` (`secp256k1_umul128`, `secp256k1_u128_*`).  These functions
  wrap around on purpose (`r->lo += lo; r->hi += hi + (r->lo < lo)`), contain a `return`, and `secp256k1_u128_rshift`
  branches, so neither the interval analysis nor `FieldLinear.runW` applies.  Instead: a leak-free, structurally
  recursive copy `runL` of `execL` for LOOP-FREE programs, executed symbolically by `minic_evalR`, and the arithmetic
  of two-word values.  This file speaks of runs through `FieldLinear.evalV` and `outC` / `retC`;
  `Proofs/Int128Blocks.lean` through `ScalarKernel.ev` and `runR`: `ev env e = evalV env e` (`FieldLinear.evalE_fst`),
  and `runR env f.body = (outC f env, retC f env)` by definition.
-/
import SecpZkp.Proofs.FieldLinear

namespace SecpZkp
namespace Int128
open MiniC FieldLinear

mutual
/-- a `loop` is a no-op here; `loopFree` excludes it -/
def runS (env : Env) : Stmt → Env × Option Nat
  | .assign x e => (env.set x 0 (evalV env e), none)
  | .store a i e => (env.set a (evalV env i) (evalV env e), none)
  | .ite c t e => if evalV env c ≠ 0 then runL env t else runL env e
  | .loop _ _ _ => (env, none)
  | .declassify _ => (env, none)
  | .ret e => (env, some (evalV env e))

def runL (env : Env) : List Stmt → Env × Option Nat
  | [] => (env, none)
  | s :: rest =>
    match runS env s with
    | (env', some v) => (env', some v)
    | (env', none) => runL env' rest
end

mutual
def loopFreeS : Stmt → Bool
  | .ite _ t e => loopFree t && loopFree e
  | .loop _ _ _ => false
  | _ => true

def loopFree : List Stmt → Bool
  | [] => true
  | s :: rest => loopFreeS s && loopFree rest
end

mutual
theorem execS_eq_runS : ∀ (s : Stmt) (env : Env), loopFreeS s = true →
    (execS env s).env = (runS env s).1 ∧ (execS env s).ret = (runS env s).2
  | .assign x e, env, _ => by simp only [execS, runS, evalE_fst, and_self]
  | .store a i e, env, _ => by simp only [execS, runS, evalE_fst, and_self]
  | .ite c t e, env, h => by
    simp only [loopFreeS, Bool.and_eq_true] at h
    simp only [execS, runS, evalE_fst]
    by_cases hc : evalV env c = 0
    · simp only [hc, ne_eq, not_true_eq_false, ↓reduceIte]; exact execL_eq_runL e env h.2
    · simp only [hc, ne_eq, not_false_eq_true, ↓reduceIte]; exact execL_eq_runL t env h.1
  | .loop x n body, env, h => by simp [loopFreeS] at h
  | .declassify x, env, _ => by simp only [execS, runS, and_self]
  | .ret e, env, _ => by simp only [execS, runS, evalE_fst, and_self]

theorem execL_eq_runL : ∀ (p : List Stmt) (env : Env), loopFree p = true →
    (execL env p).env = (runL env p).1 ∧ (execL env p).ret = (runL env p).2
  | [], env, _ => by simp only [execL, runL, and_self]
  | s :: rest, env, h => by
    simp only [loopFree, Bool.and_eq_true] at h
    obtain ⟨h1, h2⟩ := execS_eq_runS s env h.1
    rw [execL_cons, seq, runL]
    cases hr : (runS env s) with
    | mk env' r =>
      rw [hr] at h1 h2
      cases r with
      | some v => simp only [h2, h1, and_self]
      | none =>
        simp only [h2, h1]
        exact execL_eq_runL rest env' h.2
end

def outC (f : Fn) (env : Env) : Env := (execL env f.body).env

def retC (f : Fn) (env : Env) : Option Nat := (execL env f.body).ret

theorem outC_eq (f : Fn) (env : Env) (h : loopFree f.body = true) : outC f env = (runL env f.body).1 :=
  (execL_eq_runL _ _ h).1

theorem retC_eq (f : Fn) (env : Env) (h : loopFree f.body = true) : retC f env = (runL env f.body).2 :=
  (execL_eq_runL _ _ h).2

macro "minic_evalR" : tactic => `(tactic|
  simp only [runL, runS, evalV, binWrap, Env.get_set_same, Env.get_set_other, ne_eq, Prod.mk.injEq, String.reduceEq,
    false_and, and_false, and_true, true_and, not_false_eq_true, not_true_eq_false, Nat.reduceEqDiff])

theorem mul_split (a b : Nat) :
    a * b = (a % 4294967296) * (b % 4294967296) +
      4294967296 * ((a % 4294967296) * (b / 4294967296) + (a / 4294967296) * (b % 4294967296)) +
      18446744073709551616 * ((a / 4294967296) * (b / 4294967296)) := by
  conv_lhs => rw [← Nat.mod_add_div a 4294967296, ← Nat.mod_add_div b 4294967296]
  ring

theorem mul_lt32 {x y : Nat} (hx : x < 4294967296) (hy : y < 4294967296) : x * y ≤ 4294967295 * 4294967295 :=
  Nat.mul_le_mul (by omega) (by omega)

/-- `mid34`, `hi`, `lo` are the C expressions of `secp256k1_umul128` on the four partial products, every `+` and `<<`
    truncated to 64 bits.  The middle word `mid34 < 3·2^32` does not wrap; `mid34 << 32` drops its top two bits on
    purpose, and they reach `hi` as `mid34 >> 32`. -/
theorem umul_words (ll lh hl hh : Nat) (h1 : ll ≤ 4294967295 * 4294967295) (h2 : lh ≤ 4294967295 * 4294967295)
    (h3 : hl ≤ 4294967295 * 4294967295) (h4 : hh ≤ 4294967295 * 4294967295) :
    let mid34 := ((ll / 4294967296 + lh % 4294967296) % 18446744073709551616 + hl % 4294967296) % 18446744073709551616
    let hi := (((hh + lh / 4294967296) % 18446744073709551616 + hl / 4294967296) % 18446744073709551616 +
      mid34 / 4294967296) % 18446744073709551616
    let lo := (mid34 * 4294967296 % 18446744073709551616 + ll % 4294967296) % 18446744073709551616
    lo + 18446744073709551616 * hi = ll + 4294967296 * (lh + hl) + 18446744073709551616 * hh ∧
      lo < 18446744073709551616 ∧ hi < 18446744073709551616 := by
  intro mid34 hi lo
  omega

theorem pow_split_hi {n : Nat} (h : 64 ≤ n) : 2 ^ n = 2 ^ 64 * 2 ^ (n - 64) := by
  have : n = 64 + (n - 64) := by omega
  conv_lhs => rw [this, Nat.pow_add]

theorem pow_split_lo {n : Nat} (h : n ≤ 64) : 2 ^ 64 = 2 ^ (64 - n) * 2 ^ n := by
  rw [← Nat.pow_add]
  have : 64 - n + n = 64 := by omega
  rw [this]

theorem shr_hi (lo hi n : Nat) (hlo : lo < 2 ^ 64) (hn : 64 ≤ n) :
    (lo + 2 ^ 64 * hi) / 2 ^ n = hi / 2 ^ (n - 64) := by
  rw [pow_split_hi hn, ← Nat.div_div_eq_div_mul]
  congr 1
  omega

/-- the low word as `secp256k1_u128_rshift` computes it for `0 < n < 64`: `((hi << (64-n)) mod 2^64) | (lo >> n)` -/
theorem shr_lo (lo hi n : Nat) (hlo : lo < 2 ^ 64) (hn : n < 64) :
    (hi * 2 ^ (64 - n) % 2 ^ 64 ||| lo / 2 ^ n) + 2 ^ 64 * (hi / 2 ^ n) = (lo + 2 ^ 64 * hi) / 2 ^ n := by
  have hs := pow_split_lo (n := n) (by omega)
  have hpos : 0 < 2 ^ n := Nat.two_pow_pos n
  -- the shifted-out high word keeps only `hi mod 2^n`
  have e1 : hi * 2 ^ (64 - n) % 2 ^ 64 = 2 ^ (64 - n) * (hi % 2 ^ n) := by
    rw [Nat.mul_comm hi]
    conv_lhs => rw [hs]
    exact Nat.mul_mod_mul_left _ _ _
  -- `lo >> n` fits below it
  have e2 : lo / 2 ^ n < 2 ^ (64 - n) := by
    rw [Nat.div_lt_iff_lt_mul hpos, ← hs]; exact hlo
  rw [e1, ← Nat.two_pow_add_eq_or_of_lt e2]
  -- `2^64·hi` is a multiple of `2^n`, so the quotient splits
  have e3 : (lo + 2 ^ 64 * hi) / 2 ^ n = lo / 2 ^ n + 2 ^ (64 - n) * hi := by
    have : 2 ^ 64 * hi = 2 ^ n * (2 ^ (64 - n) * hi) := by
      conv_lhs => rw [hs]
      ring
    rw [this, Nat.add_mul_div_left _ _ hpos]
  rw [e3]
  have e4 : 2 ^ 64 * (hi / 2 ^ n) = 2 ^ (64 - n) * (2 ^ n * (hi / 2 ^ n)) := by
    conv_lhs => rw [hs]
    ring
  have e5 : hi % 2 ^ n + 2 ^ n * (hi / 2 ^ n) = hi := Nat.mod_add_div hi (2 ^ n)
  calc 2 ^ (64 - n) * (hi % 2 ^ n) + lo / 2 ^ n + 2 ^ 64 * (hi / 2 ^ n)
      = lo / 2 ^ n + 2 ^ (64 - n) * (hi % 2 ^ n + 2 ^ n * (hi / 2 ^ n)) := by rw [e4]; ring
    _ = lo / 2 ^ n + 2 ^ (64 - n) * hi := by rw [e5]

theorem lt_pow_hi (lo hi n : Nat) (hlo : lo < 2 ^ 64) (hn : 64 ≤ n) :
    lo + 2 ^ 64 * hi < 2 ^ n ↔ hi / 2 ^ (n - 64) = 0 := by
  rw [pow_split_hi hn, Nat.div_eq_zero_iff_lt (Nat.two_pow_pos _)]
  generalize 2 ^ (n - 64) = m
  omega

theorem lt_pow_lo (lo hi n : Nat) (hn : n < 64) :
    lo + 2 ^ 64 * hi < 2 ^ n ↔ hi = 0 ∧ lo / 2 ^ n = 0 := by
  have hs := pow_split_lo (n := n) (by omega)
  have hk : 0 < 2 ^ (64 - n) := Nat.two_pow_pos _
  rw [Nat.div_eq_zero_iff_lt (Nat.two_pow_pos _)]
  have hle : 2 ^ n ≤ 2 ^ 64 := by
    rw [hs]; exact Nat.le_mul_of_pos_left _ hk
  generalize 2 ^ n = m at *
  omega

/-- the C expression `n - 64` at `unsigned int` for `64 ≤ n < 2^32` -/
theorem sub64_u32 (n : Nat) (h : 64 ≤ n) (hn : n < 2 ^ 32) : (n + (2 ^ 32 - 64 % 2 ^ 32)) % 2 ^ 32 = n - 64 := by
  omega

/-- the C expression `64 - n` at `unsigned int` for `n ≤ 64` -/
theorem sub_from64_u32 (n : Nat) (h : n ≤ 64) : (64 + (2 ^ 32 - n % 2 ^ 32)) % 2 ^ 32 = 64 - n := by
  omega

end Int128
end SecpZkp
