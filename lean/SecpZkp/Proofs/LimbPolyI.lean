/-
  A checker for "the ideal run of a straight-line limb kernel computes the school-book product modulo p", proved sound
  once (`mulCheck_sound`, for any limb weight, limb count, modulus and naming) and run by the kernel on the interned copy
  of each field multiplication / squaring kernel.  After forward substitution (`symL`) every output limb is a closed
  expression over the input limbs; `norm` makes it an integer linear form over atoms: input limbs, products of two input
  limbs, and quotients `e / 2^k` of subexpressions.  `e % 2^k` is `e - 2^k * (e / 2^k)`, so a mask and the shift that
  belongs to it share one atom and the carry chain telescopes.  Conversions that the interval analysis (`iboundE`) shows
  to be void are dropped.  What `norm` does not analyse is an atom itself (`e / 2^0`), so `norm` is total and
  `norm_sound` an equation.
-/
import SecpZkp.Proofs.Rename
import SecpZkp.Proofs.Subst

namespace SecpZkp
namespace LimbPolyI
open MiniC MiniC.Bounds FieldKernelStruct Rename Subst

inductive Atom where
  | one
  | inp (c : Cell)
  | prod (c d : Cell)
  | quot (e : IExpr) (k : Nat)
deriving DecidableEq

def Atom.eval (ν : Nat → String) (env : Env) : Atom → Int
  | .one => 1
  | .inp c => cell ν env c
  | .prod c d => cell ν env c * cell ν env d
  | .quot e k => evalEI env (decodeE ν e) / 2 ^ k

abbrev Form := List (Atom × Int)

def Form.eval (ν : Nat → String) (env : Env) (f : Form) : Int := (f.map fun t => t.2 * t.1.eval ν env).sum

def addTerm (a : Atom) (k : Int) : Form → Form
  | [] => [(a, k)]
  | (b, m) :: f => if a = b then (b, m + k) :: f else (b, m) :: addTerm a k f

def Form.addScaled (f : Form) (s : Int) (g : Form) : Form := g.foldl (fun acc t => addTerm t.1 (s * t.2) acc) f

/-- ordered by limb index, so that `a[i]·a[j]` and `a[j]·a[i]` of a squaring are one atom.  At equal indices the argument
    order decides: a source that wrote `b[i] * a[i]` would not meet `subSchool`'s `mkProd (x, i) (y, i)`, and `mulCheck` would
    reject it (never accept wrongly). -/
def mkProd (c d : Cell) : Atom := if c.2 ≤ d.2 then .prod c d else .prod d c

def mulF : Form → Form → Option Form
  | [(.one, k)], g => some (Form.addScaled [] k g)
  | f, [(.one, k)] => some (Form.addScaled [] k f)
  | [(.inp c, k)], [(.inp d, m)] => some [(mkProd c d, k * m)]
  | _, _ => none

/-- the constants of the kernels once `R`, `M` are substituted: `R << 12`, `R >> 4`, `M >> 4` (5×52); `R1 << 4`, `R0 >> 4`,
    `R1 >> 4`, `M >> 4` (10×26) -/
def constE : IExpr → Option Nat
  | .lit n => some n
  | .bin .shl _ a b => match constE a, constE b with
    | some n, some k => some (n * 2 ^ k)
    | _, _ => none
  | .bin .shr _ a b => match constE a, constE b with
    | some n, some k => some (n / 2 ^ k)
    | _, _ => none
  | _ => none

def maskBits (m : Nat) : Option Nat := if Nat.beq (m + 1) (2 ^ Nat.log2 (m + 1)) then some (Nat.log2 (m + 1)) else none

def modForm (f : Form) (e : IExpr) (k : Nat) : Form := addTerm (.quot e k) (-(2 ^ k : Nat)) f

def below (b : IBEnv) (e : IExpr) (n : Nat) : Bool := (iboundE b e).any (· < n)

def asAtom (e : IExpr) : Form := [(.quot e 0, 1)]

def norm (b : IBEnv) : IExpr → Form
  | .lit n => [(.one, n)]
  | .idx a i => [(.inp (a, i), 1)]
  | .cast w e => if below b e (2 ^ w) then norm b e else modForm (norm b e) e w
  | .bin .add _ x y => (norm b x).addScaled 1 (norm b y)
  -- `(x << k) | y` with `y < 2^k`: `u0 = (u0 << 4) | tx` of the 5×52 kernels
  | e@(.bin .or _ (.bin .shl _ x (.lit k)) y) =>
    if below b y (2 ^ k) then (Form.addScaled [] (2 ^ k : Nat) (norm b x)).addScaled 1 (norm b y) else asAtom e
  | e@(.bin .mul _ x y) => match mulF (norm b x) (norm b y) with
    | some f => f
    | none => asAtom e
  | e@(.bin .shl _ x y) => match constE y with
    | some k => Form.addScaled [] (2 ^ k : Nat) (norm b x)
    | none => asAtom e
  | e@(.bin .shr _ x y) => match constE e, constE y with
    | some n, _ => [(.one, n)]
    | none, some k => [(.quot x k, 1)]
    | _, _ => asAtom e
  -- `(cast w x) % 2^k = x % 2^k` when `k ≤ w`: the atom is `x / 2^k`, that of the shift `x >> k`
  | e@(.bin .and _ (.cast w x) y) => match (constE y).bind maskBits with
    | some k => if k ≤ w then modForm (norm b x) x k else asAtom e
    | none => asAtom e
  | e@(.bin .and _ x y) => match (constE y).bind maskBits with
    | some k => modForm (norm b x) x k
    | none => asAtom e
  | e => asAtom e

def okMod (p : Nat) (f : Form) : Bool := f.all fun t => t.2 % (p : Int) == 0

def weighted (b : IBEnv) (σ : SEnv) (x : Nat) (W : Nat) : Nat → Form
  | 0 => []
  | n + 1 => (weighted b σ x W n).addScaled (W ^ n : Nat) (norm b (σ.get x n))

def subSchool (x y : Nat) (W : Nat) (n m : Nat) (f : Form) : Form :=
  (List.range n).foldl (fun acc i => (List.range m).foldl (fun acc j =>
    addTerm (mkProd (x, i) (y, j)) (-(W ^ (i + j) : Nat)) acc) acc) f

/-- accepts when all coefficients of `Σ W^i r[i] − Σ W^(i+j) x[i] y[j]` (`i, j < n`, `r[i]` as substituted and normalised)
    are multiples of `p` -/
def mulCheck (b : IBEnv) (prog : List IStmt) (r x y : Nat) (W n p : Nat) : Bool :=
  match symL [] prog with
  | some σ => okMod p (subSchool x y W n n (weighted b σ r W n))
  | none => false

variable {ν : Nat → String} {env : Env}

theorem eval_addTerm (a : Atom) (k : Int) (f : Form) :
    Form.eval ν env (addTerm a k f) = Form.eval ν env f + k * a.eval ν env := by
  induction f with
  | nil => simp [addTerm, Form.eval]
  | cons t f ih =>
    obtain ⟨b, m⟩ := t
    unfold addTerm
    split
    · rename_i h; rw [h]; simp only [Form.eval, List.map_cons, List.sum_cons]; ring
    · simp only [Form.eval, List.map_cons, List.sum_cons] at ih ⊢; rw [ih]; ring

theorem eval_addScaled (f : Form) (s : Int) (g : Form) :
    Form.eval ν env (f.addScaled s g) = Form.eval ν env f + s * Form.eval ν env g := by
  unfold Form.addScaled
  induction g generalizing f with
  | nil => simp [Form.eval]
  | cons t g ih =>
    rw [List.foldl_cons, ih, eval_addTerm]; simp only [Form.eval, List.map_cons, List.sum_cons]; ring

theorem okMod_sound {p : Nat} {f : Form} (h : okMod p f = true) : (p : Int) ∣ Form.eval ν env f := by
  induction f with
  | nil => simp [Form.eval]
  | cons t f ih =>
    simp only [okMod, List.all_cons, Bool.and_eq_true, beq_iff_eq] at h
    simp only [Form.eval, List.map_cons, List.sum_cons]
    exact Int.dvd_add (Dvd.dvd.mul_right (Int.dvd_of_emod_eq_zero h.1) _) (ih h.2)

theorem constE_sound : ∀ (e : IExpr) (n : Nat), constE e = some n → evalEI env (decodeE ν e) = n := by
  intro e
  induction e with
  | lit n => intro m h; cases h; rfl
  | var x => intro m h; cases h
  | idx a i => intro m h; cases h
  | cast w e ih => intro m h; cases h
  | bin op w x y ihx ihy =>
    intro m h
    cases op <;> simp only [constE, reduceCtorEq] at h <;>
      (cases hx : constE x <;> cases hy : constE y <;> simp only [hx, hy, reduceCtorEq, Option.some.injEq] at h
       subst h; simp only [decodeE, evalEI, binIdeal, ihx _ hx, ihy _ hy])

theorem maskBits_sound {m k : Nat} (h : maskBits m = some k) : m = 2 ^ k - 1 := by
  unfold maskBits at h
  split at h
  · rename_i hm; cases h; rw [← Nat.eq_of_beq_eq_true hm]; rfl
  · cases h

theorem eval_modForm {f : Form} {e : IExpr} (k : Nat) (h : Form.eval ν env f = evalEI env (decodeE ν e)) :
    Form.eval ν env (modForm f e k) = (evalEI env (decodeE ν e) % 2 ^ k : Nat) := by
  rw [modForm, eval_addTerm, h]; simp only [Atom.eval]; push_cast; rw [Int.emod_def]; ring

theorem eval_mkProd (c d : Cell) : (mkProd c d).eval ν env = cell ν env c * cell ν env d := by
  unfold mkProd; split <;> simp only [Atom.eval]; exact Int.mul_comm _ _

theorem eval_scale (s : Int) (g : Form) : Form.eval ν env (Form.addScaled [] s g) = s * Form.eval ν env g := by
  rw [eval_addScaled]; simp [Form.eval]

theorem mulF_sound {f g h : Form} (hm : mulF f g = some h) :
    Form.eval ν env h = Form.eval ν env f * Form.eval ν env g := by
  unfold mulF at hm
  split at hm <;> cases hm
  · rw [eval_scale]; simp [Form.eval, Atom.eval]
  · rw [eval_scale]; simp [Form.eval, Atom.eval]; ring
  · simp only [Form.eval, List.map_cons, List.map_nil, List.sum_cons, List.sum_nil, eval_mkProd]
    simp only [Atom.eval]; ring

theorem and_mask {y : IExpr} {k : Nat} (h : (constE y).bind maskBits = some k) (x : Nat) :
    x &&& evalEI env (decodeE ν y) = x % 2 ^ k := by
  obtain ⟨m, hm, hk⟩ := Option.bind_eq_some_iff.mp h
  rw [constE_sound _ _ hm, maskBits_sound hk, Nat.and_two_pow_sub_one_eq_mod]

theorem eval_const (n : Int) : Form.eval ν env [(Atom.one, n)] = n := by simp [Form.eval, Atom.eval]

theorem eval_asAtom (e : IExpr) : Form.eval ν env (asAtom e) = evalEI env (decodeE ν e) := by
  simp [asAtom, Form.eval, Atom.eval]

section
variable (hν : ν.Injective) {b : IBEnv} (hb : Respects env (decB ν b))
include hν hb

theorem below_sound {e : IExpr} {n : Nat} (h : below b e n = true) : evalEI env (decodeE ν e) < n := by
  obtain ⟨v, hv, hlt⟩ := (Option.any_eq_true _ _).mp h
  exact Nat.lt_of_le_of_lt (boundE_sound hb _ _ ((boundE_decode hν b e).trans hv)).1 (of_decide_eq_true hlt)

theorem norm_sound (e : IExpr) : Form.eval ν env (norm b e) = evalEI env (decodeE ν e) := by
  -- one case for each branch of `norm`, numbered in its order; in those left to the end `norm` returns `asAtom e`
  fun_induction norm b e with
  | case1 n => exact eval_const _
  | case2 a i => simp [Form.eval, Atom.eval, cell, decodeE, evalEI]
  | case3 w e hlt ih => rw [ih, decodeE, evalEI, Nat.mod_eq_of_lt (below_sound hν hb hlt)]
  | case4 w e _ ih => exact eval_modForm _ ih
  | case5 w x y ihx ihy => rw [eval_addScaled, ihx, ihy]; simp only [decodeE, evalEI, binIdeal]; push_cast; ring
  | case6 w v x k y hlt ihx ihy =>
    rw [eval_addScaled, eval_scale, ihx, ihy]
    simp only [decodeE, evalEI, binIdeal, FieldKernel.shl_or _ _ _ (below_sound hν hb hlt)]; push_cast; ring
  | case8 w x y f hm ihx ihy => rw [mulF_sound hm, ihx, ihy]; simp only [decodeE, evalEI, binIdeal]; push_cast; rfl
  | case10 w x y k hk ihx =>
    rw [eval_scale, ihx]; simp only [decodeE, evalEI, binIdeal, constE_sound _ _ hk]; push_cast; ring
  | case12 w x y n hc => rw [eval_const, ← constE_sound (ν := ν) (env := env) _ _ hc]
  | case13 w x y k hk _ => simp [Form.eval, Atom.eval, decodeE, evalEI, binIdeal, constE_sound _ _ hk]
  | case15 v w x y k hk hle ih =>
    rw [eval_modForm _ ih]; simp only [decodeE, evalEI, binIdeal]
    rw [and_mask hk, Nat.mod_mod_of_dvd _ (Nat.pow_dvd_pow 2 hle)]
  | case18 w x y _ k hk ih => rw [eval_modForm _ ih]; simp only [decodeE, evalEI, binIdeal, and_mask hk]
  | _ => exact eval_asAtom _

end

theorem symL_sound (hν : ν.Injective) {p : List IStmt} {σ : SEnv} (h : symL [] p = some σ) (c : Cell) :
    evalEI env (decodeE ν (σ.get c.1 c.2)) = cell ν (execLI env (decode ν p)).1 c :=
  ((Tracks.init Sem.ideal ν env).run hν p h).1 c

def valN (ν : Nat → String) (env : Env) (x W : Nat) : Nat → Nat
  | 0 => 0
  | n + 1 => valN ν env x W n + W ^ n * cell ν env (x, n)

theorem subRow_eval (x y W i m : Nat) (f : Form) :
    Form.eval ν env ((List.range m).foldl (fun acc j =>
      addTerm (mkProd (x, i) (y, j)) (-(W ^ (i + j) : Nat)) acc) f)
      = Form.eval ν env f - W ^ i * cell ν env (x, i) * valN ν env y W m := by
  induction m with
  | zero => simp [valN]
  | succ m ih =>
    rw [List.range_succ, List.foldl_append, List.foldl_cons, List.foldl_nil, eval_addTerm, ih, eval_mkProd]
    simp only [valN]; push_cast; ring

theorem subSchool_eval (x y W n m : Nat) (f : Form) :
    Form.eval ν env (subSchool x y W n m f) = Form.eval ν env f - valN ν env x W n * valN ν env y W m := by
  unfold subSchool
  induction n with
  | zero => simp [valN]
  | succ n ih =>
    rw [List.range_succ, List.foldl_append, List.foldl_cons, List.foldl_nil, subRow_eval, ih]
    simp only [valN]; push_cast; ring

theorem weighted_sound (hν : ν.Injective) {b : IBEnv} (hb : Respects env (decB ν b)) {prog : List IStmt}
    {σ : SEnv} (hσ : symL [] prog = some σ) (r W : Nat) : ∀ n : Nat,
    Form.eval ν env (weighted b σ r W n) = valN ν (execLI env (decode ν prog)).1 r W n
  | 0 => rfl
  | n + 1 => by
    rw [weighted, eval_addScaled, weighted_sound hν hb hσ r W n, norm_sound hν hb, symL_sound hν hσ (r, n)]
    simp only [valN]; push_cast; rfl

theorem mulCheck_sound (hν : ν.Injective) {b : IBEnv} (hb : Respects env (decB ν b))
    {prog : List IStmt} {r x y W n p : Nat} (h : mulCheck b prog r x y W n p = true) :
    valN ν (execLI env (decode ν prog)).1 r W n % p = (valN ν env x W n * valN ν env y W n) % p := by
  unfold mulCheck at h
  split at h
  · rename_i σ hσ
    have hd := okMod_sound (ν := ν) (env := env) h
    rw [subSchool_eval, weighted_sound hν hb hσ] at hd
    exact Int.ofNat_inj.mp (by push_cast; exact Int.emod_eq_emod_iff_emod_sub_eq_zero.mpr (Int.emod_eq_zero_of_dvd hd))
  · cases h

end LimbPolyI
end SecpZkp
