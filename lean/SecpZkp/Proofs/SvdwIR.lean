import SecpZkp.Gen.F_generator
import SecpZkp.Proofs.Generator
import SecpZkp.Proofs.SqrtIR
/-
  For `Props/C08_ir.lean` (`shallue_van_de_woestijne`, src/modules/generator/main_impl.h, as `Gen/F_generator.lean`).
  The values of the C variables `wd`, `x3d`, `jinv`, `x1`, `x2`, `x3` are written as functions of (the value of) `t` in
  the shape the C code computes them (`wdv`, …, `x3v`); the model `Generator.svdw (t % P)` is the selection `svSel` of
  these values for the UNREDUCED `t` (`svdw_model`).
-/
namespace SecpZkp
namespace FeIR
open MiniC

theorem sqrtFlag_eq (a : ℕ) : sqrtFlag a = if Fe.isSquare a = true then 1 else 0 := by
  unfold sqrtFlag Fe.isSquare
  by_cases h : Fe.sqr (Fe.sqrtCand a) = a % P <;> simp [h]

theorem binIdeal_and_flags (c d : Prop) [Decidable c] [Decidable d] :
    binIdeal .and (if c then 1 else 0) (if d then 1 else 0) = if c ∧ d then 1 else 0 := by
  rw [binIdeal_and, ite_and_ite]

theorem negc_lit : (111189151296659785738170805967605665488771904429376448443557023963485213164509 : ℕ) =
    Generator.negc := by decide
theorem dconst_lit : (60197513588986302554485582024885075108884032450952339817679072026166228089408 : ℕ) =
    Generator.dconst := by decide
theorem negc_lt_P : Generator.negc < P := by decide
theorem dconst_lt_P : Generator.dconst < P := by decide
theorem lit_negc : lit Generator.negc = Generator.negc := lit_eq _
theorem lit_dconst : lit Generator.dconst = Generator.dconst := lit_eq _

def wdv (T : ℕ) : ℕ := Fe.add (Fe.sqr T) 8
/-- `x3d = -(3 · t²)` (the C code computes `t² · 3`) -/
def x3dv (T : ℕ) : ℕ := Fe.neg (Fe.mul 3 (Fe.sqr T))
/-- `jinv = 1 / (wd · x3d)` (`secp256k1_fe_inv`: 0 on 0) -/
def jinvv (T : ℕ) : ℕ := Fe.inv (Fe.mul (wdv T) (x3dv T))
def x1v (T : ℕ) : ℕ := Fe.add (Fe.mul (Fe.mul (Fe.mul Generator.negc (Fe.sqr T)) (x3dv T)) (jinvv T)) Generator.dconst
def x2v (T : ℕ) : ℕ := Fe.neg (Fe.add (x1v T) 1)
def x3v (T : ℕ) : ℕ := Fe.add (Fe.mul (Fe.mul (Fe.sqr (wdv T)) (wdv T)) (jinvv T)) 1

theorem x1v_lt (T : ℕ) : x1v T < P := Fe.add_lt_P _ _
theorem x2v_lt (T : ℕ) : x2v T < P := Fe.neg_lt_P _
theorem x3v_lt (T : ℕ) : x3v T < P := Fe.add_lt_P _ _

/-- The constant-time selection of the C code (`cmov` by `(!alphaquad) & betaquad`, then by `(!alphaquad) & !betaquad`)
    and its final sign choice, on the candidates `X1 X2 X3` with right-hand sides `A B C`. -/
def svSel0 (X1 X2 X3 A B C : ℕ) (odd : Bool) : Pt :=
  let xy : ℕ × ℕ := if Fe.isSquare A then (X1, Fe.sqrtCand A) else if Fe.isSquare B then (X2, Fe.sqrtCand B)
    else (X3, Fe.sqrtCand C)
  .aff xy.1 (if odd then Fe.neg xy.2 else xy.2)

def svSel (X1 X2 X3 A B C T : ℕ) : Pt := svSel0 X1 X2 X3 A B C (Fe.isOdd (T % P))

section model
-- `whnf` / failed unifications must never unfold the field operations (see `Props/C18_ir.lean`, `Proofs/Generator.lean`)
attribute [local irreducible] Fe.add Fe.mul Fe.sqr Fe.neg Fe.inv Fe.isSquare Fe.half Fe.sqrtCand FeIR.canon powMod

/-- by unfolding: no arithmetic is involved -/
theorem svdw_model0 (t : ℕ) : Generator.svdw t =
    svSel0 (x1v t) (x2v t) (x3v t) (rhsv (x1v t)) (rhsv (x2v t)) (rhsv (x3v t)) (Fe.isOdd t) := by
  have h : Generator.svdw t = (defValue% Generator.svdw) t := congrFun GeneratorLemmas.svdw_def t
  beta_reduce at h
  extract_lets t2 wd x3d jinv x1 x2 x3 f a b c aq bq at h
  rw [h]
  unfold svSel0
  by_cases haq : aq = true
  · have haq' : Fe.isSquare (rhsv (x1v t)) = true := haq
    rw [if_pos haq, if_pos haq']
    rfl
  · have haq' : ¬ Fe.isSquare (rhsv (x1v t)) = true := haq
    by_cases hbq : bq = true
    · have hbq' : Fe.isSquare (rhsv (x2v t)) = true := hbq
      rw [if_neg haq, if_neg haq', if_pos hbq, if_pos hbq']
      rfl
    · have hbq' : ¬ Fe.isSquare (rhsv (x2v t)) = true := hbq
      rw [if_neg haq, if_neg haq', if_neg hbq, if_neg hbq']
      rfl

theorem wdv_mod (T : ℕ) : wdv (T % P) = wdv T := by unfold wdv; rw [Fe.sqr_mod]
theorem x3dv_mod (T : ℕ) : x3dv (T % P) = x3dv T := by unfold x3dv; rw [Fe.sqr_mod]
theorem jinvv_mod (T : ℕ) : jinvv (T % P) = jinvv T := by unfold jinvv; rw [wdv_mod, x3dv_mod]
theorem x1v_mod (T : ℕ) : x1v (T % P) = x1v T := by unfold x1v; rw [Fe.sqr_mod, x3dv_mod, jinvv_mod]
theorem x2v_mod (T : ℕ) : x2v (T % P) = x2v T := by unfold x2v; rw [x1v_mod]
theorem x3v_mod (T : ℕ) : x3v (T % P) = x3v T := by unfold x3v; rw [wdv_mod, jinvv_mod]

theorem svdw_model (T : ℕ) : Generator.svdw (T % P) =
    svSel (x1v T) (x2v T) (x3v T) (rhsv (x1v T)) (rhsv (x2v T)) (rhsv (x3v T)) T := by
  rw [svdw_model0, x1v_mod, x2v_mod, x3v_mod]
  rfl

end model

macro "sv_run" "[" ts:Lean.Parser.Tactic.simpLemma,* "]" : tactic =>
  `(tactic| fe_paths [lit_negc, lit_dconst, negc_lit, dconst_lit, negc_lt_P, dconst_lt_P, binIdeal_and_flags, sqrtFlag_eq,
      $ts,*])

end FeIR
end SecpZkp
