import SecpZkp.Proofs.Field
import SecpZkp.Proofs.Prime
import SecpZkp.Proofs.GroupExtra
import SecpZkp.Model.Ellswift
/-
  Field algebra behind ElligatorSwift (`doc/ellswift.md`), over `ZMod P`.  The Skałba / SwiftEC identity in `(v, w)`
  coordinates: if `W (u² + u v + v²) = -(u³ + 7)` then `g(v) · g(-u-v) · W = g(u + W) · (u² + u v + v²)²` with
  `g(x) = x³ + 7`; hence, for `W` a non-zero square, `u + W` is on the curve iff `v` and `-u - v` are both on it or both
  off it.  The three candidates `X3, X2, X1` of the decoding function are rational functions of `(u, s)` (`s = t²`); one of
  them is always on the curve, and on a parametrised point of the conic (the output of the inverse map) they are `u + W`,
  `-u - v`, `v`.  From this the round trip at field level (`roundtrip`); `InvSpec` is what the two halves of the inverse map
  establish.  `ω = c1` is a cube root of unity, `ρ = 2ω + 1 = √-3`.
-/
namespace SecpZkp
namespace Ellswift

abbrev F := ZMod P

def gx (x : F) : F := x * x * x + 7

theorem gx_ne_zero (x : F) : gx x ≠ 0 := neg_seven_not_cube x

/-- `ω = c1 = (√-3 - 1)/2`. -/
def ω : F := (c1 : ℕ)

theorem ω_rel : ω * ω + ω + 1 = 0 := by
  have h : ((c1 * c1 + c1 + 1 : ℕ) : F) = 0 := (Fe.cast_eq_zero_iff _).2 (by decide +kernel)
  push_cast at h
  exact h

theorem cast_c1 : ((c1 : ℕ) : F) = ω := rfl
theorem cast_c2 : ((c2 : ℕ) : F) = -1 - ω := by
  have h : ((c1 + c2 + 1 : ℕ) : F) = 0 := (Fe.cast_eq_zero_iff _).2 (by decide +kernel)
  push_cast at h
  rw [cast_c1] at h
  linear_combination h
theorem cast_c3 : ((c3 : ℕ) : F) = -ω := by
  rw [show c3 = c2 + 1 by decide, Nat.cast_succ, cast_c2]
  ring
theorem cast_c4 : ((c4 : ℕ) : F) = ω + 1 := by
  rw [show c4 = c1 + 1 by decide, Nat.cast_succ, cast_c1]

def ρ : F := 2 * ω + 1

theorem ρ_sq : ρ * ρ = -3 := by
  unfold ρ; linear_combination 4 * ω_rel

theorem ρ_ne_zero : ρ ≠ 0 := by
  intro h
  have := ρ_sq
  rw [h, mul_zero] at this
  exact zmodP_three_ne_zero (by linear_combination this)

theorem skalba (u v W : F) (h : W * (u ^ 2 + u * v + v ^ 2) = -gx u) :
    gx v * gx (-u - v) * W = gx (u + W) * (u ^ 2 + u * v + v ^ 2) ^ 2 := by
  unfold gx at h ⊢
  -- the `7` of `g` plays no role: it is eliminated through the conic equation
  generalize (7 : F) = b at h ⊢
  obtain rfl : b = -(W * (u ^ 2 + u * v + v ^ 2)) - u ^ 3 := by linear_combination h
  ring

/-- So the three candidates are never all off the curve (`FU_onCurve`), and `u + W` is off it when exactly one of the other
    two is on it: in the forward map, which tries `x3` first, it does not pre-empt that one (`roundtrip`). -/
theorem x3_isSquare_iff {u v W : F} (h : W * (u ^ 2 + u * v + v ^ 2) = -gx u)
    (hW : IsSquare W) (hW0 : W ≠ 0) :
    IsSquare (gx (u + W)) ↔ (IsSquare (gx v) ↔ IsSquare (gx (-u - v))) := by
  have hQ : u ^ 2 + u * v + v ^ 2 ≠ 0 := by
    intro h0
    rw [h0, mul_zero] at h
    exact gx_ne_zero u (neg_eq_zero.1 h.symm)
  rw [← isSquare_mul_iff (gx_ne_zero v) (gx_ne_zero _),
    ← isSquare_mul_right_iff (x := gx v * gx (-u - v)) hW hW0, skalba u v W h, pow_two,
    isSquare_mul_right_iff (.mul_self _) (mul_ne_zero hQ hQ)]

/- The bodies of `D3`, `N3`, `N2`, `N1` repeat the field operations of `fracCore` (`Proofs/Ellswift.lean`) one by one, so
   that `fracCore_cast` closes its goals by `rfl` after pushing casts. -/
/-- denominator of `x3`: `3 s u²` -/
def D3 (U S : F) : F := S * (U * U) * 3
/-- numerator of `x3`: `3 s u³ - (g + s)²` -/
def N3 (U S : F) : F := D3 U S * U + -((gx U + S) * (gx U + S))
/-- numerator of `x2`: `u (c1 s + c2 g)` (denominator `g + s`) -/
def N2 (U S : F) : F := ((-1 - ω) * gx U + ω * S) * U
/-- numerator of `x1 = -(x2 + u)` (denominator `g + s`) -/
def N1 (U S : F) : F := -(N2 U S + (gx U + S) * U)

noncomputable def X3 (U S : F) : F := N3 U S / D3 U S
noncomputable def X2 (U S : F) : F := N2 U S / (gx U + S)
noncomputable def X1 (U S : F) : F := N1 U S / (gx U + S)

open Classical in
/-- `F_u(t)` of `doc/ellswift.md` in terms of `u` and `s = t²`, after the remapping of the exceptional inputs. -/
noncomputable def FU (U S : F) : F :=
  if IsSquare (gx (X3 U S)) then X3 U S
  else if IsSquare (gx (X2 U S)) then X2 U S
  else X1 U S

theorem D3_ne_zero {U S : F} (hU : U ≠ 0) (hS : S ≠ 0) : D3 U S ≠ 0 :=
  mul_ne_zero (mul_ne_zero hS (mul_ne_zero hU hU)) zmodP_three_ne_zero

theorem X1_eq {U S : F} (hp : gx U + S ≠ 0) : X1 U S = -U - X2 U S := by
  unfold X1 X2 N1
  field_simp
  ring

theorem conic_X2 {U S : F} (hU : U ≠ 0) (hS : S ≠ 0) (hp : gx U + S ≠ 0) :
    (X3 U S - U) * (U ^ 2 + U * X2 U S + X2 U S ^ 2) = -gx U := by
  have h3 := zmodP_three_ne_zero
  unfold X3 X2 N3 N2 D3
  generalize gx U = g at hp ⊢
  field_simp
  -- with `p = g + s`, `n = ω s - (1 + ω) g`: `p² + p n + n² - 3 s g = (s - g)² (ω² + ω + 1)`
  linear_combination (-((S - g) ^ 2 * (g + S) ^ 2)) * ω_rel

theorem X3_sub_isSquare {U S : F} (hU : U ≠ 0) (hS : S ≠ 0) (hSs : IsSquare S)
    (hp : gx U + S ≠ 0) : IsSquare (X3 U S - U) ∧ X3 U S - U ≠ 0 := by
  have hd := D3_ne_zero hU hS
  have hWD : (X3 U S - U) * D3 U S = -((gx U + S) * (gx U + S)) := by
    unfold X3 N3
    field_simp
    ring
  have hD : IsSquare (-D3 U S) := by
    have e : -D3 U S = S * (U * U) * (ρ * ρ) := by rw [ρ_sq]; unfold D3; ring
    rw [e]
    exact (hSs.mul (.mul_self U)).mul (.mul_self ρ)
  constructor
  · rw [← isSquare_mul_right_iff hD (neg_ne_zero.2 hd), mul_neg, hWD, neg_neg]
    exact .mul_self _
  · intro h0
    rw [h0, zero_mul] at hWD
    exact mul_ne_zero hp hp (neg_eq_zero.1 hWD.symm)

theorem FU_onCurve {U S : F} (hU : U ≠ 0) (hS : S ≠ 0) (hSs : IsSquare S) (hp : gx U + S ≠ 0) :
    IsSquare (gx (FU U S)) := by
  unfold FU
  split_ifs with h3 h2
  · exact h3
  · exact h2
  · obtain ⟨hW, hW0⟩ := X3_sub_isSquare hU hS hSs hp
    have h := x3_isSquare_iff (conic_X2 hU hS hp) hW hW0
    rw [add_sub_cancel, ← X1_eq hp] at h
    by_contra h1
    exact h3 (h.2 (iff_of_false h2 h1))

/-- `W = w²` and `s = t²` for `t = ± w a`, `a = ω u - v`.  The first two conjuncts: no exceptional case of the forward map
    occurs. -/
theorem candidates_of_param {U W v a S : F} (hU : U ≠ 0) (hW : W ≠ 0)
    (hrel : W * (U ^ 2 + U * v + v ^ 2) = -gx U) (hv : v = ω * U - a) (hS : S = W * (a * a)) :
    S ≠ 0 ∧ gx U + S ≠ 0 ∧ X3 U S = U + W ∧ X2 U S = -U - v ∧ X1 U S = v := by
  subst hv hS
  have hG : gx U = -(W * a * (a - ρ * U)) := by
    unfold ρ; linear_combination hrel - (W * U ^ 2) * ω_rel
  have ha : a ≠ 0 := by
    rintro rfl; exact gx_ne_zero U (by rw [hG]; ring)
  have hS := mul_ne_zero hW (mul_ne_zero ha ha)
  have hp : gx U + W * (a * a) = W * a * ρ * U := by rw [hG]; ring
  have hp0 : gx U + W * (a * a) ≠ 0 := by
    rw [hp]; exact mul_ne_zero (mul_ne_zero (mul_ne_zero hW ha) ρ_ne_zero) hU
  have h2 : X2 U (W * (a * a)) = -U - (ω * U - a) := by
    unfold X2 N2
    rw [div_eq_iff hp0]
    unfold ρ at hG
    linear_combination (-a) * hG
  refine ⟨hS, hp0, ?_, h2, ?_⟩
  · unfold X3 N3
    rw [div_eq_iff (D3_ne_zero hU hS), hp]
    unfold D3
    linear_combination (-(W ^ 2 * a ^ 2 * U ^ 2)) * ρ_sq
  · rw [X1_eq hp0, h2]; ring

/-- What the first part of the inverse map establishes about its result `(s, v) = (W, v)` for the target `X`; in `cand` the
    left case is `c ∈ {2,3,6,7}`, the right one `c ∈ {0,1,4,5}`. -/
structure InvSpec (U X W v : F) : Prop where
  ne_zero : W ≠ 0
  isSquare : IsSquare W
  conic : W * (U ^ 2 + U * v + v ^ 2) = -gx U
  cand : X = U + W ∨ X = v ∧ ¬ IsSquare (gx (-U - v))

/-- `hv'`, `hS`: the second part of the inverse map returns `t = ± w (ω u - v')` with `v' = v` (even `c`) or `v' = -u - v`
    (odd `c`), and `S = t²`. -/
theorem roundtrip {U X W v v' S : F} (hU : U ≠ 0) (hX : IsSquare (gx X)) (h : InvSpec U X W v)
    (hv' : v' = v ∨ v' = -U - v) (hS : S = W * ((ω * U - v') * (ω * U - v'))) :
    S ≠ 0 ∧ gx U + S ≠ 0 ∧ FU U S = X := by
  -- the conic is symmetric under `v ↦ -u - v`
  have hc : W * (U ^ 2 + U * v' + v' ^ 2) = -gx U := by
    rcases hv' with rfl | rfl
    exacts [h.conic, by linear_combination h.conic]
  obtain ⟨hS0, hp, e3, e2, e1⟩ := candidates_of_param hU h.ne_zero hc (sub_sub_cancel _ _).symm hS
  refine ⟨hS0, hp, ?_⟩
  have h3 := x3_isSquare_iff hc h.isSquare h.ne_zero
  unfold FU
  rw [e3, e2, e1]
  rcases h.cand with rfl | ⟨rfl, hn⟩
  · exact if_pos hX
  rcases hv' with rfl | rfl
  · rw [if_neg fun h => hn ((h3.1 h).1 hX), if_neg hn]
  · rw [sub_sub_cancel] at h3 ⊢
    rw [if_neg fun h => hn ((h3.1 h).2 hX), if_pos hX]

/-- The `x1/x2` inverse: `v = x` and `s = -g(u)/(u² + u x + x²)`, computed as `q⁻¹ g(u)` after the test that `q g(u)` is a
    square. -/
theorem invSpec_A {U X q G s : F} (hX : IsSquare (gx X)) (hn : ¬ IsSquare (gx (-U - X)))
    (hq : q = -(U ^ 2 + U * X + X ^ 2)) (hG : G = gx U) (hsq : IsSquare (q * G))
    (hs : s = q⁻¹ * G) : InvSpec U X s X := by
  subst hG
  have hQ : U ^ 2 + U * X + X ^ 2 = -q := by rw [hq, neg_neg]
  -- `u² + u x + x² = 0` would force `g(-u-x) = g(x)`, so there is no division by zero
  have hq0 : q ≠ 0 := by
    intro h0
    rw [h0, neg_zero] at hQ
    have e : gx (-U - X) = gx X := by unfold gx; linear_combination (-(U + 2 * X)) * hQ
    exact hn (e ▸ hX)
  have hs2 : s = q * gx U * (q⁻¹ * q⁻¹) := by rw [hs]; field_simp
  refine ⟨?_, ?_, ?_, Or.inr ⟨rfl, hn⟩⟩
  · rw [hs]; exact mul_ne_zero (inv_ne_zero hq0) (gx_ne_zero U)
  · rw [hs2]; exact hsq.mul (.mul_self _)
  · rw [hs, hQ]; field_simp

/-- The `x3` inverse: `s = x - u` and `v = (r/s - u)/2` with `r² = -s (4 g(u) + 3 s u²)`; `hr` has the shape of the cast of
    `invB` (`28 = 4·7`). -/
theorem invSpec_B {U X s r v : F} (hX : X = U + s) (hs : s ≠ 0) (hss : IsSquare s)
    (hv : (2 * v + U) * s = r)
    (hr : r * r = -((s * (U * U) * 3 + (U * U * U * 4 + 28)) * s)) : InvSpec U X s v := by
  refine ⟨hs, hss, ?_, Or.inl hX⟩
  have h2 := zmodP_two_ne_zero
  refine mul_right_cancel₀ (mul_ne_zero (mul_ne_zero h2 h2) hs) ?_
  unfold gx
  rw [← hv] at hr
  linear_combination hr

end Ellswift
end SecpZkp
