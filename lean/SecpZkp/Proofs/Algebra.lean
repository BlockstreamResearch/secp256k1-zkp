import SecpZkp.Proofs.GroupLawCore
import SecpZkp.Proofs.Scalar
import Mathlib.Data.ZMod.Basic
import Mathlib.FieldTheory.Finite.Basic
import Mathlib.GroupTheory.OrderOfElement
import Mathlib.Tactic.Abel
import Mathlib.Tactic.Ring
import Mathlib.Tactic.LinearCombination
import Mathlib.Tactic.FieldSimp
/-
  Protocol-level algebra from the interface `GroupLaw` alone: nothing here looks inside `Pt.add` / `Pt.mul` beyond their
  clauses for the point at infinity.  `GroupLaw` is a hypothesis, so the group structure on valid points cannot be a
  global instance: it comes through the `Prop`-valued class `HasGroupLaw`, which a property theorem installs once
  (`have : HasGroupLaw := ⟨gl⟩`).  Under it: `AddCommGroup VPt` on the valid points, `Fact (Nat.Prime N)`, and the
  injective additive hom `gmulV : ZMod N →+ VPt`, `a ↦ a.val • G`, with its point-level version `gmul`.  Downstream proofs
  do not mention `VPt`: they bring every point into the form `gmul a` (`mulG_gmul`, `mul_gmul`, `add_gmul`, `neg_gmul`),
  push the casts of `Sc.add/mul/neg/inv` into `ZMod N` (`cast_*`) and finish by `ring` / `field_simp` there.
-/
namespace SecpZkp

class HasGroupLaw : Prop where
  gl : GroupLaw

namespace Algebra


@[simp] theorem add_inf_left (q : Pt) : Pt.add .inf q = q := by cases q <;> rfl
export SecpZkp.GroupLaw (add_inf_right)
attribute [simp] add_inf_right
@[simp] theorem neg_inf : Pt.neg .inf = .inf := rfl
@[simp] theorem valid_inf : Pt.inf.valid = true := rfl
@[simp] theorem mul_inf (k : Nat) : Pt.mul k .inf = .inf := rfl
@[simp] theorem xOf_aff (x y : Nat) : (Pt.aff x y).xOf = x := rfl
@[simp] theorem yOf_aff (x y : Nat) : (Pt.aff x y).yOf = y := rfl

export SecpZkp (N_pos N_lt_P)

theorem N_lt_mulBound : N < mulBound := by decide +kernel
theorem two_le_N : 2 ≤ N := by decide +kernel

theorem lt_pow_of_lt_P {v : Nat} (h : v < P) : v < 2 ^ 256 := lt_trans h P_lt

instance : NeZero N := ⟨Nat.pos_iff_ne_zero.mp N_pos⟩

theorem valid_aff_lt {x y : Nat} (h : (Pt.aff x y).valid = true) : x < P ∧ y < P := by
  simp only [Pt.valid, Pt.onCurveXY, Bool.and_eq_true, decide_eq_true_eq] at h
  exact ⟨h.1.1, h.1.2⟩


abbrev VPt := {p : Pt // p.valid = true}

section Group
variable [hgl : HasGroupLaw]

theorem gl : GroupLaw := hgl.gl

instance : Zero VPt := ⟨⟨.inf, rfl⟩⟩
instance : Add VPt := ⟨fun p q => ⟨Pt.add p.1 q.1, gl.valid_add _ _ p.2 q.2⟩⟩
instance : Neg VPt := ⟨fun p => ⟨Pt.neg p.1, gl.valid_neg _ p.2⟩⟩

omit hgl in
@[simp] theorem VPt.zero_val : (0 : VPt).1 = .inf := rfl
@[simp] theorem VPt.add_val (p q : VPt) : (p + q).1 = Pt.add p.1 q.1 := rfl
@[simp] theorem VPt.neg_val (p : VPt) : (-p).1 = Pt.neg p.1 := rfl

instance instAddCommGroupVPt : AddCommGroup VPt where
  add_assoc a b c := Subtype.ext (gl.add_assoc _ _ _ a.2 b.2 c.2)
  zero_add a := Subtype.ext (add_inf_left _)
  add_zero a := Subtype.ext (add_inf_right _)
  add_comm a b := Subtype.ext (gl.add_comm _ _ a.2 b.2)
  neg_add_cancel a := Subtype.ext (by
    show Pt.add (Pt.neg a.1) a.1 = .inf
    rw [gl.add_comm _ _ (gl.valid_neg _ a.2) a.2]; exact gl.add_neg _ a.2)
  -- `k • p` is repeated `Pt.add` by definition: the `rfl`s of `mul_eq_nsmul`, `mul_neg`, `G_eq_gmul` rest on it
  nsmul := nsmulRec
  zsmul := zsmulRec

theorem mul_eq_nsmul {k : Nat} (hk : k < mulBound) (p : VPt) : Pt.mul k p.1 = (k • p).1 := by
  induction k with
  | zero => simp [gl.mul_zero]
  | succ k ih =>
    rw [gl.mul_succ k p.1 p.2 hk, ih (by omega), succ_nsmul]; rfl

/-- Written `Algebra.valid_mul` where `Proofs/Jacobian.lean` is imported too: its `valid_mul` (from primality of `P`, no
    bound) makes the short name ambiguous under `open Algebra`. -/
theorem valid_mul {k : Nat} (hk : k < mulBound) {p : Pt} (hp : p.valid = true) :
    (Pt.mul k p).valid = true := gl.valid_mul hp hk

def GV : VPt := ⟨Pt.G, gl.valid_G⟩

@[simp] theorem GV_val : (GV).1 = Pt.G := rfl

theorem nsmul_N_of_mul_N {Q : Pt} (hQ : Q.valid = true) (hN : Pt.mul N Q = .inf) : N • (⟨Q, hQ⟩ : VPt) = 0 :=
  Subtype.ext (by rw [← mul_eq_nsmul N_lt_mulBound]; exact hN)

theorem N_nsmul_GV : N • GV = 0 := nsmul_N_of_mul_N gl.valid_G gl.mul_N_G

theorem GV_ne_zero : GV ≠ 0 := fun h => Pt.noConfusion (congrArg Subtype.val h)


instance instFactPrimeN : Fact (Nat.Prime N) := ⟨Nat.prime_def.mpr ⟨two_le_N, gl.prime_N⟩⟩

theorem prime_P : Nat.Prime P :=
  Nat.prime_def.mpr ⟨le_trans two_le_N (le_of_lt N_lt_P), gl.prime_P⟩

end Group

theorem Sc.sub_lt (a b : Nat) : Sc.sub a b < N := Sc.sub_lt_N a b
theorem Sc.inv_lt (a : Nat) : Sc.inv a < N := Sc.inv_lt_N a

theorem lt_mulBound_of_lt_N {k : Nat} (h : k < N) : k < mulBound := lt_trans h N_lt_mulBound

theorem getD_of_forall_mem {α : Type} {p : α → Prop} {l : List α} {d : α} (hd : p d) (h : ∀ x ∈ l, p x)
    (j : Nat) : p (l.getD j d) := by
  rw [List.getD_eq_getElem?_getD]
  cases hj : l[j]? with
  | none => exact hd
  | some x => exact h x (List.mem_of_getElem? hj)

theorem getD_lt_N {l : List Nat} (h : ∀ x ∈ l, x < N) (j : Nat) : l.getD j 0 < N :=
  getD_of_forall_mem (p := (· < N)) N_pos h j

export SecpZkp.Sc (cast_add cast_mul cast_neg cast_inv)

theorem cast_sub (a b : Nat) : ((Sc.sub a b : Nat) : ZMod N) = (a : ZMod N) - b := SecpZkp.Sc.cast_sub a b

theorem cast_eq_zero {a : Nat} (ha : a < N) : (a : ZMod N) = 0 ↔ a = 0 := by
  have := Field.cast_eq_iff ha N_pos
  simpa using this

theorem cast_ne_zero {k : Nat} (h0 : 0 < k) (hk : k < N) : (k : ZMod N) ≠ 0 := by
  intro h; have := (cast_eq_zero hk).1 h; omega

/-! Conditional negation (x-only keys, even-y nonces, low-S) passes through every bridge unchanged: here from `Sc.neg`
    to `ZMod N`, below from `ZMod N` to points (`ite_neg_gmul`) and to coordinates (`gmul_pm`). -/

theorem ite_neg_lt (p : Prop) [Decidable p] {x : Nat} (h : x < N) : (if p then Sc.neg x else x) < N := by
  split
  · exact Sc.neg_lt_N _
  · exact h

theorem cast_ite_neg (p : Prop) [Decidable p] (x : Nat) :
    ((if p then Sc.neg x else x : Nat) : ZMod N) = if p then -(x : ZMod N) else x := by
  rw [apply_ite Nat.cast, cast_neg]

section Field
variable [hgl : HasGroupLaw]

theorem Sc.inv_mul_cancel {a : Nat} (h : a % N ≠ 0) : Sc.mul (Sc.inv a) a = 1 := by
  rw [← SecpZkp.Sc.mul_inv_self h]; simp [SecpZkp.Sc.mul, Nat.mul_comm]

end Field


section Hom
variable [hgl : HasGroupLaw]

def smulHom (Q : VPt) (hQ : N • Q = 0) : ZMod N →+ VPt :=
  ZMod.lift N ⟨zmultiplesHom VPt Q, by simp [hQ]⟩

theorem smulHom_natCast (Q : VPt) (hQ : N • Q = 0) (k : Nat) : smulHom Q hQ (k : ZMod N) = k • Q := by
  have : ((k : ℤ) : ZMod N) = (k : ZMod N) := Int.cast_natCast k
  rw [← this, smulHom, ZMod.lift_coe]
  simp

theorem smulHom_apply (Q : VPt) (hQ : N • Q = 0) (a : ZMod N) : smulHom Q hQ a = a.val • Q := by
  conv_lhs => rw [← ZMod.natCast_zmod_val a]
  exact smulHom_natCast Q hQ a.val

theorem nsmul_mod_N (Q : VPt) (hQ : N • Q = 0) (k : Nat) : (k % N) • Q = k • Q := by
  rw [← smulHom_natCast Q hQ, ← smulHom_natCast Q hQ, ZMod.natCast_mod]

theorem smulHom_injective (Q : VPt) (hQ : N • Q = 0) (hne : Q ≠ 0) :
    Function.Injective (smulHom Q hQ) := by
  have hord : addOrderOf Q = N := addOrderOf_eq_prime hQ hne
  rw [injective_iff_map_eq_zero]
  intro a ha
  rw [smulHom_apply] at ha
  have hdvd : N ∣ a.val := by
    have := addOrderOf_dvd_of_nsmul_eq_zero ha
    rwa [hord] at this
  have hlt : a.val < N := ZMod.val_lt a
  have : a.val = 0 := Nat.eq_zero_of_dvd_of_lt hdvd hlt
  exact (ZMod.val_eq_zero a).mp this

def gmulV : ZMod N →+ VPt := smulHom GV N_nsmul_GV

def gmul (a : ZMod N) : Pt := (gmulV a).1

theorem gmulV_injective : Function.Injective gmulV := smulHom_injective _ _ GV_ne_zero

theorem valid_gmul (a : ZMod N) : (gmul a).valid = true := (gmulV a).2

theorem gmul_injective : Function.Injective gmul := fun _ _ h => gmulV_injective (Subtype.ext h)

theorem gmul_congr {a b : ZMod N} (h : a = b) : gmul a = gmul b := congrArg gmul h

@[simp] theorem gmul_zero : gmul 0 = .inf := by simp [gmul]

theorem gmul_eq_inf_iff (a : ZMod N) : gmul a = .inf ↔ a = 0 := by
  rw [← gmul_zero]; exact gmul_injective.eq_iff

theorem gmul_ne_inf {a : ZMod N} (h : a ≠ 0) : gmul a ≠ Pt.inf := fun h' => h ((gmul_eq_inf_iff a).1 h')

theorem gmul_eq_aff {a : ZMod N} (h : a ≠ 0) : ∃ x y, gmul a = Pt.aff x y := by
  cases hg : gmul a with
  | inf => exact absurd hg (gmul_ne_inf h)
  | aff x y => exact ⟨x, y, rfl⟩

theorem mulG_eq_gmul {k : Nat} (hk : k < mulBound) : Pt.mulG k = gmul (k : ZMod N) := by
  show Pt.mul k (GV).1 = _
  rw [mul_eq_nsmul hk, gmul, gmulV, smulHom_natCast]

theorem mul_G_eq_gmul {k : Nat} (hk : k < mulBound) : Pt.mul k Pt.G = gmul (k : ZMod N) :=
  mulG_eq_gmul hk

/-- The protocol proofs have `k < N` at hand, not the fuel bound (likewise `mul_gmul'`). -/
theorem mulG_gmul {k : Nat} (hk : k < N) : Pt.mulG k = gmul (k : ZMod N) :=
  mulG_eq_gmul (lt_mulBound_of_lt_N hk)

theorem G_eq_gmul : Pt.G = gmul 1 := by
  rw [gmul, gmulV, ← Nat.cast_one, smulHom_natCast, one_nsmul]; rfl

theorem add_gmul (a b : ZMod N) : Pt.add (gmul a) (gmul b) = gmul (a + b) := by
  simp [gmul, map_add]

theorem neg_gmul (a : ZMod N) : Pt.neg (gmul a) = gmul (-a) := by
  simp [gmul, map_neg]

theorem ite_neg_gmul (p : Prop) [Decidable p] (a : ZMod N) :
    (if p then Pt.neg (gmul a) else gmul a) = gmul (if p then -a else a) := by
  rw [apply_ite gmul, neg_gmul]

/-- Negation in coordinates: the one place where `−(a•G)` meets `Fe.neg y`. -/
theorem gmul_pm {a : ZMod N} {x y : Nat} (h : gmul a = Pt.aff x y) (neg : Bool) :
    gmul (if neg then -a else a) = Pt.aff x (if neg then Fe.neg y else y) := by
  rw [← ite_neg_gmul, h]
  cases neg <;> rfl

theorem mul_gmul {k : Nat} (hk : k < mulBound) (a : ZMod N) :
    Pt.mul k (gmul a) = gmul ((k : ZMod N) * a) := by
  show Pt.mul k (gmulV a).1 = _
  rw [mul_eq_nsmul hk, gmul, ← map_nsmul, nsmul_eq_mul]

theorem mul_gmul' {k : Nat} (hk : k < N) (a : ZMod N) : Pt.mul k (gmul a) = gmul ((k : ZMod N) * a) :=
  mul_gmul (lt_mulBound_of_lt_N hk) a


theorem neg_neg_valid {A : Pt} (hA : A.valid = true) : Pt.neg (Pt.neg A) = A :=
  congrArg Subtype.val (neg_neg (⟨A, hA⟩ : VPt))

theorem add_gmul_assoc {A : Pt} (hA : A.valid = true) (a b : ZMod N) :
    Pt.add (Pt.add A (gmul a)) (gmul b) = Pt.add A (gmul (a + b)) := by
  rw [gl.add_assoc _ _ _ hA (valid_gmul a) (valid_gmul b), add_gmul]

theorem neg_add_gmul {A : Pt} (hA : A.valid = true) (a : ZMod N) :
    Pt.neg (Pt.add A (gmul a)) = Pt.add (Pt.neg A) (gmul (-a)) := by
  rw [← neg_gmul]
  exact congrArg Subtype.val (neg_add (⟨A, hA⟩ : VPt) ⟨gmul a, valid_gmul a⟩)


theorem mulG_valid {k : Nat} (hk : k < mulBound) : (Pt.mulG k).valid = true :=
  valid_mul hk gl.valid_G

theorem mul_mod_N {Q : Pt} (hQ : Q.valid = true) (hN : Pt.mul N Q = .inf) {k : Nat} (hk : k < mulBound) :
    Pt.mul (k % N) Q = Pt.mul k Q := by
  have hk' : k % N < mulBound := lt_of_le_of_lt (Nat.mod_le _ _) hk
  rw [mul_eq_nsmul hk' ⟨Q, hQ⟩, mul_eq_nsmul hk ⟨Q, hQ⟩, nsmul_mod_N _ (nsmul_N_of_mul_N hQ hN)]

theorem mul_mod_N_G {k : Nat} (hk : k < mulBound) : Pt.mul (k % N) Pt.G = Pt.mul k Pt.G :=
  mul_mod_N gl.valid_G gl.mul_N_G hk

theorem mul_scAdd {Q : Pt} (hQ : Q.valid = true) (hN : Pt.mul N Q = .inf) {a b : Nat}
    (h : a + b < mulBound) : Pt.mul (Sc.add a b) Q = Pt.add (Pt.mul a Q) (Pt.mul b Q) := by
  rw [SecpZkp.Sc.add, mul_mod_N hQ hN h, gl.mul_add hQ h]

theorem mul_neg {Q : Pt} (hQ : Q.valid = true) {k : Nat} (hk : k < mulBound) :
    Pt.mul k (Pt.neg Q) = Pt.neg (Pt.mul k Q) := by
  have : (⟨Pt.neg Q, gl.valid_neg _ hQ⟩ : VPt) = -⟨Q, hQ⟩ := rfl
  rw [mul_eq_nsmul hk ⟨Pt.neg Q, gl.valid_neg _ hQ⟩, this, mul_eq_nsmul hk ⟨Q, hQ⟩, neg_nsmul]; rfl

theorem mul_scNeg {Q : Pt} (hQ : Q.valid = true) (hN : Pt.mul N Q = .inf) {k : Nat} (hk : k < mulBound) :
    Pt.mul (Sc.neg k) Q = Pt.neg (Pt.mul k Q) := by
  have hQ0 := nsmul_N_of_mul_N hQ hN
  have e1 : (Sc.neg k) • (⟨Q, hQ⟩ : VPt) = -(k • (⟨Q, hQ⟩ : VPt)) := by
    rw [← smulHom_natCast _ hQ0, ← smulHom_natCast _ hQ0, cast_neg, map_neg]
  rw [mul_eq_nsmul (lt_mulBound_of_lt_N (Sc.neg_lt_N k)) ⟨Q, hQ⟩, e1, mul_eq_nsmul hk ⟨Q, hQ⟩]; rfl

theorem mul_N_mulG {d : Nat} (hd : d < mulBound) : Pt.mul N (Pt.mulG d) = .inf := by
  rw [mulG_eq_gmul hd, mul_gmul N_lt_mulBound]; simp

theorem mulG_ne_inf {k : Nat} (h0 : 0 < k) (hk : k < N) : Pt.mulG k ≠ .inf :=
  mulG_gmul hk ▸ gmul_ne_inf (cast_ne_zero h0 hk)

theorem mulG_eq_aff {k : Nat} (h0 : 0 < k) (hk : k < N) : ∃ x y, Pt.mulG k = .aff x y :=
  mulG_gmul hk ▸ gmul_eq_aff (cast_ne_zero h0 hk)


theorem foldl_add_val (l : List VPt) (a : VPt) : (l.map Subtype.val).foldl Pt.add a.1 = (a + l.sum).1 := by
  induction l generalizing a with
  | nil => simp
  | cons x xs ih =>
    simp only [List.map_cons, List.foldl_cons, List.sum_cons]
    have : Pt.add a.1 x.1 = (a + x).1 := rfl
    rw [this, ih, add_assoc]

theorem foldl_add_eq_val (ps : List Pt) (h : ∀ p ∈ ps, p.valid = true) (acc : VPt) :
    ps.foldl Pt.add acc.1 = (acc + (ps.pmap Subtype.mk h).sum).1 := by
  rw [← foldl_add_val, List.map_pmap, List.pmap_eq_map, List.map_id']

theorem sum_eq_val (ps : List Pt) (h : ∀ p ∈ ps, p.valid = true) :
    Pt.sum ps = ((ps.pmap Subtype.mk h).sum : VPt).1 := by
  rw [← zero_add (List.sum _)]; exact foldl_add_eq_val ps h 0

theorem foldl_add {ps : List Pt} (h : ∀ p ∈ ps, p.valid = true) {a : Pt} (ha : a.valid = true) :
    ps.foldl Pt.add a = Pt.add a (Pt.sum ps) := by
  rw [sum_eq_val ps h]; exact foldl_add_eq_val ps h ⟨a, ha⟩

theorem sum_valid {ps : List Pt} (h : ∀ p ∈ ps, p.valid = true) : (Pt.sum ps).valid = true := by
  rw [sum_eq_val ps h]; exact (ps.pmap Subtype.mk h).sum.2

theorem sum_cons {p : Pt} {ps : List Pt} (hp : p.valid = true) (h : ∀ q ∈ ps, q.valid = true) :
    Pt.sum (p :: ps) = Pt.add p (Pt.sum ps) := by
  rw [sum_eq_val _ (List.forall_mem_cons.2 ⟨hp, h⟩), sum_eq_val ps h]; rfl

theorem sum_perm {as bs : List Pt} (hp : as.Perm bs) (ha : ∀ q ∈ as, q.valid = true) :
    Pt.sum as = Pt.sum bs := by
  rw [sum_eq_val as ha, sum_eq_val bs fun q hq => ha q (hp.mem_iff.2 hq), (hp.pmap _).sum_eq]

theorem sum_gmul {α : Type} (L : List α) (g : α → Pt) (f : α → ZMod N) (h : ∀ x ∈ L, g x = gmul (f x)) :
    Pt.sum (L.map g) = gmul (L.map f).sum := by
  -- the list is the image of a list in `VPt`, and `gmulV` is additive
  have e : L.map g = (L.map fun x => gmulV (f x)).map Subtype.val := by
    rw [List.map_map]; exact List.map_congr_left h
  rw [e, Pt.sum, show Pt.inf = (0 : VPt).1 from rfl, foldl_add_val, zero_add, gmul, map_list_sum, List.map_map]
  rfl

end Hom

end Algebra
end SecpZkp
