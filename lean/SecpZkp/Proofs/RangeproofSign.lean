import SecpZkp.Proofs.BorromeanRange
/-
  Signer-side facts for the completeness of range proofs (`Props/C09_complete.lean`): `genrand` yields reduced scalars
  and blinding factors that sum to zero, `takeNonces` leaves the forged scalars in place, digit values do not wrap.
  `signPrep`, `signSecs`, `signRingKeys` name intermediate values of `sign_impl` (put together in `signImpl_eq`,
  Props/C09_complete.lean); `signRingKeys` is the key array in the hypothesis of `rangeproof_complete`.
-/
namespace SecpZkp
namespace Rangeproof

/-- all rings of a layout but possibly the last have size 4: ring `i` starts at flat index `4 i` -/
theorem layout_offset (m i : Nat) (hi : i < (layout m).2.1.length) :
    Borromean.offset (layout m).2.1 i = 4 * i := by
  unfold Borromean.offset
  unfold layout at hi ⊢
  by_cases h0 : m = 0
  · simp only [h0, if_true, List.length_cons, List.length_nil] at hi ⊢
    have : i = 0 := by omega
    subst this; simp
  · by_cases h1 : m % 2 = 1
    · simp only [h0, h1, if_false, if_true, List.length_append, List.length_replicate, List.length_cons,
        List.length_nil] at hi ⊢
      rw [List.take_append_of_le_length (by simp; omega), List.take_replicate, List.sum_replicate]
      simp; omega
    · simp only [h0, h1, if_false, List.length_replicate] at hi ⊢
      rw [List.take_replicate, List.sum_replicate]
      simp; omega

theorem layout_ge_one (m : Nat) : ∀ r ∈ (layout m).2.1, 1 ≤ r := by
  intro r hr
  rcases (layout_spec m).2.2.2.2 r hr with h | h | h <;> omega

theorem genSec_lt (fuel : Nat) (r : Sha256.Rfc6979) : (genSec fuel r).1 < N := by
  induction fuel generalizing r with
  | zero => exact Algebra.N_pos
  | succ fuel ih =>
    rw [genSec]
    simp only []
    split
    · exact ih _
    · exact Sc.setB32_fst_lt _

theorem genrandRing_spec (i : Nat) : ∀ (n j : Nat) (rng : Sha256.Rfc6979) (ret : Bool) (s : List Nat) (msg : Option Bytes),
    ∃ news, (genrandRing i n j rng ret s msg).2.2.1 = s ++ news ∧ news.length = n ∧ (∀ x ∈ news, x < N) ∧
      ((genrandRing i n j rng ret s msg).2.1 = true → ret = true ∧ ∀ x ∈ news, x ≠ 0) := by
  intro n
  induction n with
  | zero => intro j rng ret s msg; exact ⟨[], by simp [genrandRing], rfl, by simp, by simp [genrandRing]⟩
  | succ n ih =>
    intro j rng ret s msg
    -- one step appends the scalar read from `tmp`, the generated block (XOR the message block, if any)
    obtain ⟨tmp, msg', hstep⟩ : ∃ tmp msg', genrandRing i (n + 1) j rng ret s msg =
        genrandRing i n (j + 1) (Sha256.rfc6979Generate rng 32).2
          (ret && !((Sc.setB32 tmp).2 || (Sc.setB32 tmp).1 == 0)) (s ++ [(Sc.setB32 tmp).1]) msg' := by
      rw [genrandRing]
      cases msg <;> simp only [] <;> exact ⟨_, _, rfl⟩
    rw [hstep]
    obtain ⟨news, h1, h2, h3, h4⟩ := ih (j + 1) (Sha256.rfc6979Generate rng 32).2
      (ret && !((Sc.setB32 tmp).2 || (Sc.setB32 tmp).1 == 0)) (s ++ [(Sc.setB32 tmp).1]) msg'
    refine ⟨(Sc.setB32 tmp).1 :: news, by rw [h1]; simp, by simp [h2], ?_, ?_⟩
    · intro x hx
      rcases List.mem_cons.mp hx with h | h
      · subst h; exact Sc.setB32_fst_lt _
      · exact h3 x h
    · intro hret
      obtain ⟨h5, h6⟩ := h4 hret
      simp only [Bool.and_eq_true, Bool.not_eq_true', Bool.or_eq_false_iff, beq_eq_false_iff_ne] at h5
      refine ⟨h5.1, ?_⟩
      intro x hx
      rcases List.mem_cons.mp hx with h | h
      · subst h; exact h5.2.2
      · exact h6 x h

def zsum (l : List Nat) : ZMod N := (l.map (fun x => ((x : Nat) : ZMod N))).sum

@[simp] theorem zsum_nil : zsum [] = 0 := rfl
@[simp] theorem zsum_cons (x : Nat) (l : List Nat) : zsum (x :: l) = (x : ZMod N) + zsum l := by simp [zsum]
@[simp] theorem zsum_append (a b : List Nat) : zsum (a ++ b) = zsum a + zsum b := by simp [zsum]

/-! Unfolding `genrandGo` on a non-empty list.  Lean's generated equation lemma is unusable (generating it tries to
    evaluate `genSec 64 …`, a closed-fuel loop around HMAC-SHA256 on symbolic bytes, and does not end in practice), and
    the kernel must never be asked to reduce a `match` whose scrutinee is `genSec 64 r`.  So the unfolding is stated with
    `genrandGo`'s own auxiliary matchers (`rfl` by syntactic identity), which the eta lemmas `m1_eta`, `gm3_eta` then turn
    into projections. -/

set_option linter.auxLemma false in
theorem genrandGo_cons_raw (rings rs : Nat) (rss : List Nat) (i : Nat) (rng : Sha256.Rfc6979) (acc : Nat) (ret : Bool)
    (sec s : List Nat) (msg : Option Bytes) :
    genrandGo rings (rs :: rss) i rng acc ret sec s msg =
      genrandGo.match_5 (fun _ => GenRand)
        (if i + 1 < rings then
          genSec.match_3 (fun _ => Nat × Sha256.Rfc6979 × Nat) (Sha256.rfc6979Generate rng 32) fun _ r0 =>
            genrandGo.match_1 (fun _ => Nat × Sha256.Rfc6979 × Nat) (genSec 64 r0) fun v r1 => (v, r1, Sc.add acc v)
        else (Sc.neg acc, rng, Sc.neg acc))
        fun seci rng1 acc1 =>
          genrandGo.match_3 (fun _ => GenRand) (genrandRing i rs 0 rng1 ret s msg)
            fun rng2 ret2 s2 msg2 => genrandGo rings rss (i + 1) rng2 acc1 ret2 (sec ++ [seci]) s2 msg2 := rfl

set_option linter.auxLemma false in
theorem m1_eta {α : Type} (x : Nat × Sha256.Rfc6979) (alt : Nat → Sha256.Rfc6979 → α) :
    genrandGo.match_1 (fun _ => α) x alt = alt x.1 x.2 := by
  obtain ⟨a, b⟩ := x; rfl

set_option linter.auxLemma false in
theorem gm3_eta {α : Type} (x : Bytes × Sha256.Rfc6979) (alt : Bytes → Sha256.Rfc6979 → α) :
    genSec.match_3 (fun _ => α) x alt = alt x.1 x.2 := by
  obtain ⟨a, b⟩ := x; rfl

set_option linter.auxLemma false in
theorem genrandGo_cons_lt (rings rs : Nat) (rss : List Nat) (i : Nat) (rng : Sha256.Rfc6979) (acc : Nat) (ret : Bool)
    (sec s : List Nat) (msg : Option Bytes) (h : i + 1 < rings) :
    genrandGo rings (rs :: rss) i rng acc ret sec s msg =
      genrandGo rings rss (i + 1)
        (genrandRing i rs 0 (genSec 64 (Sha256.rfc6979Generate rng 32).2).2 ret s msg).1
        (Sc.add acc (genSec 64 (Sha256.rfc6979Generate rng 32).2).1)
        (genrandRing i rs 0 (genSec 64 (Sha256.rfc6979Generate rng 32).2).2 ret s msg).2.1
        (sec ++ [(genSec 64 (Sha256.rfc6979Generate rng 32).2).1])
        (genrandRing i rs 0 (genSec 64 (Sha256.rfc6979Generate rng 32).2).2 ret s msg).2.2.1
        (genrandRing i rs 0 (genSec 64 (Sha256.rfc6979Generate rng 32).2).2 ret s msg).2.2.2 := by
  have hX : genSec.match_3 (fun _ => Nat × Sha256.Rfc6979 × Nat) (Sha256.rfc6979Generate rng 32)
      (fun _ r0 => genrandGo.match_1 (fun _ => Nat × Sha256.Rfc6979 × Nat) (genSec 64 r0)
        fun v r1 => (v, r1, Sc.add acc v)) =
      ((genSec 64 (Sha256.rfc6979Generate rng 32).2).1, (genSec 64 (Sha256.rfc6979Generate rng 32).2).2,
        Sc.add acc (genSec 64 (Sha256.rfc6979Generate rng 32).2).1) :=
    (gm3_eta (α := Nat × Sha256.Rfc6979 × Nat) (Sha256.rfc6979Generate rng 32)
      (fun _ r0 => genrandGo.match_1 (fun _ => Nat × Sha256.Rfc6979 × Nat) (genSec 64 r0)
        fun v r1 => (v, r1, Sc.add acc v))).trans
      (m1_eta (α := Nat × Sha256.Rfc6979 × Nat) (genSec 64 (Sha256.rfc6979Generate rng 32).2)
        (fun v r1 => (v, r1, Sc.add acc v)))
  rw [genrandGo_cons_raw, if_pos h, hX]

theorem genrandGo_cons_last (rings rs : Nat) (rss : List Nat) (i : Nat) (rng : Sha256.Rfc6979) (acc : Nat) (ret : Bool)
    (sec s : List Nat) (msg : Option Bytes) (h : ¬ i + 1 < rings) :
    genrandGo rings (rs :: rss) i rng acc ret sec s msg =
      genrandGo rings rss (i + 1)
        (genrandRing i rs 0 rng ret s msg).1 (Sc.neg acc) (genrandRing i rs 0 rng ret s msg).2.1
        (sec ++ [Sc.neg acc]) (genrandRing i rs 0 rng ret s msg).2.2.1 (genrandRing i rs 0 rng ret s msg).2.2.2 := by
  rw [genrandGo_cons_raw, if_neg h]

theorem genrandGo_nil (rings i : Nat) (rng : Sha256.Rfc6979) (acc : Nat) (ret : Bool) (sec s : List Nat)
    (msg : Option Bytes) : genrandGo rings [] i rng acc ret sec s msg = ⟨ret, sec, s, msg⟩ := rfl

theorem genrandGo_spec (rings : Nat) : ∀ (rsizes : List Nat) (i : Nat) (rng : Sha256.Rfc6979) (acc : Nat) (ret : Bool)
    (sec s : List Nat) (msg : Option Bytes), i + rsizes.length = rings →
    ∃ newsec news,
      (genrandGo rings rsizes i rng acc ret sec s msg).sec = sec ++ newsec ∧ newsec.length = rsizes.length ∧
      (∀ x ∈ newsec, x < N) ∧
      (genrandGo rings rsizes i rng acc ret sec s msg).s = s ++ news ∧ news.length = rsizes.sum ∧
      (∀ x ∈ news, x < N) ∧
      ((genrandGo rings rsizes i rng acc ret sec s msg).ret = true → ret = true ∧ ∀ x ∈ news, x ≠ 0) ∧
      (rsizes ≠ [] → (acc : ZMod N) + zsum newsec = 0) := by
  intro rsizes
  induction rsizes with
  | nil =>
    intro i rng acc ret sec s msg _
    exact ⟨[], [], by simp [genrandGo_nil], rfl, by simp, by simp [genrandGo_nil], rfl, by simp, by simp [genrandGo_nil],
      by simp⟩
  | cons rs rss ih =>
    intro i rng acc ret sec s msg hi
    simp only [List.length_cons] at hi
    by_cases hlast : i + 1 < rings
    · rw [genrandGo_cons_lt _ _ _ _ _ _ _ _ _ _ hlast]
      obtain ⟨nr, r1, r2, r3, r4⟩ := genrandRing_spec i rs 0 (genSec 64 (Sha256.rfc6979Generate rng 32).2).2 ret s msg
      obtain ⟨newsec, news, g1, g2, g3, g4, g5, g6, g7, g8⟩ := ih (i + 1)
        (genrandRing i rs 0 (genSec 64 (Sha256.rfc6979Generate rng 32).2).2 ret s msg).1
        (Sc.add acc (genSec 64 (Sha256.rfc6979Generate rng 32).2).1)
        (genrandRing i rs 0 (genSec 64 (Sha256.rfc6979Generate rng 32).2).2 ret s msg).2.1
        (sec ++ [(genSec 64 (Sha256.rfc6979Generate rng 32).2).1])
        (genrandRing i rs 0 (genSec 64 (Sha256.rfc6979Generate rng 32).2).2 ret s msg).2.2.1
        (genrandRing i rs 0 (genSec 64 (Sha256.rfc6979Generate rng 32).2).2 ret s msg).2.2.2 (by omega)
      have hne : rss ≠ [] := by intro h; subst h; simp at hi; omega
      refine ⟨(genSec 64 (Sha256.rfc6979Generate rng 32).2).1 :: newsec, nr ++ news, by rw [g1]; simp,
        by simp [g2], ?_, by rw [g4, r1]; simp, by simp [g5, r2], ?_, ?_, ?_⟩
      · intro x hx
        rcases List.mem_cons.mp hx with h | h
        · subst h; exact genSec_lt _ _
        · exact g3 x h
      · intro x hx
        rcases List.mem_append.mp hx with h | h
        · exact r3 x h
        · exact g6 x h
      · intro hret
        obtain ⟨h1, h2⟩ := g7 hret
        obtain ⟨h3, h4⟩ := r4 h1
        refine ⟨h3, ?_⟩
        intro x hx
        rcases List.mem_append.mp hx with h | h
        · exact h4 x h
        · exact h2 x h
      · intro _
        have := g8 hne
        rw [Algebra.cast_add] at this
        rw [zsum_cons, ← add_assoc]; exact this
    · rw [genrandGo_cons_last _ _ _ _ _ _ _ _ _ _ hlast]
      have hrss : rss = [] := by
        cases rss with
        | nil => rfl
        | cons _ _ => simp at hi; omega
      subst hrss
      obtain ⟨nr, r1, r2, r3, r4⟩ := genrandRing_spec i rs 0 rng ret s msg
      refine ⟨[Sc.neg acc], nr, by simp [genrandGo_nil], by simp, ?_, by simp [genrandGo_nil, r1], by simp [r2], r3, ?_, ?_⟩
      · intro x hx
        simp only [List.mem_singleton] at hx
        subst hx; exact Sc.neg_lt_N _
      · intro hret
        simp only [genrandGo_nil] at hret
        exact r4 hret
      · intro _
        simp [Algebra.cast_neg]

theorem genrand_spec (message : Option Bytes) (rsizes : List Nat) (nonce : Bytes) (commit : Pt) (proof : Bytes) (genp : Pt) :
    (genrand message rsizes nonce commit proof genp).sec.length = rsizes.length ∧
    (∀ x ∈ (genrand message rsizes nonce commit proof genp).sec, x < N) ∧
    (genrand message rsizes nonce commit proof genp).s.length = rsizes.sum ∧
    (∀ x ∈ (genrand message rsizes nonce commit proof genp).s, x < N) ∧
    ((genrand message rsizes nonce commit proof genp).ret = true →
      ∀ x ∈ (genrand message rsizes nonce commit proof genp).s, x ≠ 0) ∧
    (rsizes ≠ [] → zsum (genrand message rsizes nonce commit proof genp).sec = 0) := by
  obtain ⟨newsec, news, g1, g2, g3, g4, g5, g6, g7, g8⟩ := genrandGo_spec rsizes.length rsizes 0
    (Sha256.rfc6979Init (nonce ++ serializePoint commit ++ serializePoint genp ++ proof)) 0 true [] [] message (by simp)
  unfold genrand
  simp only [List.nil_append] at g1 g4
  rw [g1, g4]
  refine ⟨g2, g3, g5, g6, fun h => (g7 h).2, fun h => by simpa using g8 h⟩

/-- `(i + t) * 4` as in the C code (`s[i*4+secidx[i]]`): the flat offset of ring `i + t`, every ring but the last having
    four members (`layout_offset`) -/
theorem takeNonces_spec : ∀ (idxs : List Nat) (i : Nat) (s : List Nat), (∀ x ∈ s, x < N) →
    (takeNonces idxs i s).1.length = idxs.length ∧ (∀ x ∈ (takeNonces idxs i s).1, x < N) ∧
    (takeNonces idxs i s).2.length = s.length ∧ (∀ x ∈ (takeNonces idxs i s).2, x < N) ∧
    (∀ j, (∀ t, t < idxs.length → j ≠ (i + t) * 4 + idxs.getD t 0) → (takeNonces idxs i s).2[j]? = s[j]?) := by
  intro idxs
  induction idxs with
  | nil => intro i s hs; simp [takeNonces]; exact hs
  | cons idx rest ih =>
    intro i s hs
    have hs' : ∀ x ∈ s.set (i * 4 + idx) 0, x < N := by
      intro x hx
      rcases List.mem_or_eq_of_mem_set hx with h | h
      · exact hs x h
      · subst h; exact Algebra.N_pos
    obtain ⟨h1, h2, h3, h4, h5⟩ := ih (i + 1) (s.set (i * 4 + idx) 0) hs'
    have e : takeNonces (idx :: rest) i s =
        (s.getD (i * 4 + idx) 0 :: (takeNonces rest (i + 1) (s.set (i * 4 + idx) 0)).1,
          (takeNonces rest (i + 1) (s.set (i * 4 + idx) 0)).2) := by
      rw [takeNonces]
    rw [e]
    refine ⟨by simp [h1], ?_, by simpa using h3, h4, ?_⟩
    · intro x hx
      rcases List.mem_cons.mp hx with h | h
      · subst h; exact Algebra.getD_lt_N hs _
      · exact h2 x h
    · intro j hj
      simp only []
      rw [h5 j (fun t ht => by
        have := hj (t + 1) (by simp; omega)
        simp only [List.getD_cons_succ] at this
        intro h; apply this; rw [h]; ring)]
      have h0 := hj 0 (by simp)
      simp only [Nat.add_zero, List.getD_cons_zero] at h0
      exact List.getElem?_set_ne (Ne.symm h0)

/-- the 4096-byte side-channel buffer (`prep`) of `sign_impl`: the message, zero padded, with the value encoding in the
    last ring -/
def signPrep (pp : ProveParams) (message : Option Bytes) (msgLen : Nat) : Bytes :=
  let prep0 : Bytes := match message with
    | some m => m.take msgLen ++ Bytes.zeros (4096 - msgLen)
    | none => Bytes.zeros 4096
  let rsLast := pp.rsizes.getLastD 1
  if rsLast > 1 then
    let idx0 := rsLast - 1
    let idx1 := idx0 - (if pp.secidx.getLastD 0 = idx0 then 1 else 0)
    let blk := (pp.rings - 1) * 4 + idx1
    let v8 := Bytes.be8 pp.v
    setBlock prep0 blk ((128 : UInt8) :: Bytes.zeros 7 ++ v8 ++ v8 ++ v8)
  else prep0

/-- the per-ring blinding factors of `sign_impl`: those of `genrand`, the last one shifted by the commitment's -/
def signSecs (gr : GenRand) (blind : Bytes) : List Nat :=
  gr.sec.dropLast ++ [Sc.add (gr.sec.getLastD 0) (Sc.setB32 blind).1]

/-- the ring key array (`pubs` after `secp256k1_rangeproof_pub_expand`) of `sign_impl` -/
def signRingKeys (pp : ProveParams) (gr : GenRand) (blind : Bytes) (genp : Pt) : List Pt :=
  pubExpand (digitPts pp.scale genp (signSecs gr blind) pp.secidx 0) pp.exp pp.rsizes genp

theorem digitsValue_ge : ∀ (l : List Nat) (i : Nat), l.getD i 0 * 4 ^ i ≤ digitsValue l := by
  intro l
  induction l with
  | nil => intro i; simp [digitsValue]
  | cons d ds ih =>
    intro i
    cases i with
    | zero => simp [digitsValue]
    | succ i =>
      have := ih i
      simp only [List.getD_cons_succ, digitsValue, Nat.pow_succ]
      calc ds.getD i 0 * (4 ^ i * 4) = 4 * (ds.getD i 0 * 4 ^ i) := by ring
        _ ≤ 4 * digitsValue ds := Nat.mul_le_mul_left 4 this
        _ ≤ d + 4 * digitsValue ds := Nat.le_add_left _ _

theorem digitValue_nowrap {d scale i : Nat} (h : d * scale * 4 ^ i < 2 ^ 64) :
    digitValue d scale i = d * scale * 4 ^ i := by
  have h4 : (4 : Nat) ^ i = 2 ^ (i * 2) := by rw [Nat.mul_comm, Nat.pow_mul]
  have h1 : d * scale < 2 ^ 64 := by
    have : 1 ≤ 4 ^ i := Nat.one_le_pow _ _ (by decide)
    calc d * scale = d * scale * 1 := by ring
      _ ≤ d * scale * 4 ^ i := Nat.mul_le_mul_left _ this
      _ < 2 ^ 64 := h
  unfold digitValue u64
  rw [Nat.mod_eq_of_lt h1, Nat.shiftLeft_eq, ← h4, Nat.mod_eq_of_lt h]

theorem getD_lt_of_zip {a b : List Nat} (hlen : a.length = b.length) (h : ∀ p ∈ List.zip a b, p.1 < p.2)
    (i : Nat) (hi : i < b.length) : a.getD i 0 < b.getD i 0 := by
  have ha : i < a.length := by omega
  have := h (a[i], b[i]) (by
    rw [List.mem_iff_getElem]
    exact ⟨i, by simp [ha, hi], by simp⟩)
  simpa [List.getD_eq_getElem?_getD, List.getElem?_eq_getElem ha, List.getElem?_eq_getElem hi] using this

end Rangeproof
end SecpZkp
