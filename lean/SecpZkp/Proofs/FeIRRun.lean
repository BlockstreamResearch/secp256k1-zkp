import SecpZkp.Model.FeIR
import SecpZkp.Proofs.MiniC
import SecpZkp.Proofs.Field
import SecpZkp.Proofs.Prime
/-
  Symbolic execution of `FeIR` programs (`Model/FeIR.lean`) by rewriting.

  A run `execL ⟨fe, ints, false⟩ prog` is rewritten statement by statement (one equation `execS_…` per statement kind, the
  magnitude precondition as `guard'`, discharged by `omega`); the memory is a chain of `set`s on literal names, read by
  `FeEnv.get_set`.  `fe_exec` runs straight-line code (and code whose branch conditions are known); `fe_paths` runs a whole
  function with data-dependent branches into a decision tree with one leaf per `return`, merging branches that rejoin.
-/
namespace SecpZkp

namespace Fe

theorem sqr_mod (a : ℕ) : Fe.sqr (a % P) = Fe.sqr a := by
  unfold Fe.sqr; exact (Nat.mul_mod a a P).symm
theorem mul_mod_left (a b : ℕ) : Fe.mul (a % P) b = Fe.mul a b := by
  unfold Fe.mul; rw [Nat.mul_mod, Nat.mod_mod, ← Nat.mul_mod]
theorem mul_mod_right (a b : ℕ) : Fe.mul a (b % P) = Fe.mul a b := by
  unfold Fe.mul; rw [Nat.mul_mod, Nat.mod_mod, ← Nat.mul_mod]
theorem add_mod_left (a b : ℕ) : Fe.add (a % P) b = Fe.add a b := by
  unfold Fe.add; rw [Nat.add_mod, Nat.mod_mod, ← Nat.add_mod]
theorem add_mod_right (a b : ℕ) : Fe.add a (b % P) = Fe.add a b := by
  unfold Fe.add; rw [Nat.add_mod, Nat.mod_mod, ← Nat.add_mod]
theorem neg_mod (a : ℕ) : Fe.neg (a % P) = Fe.neg a := by
  unfold Fe.neg; rw [Nat.mod_mod]
theorem mul_comm' (a b : ℕ) : Fe.mul a b = Fe.mul b a := by unfold Fe.mul; rw [Nat.mul_comm]

end Fe

namespace FeIR
open MiniC

theorem FeEnv.get_set (e : FeEnv) (x y : String) (v : FeVal) :
    (e.set x v).get y = if x = y then v else e.get y := by
  unfold FeEnv.get FeEnv.set bne
  rw [find_set]
  -- `find_set` tests `y = x`; the uninstantiated `eq_comm` would loop
  by_cases h : x = y <;> simp [h, eq_comm (a := y)]

theorem ints_get_set (e : Env) (x y : String) (v : Nat) :
    (e.set x 0 v).get y 0 = if x = y then v else e.get y 0 := by
  unfold Env.get Env.set
  rw [find_set]
  by_cases h : x = y <;> simp [h, eq_comm (a := y)]

theorem FeEnv.set_set (e : FeEnv) (x : String) (v w : FeVal) : (e.set x v).set x w = e.set x w := by
  unfold FeEnv.set
  simp [List.filter_filter]

theorem obind_none {α β : Type} (f : α → Option β) : Option.bind none f = none := rfl

theorem execL_nil (st : State) : execL st [] = some st := by rw [execL]

theorem execL_returned (fe : FeEnv) (ints : Env) (l : List Stmt) :
    execL ⟨fe, ints, true⟩ l = some ⟨fe, ints, true⟩ := by
  cases l with
  | nil => rw [execL]
  | cons s rest => rw [execL]; simp

def guard' (c : Prop) [Decidable c] (x : State) : Option State := if c then some x else none

theorem guard'_pos {c : Prop} [Decidable c] (h : c) (x : State) : guard' c x = some x := if_pos h
theorem guard'_neg {c : Prop} [Decidable c] (h : ¬ c) (x : State) : guard' c x = none := if_neg h
theorem guard'_true (x : State) : guard' True x = some x := by cases x; rfl

def cont (o : Option State) (rest : List Stmt) : Option State := Option.bind o (fun st' => execL st' rest)

-- not by `rfl`: `simp` would then use the rule without recording a proof, and the kernel, re-checking
-- `cont (some st) rest ≡ execL st rest` by unfolding, can end in `x - 2147483648` on a non-literal `x` (see `expectFn`)
theorem cont_some (x : State) (rest : List Stmt) : cont (some x) rest = execL x rest := by cases x; rfl
theorem cont_none (rest : List Stmt) : cont none rest = none := rfl

theorem execL_step (fe : FeEnv) (ints : Env) (s : Stmt) (rest : List Stmt) :
    execL ⟨fe, ints, false⟩ (s :: rest) = cont (execS ⟨fe, ints, false⟩ s) rest := by
  rw [execL]
  simp only [Bool.false_eq_true, if_false]
  cases execS ⟨fe, ints, false⟩ s <;> rfl

theorem execL_append (st : State) (l1 l2 : List Stmt) : execL st (l1 ++ l2) = cont (execL st l1) l2 := by
  induction l1 generalizing st with
  | nil => rw [List.nil_append, execL_nil, cont_some]
  | cons s rest ih =>
    obtain ⟨fe, ints, r⟩ := st
    cases r with
    | true => rw [execL_returned, execL_returned, cont_some, execL_returned]
    | false =>
      rw [List.cons_append, execL_step, execL_step]
      cases execS ⟨fe, ints, false⟩ s with
      | none => rfl
      | some st1 => rw [cont_some, cont_some, ih]

def unscope (r : Bool) (o : Option State) : Option State := Option.map (fun st' => ⟨st'.fe, st'.ints, r⟩) o

theorem unscope_some (r r' : Bool) (fe : FeEnv) (ints : Env) :
    unscope r (some ⟨fe, ints, r'⟩) = some ⟨fe, ints, r⟩ := by cases r <;> rfl

section stmts
variable (fe : FeEnv) (ints : Env) (r : Bool)

theorem execS_set (d s : String) :
    execS ⟨fe, ints, r⟩ (.set d s) = some ⟨fe.set d (fe.get s), ints, r⟩ := by rw [execS]
theorem execS_setInt (d : String) (n : ℕ) :
    execS ⟨fe, ints, r⟩ (.setInt d n) = guard' (n ≤ 0x7FFF) ⟨fe.set d ⟨n, if n = 0 then 0 else 1⟩, ints, r⟩ := by
  rw [execS]; rfl
theorem execS_clear (d : String) :
    execS ⟨fe, ints, r⟩ (.clear d) = some ⟨fe.set d ⟨0, 0⟩, ints, r⟩ := by rw [execS]
theorem execS_const (d : String) (n : ℕ) :
    execS ⟨fe, ints, r⟩ (.const d n) = guard' (n < P) ⟨fe.set d ⟨n, 1⟩, ints, r⟩ := by rw [execS]; rfl
theorem execS_mul (d a b : String) :
    execS ⟨fe, ints, r⟩ (.mul d a b) = guard' ((fe.get a).mag ≤ 8 ∧ (fe.get b).mag ≤ 8)
      ⟨fe.set d ⟨Fe.mul (fe.get a).val (fe.get b).val, 1⟩, ints, r⟩ := by rw [execS]; rfl
theorem execS_sqr (d a : String) :
    execS ⟨fe, ints, r⟩ (.sqr d a) = guard' ((fe.get a).mag ≤ 8) ⟨fe.set d ⟨Fe.sqr (fe.get a).val, 1⟩, ints, r⟩ := by
  rw [execS]; rfl
theorem execS_add (d a : String) :
    execS ⟨fe, ints, r⟩ (.add d a) = guard' ((fe.get d).mag + (fe.get a).mag ≤ 32)
      ⟨fe.set d ⟨Fe.add (fe.get d).val (fe.get a).val, (fe.get d).mag + (fe.get a).mag⟩, ints, r⟩ := by
  rw [execS]; rfl
theorem execS_neg (d a : String) (m : ℕ) :
    execS ⟨fe, ints, r⟩ (.neg d a m) = guard' ((fe.get a).mag ≤ m ∧ m ≤ 31)
      ⟨fe.set d ⟨Fe.neg (fe.get a).val, m + 1⟩, ints, r⟩ := by rw [execS]; rfl
theorem execS_mulInt (d : String) (k : ℕ) :
    execS ⟨fe, ints, r⟩ (.mulInt d k) = guard' (k ≤ 32 ∧ (fe.get d).mag * k ≤ 32)
      ⟨fe.set d ⟨Fe.mul (fe.get d).val k, (fe.get d).mag * k⟩, ints, r⟩ := by rw [execS]; rfl
theorem execS_addInt (d : String) (k : ℕ) :
    execS ⟨fe, ints, r⟩ (.addInt d k) = guard' (k ≤ 0x7FFF ∧ (fe.get d).mag + 1 ≤ 32)
      ⟨fe.set d ⟨Fe.add (fe.get d).val k, (fe.get d).mag + 1⟩, ints, r⟩ := by rw [execS]; rfl
theorem execS_half (d : String) :
    execS ⟨fe, ints, r⟩ (.half d) = guard' ((fe.get d).mag ≤ 31)
      ⟨fe.set d ⟨Fe.half (canon (fe.get d).val), (fe.get d).mag / 2 + 1⟩, ints, r⟩ := by rw [execS]; rfl
theorem execS_norm (d : String) :
    execS ⟨fe, ints, r⟩ (.norm d) = guard' ((fe.get d).mag ≤ 32) ⟨fe.set d ⟨canon (fe.get d).val, 1⟩, ints, r⟩ := by
  rw [execS]; rfl
theorem execS_cmov (d s : String) (flag : Expr) :
    execS ⟨fe, ints, r⟩ (.cmov d s flag) = guard' (evalEI ints flag ≤ 1)
      ⟨fe.set d ⟨if evalEI ints flag = 1 then (fe.get s).val else (fe.get d).val,
        max (fe.get d).mag (fe.get s).mag⟩, ints, r⟩ := by rw [execS]; rfl
theorem execS_isZero (x f : String) :
    execS ⟨fe, ints, r⟩ (.isZero x f) = guard' ((fe.get f).mag ≤ 32)
      ⟨fe, ints.set x 0 (if canon (fe.get f).val = 0 then 1 else 0), r⟩ := by rw [execS]; rfl
theorem execS_isOdd (x f : String) :
    execS ⟨fe, ints, r⟩ (.isOdd x f) = guard' ((fe.get f).mag ≤ 1)
      ⟨fe, ints.set x 0 (canon (fe.get f).val % 2), r⟩ := by rw [execS]; rfl
theorem execS_equal (x f g : String) :
    execS ⟨fe, ints, r⟩ (.equal x f g) = guard' ((fe.get f).mag ≤ 1 ∧ (fe.get g).mag ≤ 31)
      ⟨fe, ints.set x 0 (if canon (fe.get f).val = canon (fe.get g).val then 1 else 0), r⟩ := by rw [execS]; rfl
theorem execS_int (x : String) (e : Expr) :
    execS ⟨fe, ints, r⟩ (.int x e) = some ⟨fe, ints.set x 0 (evalEI ints e), r⟩ := by rw [execS]
theorem execS_ite (c : Expr) (t e : List Stmt) :
    execS ⟨fe, ints, r⟩ (.ite c t e) =
      if evalEI ints c ≠ 0 then execL ⟨fe, ints, r⟩ t else execL ⟨fe, ints, r⟩ e := by rw [execS]
theorem execS_scope (body : List Stmt) :
    execS ⟨fe, ints, r⟩ (.scope body) = unscope r (execL ⟨fe, ints, r⟩ body) := by
  rw [execS]
  cases execL ⟨fe, ints, r⟩ body <;> rfl
theorem execS_inv (d a : String) :
    execS ⟨fe, ints, r⟩ (.inv d a) = guard' ((fe.get a).mag ≤ 8)
      ⟨fe.set d ⟨Fe.inv (canon (fe.get a).val), 1⟩, ints, r⟩ := by rw [execS]; rfl
theorem execS_isSquare (x f : String) :
    execS ⟨fe, ints, r⟩ (.isSquare x f) = guard' ((fe.get f).mag ≤ 32)
      ⟨fe, ints.set x 0 (if Fe.isSquare (canon (fe.get f).val) = true then 1 else 0), r⟩ := by rw [execS]; rfl
theorem execS_ret : execS ⟨fe, ints, r⟩ .ret = some ⟨fe, ints, true⟩ := by rw [execS]

end stmts

theorem ite_one_zero_eq_zero (c : Prop) [Decidable c] : ((if c then 1 else 0 : Nat) = 0) = ¬ c := by
  by_cases h : c <;> simp [h]
theorem ite_one_zero_eq_one (c : Prop) [Decidable c] : ((if c then 1 else 0 : Nat) = 1) = c := by
  by_cases h : c <;> simp [h]
theorem ite_one_zero_ne_zero (c : Prop) [Decidable c] : ((if c then 1 else 0 : Nat) ≠ 0) = c := by
  by_cases h : c <;> simp [h]
theorem ite_one_zero_le_one (c : Prop) [Decidable c] : ((if c then 1 else 0 : Nat) ≤ 1) = True := by
  by_cases h : c <;> simp [h]
theorem ite_not_swap {α : Type} (c : Prop) [Decidable c] (a b : α) :
    (if ¬ c then a else b) = if c then b else a := by
  by_cases h : c <;> simp [h]

theorem binIdeal_and (a b : ℕ) : binIdeal .and a b = a &&& b := rfl
theorem binIdeal_ne (a b : ℕ) : binIdeal .ne a b = if a ≠ b then 1 else 0 := rfl
theorem binIdeal_eq (a b : ℕ) : binIdeal .eq a b = if a = b then 1 else 0 := rfl
/-- the translator's `a && b` -/
theorem ite_ite_zero (a b : Prop) [Decidable a] [Decidable b] :
    (if a then (if b then 1 else 0) else 0 : ℕ) = if a ∧ b then 1 else 0 := by
  by_cases ha : a <;> by_cases hb : b <;> simp [ha, hb]
/-- the translator's `a || b` -/
theorem ite_one_ite (a b : Prop) [Decidable a] [Decidable b] :
    (if a then 1 else (if b then 1 else 0) : ℕ) = if a ∨ b then 1 else 0 := by
  by_cases ha : a <;> by_cases hb : b <;> simp [ha, hb]
theorem and_one_ne_zero (c : ℕ) : (¬ c &&& 1 = 0) = (c &&& 1 = 1) := by
  rw [Nat.and_one_is_mod]; apply propext; omega

theorem cont_ite (c : Prop) [Decidable c] (a b : Option State) (rest : List Stmt) :
    cont (if c then a else b) rest = if c then cont a rest else cont b rest := by
  by_cases h : c <;> simp [h]

theorem cont_cont (o : Option State) (l1 l2 : List Stmt) : cont (cont o l1) l2 = cont o (l1 ++ l2) := by
  cases o with
  | none => rfl
  | some st => rw [cont_some, cont_some, execL_append]

theorem unscope_ite (r : Bool) (c : Prop) [Decidable c] (a b : Option State) :
    unscope r (if c then a else b) = if c then unscope r a else unscope r b := by
  by_cases h : c <;> simp [h]

/-- When both branches of an `ite` end normally the two final states are merged into ONE state (`ite_some_some`), so
    that the rest of the function is executed once and not once per path.  The merged components are written with `sel`,
    not with `if`: `simp` re-simplifies both branches of an `if` under a fresh cache, which on values built from several
    nested joins revisits the whole expression tree at every step; `sel` is an ordinary function to it.  Magnitudes
    (small terms) stay `if`s, for `split_ifs`/`omega`. -/
def sel {α : Type} (c : Prop) [Decidable c] (a b : α) : α := if c then a else b

theorem sel_def {α : Type} (c : Prop) [Decidable c] (a b : α) : sel c a b = if c then a else b := rfl
theorem sel_self {α : Type} (c : Prop) [Decidable c] (a : α) : sel c a a = a := ite_self a
theorem sel_pos {α : Type} {c : Prop} [Decidable c] (h : c) (a b : α) : sel c a b = a := if_pos h
theorem sel_neg {α : Type} {c : Prop} [Decidable c] (h : ¬ c) (a b : α) : sel c a b = b := if_neg h

theorem ite_some_some (c : Prop) [Decidable c] (fe1 fe2 : FeEnv) (i1 i2 : Env) (r : Bool) :
    (if c then some (⟨fe1, i1, r⟩ : State) else some ⟨fe2, i2, r⟩) = some ⟨sel c fe1 fe2, sel c i1 i2, r⟩ := by
  by_cases h : c <;> simp only [h, if_true, if_false, sel_pos, sel_neg, not_false_eq_true]

theorem FeEnv.get_sel (c : Prop) [Decidable c] (e1 e2 : FeEnv) (y : String) :
    FeEnv.get (sel c e1 e2) y = sel c (e1.get y) (e2.get y) := apply_ite (FeEnv.get · y) c e1 e2
theorem ints_get_sel (c : Prop) [Decidable c] (e1 e2 : Env) (y : String) :
    Env.get (sel c e1 e2) y 0 = sel c (e1.get y 0) (e2.get y 0) := apply_ite (Env.get · y 0) c e1 e2
theorem FeVal.val_sel (c : Prop) [Decidable c] (a b : FeVal) : (sel c a b).val = sel c a.val b.val :=
  apply_ite FeVal.val c a b
theorem FeVal.mag_sel (c : Prop) [Decidable c] (a b : FeVal) : (sel c a b).mag = if c then a.mag else b.mag :=
  apply_ite FeVal.mag c a b

theorem ite_prod_sel {α β : Type} (c : Prop) [Decidable c] (a : α) (b : β) (q : α × β) :
    (if c then (a, b) else q) = (sel c a q.1, sel c b q.2) := by
  by_cases h : c <;> simp only [h, if_true, if_false, sel_pos, sel_neg, not_false_eq_true]

attribute [irreducible] sel

/-- `EXPECT(flag, 0)` of the C sources: clang shows `__builtin_expect((long)(flag), 0)` as a sign extension
    `(flag ^ 2^31) - 2^31`; on a 0/1 flag it is the identity.  The subtraction is kept behind a definition: a term
    `x - 2147483648` with a non-literal `x` must never reach `whnf` (unary recursion on the literal). -/
def expectFn (x : ℕ) : ℕ := binIdeal .sub (binIdeal .xor x 2147483648) 2147483648

theorem evalEI_expect (ints : Env) (e : MiniC.Expr) :
    evalEI ints (.bin .sub 64 (.bin .xor 64 e (.lit 2147483648)) (.lit 2147483648)) = expectFn (evalEI ints e) := by
  cases e <;> rfl
theorem expectFn_one : expectFn 1 = 1 := by decide +kernel
theorem expectFn_zero : expectFn 0 = 0 := by decide +kernel
theorem expectFn_ite (c : Prop) [Decidable c] : expectFn (if c then 1 else 0) = if c then 1 else 0 := by
  by_cases h : c
  · simp only [if_pos h, expectFn_one]
  · simp only [if_neg h, expectFn_zero]

/-- `∃ st', o = some st' ∧ Q st'` behind a name, so that `fe_paths` can push it through the decision tree (`post_ite`) and
    open it at each leaf (`post_some`); `apply Post.elim` puts a goal into this form. -/
def Post (o : Option State) (Q : State → Prop) : Prop := ∃ st', o = some st' ∧ Q st'

theorem post_some (st : State) (Q : State → Prop) : Post (some st) Q = Q st := by
  unfold Post; simp

theorem post_ite (c : Prop) [Decidable c] (a b : Option State) (Q : State → Prop) :
    Post (if c then a else b) Q = if c then Post a Q else Post b Q := by
  by_cases h : c <;> simp [h]

/-- `∃ st', …` is not decidable; the closed examples evaluate this form by one `decide +kernel` -/
theorem exists_of_map_decide {o : Option State} {Q : State → Prop} [DecidablePred Q]
    (h : o.map (fun st' => decide (Q st')) = some true) : ∃ st', o = some st' ∧ Q st' := by
  cases o with
  | none => exact absurd h (by simp)
  | some st => exact ⟨st, rfl, of_decide_eq_true (Option.some.inj h)⟩

theorem Post.elim {o : Option State} {Q : State → Prop} (h : Post o Q) : ∃ st', o = some st' ∧ Q st' := h

theorem ite_intro {c : Prop} [Decidable c] {A B : Prop} (h1 : c → A) (h2 : ¬ c → B) : if c then A else B := by
  by_cases h : c
  · rw [if_pos h]; exact h1 h
  · rw [if_neg h]; exact h2 h

/-- One split of the decision tree in the goal; the same condition is resolved in the hypothesis `hm` (the model side).
    No `assumption`/`split_ifs` here: they compare DIFFERENT conditions up to unfolding, which on closed terms
    (`Fe.isSquare` of a literal expression) does not terminate within the recursion limit. -/
macro "fe_split1" hm:ident : tactic => `(tactic|
  (refine ite_intro (fun h => ?_) (fun h => ?_) <;>
   first
   | (simp only [if_pos h] at $hm:ident)
   | (simp only [if_neg h] at $hm:ident)
   | skip))

theorem post_append {st : State} {l1 l2 : List Stmt} {Q : State → Prop} (Q1 : State → Prop)
    (h1 : Post (execL st l1) Q1) (h2 : ∀ st1, Q1 st1 → Post (execL st1 l2) Q) : Post (execL st (l1 ++ l2)) Q := by
  obtain ⟨st1, e1, q1⟩ := h1
  obtain ⟨st2, e2, q2⟩ := h2 st1 q1
  exact ⟨st2, by rw [execL_append, e1, cont_some, e2], q2⟩

theorem canon_def (v : ℕ) : canon v = v % P := rfl

theorem canon_of_lt {v : ℕ} (h : v < P) : canon v = v := Nat.mod_eq_of_lt h

theorem canon_add (a b : ℕ) : canon (Fe.add a b) = Fe.add a b := canon_of_lt (Fe.add_lt_P _ _)
theorem canon_mul (a b : ℕ) : canon (Fe.mul a b) = Fe.mul a b := canon_of_lt (Fe.mul_lt_P _ _)
theorem canon_sqr (a : ℕ) : canon (Fe.sqr a) = Fe.sqr a := canon_of_lt (Fe.sqr_lt_P _)
theorem canon_neg (a : ℕ) : canon (Fe.neg a) = Fe.neg a := canon_of_lt (Fe.neg_lt_P _)
theorem canon_inv (a : ℕ) : canon (Fe.inv a) = Fe.inv a := canon_of_lt (Fe.inv_lt_P _)
theorem canon_canon (a : ℕ) : canon (canon a) = canon a := canon_of_lt (Nat.mod_lt _ P_pos)
theorem canon_sqrtCand (a : ℕ) : canon (Fe.sqrtCand a) = Fe.sqrtCand a := canon_of_lt (Fe.sqrtCand_lt_P _)

theorem canon_inv_canon (a : ℕ) : Fe.inv (canon a) = Fe.inv a := by
  unfold canon Fe.inv powMod; rw [Nat.mod_mod]
theorem isSquare_canon (a : ℕ) : Fe.isSquare (canon a) = Fe.isSquare a := by
  unfold canon Fe.isSquare Fe.sqrtCand powMod; rw [Nat.mod_mod]

/-- The value of a `.const` statement is wrapped in this irreducible identity (`execS_const'`).  When `u = 0` and
    `t = 0` every value in `xswiftec_frac_var` is a closed term (`Fe.sqr 1`, …, `Fe.isSquare (…)`); unification of two
    DIFFERENT closed terms (e.g. two conditions of the decision tree) falls back to evaluation, which for `powMod`-based
    functions exceeds the recursion limit of the elaborator. -/
def lit (n : ℕ) : ℕ := n
theorem lit_eq (n : ℕ) : lit n = n := rfl
attribute [irreducible] lit

theorem execS_const' (fe : FeEnv) (ints : MiniC.Env) (r : Bool) (d : String) (n : ℕ) :
    execS ⟨fe, ints, r⟩ (.const d n) = guard' (n < P) ⟨fe.set d ⟨lit n, 1⟩, ints, r⟩ := by
  simp only [execS_const, lit_eq]

/-- Without the rule for `.const` (`fe_exec` and `fe_paths` differ there).  `↓reduceIte` decides the comparison of names
    in `if x = y then v else e.get y` BEFORE the branches are visited (otherwise every lookup simplifies the whole chain
    below it first).  For names that are variables the caller passes their (in)equalities as extra rules. -/
macro "fe_core" "[" ts:Lean.Parser.Tactic.simpLemma,* "]" : tactic =>
  `(tactic| simp (maxSteps := 10000000) (disch := first | omega | (split_ifs <;> omega)) only [execL_step, execL_nil,
      execL_returned, cont_some, unscope_some, guard'_pos, guard'_true,
      execS_set, execS_setInt, execS_clear, execS_mul, execS_sqr, execS_add, execS_neg, execS_mulInt,
      execS_addInt, execS_half, execS_norm, execS_cmov, execS_isZero, execS_isOdd, execS_equal, execS_int,
      execS_ite, execS_scope, execS_ret,
      FeEnv.get_set, ints_get_set, String.reduceEq, ↓reduceIte, MiniC.evalEI, if_false, if_true,
      ite_one_zero_eq_zero, ite_one_zero_eq_one, ite_one_zero_ne_zero, ite_one_zero_le_one,
      ne_eq, not_true_eq_false, not_false_eq_true, one_ne_zero, zero_ne_one, eq_self, true_and, and_true,
      OfNat.ofNat_ne_zero, Nat.succ_ne_zero, reduceCtorEq, $ts,*])

macro "fe_exec" "[" ts:Lean.Parser.Tactic.simpLemma,* "]" : tactic => `(tactic| fe_core [execS_const, $ts,*])

/-- a frame fact `∀ n ∈ [x₁, …, xₖ], f n = g n` as `k` rewrite rules (`ts`: the definition of the list, and what is
    known about the `g xᵢ`) -/
macro "frame_facts" "[" ts:Lean.Parser.Tactic.simpLemma,* "]" loc:Lean.Parser.Tactic.location : tactic =>
  `(tactic| simp only [List.forall_mem_cons, List.not_mem_nil, false_imp_iff, implies_true, and_true, $ts,*] $loc)

macro "fe_paths" "[" ts:Lean.Parser.Tactic.simpLemma,* "]" : tactic =>
  `(tactic| fe_core [execS_const', execS_inv, execS_isSquare, not_not,
      ite_some_some, FeEnv.get_sel, ints_get_sel, FeVal.val_sel, FeVal.mag_sel, sel_self, ite_self,
      cont_ite, cont_cont, List.cons_append, List.nil_append, unscope_ite, ↓evalEI_expect, expectFn_ite, post_some, post_ite,
      canon_add, canon_mul, canon_sqr, canon_neg, canon_inv, canon_inv_canon, isSquare_canon, canon_sqrtCand, one_lt_P,
      $ts,*])

end FeIR
end SecpZkp
