import SecpZkp.Proofs.BpppRound
import SecpZkp.Proofs.BpppCodec
import SecpZkp.Proofs.BytesBasic
/-
  Completeness of the Bulletproofs++ norm argument: the prover loop (`proveLoop_spec`); what the verifier compares,
  for any proof bytes whose chunks parse, with `s_g` / `s_h` in closed form (`verifyEquation_good`); and that on an honest
  proof the two agree (`final_eq`, `prove_verify`).  Prover and verifier are described by ONE family of weights `wt (chG ρ γ)`.
-/
namespace SecpZkp
namespace Bppp
open _root_.SecpZkp.Algebra Finset

/-- weight pair of round `k`: of the `G` generators and the verifier's `s_g`; of the `H` generators, `c` and `s_h` with
`ρ = 1` -/
def chG (rho : ZMod N) (γ : ℕ → ℕ) (k : ℕ) : ZMod N × ZMod N := (rho ^ 2 ^ k, (γ k : ZMod N))

theorem chG_succ (rho : ZMod N) (γ : ℕ → ℕ) : (fun k => chG rho γ (k + 1)) = chG (rho ^ 2) fun k => γ (k + 1) :=
  funext fun k => by rw [chG, chG, pow_succ' 2 k, pow_mul]

/-- the weight after one round (as `foldSt_spec` gives it), raised to the remaining `2^(a-1)` -/
theorem pow_two_pow_pred (mu : ZMod N) (a : Nat) : (if 0 < a then mu ^ 2 else mu) ^ 2 ^ (a - 1) = mu ^ 2 ^ a := by
  cases a with
  | zero => rfl
  | succ a' => rw [if_pos (Nat.succ_pos _), Nat.add_sub_cancel, ← pow_mul, ← pow_succ']

theorem wt_sum_round {M : Type*} [AddCommGroup M] [Module (ZMod N) M] {k a : ℕ} (hlen : eL k = 2 ^ a)
    (c : ℕ → ZMod N × ZMod N) (f f' : ℕ → M)
    (hf : ∀ j, j ≤ k / 2 → f' j = if j < k / 2 then (c 0).1 • f (2 * j) + (c 0).2 • f (2 * j + 1) else f j) :
    ∑ i ∈ range (2 ^ (a - 1)), wt (fun k => c (k + 1)) (a - 1) i • f' i = ∑ i ∈ range (2 ^ a), wt c a i • f i := by
  rcases eL_cases hlen with ⟨rfl, hk, _⟩ | ⟨ha, _, _, _, _, hk2⟩
  · simp only [Nat.zero_sub, pow_zero, sum_range_one, wt, one_smul]
    rw [hf 0 (Nat.zero_le _), if_neg (by omega)]
  · obtain ⟨a', rfl⟩ : ∃ a', a = a' + 1 := ⟨a - 1, by omega⟩
    rw [Nat.add_sub_cancel] at hk2 ⊢
    rw [pow_succ, mul_comm, wt_sum_split]
    exact sum_congr rfl fun j hj => by
      rw [hf j (by rw [hk2]; exact (mem_range.1 hj).le), if_pos (by rw [hk2]; exact mem_range.1 hj)]

section Loop
variable [hgl : HasGroupLaw]

def serXR (xr : TPt × TPt) : Bytes := serializePoints (ofT xr.1) (ofT xr.2)

def gammasOf (t : Sha256.State) : List (TPt × TPt) → List Nat
  | [] => []
  | xr :: rest => gammaOf t xr.1 xr.2 :: gammasOf (Sha256.write t (serXR xr)) rest

def gam (t : Sha256.State) (rs : List (TPt × TPt)) (k : ℕ) : ℕ := (gammasOf t rs).getD k 0

def tsAfter (t : Sha256.State) : List (TPt × TPt) → Sha256.State
  | [] => t
  | xr :: rest => tsAfter (Sha256.write t (serXR xr)) rest

def proofOf (rs : List (TPt × TPt)) : Bytes := rs.flatMap serXR

def xrSum (gs : List Nat) (rs : List (TPt × TPt)) : TPt :=
  ∑ k ∈ range rs.length, (((gs.getD k 0 : Nat) : ZMod N) • (rs.getD k (0, 0)).1 +
    (((gs.getD k 0 : Nat) : ZMod N) ^ 2 - 1) • (rs.getD k (0, 0)).2)

theorem xrSum_cons (γ : Nat) (gs : List Nat) (xr : TPt × TPt) (rs : List (TPt × TPt)) :
    xrSum (γ :: gs) (xr :: rs) = (γ : ZMod N) • xr.1 + ((γ : ZMod N) ^ 2 - 1) • xr.2 + xrSum gs rs := by
  unfold xrSum
  rw [List.length_cons, sum_range_succ']
  simp only [List.getD_cons_succ, List.getD_cons_zero]
  rw [add_comm]

theorem proveLoop_spec (G r : Nat) : ∀ (st : ProveState) (a b fuel : Nat), WF G st a b →
    a ≤ r → b ≤ r → (a = r ∨ b = r) → r ≤ fuel →
    ∃ (rs : List (TPt × TPt)) (stf : ProveState), proveLoop G fuel st = some stf ∧ rs.length = r ∧
      stf.proof = st.proof ++ proofOf rs ∧ stf.transcript = tsAfter st.transcript rs ∧
      WF G stf 0 0 ∧
      (∀ mu : ZMod N, (0 < a → mu = (st.muF : ZMod N)) →
        comT G stf (mu ^ 2 ^ a) = comT G st mu + xrSum (gammasOf st.transcript rs) rs) ∧
      pv stf.g 0 = ∑ i ∈ range (2 ^ a),
        wt (chG (st.rhoF : ZMod N) (gam st.transcript rs)) a i • pv st.g i ∧
      pv stf.g G = ∑ i ∈ range (2 ^ b), wt (chG 1 (gam st.transcript rs)) b i • pv st.g (G + i) ∧
      sv stf.c 0 = ∑ i ∈ range (2 ^ b), wt (chG 1 (gam st.transcript rs)) b i * sv st.c i := by
  induction r with
  | zero =>
    intro st a b fuel hwf ha hb _ _
    obtain rfl : a = 0 := by omega
    obtain rfl : b = 0 := by omega
    refine ⟨[], st, ?_, rfl, (List.append_nil _).symm, rfl, hwf, fun mu _ => by simp [xrSum], by simp [wt],
      by simp [wt], by simp [wt]⟩
    cases fuel with
    | zero => rfl
    | succ f =>
      unfold proveLoop
      rw [if_neg]
      have h1 := one_lt_iff_of_eL hwf.glen
      have h2 := one_lt_iff_of_eL hwf.hlen
      omega
  | succ r ih =>
    -- one round (`foldSt_spec`), then `ih` on the folded state; `wt_sum_round` puts the round's weight pair in front
    intro st a b fuel hwf ha hb hab hfuel
    obtain ⟨f, rfl⟩ : ∃ f, fuel = f + 1 := ⟨fuel - 1, by omega⟩
    have h1 := one_lt_iff_of_eL hwf.glen
    have h2 := one_lt_iff_of_eL hwf.hlen
    obtain ⟨hwf', hcom, hrho, hGpv, hHpv, hcsv⟩ := foldSt_spec G st a b hwf
      (gammaOf st.transcript (xPt G st) (rPt G st)) (challengeScalar_lt _ _)
      (Sha256.write st.transcript (serXR (xPt G st, rPt G st))) (st.proof ++ serXR (xPt G st, rPt G st))
    obtain ⟨rs', stf, hloop, hlen, hpf', htr', hwff, hcom', hG', hH', hc'⟩ :=
      ih _ (a - 1) (b - 1) f hwf' (by omega) (by omega) (by omega) (by omega)
    refine ⟨(xPt G st, rPt G st) :: rs', stf, ?_, by simp [hlen], hpf'.trans (List.append_assoc _ _ _), htr',
      hwff, fun mu hmu => ?_, ?_, ?_, ?_⟩
    · unfold proveLoop
      rw [if_pos (by omega), proveRound_some G st hwf.good hwf.nlt hwf.llt]
      exact hloop
    · have e := hcom' (if 0 < a then mu ^ 2 else mu) fun _ => by
        rw [if_pos (by omega), hmu (by omega)]
        exact (cast_scSqr _).symm
      rw [pow_two_pow_pred, hcom mu hmu] at e
      rw [e, gammasOf, xrSum_cons]
      simp only [add_assoc]
      rfl
    · rw [hG', hrho]
      have := wt_sum_round hwf.glen (chG (st.rhoF : ZMod N) (gam st.transcript ((xPt G st, rPt G st) :: rs')))
        (pv st.g) _ fun j hj => (hGpv j (by have := half_lt_eL st.gLen; have := hwf.gG; omega)).trans
          (by simp only [chG, pow_zero, pow_one, gam, gammasOf, List.getD_cons_zero])
      rw [chG_succ] at this
      exact this
    · rw [hH']
      have := wt_sum_round hwf.hlen (chG 1 (gam st.transcript ((xPt G st, rPt G st) :: rs')))
        (fun i => pv st.g (G + i)) _ fun j _ => (hHpv j).trans (ite_congr rfl (fun _ => by
          simp only [chG, pow_zero, pow_one, one_smul]
          exact add_comm _ _) fun _ => rfl)
      rw [chG_succ, one_pow] at this
      exact this
    · rw [hc']
      have := wt_sum_round hwf.hlen (chG 1 (gam st.transcript ((xPt G st, rPt G st) :: rs')))
        (sv st.c) _ fun j _ => (hcsv j).trans (ite_congr rfl (fun _ => by
          simp only [chG, pow_zero, pow_one, smul_eq_mul, one_mul]
          exact congrArg _ (mul_comm _ _)) fun _ => rfl)
      rw [chG_succ, one_pow] at this
      exact this

end Loop
section Verifier
variable [hgl : HasGroupLaw]

theorem length_serXR (xr : TPt × TPt) : (serXR xr).length = 65 := length_serializePoints _ _

theorem length_proofOf (rs : List (TPt × TPt)) : (proofOf rs).length = 65 * rs.length :=
  Bytes.length_flatMap serXR 65 length_serXR rs

theorem chunk_proofOf (rs : List (TPt × TPt)) (pre post : Bytes) (i0 : Nat) (hpre : pre.length = 65 * i0)
    (k : Nat) (hk : k < rs.length) :
    ((pre ++ proofOf rs ++ post).drop (65 * (i0 + k))).take 65 = serXR (rs.getD k (0, 0)) := by
  rw [List.getD_eq_getElem?_getD, List.getElem?_eq_getElem hk]
  exact Bytes.chunk_flatMap serXR 65 length_serXR rs pre post i0 hpre k hk

theorem gammasLoop_proofOf (rs : List (TPt × TPt)) (pre post : Bytes) (i0 : Nat) (hpre : pre.length = 65 * i0)
    (t : Sha256.State) (acc : List Nat) :
    gammasLoop (pre ++ proofOf rs ++ post) rs.length i0 t acc = (acc ++ gammasOf t rs, tsAfter t rs) := by
  induction rs generalizing pre i0 t acc with
  | nil => simp [gammasLoop, gammasOf, tsAfter]
  | cons xr rest ih =>
    have hchunk := chunk_proofOf (xr :: rest) pre post i0 hpre 0 (by simp)
    rw [Nat.add_zero, List.getD_cons_zero] at hchunk
    rw [List.length_cons, gammasLoop, Nat.mul_comm, hchunk]
    have := ih (pre ++ serXR xr) (i0 + 1) (by rw [List.length_append, length_serXR, hpre]; ring)
      (Sha256.write t (serXR xr)) (acc ++ [challengeScalar (Sha256.write t (serXR xr)) 0])
    rw [show proofOf (xr :: rest) = serXR xr ++ proofOf rest from List.flatMap_cons, ← List.append_assoc pre, this]
    simp [gammasOf, tsAfter, gammaOf, serXR]

omit hgl in
theorem gammasLoop_lt (proof : Bytes) (k i : Nat) (t : Sha256.State) (acc : List Nat) (h : ∀ x ∈ acc, x < N) :
    ∀ x ∈ (gammasLoop proof k i t acc).1, x < N := by
  induction k generalizing i t acc with
  | zero => exact h
  | succ k ih =>
    exact ih _ _ _ fun x hx => (List.mem_append.1 hx).elim (h x) fun hx => by
      rw [List.mem_singleton.1 hx]; exact challengeScalar_lt _ _

theorem res1_eq (proof : Bytes) (rs : List (TPt × TPt)) (C : TPt) (gs : List Nat) (hgs : ∀ k, gs.getD k 0 < N)
    (hXR : ∀ k, k < rs.length →
      parseOneOfPoints ((proof.drop (65 * k)).take 65) 0 = some (ofT (rs.getD k (0, 0)).1) ∧
      parseOneOfPoints ((proof.drop (65 * k)).take 65) 1 = some (ofT (rs.getD k (0, 0)).2)) :
    ecmultMulti none (verifyCb1 proof (ofT C) gs) (2 * rs.length + 1) = some (ofT (C + xrSum gs rs)) := by
  rw [Nat.add_comm, ecmultMulti_two none _ 1 (2 * rs.length) (fun _ => 1)
    (fun i => if i % 2 = 0 then gs.getD (i / 2) 0 else Sc.add (scSqr (gs.getD (i / 2) 0)) (Sc.neg 1))
    (fun _ => C) (fun i => if i % 2 = 0 then (rs.getD (i / 2) (0, 0)).1 else (rs.getD (i / 2) (0, 0)).2)]
  · rw [sum_range_one, sum_range_even_odd, ← sum_add_distrib]
    simp only [initT, zero_add, Nat.cast_one, one_smul, Nat.mul_mod_right, if_true, Nat.mul_add_mod, Nat.one_mod,
      Nat.one_ne_zero, if_false, Nat.mul_div_cancel_left _ Nat.two_pos, show ∀ k, (2 * k + 1) / 2 = k by omega,
      cast_add, cast_neg, cast_scSqr, ← sub_eq_add_neg]
    rfl
  · intro i _; obtain rfl : i = 0 := by omega
    rfl
  · intro i hi
    have hk : i / 2 < rs.length := by omega
    unfold verifyCb1
    rw [if_neg (by omega), Nat.add_sub_cancel_left]
    by_cases he : i % 2 = 0
    · simp only [if_pos he, (hXR _ hk).1]
    · simp only [if_neg he, (hXR _ hk).2]
  · exact fun _ _ => by decide +kernel
  · intro i _
    split
    · exact hgs _
    · exact Sc.add_lt _ _
  · intro s hs; cases hs

end Verifier
section SVec
variable [hgl : HasGroupLaw]

theorem cast_powersOfRho (x n k : Nat) (hk : k < n) :
    (((powersOfRho x n).getD k 0 : Nat) : ZMod N) = (x : ZMod N) ^ 2 ^ k := by
  induction n generalizing x k with
  | zero => omega
  | succ m ih =>
    cases k with
    | zero => simp [powersOfRho]
    | succ k' =>
      simp only [powersOfRho, List.getD_cons_succ]
      rw [ih _ k' (by omega), scSqr, cast_mul, ← sq, ← pow_mul, pow_succ 2 k', mul_comm (2 ^ k') 2]

theorem cast_sqrTimes (x k : Nat) : ((sqrTimes x k : Nat) : ZMod N) = (x : ZMod N) ^ 2 ^ k := by
  induction k generalizing x with
  | zero => simp [sqrTimes]
  | succ k' ih =>
    rw [sqrTimes, ih, scSqr, cast_mul, ← sq, ← pow_mul, pow_succ 2 k', mul_comm (2 ^ k') 2]

/-- `Π_{k<m} ρ^(2^k) = ρ^(2^m - 1)`, in the form of the C code's `s_g[0] = n · rho_f · rho_inv` -/
theorem wt_chG_zero {rho : ZMod N} (hrho : rho ≠ 0) (γ : ℕ → ℕ) (m : ℕ) :
    wt (chG rho γ) m 0 = rho ^ 2 ^ m * rho⁻¹ := by
  induction m generalizing rho γ with
  | zero => rw [wt, pow_zero, pow_one, mul_inv_cancel₀ hrho]
  | succ m ih =>
    simp only [wt, chG_succ]
    rw [ih (rho := rho ^ 2) (pow_ne_zero 2 hrho), pow_succ' 2 m, pow_mul]
    simp only [chG, pow_zero, pow_one, if_neg (by decide : ¬ 0 % 2 = 1)]
    field_simp

omit hgl in
theorem getD_concat {α : Type} (l : List α) (x d : α) (j : Nat) :
    (l ++ [x]).getD j d = if j < l.length then l.getD j d else if j = l.length then x else d := by
  simp only [List.getD_eq_getElem?_getD, List.getElem?_append]
  split
  · rfl
  · split
    · rename_i h1 h2; subst h2; simp
    · rename_i h1 h2
      have : j - l.length ≠ 0 := by omega
      cases hh : j - l.length with
      | zero => omega
      | succ m => simp

/-- the loop shared by `sGLoop` and `sHLoop`: entry `i` from the entry with the top bit of `i` cleared -/
def topBitLoop (m : Nat → Nat → Nat) : Nat → Nat → List Nat → List Nat
  | 0, _, s => s
  | k + 1, i, s => topBitLoop m k (i + 1) (s ++ [m (s.getD (i - 2 ^ log2 i) 0) (log2 i)])

omit hgl in
theorem sGLoop_eq (gammas rip : List Nat) (cnt i : Nat) (sG : List Nat) :
    sGLoop gammas rip cnt i sG =
      topBitLoop (fun x k => Sc.mul (Sc.mul x (gammas.getD k 0)) (rip.getD k 0)) cnt i sG := by
  induction cnt generalizing i sG with
  | zero => rfl
  | succ c ih => exact ih _ _

omit hgl in
theorem sHLoop_eq (gammas : List Nat) (cnt i : Nat) (sH : List Nat) :
    sHLoop gammas cnt i sH = topBitLoop (fun x k => Sc.mul x (gammas.getD k 0)) cnt i sH := by
  induction cnt generalizing i sH with
  | zero => rfl
  | succ c ih => exact ih _ _

/-- `hm`: applying `m · k` exchanges the first weight of bit `k` for the second (stated without a division) -/
theorem topBitLoop_spec (m : Nat → Nat → Nat) (ch : ℕ → ZMod N × ZMod N) (nb : ℕ) (s0 : ZMod N)
    (hne : ∀ k, (ch k).1 ≠ 0)
    (hm : ∀ x k, k < nb → ((m x k : Nat) : ZMod N) * (ch k).1 = (x : ZMod N) * (ch k).2)
    (hmlt : ∀ x k, m x k < N)
    (cnt i : Nat) (s : List Nat) (hlen : s.length = i) (hi : 1 ≤ i) (hbound : i + cnt ≤ 2 ^ nb)
    (hinv : ∀ j, j < i → ((s.getD j 0 : Nat) : ZMod N) = s0 * wt ch nb j) (hlt : ∀ j, s.getD j 0 < N) :
    (topBitLoop m cnt i s).length = i + cnt ∧
    (∀ j, j < i + cnt → (((topBitLoop m cnt i s).getD j 0 : Nat) : ZMod N) = s0 * wt ch nb j) ∧
    ∀ j, (topBitLoop m cnt i s).getD j 0 < N := by
  induction cnt generalizing i s with
  | zero => exact ⟨hlen, hinv, hlt⟩
  | succ c ih =>
    have hi0 : i ≠ 0 := by omega
    have hlog : log2 i < nb := (Nat.log2_lt hi0).2 (by omega)
    have hlo : 2 ^ log2 i ≤ i := Nat.log2_self_le hi0
    have hhi : i < 2 ^ (log2 i + 1) := Nat.lt_log2_self
    have hpos : 0 < 2 ^ log2 i := Nat.two_pow_pos _
    obtain ⟨h1, h2, h3⟩ := ih (i + 1) (s ++ [m (s.getD (i - 2 ^ log2 i) 0) (log2 i)])
      (by simp [hlen]) (by omega) (by omega)
      (fun j hj => by
        rw [getD_concat, hlen]
        by_cases hji : j < i
        · rw [if_pos hji]; exact hinv j hji
        · obtain rfl : j = i := by omega
          rw [if_neg hji, if_pos rfl]
          apply mul_right_cancel₀ (hne (log2 j))
          rw [hm _ _ hlog, hinv _ (by omega), mul_assoc, mul_assoc, wt_top_bit ch nb (log2 j) j hlog hlo hhi])
      (fun j => by
        rw [getD_concat]
        split
        · exact hlt j
        · split
          · exact hmlt _ _
          · exact N_pos)
    exact ⟨h1.trans (by omega), fun j hj => h2 j (by omega), h3⟩

end SVec
section Final
variable [hgl : HasGroupLaw]

omit hgl in
theorem nRounds_two_pow (a b : Nat) : nRounds (2 ^ a) (2 ^ b) = max a b := by
  unfold nRounds log2
  rw [Nat.log2_two_pow, Nat.log2_two_pow]
  split <;> omega

omit hgl in
theorem getD_of_mem_good {g : List Pt} (h : ∀ p ∈ g, Good p) (j : Nat) : Good (g.getD j .inf) :=
  getD_of_forall_mem (p := Good) good_inf h j

/-- For ANY proof bytes whose chunks parse to points of order dividing `N`, not only an honest proof.
`s_g j = n Π_{k<a} (if bit k of j then γ_k else ρ^(2^k))` is the weight by which the prover's `G_j` enters its folded
generator; the C code computes it as `n ρ^(2^a - 1) Π_{k ∈ bits j} γ_k ρ^(-2^k)`. -/
theorem verifyEquation_good (proof : Bytes) (t : Sha256.State) (rho : Nat) (gens : List Pt) (gLen : Nat)
    (cVec : List Nat) (C : TPt) (a b n l : Nat) (rs : List (TPt × TPt)) (gs : List Nat)
    (ha : gLen = 2 ^ a) (hb : cVec.length = 2 ^ b) (hgood : ∀ p ∈ gens, Good p) (hρ : (rho : ZMod N) ≠ 0) (hl : l < N)
    (hgs : (gammasLoop proof rs.length 0 t []).1 = gs)
    (hXR : ∀ k, k < rs.length →
      parseOneOfPoints ((proof.drop (65 * k)).take 65) 0 = some (ofT (rs.getD k (0, 0)).1) ∧
      parseOneOfPoints ((proof.drop (65 * k)).take 65) 1 = some (ofT (rs.getD k (0, 0)).2)) :
    ∃ sG sH : List Nat,
      (∀ j, j < 2 ^ a → sv sG j = (n : ZMod N) * wt (chG (rho : ZMod N) (gs.getD · 0)) a j) ∧
      (∀ j, j < 2 ^ b → sv sH j = (l : ZMod N) * wt (chG 1 (gs.getD · 0)) b j) ∧
      verifyEquation proof t rho gens gLen cVec (ofT C) rs.length a n l =
        some (ofT (C + xrSum gs rs),
          ofT (((n : ZMod N) * n * ((rho : ZMod N) ^ 2 ^ a) ^ 2 + ∑ i ∈ range (2 ^ b), sv cVec i * sv sH i) • GT +
            (gP sG gens 0 (2 ^ a) + gP sH gens gLen (2 ^ b)))) := by
  subst ha
  have hpa := Nat.two_pow_pos a
  have hpb := Nat.two_pow_pos b
  have hgslt : ∀ k, gs.getD k 0 < N := hgs ▸ getD_lt_N (gammasLoop_lt _ _ _ _ _ fun _ h => nomatch h)
  obtain ⟨_, sg2, sg3⟩ := topBitLoop_spec
    (fun x k => Sc.mul (Sc.mul x (gs.getD k 0)) ((powersOfRho (Sc.inv rho) a).getD k 0))
    (chG (rho : ZMod N) (gs.getD · 0)) a (n : ZMod N) (fun _ => pow_ne_zero _ hρ)
    (fun x k hk => by
      rw [cast_mul, cast_mul, cast_powersOfRho _ _ _ hk, cast_inv, inv_pow, mul_assoc]
      exact congrArg _ (inv_mul_cancel₀ (pow_ne_zero _ hρ)) |>.trans (mul_one _))
    (fun _ _ => Sc.mul_lt _ _)
    (2 ^ a - 1) 1 [Sc.mul (Sc.mul n (sqrTimes rho a)) (Sc.inv rho)] rfl (le_refl 1) (by omega)
    (fun j hj => by
      obtain rfl : j = 0 := by omega
      rw [List.getD_cons_zero, cast_mul, cast_mul, cast_sqrTimes, cast_inv, wt_chG_zero hρ, mul_assoc])
    (getD_lt_N fun x hx => by rw [List.mem_singleton.1 hx]; exact Sc.mul_lt _ _)
  obtain ⟨_, sh2, sh3⟩ := topBitLoop_spec (fun x k => Sc.mul x (gs.getD k 0))
    (chG 1 (gs.getD · 0)) b (l : ZMod N) (fun _ => pow_ne_zero _ one_ne_zero)
    (fun x k _ => by rw [cast_mul]; simp only [chG, one_pow, mul_one])
    (fun _ _ => Sc.mul_lt _ _)
    (cVec.length - 1) 1 [l] rfl (le_refl 1) (by omega)
    (fun j hj => by
      obtain rfl : j = 0 := by omega
      rw [List.getD_cons_zero, wt_chG_zero one_ne_zero, one_pow, inv_one, mul_one, mul_one])
    (getD_lt_N fun x hx => by rw [List.mem_singleton.1 hx]; exact hl)
  rw [← sGLoop_eq] at sg2 sg3
  rw [← sHLoop_eq] at sh2 sh3
  refine ⟨_, _, fun j hj => sg2 j (by omega), fun j hj => sh2 j (by omega), ?_⟩
  rw [verifyEquation_eq]
  simp only [hgs]
  rw [res1_eq proof rs C gs hgslt hXR,
    show verifyCb2 _ _ gens (2 ^ a) = commitCb _ _ gens (2 ^ a) from rfl,
    commitMulti _ _ gens _ _ _ (getD_of_mem_good hgood) sg3 sh3 (Sc.add_lt _ _)]
  simp only [Option.bind_some, cast_add, cast_mul, cast_sip, cast_sqrTimes, scSqr, Nat.zero_add, Nat.one_mul, hb]
  congr 6
  ring

def initState (transcript : Sha256.State) (rho : Nat) (gVec : List Pt) (nVec lVec cVec : List Nat) :
    ProveState :=
  { transcript := transcript, g := gVec, n := nVec, l := lVec, c := cVec, gLen := nVec.length,
    hLen := lVec.length, rhoF := rho, muF := scSqr rho, proof := [] }

omit hgl in
theorem prove_eq (transcript : Sha256.State) (rho : Nat) (gVec : List Pt) (nVec lVec cVec : List Nat) :
    prove transcript rho gVec nVec lVec cVec =
      match proveLoop nVec.length (nVec.length + lVec.length + 1)
          (initState transcript rho gVec nVec lVec cVec) with
      | none => (0, [], transcript)
      | some st => (1, st.proof ++ Bytes.be32 (st.n.getD 0 0) ++ Bytes.be32 (st.l.getD 0 0), st.transcript) :=
  rfl

theorem initState_wf (transcript : Sha256.State) (rho : Nat) (gVec : List Pt) (nVec lVec cVec : List Nat)
    (a b : Nat) (hn : nVec.length = 2 ^ a) (hl : lVec.length = 2 ^ b) (hc : cVec.length = lVec.length)
    (hg : gVec.length = nVec.length + lVec.length)
    (hgood : ∀ p ∈ gVec, Good p) (hnlt : ∀ x ∈ nVec, x < N) (hllt : ∀ x ∈ lVec, x < N)
    (hrho : rho ≠ 0) (hrlt : rho < N) :
    WF nVec.length (initState transcript rho gVec nVec lVec cVec) a b := by
  have e1 : eL nVec.length = nVec.length := eL_of_ne_zero (by rw [hn]; exact (Nat.two_pow_pos a).ne')
  have e2 : eL lVec.length = lVec.length := eL_of_ne_zero (by rw [hl]; exact (Nat.two_pow_pos b).ne')
  exact ⟨e1.trans hn, e2.trans hl, e1.le, e1.le, e2.le, (e2.trans hc.symm).le,
    ((congrArg (nVec.length + ·) e2).trans hg.symm).le, getD_of_mem_good hgood, getD_lt_N hnlt,
    getD_lt_N hllt, hrlt, Sc.mul_lt _ _, fun h => hrho ((cast_eq_zero hrlt).1 h),
    cast_scSqr rho⟩

/-- `transcript` and `rho` do not enter `comT`: they make the state literally the one `prove` starts from -/
theorem commit_eq (transcript : Sha256.State) (rho : Nat) (gVec : List Pt) (nVec lVec cVec : List Nat)
    (mu : Nat) (hn : nVec.length ≠ 0) (hl : lVec.length ≠ 0)
    (hgood : ∀ p ∈ gVec, Good p) (hnlt : ∀ x ∈ nVec, x < N) (hllt : ∀ x ∈ lVec, x < N) :
    commit gVec nVec lVec cVec mu =
      (1, ofT (comT nVec.length (initState transcript rho gVec nVec lVec cVec) (mu : ZMod N))) := by
  unfold commit
  simp only []
  rw [commitMulti nVec lVec gVec _ _ _ (getD_of_mem_good hgood) (getD_lt_N hnlt) (getD_lt_N hllt)
    (Sc.add_lt _ _)]
  simp only []
  congr 2
  unfold comT initState
  simp only [eL_of_ne_zero hn, eL_of_ne_zero hl, normS, dotS, cast_add, cast_wsip, cast_sip, Nat.zero_add,
    Nat.one_mul, add_assoc]
  congr 3
  exact sum_congr rfl fun i _ => mul_comm _ _

theorem final_eq (G : Nat) (stf : ProveState) (hwff : WF G stf 0 0) (g : List Pt) (c : List Nat) (a b : Nat)
    (rho : ZMod N) (γ : ℕ → ℕ) (sG sH : List Nat)
    (hG : pv stf.g 0 = ∑ i ∈ range (2 ^ a), wt (chG rho γ) a i • pv g i)
    (hH : pv stf.g G = ∑ i ∈ range (2 ^ b), wt (chG 1 γ) b i • pv g (G + i))
    (hc : sv stf.c 0 = ∑ i ∈ range (2 ^ b), wt (chG 1 γ) b i * sv c i)
    (hsG : ∀ j, j < 2 ^ a → sv sG j = sv stf.n 0 * wt (chG rho γ) a j)
    (hsH : ∀ j, j < 2 ^ b → sv sH j = sv stf.l 0 * wt (chG 1 γ) b j) :
    comT G stf ((rho ^ 2 ^ a) ^ 2) =
      (sv stf.n 0 * sv stf.n 0 * (rho ^ 2 ^ a) ^ 2 + ∑ i ∈ range (2 ^ b), sv c i * sv sH i) • GT +
      (gP sG g 0 (2 ^ a) + gP sH g G (2 ^ b)) := by
  have e1 : eL stf.gLen = 1 := by rw [hwff.glen]; rfl
  have e2 : eL stf.hLen = 1 := by rw [hwff.hlen]; rfl
  unfold comT normS dotS gP
  rw [e1, e2]
  simp only [sum_range_one, Nat.zero_add, Nat.add_zero, pow_one]
  rw [hG, hH, hc, smul_sum, smul_sum, add_assoc]
  congr 1
  · congr 1
    congr 1
    rw [sum_mul]
    apply sum_congr rfl
    intro i hi
    rw [hsH i (by simpa using hi)]
    ring
  · congr 1
    · apply sum_congr rfl
      intro i hi
      rw [hsG i (by simpa using hi), smul_smul]
    · apply sum_congr rfl
      intro i hi
      rw [hsH i (by simpa using hi), smul_smul]

omit hgl in
theorem final_scalars (pre : Bytes) (r n l : Nat) (hpre : pre.length = 65 * r) (hn : n < N) (hl : l < N) :
    Sc.setB32 (finalNBytes (pre ++ (Bytes.be32 n ++ Bytes.be32 l)) r) = (n, false) ∧
    Sc.setB32 (finalLBytes (pre ++ (Bytes.be32 n ++ Bytes.be32 l)) r) = (l, false) := by
  have hN : finalNBytes (pre ++ (Bytes.be32 n ++ Bytes.be32 l)) r = Bytes.be32 n := by
    unfold finalNBytes
    rw [List.drop_left' (by rw [hpre, Nat.mul_comm]), take_be32_append]
  have hL : finalLBytes (pre ++ (Bytes.be32 n ++ Bytes.be32 l)) r = Bytes.be32 l := by
    unfold finalLBytes
    rw [← List.append_assoc, List.drop_left' (by rw [List.length_append, hpre, Bytes.be32_length, Nat.mul_comm]),
      List.take_of_length_le (by rw [Bytes.be32_length])]
  rw [hN, hL]
  exact ⟨Sc.setB32_be32 hn, Sc.setB32_be32 hl⟩

theorem prove_verify (scratch : Scratch) (transcript : Sha256.State) (rho : Nat) (gVec : List Pt)
    (nVec lVec cVec : List Nat) (a b : Nat)
    (hn : nVec.length = 2 ^ a) (hl : lVec.length = 2 ^ b) (hc : cVec.length = lVec.length)
    (hg : gVec.length = nVec.length + lVec.length)
    (hgood : ∀ p ∈ gVec, Good p) (hnlt : ∀ x ∈ nVec, x < N) (hllt : ∀ x ∈ lVec, x < N)
    (hrho : rho ≠ 0) (hrlt : rho < N)
    (hscr : scratchNeed nVec.length cVec.length ≤ scratch.maxSize - scratch.allocSize) :
    ∃ proof t', prove transcript rho gVec nVec lVec cVec = (1, proof, t') ∧
      proof.length = 65 * max a b + 64 ∧
      (commit gVec nVec lVec cVec (scSqr rho)).1 = 1 ∧
      verify scratch proof transcript rho gVec nVec.length cVec (commit gVec nVec lVec cVec (scSqr rho)).2
        = (1, scratch) := by
  have hwf := initState_wf transcript rho gVec nVec lVec cVec a b hn hl hc hg hgood hnlt hllt hrho hrlt
  have hpa := Nat.two_pow_pos a
  have hpb := Nat.two_pow_pos b
  have hfuel : max a b ≤ nVec.length + lVec.length + 1 := by
    have h1 := Nat.lt_two_pow_self (n := a)
    have h2 := Nat.lt_two_pow_self (n := b)
    rw [hn, hl]; omega
  obtain ⟨rs, stf, hloop, hlen, hpf, htr, hwff, hcom, hG, hH, hcc⟩ :=
    proveLoop_spec nVec.length (max a b) (initState transcript rho gVec nVec lVec cVec) a b _ hwf
      (le_max_left _ _) (le_max_right _ _) (by omega) hfuel
  have hnf : stf.n.getD 0 0 < N := hwff.nlt 0
  have hlf : stf.l.getD 0 0 < N := hwff.llt 0
  have hcl : cVec.length = 2 ^ b := by rw [hc, hl]
  have hcommit := commit_eq transcript rho gVec nVec lVec cVec (scSqr rho) (by omega) (by omega) hgood hnlt hllt
  have hprove : prove transcript rho gVec nVec lVec cVec =
      (1, proofOf rs ++ (Bytes.be32 (stf.n.getD 0 0) ++ Bytes.be32 (stf.l.getD 0 0)), stf.transcript) := by
    rw [prove_eq, hloop]
    simp only [hpf, initState, List.nil_append, List.append_assoc]
  have hplen : (proofOf rs ++ (Bytes.be32 (stf.n.getD 0 0) ++ Bytes.be32 (stf.l.getD 0 0))).length
      = 65 * max a b + 64 := by
    simp only [List.length_append, length_proofOf, Bytes.be32_length, hlen]
  refine ⟨_, _, hprove, hplen, by rw [hcommit], ?_⟩
  have hr : nRounds nVec.length cVec.length = rs.length := by rw [hn, hcl, nRounds_two_pow, hlen]
  obtain ⟨hfinN, hfinL⟩ := final_scalars (proofOf rs) rs.length _ _ (length_proofOf rs) hnf hlf
  have hguards : Guards scratch (proofOf rs ++ (Bytes.be32 (stf.n.getD 0 0) ++ Bytes.be32 (stf.l.getD 0 0)))
      rho gVec nVec.length cVec := by
    have hN := congrArg Prod.snd hfinN
    have hL := congrArg Prod.snd hfinL
    simp only [Sc.setB32, decide_eq_false_iff_not, Nat.not_le] at hN hL
    unfold Guards
    rw [hr]
    exact ⟨by omega, by omega, by omega, by rw [hplen, hlen], (isPowerOfTwo_eq_true_iff _).2 ⟨a, hn⟩,
      (isPowerOfTwo_eq_true_iff _).2 ⟨b, hcl⟩, hN, hL, hrho, hscr⟩
  have hρ : ((rho : Nat) : ZMod N) ≠ 0 := fun h => hrho ((cast_eq_zero hrlt).1 h)
  have : Fact (Nat.Prime P) := ⟨prime_P⟩  -- for `parse_serializePoints`
  have hchunk : ∀ k, k < rs.length →
      ((proofOf rs ++ (Bytes.be32 (stf.n.getD 0 0) ++ Bytes.be32 (stf.l.getD 0 0))).drop (65 * k)).take 65 =
        serXR (rs.getD k (0, 0)) := fun k hk => by
    simpa using chunk_proofOf rs [] _ 0 rfl k hk
  obtain ⟨sG, sH, hsG, hsH, hve⟩ := verifyEquation_good
    (proofOf rs ++ (Bytes.be32 (stf.n.getD 0 0) ++ Bytes.be32 (stf.l.getD 0 0))) transcript rho gVec nVec.length cVec
    (comT nVec.length (initState transcript rho gVec nVec lVec cVec) ((scSqr rho : Nat) : ZMod N)) a b
    (stf.n.getD 0 0) (stf.l.getD 0 0) rs (gammasOf transcript rs) hn hcl hgood hρ hlf
    (by simpa using congrArg Prod.fst (gammasLoop_proofOf rs []
      (Bytes.be32 (stf.n.getD 0 0) ++ Bytes.be32 (stf.l.getD 0 0)) 0 rfl transcript []))
    (fun k hk => by rw [hchunk k hk]; exact parse_serializePoints _ _ (good_ofT _).1 (good_ofT _).1)
  rw [verify_eq, if_pos hguards, hr, hfinN, hfinL, show log2 nVec.length = a by rw [hn]; exact Nat.log2_two_pow,
    hcommit, hve]
  simp only []
  have hmu0 : comT nVec.length (initState transcript rho gVec nVec lVec cVec) ((scSqr rho : Nat) : ZMod N) +
      xrSum (gammasOf transcript rs) rs = comT nVec.length stf (((scSqr rho : Nat) : ZMod N) ^ 2 ^ a) :=
    (hcom _ (fun _ => rfl)).symm
  rw [hmu0, show (((scSqr rho : Nat) : ZMod N)) ^ 2 ^ a = (((rho : Nat) : ZMod N) ^ 2 ^ a) ^ 2 by
    rw [scSqr, cast_mul, ← sq, ← pow_mul, ← pow_mul, mul_comm],
    final_eq nVec.length stf hwff gVec cVec a b ((rho : Nat) : ZMod N) (gam transcript rs) sG sH hG hH hcc hsG hsH]
  exact congrArg (·, scratch) (if_pos rfl)

end Final
end Bppp
end SecpZkp
