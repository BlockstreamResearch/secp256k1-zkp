/-
  For the 8×32-limb scalar kernels (`Gen/K_scalar8x32.lean`, from `src/scalar_8x32_impl.h`) under the WRAP-AROUND
  semantics `execL`.

  The straight-line programs are long (`scalar_mul_512`: 508 statements, `scalar_reduce_512`: 611, `scalar_mul`: 1119), and
  executing them with `simp` through an ever-growing chain of memory writes costs quadratic time in the kernel.  So pieces
  of program are verified ONCE, as Hoare-style rules in continuation-passing form, for arbitrary variable names (the
  translator renames the locals of inlined callees): a rule consumes statements at the head of the program and hands the
  rest to the continuation with a FRESH memory `env'`, of which the new values of the cells written and a frame condition
  (`Frame S env env'`: cells not named in the scratch list `S` are unchanged) are known.  Here: the rules for the
  initialisation of the accumulator and for one assignment or store (the rules for the macros are in
  `Proofs/Accumulator.lean`).

  At the end, ALL constants of this width that the chains of `Proofs/LimbChain.lean` are instantiated with (`c32`, the store
  filters, the limbs of `N`, `N_C`, of the comparisons, and the closed facts `*_ok` about them); the 4×64 ones are at the
  end of `Proofs/LimbChain.lean`.  Constants that one file alone uses (operands of `muladd`, `cn*` of `CtSpecScalar`) stay there.
-/
import SecpZkp.Proofs.LimbChain

namespace SecpZkp
namespace ScalarKernel32
open MiniC MiniC.Bounds ScalarKernel LimbList LimbChain

def Frame (S : List String) (env env' : Env) : Prop := ∀ x i, x ∉ S → env'.get x i = env.get x i

theorem Frame.refl (S : List String) (env : Env) : Frame S env env := fun _ _ _ => rfl

theorem Frame.trans {S : List String} {e1 e2 e3 : Env} (h12 : Frame S e1 e2) (h23 : Frame S e2 e3) :
    Frame S e1 e3 := fun x i hx => (h23 x i hx).trans (h12 x i hx)

theorem Frame.set {S : List String} {e1 e2 : Env} (h : Frame S e1 e2) {x : String} (hx : x ∈ S) (i v : Nat) :
    Frame S e1 (e2.set x i v) := by
  intro y j hy
  rw [Env.get_set_other _ _ _ _ _ _ (by intro h'; injection h' with h1 _; exact hy (h1 ▸ hx))]
  exact h y j hy

/-- `Frame`, except that the one cell `a[k]` may have changed although `a ∉ S` (the destination of an `extract`, a copied
    local) -/
def FrameC (S : List String) (a : String) (k : Nat) (env env' : Env) : Prop :=
  ∀ x i, x ∉ S → (x, i) ≠ (a, k) → env'.get x i = env.get x i

-- no proof applies it
theorem Frame.toC {S : List String} {e1 e2 : Env} (h : Frame S e1 e2) (a : String) (k : Nat) :
    FrameC S a k e1 e2 := fun x i hx _ => h x i hx

theorem FrameC.set {S : List String} {a : String} {k : Nat} {e1 e2 : Env} (h : FrameC S a k e1 e2) {x : String}
    (hx : x ∈ S) (i v : Nat) : FrameC S a k e1 (e2.set x i v) := by
  intro y j hy hne
  rw [Env.get_set_other _ _ _ _ _ _ (by intro h'; injection h' with h1 _; exact hy (h1 ▸ hx))]
  exact h y j hy hne

theorem FrameC.set_self (S : List String) (a : String) (k v : Nat) (env : Env) :
    FrameC S a k env (env.set a k v) := by
  intro y j _ hne
  exact Env.get_set_other _ _ _ _ _ _ hne

theorem ev_idx_lit (env : Env) (a : String) (i : Nat) : ev env (.idx a (.lit i)) = env.get a i := by
  rw [ev_idx, ev_lit]

def Reads (e : Expr) (y : String) (j : Nat) : Prop := ∀ env, ev env e = env.get y j

theorem Reads_var (y : String) : Reads (.var y) y 0 := fun env => ev_var env y
theorem Reads_idx (y : String) (j : Nat) : Reads (.idx y (.lit j)) y j := fun env => ev_idx_lit env y j

/-- the constants `SECP256K1_N_C_0 .. 3` as the C code spells them (`~N_0 + 1`, `~N_1`, `~N_2`, `~N_3`) -/
theorem ev_nc0 (env : Env) : ev env (.bin .add 32 (.not 32 (.lit 3493216577)) (.lit 1)) = 801750719 := by
  rw [ev_bin, ev_not, ev_lit, ev_lit]; decide
theorem ev_nc1 (env : Env) : ev env (.not 32 (.lit 3218235020)) = 1076732275 := by
  rw [ev_not, ev_lit]; decide
theorem ev_nc2 (env : Env) : ev env (.not 32 (.lit 2940772411)) = 1354194884 := by
  rw [ev_not, ev_lit]; decide
theorem ev_nc3 (env : Env) : ev env (.not 32 (.lit 3132021990)) = 1162945305 := by
  rw [ev_not, ev_lit]; decide

-- no proof applies it
theorem lt32_of_le {x B : Nat} (h : x ≤ B) (hB : B < 2 ^ 32) : x < 2 ^ 32 := by omega

/-- symbolic execution inside the rule proofs: like `steps`, with the name inequalities as extra rewrite rules -/
macro "xsteps " n:num " [" hs:Lean.Parser.Tactic.simpLemma,* "]" : tactic => `(tactic| (
  rw [runR_eq_runF $n]
  simp only [runF_assign, runF_store, runF_ret, runF_nil, runF_zero, ev_lit, ev_var, ev_idx, ev_bin, ev_cast,
    ev_not, ev_neg, Env.get_set_same, Env.get_set_other, ne_eq, Prod.mk.injEq, false_and,
    and_false, and_true, true_and, not_false_eq_true, not_true_eq_false, $hs,*]))

macro "xreads " "[" hs:Lean.Parser.Tactic.simpLemma,* "]" : tactic => `(tactic| (
  simp only [Env.get_set_same, Env.get_set_other, ne_eq, Prod.mk.injEq, false_and,
    and_false, and_true, true_and, not_false_eq_true, not_true_eq_false, $hs,*]))

theorem init_rule {P : Env × Option Nat → Prop} {env : Env} {c0n c1n c2n : String} {e : Expr}
    {rest : List Stmt} (S : List String) (v : Nat)
    (hd : [c0n, c1n, c2n].Nodup) (hS : ∀ x ∈ [c0n, c1n, c2n], x ∈ S) (he : ev env e = v)
    (k : ∀ env', Frame S env env' → env'.get c0n 0 = v → env'.get c1n 0 = 0 → env'.get c2n 0 = 0 →
      P (runR env' rest)) :
    P (runR env (.assign c0n e :: .assign c1n (.lit 0) :: .assign c2n (.lit 0) :: rest)) := by
  simp only [List.nodup_cons, List.mem_cons, List.not_mem_nil, not_or, or_false, List.nodup_nil, and_true,
    not_false_eq_true] at hd
  obtain ⟨⟨n1, n2⟩, n3⟩ := hd
  have s0 := hS c0n (by simp); have s1 := hS c1n (by simp); have s2 := hS c2n (by simp)
  xsteps 3 [he, n1, n2, n3]
  refine k _ ?_ ?_ ?_ ?_
  · exact (((Frame.refl S env).set s0 _ _).set s1 _ _).set s2 _ _
  · xreads [n1, n2]
  · xreads [n3]
  · xreads []

theorem assign_rule {P : Env × Option Nat → Prop} {env : Env} {x : String} {e : Expr} {rest : List Stmt}
    (S : List String) (v : Nat) (he : ev env e = v)
    (k : ∀ env', FrameC S x 0 env env' → env'.get x 0 = v → P (runR env' rest)) :
    P (runR env (.assign x e :: rest)) := by
  rw [runR_assign, he]
  exact k _ (FrameC.set_self S x 0 v env) (Env.get_set_same ..)

theorem store_rule {P : Env × Option Nat → Prop} {env : Env} {a : String} {i : Nat} {e : Expr} {rest : List Stmt}
    (S : List String) (v : Nat) (he : ev env e = v)
    (k : ∀ env', FrameC S a i env env' → env'.get a i = v → P (runR env' rest)) :
    P (runR env (.store a (.lit i) e :: rest)) := by
  rw [runR_store, he, ev_lit]
  exact k _ (FrameC.set_self S a i v env) (Env.get_set_same ..)

-- no proof applies it (`assign_rule` for a variable of `S`)
theorem assign_scratch_rule {P : Env × Option Nat → Prop} {env : Env} {x : String} {e : Expr} {rest : List Stmt}
    (S : List String) (v : Nat) (hx : x ∈ S) (he : ev env e = v)
    (k : ∀ env', Frame S env env' → env'.get x 0 = v → P (runR env' rest)) :
    P (runR env (.assign x e :: rest)) := by
  rw [runR_assign, he]
  exact k _ ((Frame.refl S env).set hx _ _) (Env.get_set_same ..)

theorem nil_rule {P : Env × Option Nat → Prop} {env : Env} (k : P (env, none)) : P (runR env []) := by
  rw [runR_nil]; exact k

theorem and_mask32 (x : Nat) : x &&& 4294967295 = x % 2 ^ 32 := Nat.and_two_pow_sub_one_eq_mod x 32

def val8x32 (x0 x1 x2 x3 x4 x5 x6 x7 : Nat) : Nat :=
  x0 + x1 * 2 ^ 32 + x2 * 2 ^ 64 + x3 * 2 ^ 96 + x4 * 2 ^ 128 + x5 * 2 ^ 160 + x6 * 2 ^ 192 + x7 * 2 ^ 224

def val16x32 (x0 x1 x2 x3 x4 x5 x6 x7 x8 x9 x10 x11 x12 x13 x14 x15 : Nat) : Nat :=
  x0 + x1 * 2 ^ 32 + x2 * 2 ^ 64 + x3 * 2 ^ 96 + x4 * 2 ^ 128 + x5 * 2 ^ 160 + x6 * 2 ^ 192 + x7 * 2 ^ 224 +
  x8 * 2 ^ 256 + x9 * 2 ^ 288 + x10 * 2 ^ 320 + x11 * 2 ^ 352 + x12 * 2 ^ 384 + x13 * 2 ^ 416 + x14 * 2 ^ 448 +
  x15 * 2 ^ 480

-- No proof applies `colsum*`, `z3_000`, `top_le3`, `combine`: the columns of a product summed up one equation at a time
-- (`A₁ = C + p₁`, `Aᵢ₊₁ = Aᵢ + pᵢ₊₁` give `Aₙ = C + (p₁ + … + pₙ)`); `Accumulator.run_ops` carries that sum as `total`.

theorem colsumz2 {A1 A2 p1 p2 : Nat} (h1 : A1 = p1) (h2 : A2 = A1 + p2) :
    A2 = (p1 + p2) := by
  subst h1 h2
  rfl

theorem colsumz3 {A1 A2 A3 p1 p2 p3 : Nat} (h1 : A1 = p1) (h2 : A2 = A1 + p2) (h3 : A3 = A2 + p3) :
    A3 = (p1 + p2 + p3) := by
  subst h1 h2 h3
  rfl

theorem colsumz4 {A1 A2 A3 A4 p1 p2 p3 p4 : Nat} (h1 : A1 = p1) (h2 : A2 = A1 + p2) (h3 : A3 = A2 + p3) (h4 : A4 = A3 + p4) :
    A4 = (p1 + p2 + p3 + p4) := by
  subst h1 h2 h3 h4
  rfl

theorem colsumz5 {A1 A2 A3 A4 A5 p1 p2 p3 p4 p5 : Nat} (h1 : A1 = p1) (h2 : A2 = A1 + p2) (h3 : A3 = A2 + p3) (h4 : A4 = A3 + p4) (h5 : A5 = A4 + p5) :
    A5 = (p1 + p2 + p3 + p4 + p5) := by
  subst h1 h2 h3 h4 h5
  rfl

theorem colsumz6 {A1 A2 A3 A4 A5 A6 p1 p2 p3 p4 p5 p6 : Nat} (h1 : A1 = p1) (h2 : A2 = A1 + p2) (h3 : A3 = A2 + p3) (h4 : A4 = A3 + p4) (h5 : A5 = A4 + p5) (h6 : A6 = A5 + p6) :
    A6 = (p1 + p2 + p3 + p4 + p5 + p6) := by
  subst h1 h2 h3 h4 h5 h6
  rfl

theorem colsumz7 {A1 A2 A3 A4 A5 A6 A7 p1 p2 p3 p4 p5 p6 p7 : Nat} (h1 : A1 = p1) (h2 : A2 = A1 + p2) (h3 : A3 = A2 + p3) (h4 : A4 = A3 + p4) (h5 : A5 = A4 + p5) (h6 : A6 = A5 + p6) (h7 : A7 = A6 + p7) :
    A7 = (p1 + p2 + p3 + p4 + p5 + p6 + p7) := by
  subst h1 h2 h3 h4 h5 h6 h7
  rfl

theorem colsumz8 {A1 A2 A3 A4 A5 A6 A7 A8 p1 p2 p3 p4 p5 p6 p7 p8 : Nat} (h1 : A1 = p1) (h2 : A2 = A1 + p2) (h3 : A3 = A2 + p3) (h4 : A4 = A3 + p4) (h5 : A5 = A4 + p5) (h6 : A6 = A5 + p6) (h7 : A7 = A6 + p7) (h8 : A8 = A7 + p8) :
    A8 = (p1 + p2 + p3 + p4 + p5 + p6 + p7 + p8) := by
  subst h1 h2 h3 h4 h5 h6 h7 h8
  rfl

theorem colsum9 {A1 A2 A3 A4 A5 A6 A7 A8 A9 C p1 p2 p3 p4 p5 p6 p7 p8 p9 : Nat} (h1 : A1 = C + p1) (h2 : A2 = A1 + p2) (h3 : A3 = A2 + p3) (h4 : A4 = A3 + p4) (h5 : A5 = A4 + p5) (h6 : A6 = A5 + p6) (h7 : A7 = A6 + p7) (h8 : A8 = A7 + p8) (h9 : A9 = A8 + p9) :
    A9 = C + (p1 + p2 + p3 + p4 + p5 + p6 + p7 + p8 + p9) := by
  subst h1 h2 h3 h4 h5 h6 h7 h8 h9
  simp only [Nat.add_assoc]

theorem colsumz9 {A1 A2 A3 A4 A5 A6 A7 A8 A9 p1 p2 p3 p4 p5 p6 p7 p8 p9 : Nat} (h1 : A1 = p1) (h2 : A2 = A1 + p2) (h3 : A3 = A2 + p3) (h4 : A4 = A3 + p4) (h5 : A5 = A4 + p5) (h6 : A6 = A5 + p6) (h7 : A7 = A6 + p7) (h8 : A8 = A7 + p8) (h9 : A9 = A8 + p9) :
    A9 = (p1 + p2 + p3 + p4 + p5 + p6 + p7 + p8 + p9) := by
  subst h1 h2 h3 h4 h5 h6 h7 h8 h9
  rfl

theorem colsum10 {A1 A2 A3 A4 A5 A6 A7 A8 A9 A10 C p1 p2 p3 p4 p5 p6 p7 p8 p9 p10 : Nat} (h1 : A1 = C + p1) (h2 : A2 = A1 + p2) (h3 : A3 = A2 + p3) (h4 : A4 = A3 + p4) (h5 : A5 = A4 + p5) (h6 : A6 = A5 + p6) (h7 : A7 = A6 + p7) (h8 : A8 = A7 + p8) (h9 : A9 = A8 + p9) (h10 : A10 = A9 + p10) :
    A10 = C + (p1 + p2 + p3 + p4 + p5 + p6 + p7 + p8 + p9 + p10) := by
  subst h1 h2 h3 h4 h5 h6 h7 h8 h9 h10
  simp only [Nat.add_assoc]

theorem colsumz10 {A1 A2 A3 A4 A5 A6 A7 A8 A9 A10 p1 p2 p3 p4 p5 p6 p7 p8 p9 p10 : Nat} (h1 : A1 = p1) (h2 : A2 = A1 + p2) (h3 : A3 = A2 + p3) (h4 : A4 = A3 + p4) (h5 : A5 = A4 + p5) (h6 : A6 = A5 + p6) (h7 : A7 = A6 + p7) (h8 : A8 = A7 + p8) (h9 : A9 = A8 + p9) (h10 : A10 = A9 + p10) :
    A10 = (p1 + p2 + p3 + p4 + p5 + p6 + p7 + p8 + p9 + p10) := by
  subst h1 h2 h3 h4 h5 h6 h7 h8 h9 h10
  rfl

theorem z3_000 (p : Nat) : 0 + 0 * 2 ^ 32 + 0 * 2 ^ 64 + p = p := by simp

theorem top_le3 {c B : Nat} (h : c + 0 * 2 ^ 32 + 0 * 2 ^ 64 ≤ B) : c ≤ B := by
  rw [Nat.zero_mul, Nat.zero_mul] at h; exact h

/-- one more column in the cumulative equation: from `X + C·2^k = R` (outputs so far `X`, accumulator `C` at
    weight `2^k`) and the column equation `o + C'·2^32 = C + T` (the accumulator plus the column terms `T` is the
    output limb `o` plus the new accumulator `C'` one limb higher) -/
theorem combine {X C R o C' T k : Nat} (k' : Nat) (h1 : X + C * 2 ^ k = R) (h2 : o + C' * 2 ^ 32 = C + T)
    (hk : k' = k + 32) : X + o * 2 ^ k + C' * 2 ^ k' = R + T * 2 ^ k := by
  subst hk
  rw [← h1, Nat.pow_add]
  calc X + o * 2 ^ k + C' * (2 ^ k * 2 ^ 32) = X + (o + C' * 2 ^ 32) * 2 ^ k := by ring
    _ = X + (C + T) * 2 ^ k := by rw [h2]
    _ = X + C * 2 ^ k + T * 2 ^ k := by ring

theorem nc_limbs32 : 801750719 + 1076732275 * 2 ^ 32 + 1354194884 * 2 ^ 64 + 1162945305 * 2 ^ 96 + 2 ^ 128 + N = 2 ^ 256 := by decide

/-! ### the constants of this width -/

theorem val8x32_valL (x0 x1 x2 x3 x4 x5 x6 x7 : Nat) :
    val8x32 x0 x1 x2 x3 x4 x5 x6 x7 = valL 32 [x0, x1, x2, x3, x4, x5, x6, x7] := by
  simp only [val8x32, valL]; omega

/-- the destination is fixed: the translator prefixes the locals of inlined callees, never the out-parameter -/
def c32 (t : String) : Cfg := ⟨32, 64, t, "r.d"⟩

/-- `r.d[i] = t & 0xFFFFFFFF` -/
def lowG (x : Expr) : Expr := .cast 32 (.bin .and 64 x (.lit 4294967295))

theorem ev_lowG (env : Env) (x : String) : ev env (lowG (.var x)) = env.get x 0 % 2 ^ 32 := by
  rw [lowG, ev_cast, ev_bin, ev_var, ev_lit, binWrap_and, and_mask32, Nat.mod_mod]

/-- `r.d[i] = t & nonzero` -/
def maskG (nzn : String) (x : Expr) : Expr := .cast 32 (.bin .and 64 x (.var nzn))

theorem ev_maskG (nzn : String) (env : Env) (x : String) (h : env.get nzn 0 < 2 ^ 32) :
    ev env (maskG nzn (.var x)) = env.get x 0 % 2 ^ 32 &&& env.get nzn 0 := by
  rw [maskG, ev_cast, ev_bin, ev_var, ev_var, binWrap_and, Nat.and_mod_two_pow, Nat.mod_eq_of_lt h]

/-- `nonzero = 0xFFFFFFFF * (is_zero == 0)` -/
def nzMask (zn : String) : Expr :=
  .cast 32 (.bin .mul 64 (.lit 4294967295)
    (.bin .sub 64 (.bin .xor 64 (.bin .eq 32 (.var zn) (.lit 0)) (.lit 2147483648)) (.lit 2147483648)))

theorem ev_nzMask (zn : String) (env : Env) (h : env.get zn 0 ≤ 1) :
    ev env (nzMask zn) = if env.get zn 0 = 0 then 2 ^ 32 - 1 else 0 := by
  simp only [nzMask, ev_cast, ev_bin, ev_var, ev_lit]
  generalize env.get zn 0 = z at h ⊢
  obtain rfl | rfl : z = 0 ∨ z = 1 := by omega
  all_goals decide

theorem cadd_inc32 (b k : Nat) :
    binWrap BinOp.shl 32 (binWrap BinOp.eq 32 (binWrap BinOp.shr 32 b 5) k) (binWrap BinOp.and 32 b 31) =
      if b / 32 = k then 2 ^ (b % 32) else 0 := by
  simp only [binWrap_eq, binWrap_shr, binWrap_and, binWrap_shl]
  have e31 : b &&& 31 = b % 32 := Nat.and_two_pow_sub_one_eq_mod b 5
  have e32 : b / 2 ^ 5 = b / 32 := rfl
  rw [e31, e32]
  have hs : 2 ^ (b % 32) < 2 ^ 32 := Nat.pow_lt_pow_right (by decide) (Nat.mod_lt _ (by decide))
  by_cases hk : b / 32 = k
  · rw [if_pos hk, if_pos hk, Nat.one_mul, Nat.mod_eq_of_lt hs]
  · rw [if_neg hk, if_neg hk, Nat.zero_mul]; rfl

/-- the summand `((bit >> 5) == i) << (bit & 0x1F)` of `secp256k1_scalar_cadd_bit` -/
def caddInc (bitn : String) (i : Nat) : Expr :=
  .bin .shl 32 (.bin .eq 32 (.bin .shr 32 (.var bitn) (.lit 5)) (.lit i)) (.bin .and 32 (.var bitn) (.lit 31))

theorem ev_caddInc (bitn : String) (env : Env) (i : Nat) :
    ev env (caddInc bitn i) = if env.get bitn 0 / 32 = i then 2 ^ (env.get bitn 0 % 32) else 0 := by
  simp only [caddInc, ev_bin, ev_var, ev_lit, cadd_inc32]

/-- `secp256k1_scalar_check_overflow`: the limbs of `N` above the lowest, from the top -/
def ovLimbs : List CmpLimb :=
  [⟨4294967295, false, false⟩, ⟨4294967295, false, false⟩, ⟨4294967295, false, false⟩, ⟨4294967294, false, true⟩,
   ⟨3132021990, true, true⟩, ⟨2940772411, true, true⟩, ⟨3218235020, true, true⟩]

/-- `N_C[i]` as `secp256k1_scalar_reduce` spells it (`N_C` has five limbs) -/
def redE : List ScaleAtom :=
  [.times 32 (.bin .add 32 (.not 32 (.lit 3493216577)) (.lit 1)), .times 32 (.not 32 (.lit 3218235020)),
   .times 32 (.not 32 (.lit 2940772411)), .times 32 (.not 32 (.lit 3132021990)), .times 32 (.lit 1), .zero, .zero, .zero]

/-- the limbs of `N_C = 2^256 - N` -/
def ncLimbs : List Nat := [801750719, 1076732275, 1354194884, 1162945305, 1, 0, 0, 0]

theorem redE_ok (env : Env) : ScaleOk env 1 redE ncLimbs :=
  ⟨⟨ev_nc0 env, by decide⟩, ⟨ev_nc1 env, by decide⟩, ⟨ev_nc2 env, by decide⟩, ⟨ev_nc3 env, by decide⟩, ⟨rfl, by decide⟩,
    rfl, rfl, rfl, trivial⟩

/-- stage 3 of `secp256k1_scalar_reduce_512`: `p8 * N_C[i]` at 64 bits -/
def red3E : List ScaleAtom :=
  [.times 64 (.bin .add 32 (.not 32 (.lit 3493216577)) (.lit 1)), .times 64 (.not 32 (.lit 3218235020)),
   .times 64 (.not 32 (.lit 2940772411)), .times 64 (.not 32 (.lit 3132021990)), .one, .zero, .zero, .zero]

theorem red3E_ok (env : Env) : ScaleOk env 3 red3E ncLimbs :=
  ⟨⟨ev_nc0 env, by decide⟩, ⟨ev_nc1 env, by decide⟩, ⟨ev_nc2 env, by decide⟩, ⟨ev_nc3 env, by decide⟩, rfl, rfl, rfl, rfl,
    trivial⟩

/-! The closed facts that the chain theorems ask for.  They are stated with `(c32 t).w`, not `32`, so that they unify with the
hypotheses of `chain_run`, `reduce_tail_run (c32 t)` as these stand; the `show` line is the numeral form that `decide`
evaluates. -/

theorem c32_aw {k : Nat} (hk : k ≤ 3) (t : String) : (k + 1) * 2 ^ (c32 t).w ≤ 2 ^ (c32 t).aw := by
  show (k + 1) * 2 ^ 32 ≤ 2 ^ 64; omega

theorem ovLimbs_ok (t : String) : (∀ l ∈ ovLimbs, l.k < 2 ^ (c32 t).w ∧ (l.yes = false → l.k = 2 ^ (c32 t).w - 1)) ∧
    3493216577 < 2 ^ (c32 t).w ∧ valL (c32 t).w (3493216577 :: ovLimbs.reverse.map (·.k)) = N := by
  show (∀ l ∈ ovLimbs, l.k < 2 ^ 32 ∧ (l.yes = false → l.k = 2 ^ 32 - 1)) ∧ 3493216577 < 2 ^ 32 ∧ valL 32 _ = N
  decide

theorem ncLimbs_ok (t : String) : valL (c32 t).w ncLimbs + N = 2 ^ ((c32 t).w * (ovLimbs.length + 1)) ∧
    ∀ k ∈ ncLimbs, k < 2 ^ (c32 t).w := by
  show valL 32 ncLimbs + N = 2 ^ (32 * 8) ∧ ∀ k ∈ ncLimbs, k < 2 ^ 32
  decide

end ScalarKernel32
end SecpZkp
