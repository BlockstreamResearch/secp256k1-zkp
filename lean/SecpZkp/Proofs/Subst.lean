/-
  Forward substitution through a straight-line interned program: every cell of the final memory becomes a closed
  expression over the initial memory (`symL`).  Sound for any semantics in which the value of an expression is
  compositional and a run executes assignments and stores one after the other (`Sem`): the ideal semantics
  (`Sem.ideal`, used by `LimbPolyI`) and C's wrap-around semantics (`FieldKernelStruct.wrap`).
-/
import SecpZkp.Proofs.Interned

namespace SecpZkp
namespace Subst
open MiniC FieldKernelStruct

abbrev SEnv := List (Cell × IExpr)

/-- an unwritten cell stands for itself as `.idx x i`; a scalar is the cell `(x, 0)`, so after `subst` no `.var` is left -/
def SEnv.get (σ : SEnv) (x : Nat) (i : Nat) : IExpr :=
  match σ.find? (fun p => beqC p.1 (x, i)) with
  | some p => p.2
  | none => .idx x i

def SEnv.set (σ : SEnv) (x : Nat) (i : Nat) (e : IExpr) : SEnv := ((x, i), e) :: σ

def subst (σ : SEnv) : IExpr → IExpr
  | .lit n => .lit n
  | .var x => σ.get x 0
  | .idx a i => σ.get a i
  | .bin op w a b => .bin op w (subst σ a) (subst σ b)
  | .cast w e => .cast w (subst σ e)

def symL (σ : SEnv) : List IStmt → Option SEnv
  | [] => some σ
  | .assign x e :: rest => symL (σ.set x 0 (subst σ e)) rest
  | .store a i e :: rest => symL (σ.set a i (subst σ e)) rest
  | _ => none

theorem beqC_eq (c d : Cell) : beqC c d = (c == d) := Bool.eq_iff_iff.2 (beqC_iff.trans beq_iff_eq.symm)

theorem SEnv.get_set (σ : SEnv) (c d : Cell) (e : IExpr) :
    (σ.set c.1 c.2 e).get d.1 d.2 = if d = c then e else σ.get d.1 d.2 := by
  simp only [SEnv.get, SEnv.set, List.find?_cons, beqC_eq]
  by_cases h : d = c
  · rw [h, beq_self_eq_true, if_pos rfl]
  · rw [beq_false_of_ne (Ne.symm h), if_neg h]

structure Sem where
  val : Env → Expr → Nat
  run : Env → List Stmt → Env × Option Nat
  val_lit : ∀ env n, val env (.lit n) = n
  val_var : ∀ env x, val env (.var x) = env.get x 0
  val_idx : ∀ env a i, val env (.idx a (.lit i)) = env.get a i
  -- two memories: `Tracks.val_subst` compares the substituted expression in the initial memory with the original one in
  -- the current memory
  val_bin : ∀ env env' op w a b a' b', val env a = val env' a' → val env b = val env' b' →
    val env (.bin op w a b) = val env' (.bin op w a' b')
  val_cast : ∀ env env' w e e', val env e = val env' e' → val env (.cast w e) = val env' (.cast w e')
  run_nil : ∀ env, run env [] = (env, none)
  run_assign : ∀ env x e rest, run env (.assign x e :: rest) = run (env.set x 0 (val env e)) rest
  run_store : ∀ env a i e rest, run env (.store a (.lit i) e :: rest) = run (env.set a i (val env e)) rest

def Sem.ideal : Sem where
  val := evalEI
  run := execLI
  val_lit _ _ := rfl
  val_var _ _ := rfl
  val_idx _ _ _ := rfl
  val_bin _ _ _ _ _ _ _ _ ha hb := by simp only [evalEI, ha, hb]
  val_cast _ _ _ _ _ h := by simp only [evalEI, h]
  run_nil _ := by simp only [execLI]
  run_assign _ _ _ _ := by simp only [execLI, execSI]
  run_store _ _ _ _ _ := by simp only [execLI, execSI, evalEI]

variable {S : Sem} {ν : Nat → String} {env : Env} {σ : SEnv} {cur : Env}

def Tracks (S : Sem) (ν : Nat → String) (env : Env) (σ : SEnv) (cur : Env) : Prop :=
  ∀ c : Cell, S.val env (decodeE ν (σ.get c.1 c.2)) = cell ν cur c

theorem Tracks.init (S : Sem) (ν : Nat → String) (env : Env) : Tracks S ν env [] env := fun _ => S.val_idx ..

theorem Tracks.val_subst (h : Tracks S ν env σ cur) (e : IExpr) :
    S.val env (decodeE ν (subst σ e)) = S.val cur (decodeE ν e) := by
  induction e with
  | lit n => exact (S.val_lit ..).trans (S.val_lit ..).symm
  | var x => exact (h (x, 0)).trans (S.val_var ..).symm
  | idx a i => exact (h (a, i)).trans (S.val_idx ..).symm
  | bin op w a b iha ihb => exact S.val_bin _ _ _ _ _ _ _ _ iha ihb
  | cast w e ih => exact S.val_cast _ _ _ _ _ ih

theorem Tracks.override (h : Tracks S ν env σ cur) {d : Cell} {e : IExpr}
    (he : S.val env (decodeE ν e) = cell ν cur d) : Tracks S ν env (σ.set d.1 d.2 e) cur := by
  intro c
  rw [SEnv.get_set]
  split
  · rename_i hc; rw [hc, he]
  · exact h c

theorem Tracks.set (hν : ν.Injective) (h : Tracks S ν env σ cur) (d : Cell) (e : IExpr) :
    Tracks S ν env (σ.set d.1 d.2 (subst σ e)) (cur.set (ν d.1) d.2 (S.val cur (decodeE ν e))) := by
  intro c
  rw [SEnv.get_set]
  split
  · rename_i hc; rw [hc, cell_set_same, h.val_subst]
  · rename_i hc; rw [cell_set_other hν _ _ _ _ hc, h]

theorem Tracks.run (hν : ν.Injective) : ∀ (p : List IStmt) {σ σ' : SEnv} {cur : Env}, Tracks S ν env σ cur →
    symL σ p = some σ' → Tracks S ν env σ' (S.run cur (decode ν p)).1 ∧ (S.run cur (decode ν p)).2 = none
  | [], σ, σ', cur, h, hs => by
    cases hs; rw [show decode ν [] = [] from rfl, S.run_nil]; exact ⟨h, rfl⟩
  | .assign x e :: rest, σ, σ', cur, h, hs => by
    simp only [decode, List.map_cons, decodeS, S.run_assign]
    exact Tracks.run hν rest (h.set hν (x, 0) e) hs
  | .store a i e :: rest, σ, σ', cur, h, hs => by
    simp only [decode, List.map_cons, decodeS, S.run_store]
    exact Tracks.run hν rest (h.set hν (a, i) e) hs
  | .rshift .. :: _, _, _, _, _, hs => by cases hs

end Subst
end SecpZkp
