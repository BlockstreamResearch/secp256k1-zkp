import SecpZkp.Proofs.PowMod
import SecpZkp.Proofs.Readers
/-
  How `P` and `N` compare (`N < P < 2N`, `P ≡ 3 mod 4`), the Nat-level scalar arithmetic of `Model/Field.lean` as
  arithmetic in `ZMod N`, and `x mod n = r` for a field element (`x_mod_n`, the test of ECDSA verification).

  Primality of `N` is taken as a hypothesis (`[Fact (Nat.Prime N)]`); it is proved in `Proofs/Prime.lean`.
-/
namespace SecpZkp

theorem N_lt_P : N < P := by decide
theorem P_lt_two_N : P < 2 * N := by decide
theorem P_mod_four : P % 4 = 3 := by decide
theorem N_odd : N % 2 = 1 := by decide

namespace Sc

theorem add_lt (a b : ℕ) : Sc.add a b < N := Nat.mod_lt _ N_pos
theorem sub_lt_N (a b : ℕ) : Sc.sub a b < N := Nat.mod_lt _ N_pos
theorem neg_lt_N (a : ℕ) : Sc.neg a < N := Nat.mod_lt _ N_pos
theorem mul_lt (a b : ℕ) : Sc.mul a b < N := Nat.mod_lt _ N_pos
theorem inv_lt_N (a : ℕ) : Sc.inv a < N := powMod_lt N_pos

@[simp] theorem cast_add (a b : ℕ) : ((Sc.add a b : ℕ) : ZMod N) = (a : ZMod N) + b := by
  simp [Sc.add]

@[simp] theorem cast_mul (a b : ℕ) : ((Sc.mul a b : ℕ) : ZMod N) = (a : ZMod N) * b := by
  simp [Sc.mul]

@[simp] theorem cast_neg (a : ℕ) : ((Sc.neg a : ℕ) : ZMod N) = -(a : ZMod N) := by
  have h : a % N ≤ N := (Nat.mod_lt _ N_pos).le
  simp [Sc.neg, Nat.cast_sub h]

@[simp] theorem cast_sub (a b : ℕ) : ((Sc.sub a b : ℕ) : ZMod N) = (a : ZMod N) - b := by
  have h : b % N ≤ N := (Nat.mod_lt _ N_pos).le
  simp [Sc.sub, Nat.cast_sub h, sub_eq_add_neg]

theorem neg_eq_of_pos {a : ℕ} (h0 : 0 < a) (ha : a < N) : Sc.neg a = N - a := by
  unfold Sc.neg
  rw [Nat.mod_eq_of_lt ha, Nat.mod_eq_of_lt (by omega)]

theorem isHigh_iff (a : ℕ) : Sc.isHigh a = true ↔ a > (N - 1) / 2 := by
  simp [Sc.isHigh]

theorem half_lt_N {a : ℕ} (ha : a < N) : Sc.half a < N := by
  unfold Sc.half
  split <;> omega

end Sc

section PrimeN
variable [Fact (Nat.Prime N)]

@[simp] theorem Sc.cast_inv (a : ℕ) : ((Sc.inv a : ℕ) : ZMod N) = (a : ZMod N)⁻¹ :=
  Field.cast_inv (by decide) (Field.lt_pow_520 (by decide +kernel)) a

theorem Sc.mul_inv_self {a : ℕ} (h : a % N ≠ 0) : Sc.mul a (Sc.inv a) = 1 := by
  apply Field.eq_of_cast_eq (Sc.mul_lt _ _) (by decide)
  have : (a : ZMod N) ≠ 0 := fun h0 => h ((Field.cast_eq_zero_iff a).1 h0)
  rw [Sc.cast_mul, Sc.cast_inv, mul_inv_cancel₀ this, Nat.cast_one]

theorem Sc.cast_half (a : ℕ) : ((Sc.half a : ℕ) : ZMod N) = (a : ZMod N) * (2 : ZMod N)⁻¹ := by
  rw [← Field.two_mul_cast_half N_odd a]
  field_simp [Field.two_ne_zero N_odd]
  rfl

end PrimeN

/-- `r = x mod n` as `secp256k1_ecdsa_sig_verify` tests it, by two comparisons without reducing `x`: at most one wrap, as `P < 2N`. -/
theorem x_mod_n {x r : ℕ} (hx : x < P) (hr : r < N) :
    x % N = r ↔ x = r ∨ (r + N < P ∧ x = r + N) := by
  have h1 := P_lt_two_N
  have h2 := N_lt_P
  constructor
  · intro h
    by_cases hlt : x < N
    · left; rw [Nat.mod_eq_of_lt hlt] at h; exact h
    · right
      have : x % N = x - N := by
        rw [Nat.mod_eq_sub_mod (by omega), Nat.mod_eq_of_lt (by omega)]
      omega
  · rintro (h | ⟨_, h⟩)
    · rw [h, Nat.mod_eq_of_lt hr]
    · rw [h, Nat.add_mod_right, Nat.mod_eq_of_lt hr]

end SecpZkp
