/-
  Programs over the three-limb accumulator `(c0, c1, c2)` of `src/scalar_8x32_impl.h` and `src/scalar_4x64_impl.h`.

  `scalar_mul_512` and the first two stages of `scalar_reduce_512` are sequences of the macros `muladd`, `muladd_fast`,
  `sumadd`, `sumadd_fast`, `extract`, `extract_fast`.  Such a sequence is DESCRIBED by a list of `Op`s.  How a call is
  printed depends on the limb width: a `Layout W M` (limb modulus `W`, modulus `M` of `c2`) gives the statements of the four
  adding macros for given names of the macro variables (the translator prefixes the locals of inlined callees) and a given
  number of the first inlined callee (it numbers them through), with a Hoare-style rule for each (`Adds`);
  `Layout.compile` prints a list of calls.  That the generated IR is such a `compile` is checked by evaluating the
  comparison `same` in the kernel (`same_eq`; the `*_body` equations of the chain kernels use it too).
  `run_ops` executes a compiled list once for all layouts, by induction on the list: if the decidable check `ok` accepts it
  (the numeric bound carried along for the accumulator never overflows: this is what makes the `_fast` variants and a
  narrow `c2` safe), the extracted limbs are values `< W` whose base-`W` number, together with what is left in the
  accumulator, is the sum `total` of the added terms (Horner form, one factor `W` per `extract`).  `mul_run`
  (`scalar_mul_512`) and `fold_run` (the two folding stages) are stated for every layout and number of limbs; a limb
  width gives them its operation lists, what these sum up to, and the bridge from its limb predicates.
-/
import SecpZkp.Proofs.ScalarKernel32

namespace SecpZkp
namespace Accumulator
open MiniC MiniC.Bounds ScalarKernel ScalarKernel32
open LimbChain (sext64)

structure Names where
  over : String
  t : String
  th : String
  tl : String
  c0 : String
  c1 : String
  c2 : String

def Names.S (n : Names) : List String := [n.over, n.t, n.th, n.tl, n.c0, n.c1, n.c2]

/-- the macro variables with the prefix `p` that the translator gives to the locals of an inlined callee -/
def stdNames (p : String) : Names := ⟨p ++ "over", p ++ "t", p ++ "th", p ++ "tl", p ++ "c0", p ++ "c1", p ++ "c2"⟩

inductive Loc where
  | idx (a : String) (i : Nat)
  | var (x : String)

def Loc.key : Loc → String × Nat
  | .idx a i => (a, i)
  | .var x => (x, 0)

def Loc.read : Loc → Expr
  | .idx a i => .idx a (.lit i)
  | .var x => .var x

def Loc.write : Loc → Expr → Stmt
  | .idx a i, e => .store a (.lit i) e
  | .var x, e => .assign x e

theorem Loc.reads (l : Loc) : Reads l.read l.key.1 l.key.2 := by
  cases l
  · exact Reads_idx _ _
  · exact Reads_var _

/-- an operand of `muladd`: a cell, or a constant expression (`SECP256K1_N_C_k` as the C code spells it) -/
inductive Src where
  | loc (l : Loc)
  | const (e : Expr)

def Src.expr : Src → Expr
  | .loc l => l.read
  | .const e => e

def Src.val (env : Env) (s : Src) : Nat := ev env s.expr

def Src.cells : Src → List (String × Nat)
  | .loc l => [l.key]
  | .const _ => []

def closed : Expr → Bool
  | .lit _ => true
  | .bin _ _ a b => closed a && closed b
  | .not _ e => closed e
  | _ => false

theorem ev_closed : ∀ (e : Expr), closed e = true → ∀ env, ev env e = ev [] e
  | .lit _, _, _ => rfl
  | .bin _ _ a b, h, env => by
    simp only [closed, Bool.and_eq_true] at h
    rw [ev_bin, ev_bin, ev_closed a h.1, ev_closed b h.2]
  | .not _ e, h, env => by rw [ev_not, ev_not, ev_closed e h]

/-- `W`, which no check accepts, if no bound is known -/
def Src.bound (W : Nat) (bs : BEnv) : Src → Nat
  | .loc l => (bs.get? l.key.1 l.key.2).getD W
  | .const e => if closed e then ev [] e else W

theorem Src.val_le {W : Nat} (hW : 0 < W) {base : Env} {bs : BEnv} (hbs : Respects base bs) :
    ∀ (s : Src), s.bound W bs ≤ W - 1 → s.val base ≤ s.bound W bs
  | .loc l, h => by
    simp only [Src.bound] at h ⊢
    cases hg : bs.get? l.key.1 l.key.2 with
    | none => rw [hg] at h; exact absurd h (by simp only [Option.getD_none]; omega)
    | some v => exact (l.reads base).trans_le (hbs _ _ _ hg)
  | .const e, h => by
    simp only [Src.bound] at h ⊢
    split at h
    · rename_i hc; rw [if_pos hc]; exact (ev_closed e hc base).le
    · omega

theorem Src.ev_eq {W : Nat} (hW : 0 < W) {env base : Env} {bs : BEnv} : ∀ (s : Src), s.bound W bs ≤ W - 1 →
    (∀ c ∈ s.cells, env.get c.1 c.2 = base.get c.1 c.2) → ev env s.expr = s.val base
  | .loc l, _, hag => by
    rw [Src.val, Src.expr, l.reads env, l.reads base]
    exact hag _ (List.mem_singleton.2 rfl)
  | .const e, h, _ => by
    simp only [Src.bound] at h
    split at h
    · rename_i hc; rw [Src.val, Src.expr, ev_closed e hc env, ev_closed e hc base]
    · omega

inductive Op where
  | muladd (x y : Src)
  | muladdFast (x y : Src)
  | sumadd (l : Loc)
  | sumaddFast (l : Loc)
  | extract (d : Loc)
  | extractFast (d : Loc)

def Op.cells : Op → List (String × Nat)
  | .muladd x y | .muladdFast x y => x.cells ++ y.cells
  | .sumadd l | .sumaddFast l => [l.key]
  | _ => []

def Op.dest : Op → List (String × Nat)
  | .extract d | .extractFast d => [d.key]
  | _ => []

def cells (ops : List Op) : List (String × Nat) := ops.flatMap Op.cells

def dests (ops : List Op) : List (String × Nat) := ops.flatMap Op.dest

/-- operands and extracted cells are not scratch variables (`S`: the macro variables and the temporaries of
    inlined callees), no operand is an extracted cell, and no cell is extracted twice -/
def Wf (S : List String) (ops : List Op) : Prop :=
  (∀ c ∈ cells ops, c.1 ∉ S ∧ c ∉ dests ops) ∧ (∀ c ∈ dests ops, c.1 ∉ S) ∧ (dests ops).Nodup

instance (S : List String) (ops : List Op) : Decidable (Wf S ops) := by unfold Wf; infer_instance

theorem cells_cons (op : Op) (ops : List Op) : cells (op :: ops) = op.cells ++ cells ops := List.flatMap_cons
theorem dests_cons (op : Op) (ops : List Op) : dests (op :: ops) = op.dest ++ dests ops := List.flatMap_cons

theorem Wf.tail {S : List String} {op : Op} {ops : List Op} (h : Wf S (op :: ops)) : Wf S ops := by
  obtain ⟨h1, h2, h3⟩ := h
  simp only [cells_cons, dests_cons, List.mem_append, List.nodup_append] at h1 h2 h3 ⊢
  exact ⟨fun c hc => ⟨(h1 c (.inr hc)).1, fun hd => (h1 c (.inr hc)).2 (.inr hd)⟩, fun c hc => h2 c (.inr hc), h3.2.1⟩

theorem mem_cells_head {op : Op} {ops : List Op} {c : String × Nat} (h : c ∈ op.cells) : c ∈ cells (op :: ops) := by
  rw [cells_cons]; exact List.mem_append_left _ h

theorem mem_dests_head {op : Op} {ops : List Op} {c : String × Nat} (h : c ∈ op.dest) : c ∈ dests (op :: ops) := by
  rw [dests_cons]; exact List.mem_append_left _ h

/-! ### the accumulator, for a limb modulus `W` and a modulus `M` of the top limb `c2`

`W = 2^32` or `2^64`; `c2` is narrower than a limb in the 4×64 `scalar_mul_512` (`M = 2^32`). -/

/-- the accumulator never overflows: started with a value `≤ B`, it ends with a value `≤ B'`
    (the product of two limbs is formed at width `W·W`) -/
def ok (W M : Nat) (bs : BEnv) : List Op → Nat → Nat → Bool
  | [], B, B' => B ≤ B'
  | .muladd x y :: ops, B, B' => x.bound W bs ≤ W - 1 && y.bound W bs ≤ W - 1 &&
      B + x.bound W bs * y.bound W bs < W * W * M && ok W M bs ops (B + x.bound W bs * y.bound W bs) B'
  | .muladdFast x y :: ops, B, B' => x.bound W bs ≤ W - 1 && y.bound W bs ≤ W - 1 &&
      B + x.bound W bs * y.bound W bs < W * W && ok W M bs ops (B + x.bound W bs * y.bound W bs) B'
  | .sumadd l :: ops, B, B' => (Src.loc l).bound W bs ≤ W - 1 &&
      B + (W - 1) < W * W * M && ok W M bs ops (B + (W - 1)) B'
  | .sumaddFast l :: ops, B, B' => (Src.loc l).bound W bs ≤ W - 1 &&
      B + (W - 1) < W * W && ok W M bs ops (B + (W - 1)) B'
  | .extract _ :: ops, B, B' => ok W M bs ops (B / W) B'
  | .extractFast _ :: ops, B, B' => B < W * W && ok W M bs ops (B / W) B'

/-- a term added after `k` `extract`s has weight `W^k` -/
def total (W : Nat) (env : Env) : List Op → Nat
  | [] => 0
  | .muladd x y :: ops | .muladdFast x y :: ops => x.val env * y.val env + total W env ops
  | .sumadd l :: ops | .sumaddFast l :: ops => env.get l.key.1 l.key.2 + total W env ops
  | .extract _ :: ops | .extractFast _ :: ops => W * total W env ops

def digitsAt (W : Nat) (env : Env) : List (String × Nat) → Nat
  | [] => 0
  | c :: cs => env.get c.1 c.2 + W * digitsAt W env cs

theorem digitsAt_congr {W : Nat} {e1 e2 : Env} : ∀ {cs : List (String × Nat)},
    (∀ c ∈ cs, e1.get c.1 c.2 = e2.get c.1 c.2) → digitsAt W e1 cs = digitsAt W e2 cs
  | [], _ => rfl
  | c :: cs, h => by
    rw [digitsAt, digitsAt, h c List.mem_cons_self, digitsAt_congr fun d hd => h d (.tail _ hd)]

theorem digitsAt_append (W : Nat) (env : Env) : ∀ (cs ds : List (String × Nat)),
    digitsAt W env (cs ++ ds) = digitsAt W env cs + W ^ cs.length * digitsAt W env ds
  | [], ds => by simp [digitsAt]
  | c :: cs, ds => by
    rw [List.cons_append, digitsAt, digitsAt, digitsAt_append W env cs ds, List.length_cons, Nat.pow_succ]
    ring

theorem respects_of_forall {env : Env} {B : Nat} {r : BEnv} (hr : Respects env r) :
    ∀ {cs : List (String × Nat)}, (∀ c ∈ cs, env.get c.1 c.2 ≤ B) → Respects env (cs.map (·, B) ++ r)
  | [], _ => hr
  | c :: _, h => respects_cons (h c List.mem_cons_self) (respects_of_forall hr fun d hd => h d (.tail _ hd))

/-- the macro variables hold `A = c0 + c1·W + c2·W²` with `c0, c1 < W`, `c2 < M`; `B` is the bound that `ok` carries along -/
def AccAt (W M : Nat) (n : Names) (env : Env) (A B : Nat) : Prop :=
  env.get n.c0 0 < W ∧ env.get n.c1 0 < W ∧ env.get n.c2 0 < M ∧
  env.get n.c0 0 + env.get n.c1 0 * W + env.get n.c2 0 * (W * W) = A ∧ A ≤ B

theorem mul_lt_self {c X : Nat} (h : c * X < X) : c = 0 := by
  rcases Nat.eq_zero_or_pos c with h0 | h0
  · exact h0
  · exact absurd (Nat.le_mul_of_pos_left X h0) (Nat.not_le.2 h)

theorem AccAt.init {W M : Nat} {n : Names} {env : Env} {v B : Nat} (hM : 0 < M) (e0 : env.get n.c0 0 = v)
    (e1 : env.get n.c1 0 = 0) (e2 : env.get n.c2 0 = 0) (hv : v ≤ B) (hB : B < W) : AccAt W M n env v B := by
  rw [AccAt, e0, e1, e2, Nat.zero_mul, Nat.zero_mul]
  exact ⟨by omega, by omega, hM, rfl, hv⟩

theorem AccAt.c2_zero {W M : Nat} {n : Names} {env : Env} {A B : Nat} (h : AccAt W M n env A B) (hB : B < W * W) :
    env.get n.c2 0 = 0 := by
  obtain ⟨_, _, _, hA, hle⟩ := h
  generalize W * W = X at hA hB
  exact mul_lt_self (X := X) (by omega)

theorem AccAt.top {W M : Nat} {n : Names} {env : Env} {A B : Nat} (h : AccAt W M n env A B) (hB : B < W) :
    env.get n.c0 0 = A := by
  have h2 := h.c2_zero (hB.trans_le (Nat.le_mul_self W))
  obtain ⟨_, _, _, hA, hle⟩ := h
  rw [h2, Nat.zero_mul] at hA
  have h1 : env.get n.c1 0 = 0 := mul_lt_self (X := W) (by omega)
  rw [h1, Nat.zero_mul] at hA
  exact hA

theorem acc_mod_div {W c0 c1 c2 A : Nat} (h0 : c0 < W) (hA : c0 + c1 * W + c2 * (W * W) = A) :
    A % W = c0 ∧ A / W = c1 + c2 * W := by
  have e : A = c0 + W * (c1 + c2 * W) := by rw [← hA]; ring
  have hW : 0 < W := by omega
  rw [e, Nat.add_mul_mod_self_left, Nat.add_mul_div_left _ _ hW, Nat.mod_eq_of_lt h0, Nat.div_eq_of_lt h0,
    Nat.zero_add]
  exact ⟨rfl, rfl⟩

/-- the shape of the rules for the adding macros: the statements `prog` add `v ≤ vmax` to the accumulator, if its
    bound then stays below `lim`; they write scratch variables (`S`) only -/
def Adds (W M : Nat) (n : Names) (S : List String) (env : Env) (v vmax lim : Nat) (prog : List Stmt → List Stmt) :
    Prop :=
  ∀ {P : Env × Option Nat → Prop} {rest : List Stmt} {A B : Nat}, AccAt W M n env A B → B + vmax < lim →
    (∀ env', Frame S env env' → AccAt W M n env' (A + v) (B + vmax) → P (runR env' rest)) →
    P (runR env (prog rest))

/-- how the accumulator macros are printed (the statements of one call, in front of the rest; the translator
    numbers the inlined callees of a call, from `k` on, and names their variables after the numbers), and that
    the printed calls do to the accumulator what their names say -/
structure Layout (W M : Nat) where
  hM : 0 < M
  hMW : M ≤ W
  calls : Op → Nat
  vars : Nat → Op → List String
  muladd : Names → Nat → Src → Src → List Stmt → List Stmt
  muladdFast : Names → Nat → Src → Src → List Stmt → List Stmt
  sumadd : Names → Loc → List Stmt → List Stmt
  sumaddFast : Names → Loc → List Stmt → List Stmt
  muladd_rule : ∀ {n : Names} {k : Nat} {x y : Src} {S : List String} {env : Env} {a b amax bmax : Nat},
    (vars k (.muladd x y) ++ n.S).Nodup → (∀ v ∈ vars k (.muladd x y) ++ n.S, v ∈ S) → ev env x.expr = a →
    (∀ env', Frame S env env' → ev env' y.expr = b) → a ≤ amax → b ≤ bmax → amax ≤ W - 1 → bmax ≤ W - 1 →
    Adds W M n S env (a * b) (amax * bmax) (W * W * M) (muladd n k x y)
  muladdFast_rule : ∀ {n : Names} {k : Nat} {x y : Src} {S : List String} {env : Env} {a b amax bmax : Nat},
    (vars k (.muladdFast x y) ++ n.S).Nodup → (∀ v ∈ vars k (.muladdFast x y) ++ n.S, v ∈ S) → ev env x.expr = a →
    (∀ env', Frame S env env' → ev env' y.expr = b) → a ≤ amax → b ≤ bmax → amax ≤ W - 1 → bmax ≤ W - 1 →
    Adds W M n S env (a * b) (amax * bmax) (W * W) (muladdFast n k x y)
  sumadd_rule : ∀ {n : Names} {l : Loc} {S : List String} {env : Env} {a : Nat},
    n.S.Nodup → (∀ v ∈ n.S, v ∈ S) → l.key.1 ∉ n.S → env.get l.key.1 l.key.2 = a → a < W →
    Adds W M n S env a (W - 1) (W * W * M) (sumadd n l)
  sumaddFast_rule : ∀ {n : Names} {l : Loc} {S : List String} {env : Env} {a : Nat},
    n.S.Nodup → (∀ v ∈ n.S, v ∈ S) → l.key.1 ∉ n.S → env.get l.key.1 l.key.2 = a → a < W →
    Adds W M n S env a (W - 1) (W * W) (sumaddFast n l)

namespace Layout
theorem hW {W M : Nat} (L : Layout W M) : 0 < W := Nat.lt_of_lt_of_le L.hM L.hMW

variable {W M : Nat} (L : Layout W M)

/-- the statements of one macro call, in front of `r` (`extract` and `extract_fast` are the same in all layouts) -/
def onto (n : Names) (k : Nat) : Op → List Stmt → List Stmt
  | .muladd x y, r => L.muladd n k x y r
  | .muladdFast x y, r => L.muladdFast n k x y r
  | .sumadd l, r => L.sumadd n l r
  | .sumaddFast l, r => L.sumaddFast n l r
  | .extract d, r =>
    d.write (.var n.c0) :: .assign n.c0 (.var n.c1) :: .assign n.c1 (.var n.c2) :: .assign n.c2 (.lit 0) :: r
  | .extractFast d, r =>
    d.write (.var n.c0) :: .assign n.c0 (.var n.c1) :: .assign n.c1 (.lit 0) :: r

def compile (n : Names) : Nat → List Op → List Stmt → List Stmt
  | _, [], r => r
  | k, op :: ops, r => L.onto n k op (compile n (k + L.calls op) ops r)

/-- the variables of the inlined callees are distinct scratch variables, and none of them is a macro variable -/
def Scratch (n : Names) (S : List String) : Nat → List Op → Prop
  | _, [] => True
  | k, op :: ops => (L.vars k op ++ n.S).Nodup ∧ (∀ v ∈ L.vars k op, v ∈ S) ∧ Scratch n S (k + L.calls op) ops

instance (n : Names) (S : List String) : ∀ (k : Nat) (ops : List Op), Decidable (L.Scratch n S k ops)
  | _, [] => isTrue trivial
  | k, op :: ops => by
    have := instDecidableScratch n S (k + L.calls op) ops
    unfold Scratch; infer_instance

end Layout

/-- what `run_ops` hands to the rest of the program -/
def Post (W M : Nat) (n : Names) (S : List String) (base env : Env) (ops : List Op) (A B' : Nat) (env' : Env) : Prop :=
  ∃ A', (∀ x i, x ∉ S → (x, i) ∉ dests ops → env'.get x i = env.get x i) ∧
    (∀ c ∈ dests ops, env'.get c.1 c.2 < W) ∧ AccAt W M n env' A' B' ∧
    digitsAt W env' (dests ops) + A' * W ^ (dests ops).length = A + total W base ops

theorem agree_step {S : List String} {op : Op} {ops : List Op} {base env env1 : Env} (hwf : Wf S (op :: ops))
    (hF : ∀ x i, x ∉ S → (x, i) ∉ dests (op :: ops) → env1.get x i = env.get x i)
    (hag : ∀ c ∈ cells (op :: ops), env.get c.1 c.2 = base.get c.1 c.2) :
    ∀ c ∈ cells ops, env1.get c.1 c.2 = base.get c.1 c.2 := by
  intro c hc
  have hc' : c ∈ cells (op :: ops) := by rw [cells_cons]; exact List.mem_append_right _ hc
  exact (hF c.1 c.2 (hwf.1 c hc').1 (hwf.1 c hc').2).trans (hag c hc')

theorem Post.term {W M : Nat} {n : Names} {S : List String} {op : Op} {ops : List Op} {base env env1 env' : Env}
    {A B' v : Nat} (hd : op.dest = []) (ht : total W base (op :: ops) = v + total W base ops) (hF : Frame S env env1)
    (h : Post W M n S base env1 ops (A + v) B' env') : Post W M n S base env (op :: ops) A B' env' := by
  obtain ⟨A', ha, hlt, hacc, hdig⟩ := h
  have e : dests (op :: ops) = dests ops := by rw [dests_cons, hd]; rfl
  rw [Post, e, ht]
  exact ⟨A', fun x i hx hxi => (ha x i hx hxi).trans (hF x i hx), hlt, hacc, by rw [hdig, Nat.add_assoc]⟩

theorem Post.extract {W M : Nat} {n : Names} {S : List String} {op : Op} {ops : List Op} {d : Loc}
    {base env env1 env' : Env} {A B' : Nat} (hW : 0 < W) (hwf : Wf S (op :: ops))
    (hd : op.dest = [d.key]) (ht : total W base (op :: ops) = W * total W base ops)
    (hF : FrameC S d.key.1 d.key.2 env env1) (ho : env1.get d.key.1 d.key.2 = A % W)
    (h : Post W M n S base env1 ops (A / W) B' env') : Post W M n S base env (op :: ops) A B' env' := by
  obtain ⟨A', ha, hlt, hacc, hdig⟩ := h
  have e : dests (op :: ops) = d.key :: dests ops := by rw [dests_cons, hd]; rfl
  have hdS : d.key.1 ∉ S := hwf.2.1 _ (by rw [e]; exact List.mem_cons_self)
  have hdn : d.key ∉ dests ops := by have := hwf.2.2; rw [e] at this; exact (List.nodup_cons.1 this).1
  have hde : env'.get d.key.1 d.key.2 = A % W := (ha _ _ hdS hdn).trans ho
  rw [Post, e, ht]
  refine ⟨A', fun x i hx hxi => ?_, fun c hc => ?_, hacc, ?_⟩
  · rw [List.mem_cons, not_or] at hxi
    exact (ha x i hx hxi.2).trans (hF x i hx hxi.1)
  · rcases List.mem_cons.1 hc with rfl | hc
    · rw [hde]; exact Nat.mod_lt _ hW
    · exact hlt c hc
  · rw [digitsAt, hde, List.length_cons, Nat.pow_succ]
    calc A % W + W * digitsAt W env' (dests ops) + A' * (W ^ (dests ops).length * W)
        = A % W + W * (digitsAt W env' (dests ops) + A' * W ^ (dests ops).length) := by ring
      _ = A + W * total W base ops := by rw [hdig, Nat.mul_add, ← Nat.add_assoc, Nat.mod_add_div]

/-- the variables of the three inlined callees of a `muladd` of the 4×64 layout; up here because `distinct` and `frame`
    unfold `Tmp.S` -/
structure Tmp where
  a : String
  b : String
  hi : String
  lo : String

def Tmp.S (u : Tmp) : List String := [u.a, u.b, u.hi, u.lo]

/-- from `l.Nodup` for a literal list `l`: all inequalities between its members, in both orientations -/
macro "distinct " hd:ident hd':ident : tactic => `(tactic| (
  have $hd' := List.Pairwise.imp Ne.symm $hd
  simp only [List.Nodup, Tmp.S, Names.S, List.cons_append, List.nil_append, List.pairwise_cons, List.forall_mem_cons,
    List.not_mem_nil, false_imp_iff, implies_true, List.Pairwise.nil, and_true, ne_eq] at $hd:ident $hd':ident))

/-- a memory reached from `env` by writing only variables of the list `l ⊆ S` (`hS`) is a `Frame S env` -/
macro "frame " hS:ident l:term : tactic => `(tactic| (
  intro z i hz
  have hne : ∀ v ∈ $l, ¬ z = v := fun v hv h => hz (h ▸ $hS v hv)
  simp only [Tmp.S, Names.S, List.cons_append, List.nil_append, List.forall_mem_cons, List.not_mem_nil, false_imp_iff,
    implies_true, and_true] at hne
  xreads [hne]))

theorem runR_write (env : Env) (d : Loc) (e : Expr) (rest : List Stmt) :
    runR env (d.write e :: rest) = runR (env.set d.key.1 d.key.2 (ev env e)) rest := by
  cases d
  · rw [Loc.write, runR_store, ev_lit]; rfl
  · exact runR_assign ..

theorem extractL_rule {P : Env × Option Nat → Prop} {env : Env} {d : Loc} {c0n c1n c2n : String}
    {rest : List Stmt} (S : List String) (c0 c1 c2 : Nat)
    (hd : [d.key.1, c0n, c1n, c2n].Nodup) (hS : ∀ x ∈ [c0n, c1n, c2n], x ∈ S)
    (hc0 : env.get c0n 0 = c0) (hc1 : env.get c1n 0 = c1) (hc2 : env.get c2n 0 = c2)
    (k : ∀ env', FrameC S d.key.1 d.key.2 env env' → env'.get d.key.1 d.key.2 = c0 →
      env'.get c0n 0 = c1 → env'.get c1n 0 = c2 → env'.get c2n 0 = 0 → P (runR env' rest)) :
    P (runR env (d.write (.var c0n) :: .assign c0n (.var c1n) :: .assign c1n (.var c2n) ::
      .assign c2n (.lit 0) :: rest)) := by
  have s0 := hS c0n (by simp); have s1 := hS c1n (by simp); have s2 := hS c2n (by simp)
  distinct hd hd'
  rw [runR_write]
  xsteps 3 [hc0, hc1, hc2, hd, hd']
  refine k _ ?_ ?_ ?_ ?_ ?_
  · exact (((FrameC.set_self S _ _ _ env).set s0 _ _).set s1 _ _).set s2 _ _
  all_goals xreads [hd, hd']

theorem extractL_fast_rule {P : Env × Option Nat → Prop} {env : Env} {d : Loc} {c0n c1n : String}
    {rest : List Stmt} (S : List String) (c2n : String) (c0 c1 c2 : Nat)
    (hd : [d.key.1, c0n, c1n, c2n].Nodup) (hS : ∀ x ∈ [c0n, c1n], x ∈ S)
    (hc0 : env.get c0n 0 = c0) (hc1 : env.get c1n 0 = c1) (hc2 : env.get c2n 0 = c2)
    (k : ∀ env', FrameC S d.key.1 d.key.2 env env' → env'.get d.key.1 d.key.2 = c0 →
      env'.get c0n 0 = c1 → env'.get c1n 0 = 0 → env'.get c2n 0 = c2 → P (runR env' rest)) :
    P (runR env (d.write (.var c0n) :: .assign c0n (.var c1n) :: .assign c1n (.lit 0) :: rest)) := by
  have s0 := hS c0n (by simp); have s1 := hS c1n (by simp)
  distinct hd hd'
  rw [runR_write]
  xsteps 2 [hc0, hc1, hd, hd']
  refine k _ ?_ ?_ ?_ ?_ ?_
  · exact ((FrameC.set_self S _ _ _ env).set s0 _ _).set s1 _ _
  all_goals xreads [hd, hd', hc2]

theorem Names.sub3 (n : Names) : List.Sublist [n.c0, n.c1, n.c2] n.S := .cons _ (.cons _ (.cons _ (.cons _ (.refl _))))
theorem Names.sub2 (n : Names) : List.Sublist [n.c0, n.c1] n.S :=
  .cons _ (.cons _ (.cons _ (.cons _ (.cons_cons _ (.cons_cons _ (.cons _ (.refl _)))))))

/-- **the compiled macro calls `ops`, executed**: from a memory in which the operands have their values of `base`
    (bounded by `bs`) and the accumulator holds `A ≤ B`, the rest of the program runs in a memory described by
    `Post`. -/
theorem run_ops {W M : Nat} (L : Layout W M) {P : Env × Option Nat → Prop} {n : Names} {S : List String} (hn : n.S.Nodup)
    (hS : ∀ v ∈ n.S, v ∈ S) {bs : BEnv} {base : Env} (hbs : Respects base bs) {rest : List Stmt} {B' : Nat} :
    ∀ (ops : List Op) {k : Nat} {env : Env} {A B : Nat}, L.Scratch n S k ops → Wf S ops →
    ok W M bs ops B B' = true → (∀ c ∈ cells ops, env.get c.1 c.2 = base.get c.1 c.2) → AccAt W M n env A B →
    (∀ env', Post W M n S base env ops A B' env' → P (runR env' rest)) → P (runR env (L.compile n k ops rest))
  | [], _, env, A, B, _, _, hok, _, hacc, k =>
    k env ⟨A, fun _ _ _ _ => rfl, fun _ h => absurd h List.not_mem_nil,
      ⟨hacc.1, hacc.2.1, hacc.2.2.1, hacc.2.2.2.1, hacc.2.2.2.2.trans (of_decide_eq_true hok)⟩,
      (Nat.zero_add _).trans (Nat.mul_one A)⟩
  | .muladd x y :: ops, _, env, A, B, hsc, hwf, hok, hag, hacc, k
  | .muladdFast x y :: ops, _, env, A, B, hsc, hwf, hok, hag, hacc, k => by
    simp only [ok, Bool.and_eq_true, decide_eq_true_eq] at hok
    obtain ⟨⟨⟨hx, hy⟩, hno⟩, hok⟩ := hok
    have hagx : ∀ c ∈ x.cells, _ := fun c hc => hag c (mem_cells_head (List.mem_append_left _ hc))
    have hagy : ∀ c ∈ y.cells, _ := fun c hc => hag c (mem_cells_head (List.mem_append_right _ hc))
    have hvS : ∀ v ∈ _ ++ n.S, v ∈ S := fun v hv => (List.mem_append.1 hv).elim (hsc.2.1 v) (hS v)
    have hb : ∀ env', Frame S env env' → ev env' y.expr = y.val base := fun env' hF => y.ev_eq L.hW hy fun c hc =>
      (hF c.1 c.2 (hwf.1 c (mem_cells_head (List.mem_append_right _ hc))).1).trans (hagy c hc)
    have ha := x.ev_eq L.hW hx hagx
    have hxv := x.val_le L.hW hbs hx
    have hyv := y.val_le L.hW hbs hy
    -- this script runs once for each of the two calls; they differ in the rule and in the limit that `hno` respects
    first
      | refine L.muladd_rule hsc.1 hvS ha hb hxv hyv hx hy hacc hno fun env1 hF hacc1 => ?_
      | refine L.muladdFast_rule hsc.1 hvS ha hb hxv hyv hx hy hacc hno fun env1 hF hacc1 => ?_
    exact run_ops L hn hS hbs ops hsc.2.2 hwf.tail hok (agree_step hwf (fun x i hx _ => hF x i hx) hag) hacc1
      fun env' hp => k env' (hp.term rfl rfl hF)
  | .sumadd l :: ops, _, env, A, B, hsc, hwf, hok, hag, hacc, k
  | .sumaddFast l :: ops, _, env, A, B, hsc, hwf, hok, hag, hacc, k => by
    simp only [ok, Bool.and_eq_true, decide_eq_true_eq] at hok
    obtain ⟨⟨hl, hno⟩, hok⟩ := hok
    have hlS : l.key.1 ∉ n.S := fun h => (hwf.1 l.key (mem_cells_head List.mem_cons_self)).1 (hS _ h)
    have ha := (l.reads base).symm.trans_le ((Src.loc l).val_le L.hW hbs hl)
    have hlt : base.get l.key.1 l.key.2 < W := by have := L.hW; omega
    have he := hag l.key (mem_cells_head List.mem_cons_self)
    first
      | refine L.sumadd_rule hn hS hlS he hlt hacc hno fun env1 hF hacc1 => ?_
      | refine L.sumaddFast_rule hn hS hlS he hlt hacc hno fun env1 hF hacc1 => ?_
    exact run_ops L hn hS hbs ops hsc.2.2 hwf.tail hok (agree_step hwf (fun x i hx _ => hF x i hx) hag) hacc1
      fun env' hp => k env' (hp.term rfl rfl hF)
  | .extract d :: ops, _, env, A, B, hsc, hwf, hok, hag, hacc, k => by
    rw [ok] at hok
    obtain ⟨h0, h1, h2, hA, hB⟩ := hacc
    have hdS := hwf.2.1 d.key (mem_dests_head List.mem_cons_self)
    refine extractL_rule S _ _ _ (List.nodup_cons.2 ⟨fun h => hdS (hS _ (n.sub3.subset h)), hn.sublist n.sub3⟩)
      (fun _ h => hS _ (n.sub3.subset h)) rfl rfl rfl ?_
    intro env1 hF ho e0 e1 e2
    obtain ⟨hm, hq⟩ := acc_mod_div h0 hA
    have hacc : AccAt W M n env1 (A / W) (B / W) := by
      rw [AccAt, e0, e1, e2, Nat.zero_mul]
      exact ⟨h1, h2.trans_le L.hMW, L.hM, hq.symm, Nat.div_le_div_right hB⟩
    refine run_ops L hn hS hbs ops hsc.2.2 hwf.tail hok (agree_step hwf (fun x i hx hxi => hF x i hx ?_) hag) hacc
      fun env' hp => k env' (hp.extract L.hW hwf rfl rfl hF (ho.trans hm.symm))
    exact fun h => hxi (h ▸ mem_dests_head List.mem_cons_self)
  | .extractFast d :: ops, _, env, A, B, hsc, hwf, hok, hag, hacc, k => by
    simp only [ok, Bool.and_eq_true, decide_eq_true_eq] at hok
    obtain ⟨hno, hok⟩ := hok
    have hz := hacc.c2_zero hno
    obtain ⟨h0, h1, h2, hA, hB⟩ := hacc
    have hdS := hwf.2.1 d.key (mem_dests_head List.mem_cons_self)
    refine extractL_fast_rule S n.c2 _ _ 0
      (List.nodup_cons.2 ⟨fun h => hdS (hS _ (n.sub3.subset h)), hn.sublist n.sub3⟩)
      (fun _ h => hS _ (n.sub2.subset h)) rfl rfl hz ?_
    intro env1 hF ho e0 e1 e2
    obtain ⟨hm, hq⟩ := acc_mod_div h0 hA
    have hacc : AccAt W M n env1 (A / W) (B / W) := by
      rw [AccAt, e0, e1, e2, Nat.zero_mul, Nat.zero_mul]
      rw [hz, Nat.zero_mul] at hq
      exact ⟨h1, L.hW, L.hM, hq.symm, Nat.div_le_div_right hB⟩
    refine run_ops L hn hS hbs ops hsc.2.2 hwf.tail hok (agree_step hwf (fun x i hx hxi => hF x i hx ?_) hag) hacc
      fun env' hp => k env' (hp.extract L.hW hwf rfl rfl hF (ho.trans hm.symm))
    exact fun h => hxi (h ▸ mem_dests_head List.mem_cons_self)

/-- **a stage**: the accumulator is initialised with `s` (`c0 = s; c1 = 0; c2 = 0`), then the macro calls `ops`
    run -/
theorem run_stage {W M : Nat} (L : Layout W M) {P : Env × Option Nat → Prop} {n : Names} {S : List String} (hn : n.S.Nodup)
    (hS : ∀ v ∈ n.S, v ∈ S) {bs : BEnv} {env : Env} (hbs : Respects env bs) {rest : List Stmt} {B B' j : Nat}
    (s : Src) (ops : List Op) (hsb : s.bound W bs ≤ B) (hB : B ≤ W - 1) (hsc : L.Scratch n S j ops)
    (hwf : Wf S ops) (hok : ok W M bs ops B B' = true)
    (k : ∀ env', Post W M n S env env ops (s.val env) B' env' → P (runR env' rest)) :
    P (runR env (.assign n.c0 s.expr :: .assign n.c1 (.lit 0) :: .assign n.c2 (.lit 0) ::
      L.compile n j ops rest)) := by
  refine init_rule S _ (hn.sublist n.sub3) (fun _ h => hS _ (n.sub3.subset h)) rfl ?_
  intro env0 hF e0 e1 e2
  have hv : ev env s.expr ≤ B := (s.val_le L.hW hbs (hsb.trans hB)).trans hsb
  refine run_ops L hn hS hbs ops hsc hwf hok (fun c hc => hF c.1 c.2 (hwf.1 c hc).1)
    (.init L.hM e0 e1 e2 hv (by have := L.hW; omega)) fun env' ⟨A', ha, h⟩ =>
      k env' ⟨A', fun x i hx hxi => (ha x i hx hxi).trans (hF x i hx), h⟩

def copies : List (String × Loc) → List Stmt → List Stmt
  | [], r => r
  | (x, s) :: ps, r => .assign x s.read :: copies ps r

/-- the targets are distinct and no source cell is a target -/
def CopiesOk (ps : List (String × Loc)) : Prop :=
  (ps.map Prod.fst).Nodup ∧ ∀ p ∈ ps, ∀ q ∈ ps, p.2.key ≠ (q.1, 0)

instance (ps : List (String × Loc)) : Decidable (CopiesOk ps) := by unfold CopiesOk; infer_instance

theorem run_copies {P : Env × Option Nat → Prop} {rest : List Stmt} : ∀ (ps : List (String × Loc)) {env : Env},
    CopiesOk ps →
    (∀ env', (∀ p ∈ ps, env'.get p.1 0 = env.get p.2.key.1 p.2.key.2) →
      (∀ x i, (∀ p ∈ ps, (x, i) ≠ (p.1, 0)) → env'.get x i = env.get x i) → P (runR env' rest)) →
    P (runR env (copies ps rest))
  | [], env, _, k => k env (fun _ h => absurd h List.not_mem_nil) fun _ _ _ => rfl
  | (x, s) :: ps, env, hok, k => by
    obtain ⟨hnd, hsrc⟩ := hok
    rw [List.map_cons, List.nodup_cons] at hnd
    refine assign_rule [] _ (s.reads env) fun env1 hF hx => ?_
    refine run_copies ps ⟨hnd.2, fun p hp q hq => hsrc p (.tail _ hp) q (.tail _ hq)⟩ fun env' hv hfr => ?_
    have hF' : ∀ y i, (y, i) ≠ (x, 0) → env1.get y i = env.get y i := fun y i h => hF y i List.not_mem_nil h
    refine k env' (fun p hp => ?_) fun y i hy => ?_
    · rcases List.mem_cons.1 hp with rfl | hp
      · exact (hfr _ _ fun q hq h => hnd.1 (by injection h with h; exact h ▸ List.mem_map_of_mem hq)).trans hx
      · exact (hv p hp).trans (hF' _ _ (hsrc p (.tail _ hp) _ List.mem_cons_self))
    · exact (hfr y i fun q hq => hy q (.tail _ hq)).trans (hF' y i (hy _ List.mem_cons_self))

theorem fold_mod {X L H M Mh Pv NC N : Nat} (hN : NC + N = X) (h1 : M + Mh * X = L + H * NC)
    (h2 : Pv = M + Mh * NC) : Pv + N * (H + Mh) = L + H * X := by
  rw [← hN] at h1 ⊢
  calc Pv + N * (H + Mh) = M + Mh * (NC + N) + N * H := by rw [h2]; ring
    _ = L + H * (NC + N) := by rw [h1]; ring

open LimbList in
def cellsOf (l : String) : Nat → Nat → List (String × Nat)
  | _, 0 => []
  | i, n + 1 => (l, i) :: cellsOf l (i + 1) n

open LimbList in
theorem digitsAt_cellsOf (w : Nat) (env : Env) (l : String) : ∀ (n i : Nat),
    digitsAt (2 ^ w) env (cellsOf l i n) = valL w (readL env l i n)
  | 0, _ => rfl
  | n + 1, i => by rw [cellsOf, digitsAt, readL, valL, digitsAt_cellsOf w env l n]

open LimbList in
theorem digitsAt_eq (w : Nat) (env : Env) : ∀ cs, digitsAt (2 ^ w) env cs = valL w (cs.map fun c => env.get c.1 c.2)
  | [] => rfl
  | c :: cs => by rw [digitsAt, List.map_cons, valL, digitsAt_eq w env cs]

open LimbList in
theorem forall_cellsOf {env : Env} {l : String} {p : Nat → Prop} : ∀ {n i : Nat},
    (∀ c ∈ cellsOf l i n, p (env.get c.1 c.2)) ↔ ∀ d ∈ readL env l i n, p d
  | 0, _ => by simp [cellsOf, readL]
  | n + 1, i => by rw [cellsOf, readL, List.forall_mem_cons, List.forall_mem_cons, forall_cellsOf]

def copyCells (cp : List (String × Loc)) : List (String × Nat) := cp.map fun q => (q.1, 0)

theorem mem_cellsOf {l : String} {c : String × Nat} : ∀ {n i : Nat}, c ∈ cellsOf l i n ↔ c.1 = l ∧ i ≤ c.2 ∧ c.2 < i + n
  | 0, i => by simp [cellsOf]
  | n + 1, i => by
    rw [cellsOf, List.mem_cons, mem_cellsOf]
    constructor
    · rintro (rfl | ⟨h1, h2, h3⟩)
      · exact ⟨rfl, Nat.le_refl _, by omega⟩
      · exact ⟨h1, by omega, by omega⟩
    · rintro ⟨h1, h2, h3⟩
      rcases Nat.eq_or_lt_of_le h2 with h | h
      · exact .inl (Prod.ext h1 h.symm)
      · exact .inr ⟨h1, h, by omega⟩

/-- what `fold_run` checks by evaluation.  The bound lists end in `++ []` because `respects_of_forall` returns
    `cs.map (·, B) ++ r` and `ok` must be decided on that very term. -/
def FoldOk (w M : Nat) (n : Names) (S : List String) (h : Nat) (la mt pt : String) (cp : List (String × Loc))
    (ops1 ops2 : List Op) (s2 : Src) : Prop :=
  1 < w ∧ n.S.Nodup ∧ CopiesOk cp ∧ la ∉ cp.map Prod.fst ∧ cp.map (·.2.key) = cellsOf la h h ∧ Wf S ops1 ∧
  (Src.loc (.idx la 0)).bound (2 ^ w) ((cellsOf la 0 h ++ copyCells cp).map (·, 2 ^ w - 1) ++ []) ≤ 2 ^ w - 1 ∧
  ok (2 ^ w) M ((cellsOf la 0 h ++ copyCells cp).map (·, 2 ^ w - 1) ++ []) ops1 (2 ^ w - 1) 1 = true ∧ Wf S ops2 ∧
  s2.bound (2 ^ w) ((dests ops1).map (·, 2 ^ w - 1) ++ [((mt, 0), 1)]) ≤ 2 ^ w - 1 ∧
  ok (2 ^ w) M ((dests ops1).map (·, 2 ^ w - 1) ++ [((mt, 0), 1)]) ops2 (2 ^ w - 1) 2 = true ∧
  (mt, 0) ∉ dests ops1 ∧ mt ∉ S ∧ (mt, 0) ∉ dests ops2 ∧ (pt, 0) ∉ dests ops2 ∧ h ≤ (dests ops1).length ∧
  (dests ops2).length = h

instance (w M : Nat) (n : Names) (S : List String) (h : Nat) (la mt pt : String) (cp : List (String × Loc))
    (ops1 ops2 : List Op) (s2 : Src) : Decidable (FoldOk w M n S h la mt pt cp ops1 ops2 s2) := by
  unfold FoldOk; infer_instance

open LimbList in
/-- **the two folding stages of `secp256k1_scalar_reduce_512`** for a layout and `2h` input limbs `la[0..2h)`: the upper
    half is copied to locals (`cp`); stage 1 (`ops1`, started with `la[0]`) folds it at `W^h` into `m`, whose top limb
    `mt` is what is left in the accumulator (`eM`); stage 2 (`ops2`, started with `s2`) folds `m` again; the top limb `pt`
    of the result is accumulator plus `mt` (`eP`).  `ht1`, `ht2` say what the added terms sum up to (arithmetic of the
    two operation lists, closed under `ring`).  The result represents the input minus a multiple of `N`. -/
theorem fold_run {w M : Nat} (L : Layout (2 ^ w) M) {P : Env × Option Nat → Prop} {n : Names} {S : List String}
    (hS : ∀ v ∈ n.S, v ∈ S) {k1 k2 h NC : Nat} {la mt pt : String} {cp : List (String × Loc)}
    {ops1 ops2 : List Op} {s2 : Src} {eM eP : Expr} {env : Env} {r : List Stmt}
    (hok : FoldOk w M n S h la mt pt cp ops1 ops2 s2) (hsc1 : L.Scratch n S k1 ops1) (hsc2 : L.Scratch n S k2 ops2)
    (heM : ∀ env A, env.get n.c0 0 = A → A ≤ 1 → ev env eM = A)
    (heP : ∀ env A2 A, env.get n.c0 0 = A2 → env.get mt 0 = A → A2 ≤ 2 → A ≤ 1 → ev env eP = A2 + A)
    (ht1 : ∀ env, env.get la 0 + total (2 ^ w) env ops1 =
      digitsAt (2 ^ w) env (cellsOf la 0 h) + digitsAt (2 ^ w) env (copyCells cp) * NC)
    (ht2 : ∀ env, s2.val env + total (2 ^ w) env ops2 + env.get mt 0 * (2 ^ w) ^ h =
      digitsAt (2 ^ w) env ((dests ops1).take h) + digitsAt (2 ^ w) env ((dests ops1).drop h ++ [(mt, 0)]) * NC)
    (hNC : NC + N = (2 ^ w) ^ h) (hl : ∀ d ∈ readL env la 0 (h + h), d < 2 ^ w)
    (K : ∀ env', (∀ c ∈ dests ops2, env'.get c.1 c.2 < 2 ^ w) → env'.get pt 0 ≤ 3 →
      (∃ q, digitsAt (2 ^ w) env' (dests ops2) + env'.get pt 0 * (2 ^ w) ^ h + N * q = valL w (readL env la 0 (h + h))) →
      P (runR env' r)) :
    P (runR env (copies cp (.assign n.c0 (.idx la (.lit 0)) :: .assign n.c1 (.lit 0) :: .assign n.c2 (.lit 0) ::
      L.compile n k1 ops1 (.assign mt eM :: .assign n.c0 s2.expr :: .assign n.c1 (.lit 0) :: .assign n.c2 (.lit 0) ::
      L.compile n k2 ops2 (.assign pt eP :: r))))) := by
  obtain ⟨hw, hn, hcp, hlS, hck, hwf1, hsb1, hok1, hwf2, hsb2, hok2, hm1, hmS, hm2, hpt, hl1, hl2⟩ := hok
  have hW : 2 ^ 2 ≤ 2 ^ w := Nat.pow_le_pow_right (by decide) hw
  -- the bounds that `ok` carries: `mt ≤ 1` after stage 1, accumulator `≤ 2` after stage 2, so `pt ≤ 3`.  The C code asserts
  -- the sharper `p4 <= 2` (`p8 <= 2`); stage 3 does not need it (`(3 + 1)·2^w ≤ 2^aw`).
  have hlj : ∀ j, j < h + h → env.get la j < 2 ^ w := fun j hj => readL_forall.1 hl j (Nat.zero_le _) (by omega)
  refine run_copies cp hcp fun env1 hv hfr1 => ?_
  have hla : ∀ i, env1.get la i = env.get la i := fun i => hfr1 la i fun q hq e =>
    hlS (by injection e with e; exact e ▸ List.mem_map_of_mem hq)
  have hkey : ∀ q ∈ cp, q.2.key.1 = la ∧ h ≤ q.2.key.2 ∧ q.2.key.2 < h + h := fun q hq =>
    mem_cellsOf.1 (hck ▸ List.mem_map_of_mem (f := (·.2.key)) hq)
  have hbs1 : Respects env1 ((cellsOf la 0 h ++ copyCells cp).map (·, 2 ^ w - 1) ++ []) := by
    refine respects_of_forall (respects_nil _) fun c hc => ?_
    rcases List.mem_append.1 hc with hc | hc
    · obtain ⟨h1, -, h3⟩ := mem_cellsOf.1 hc
      rw [h1, hla]
      exact Nat.le_sub_one_of_lt (hlj _ (by omega))
    · obtain ⟨q, hq, rfl⟩ := List.mem_map.1 hc
      obtain ⟨h1, -, h3⟩ := hkey q hq
      rw [hv q hq, h1]
      exact Nat.le_sub_one_of_lt (hlj _ h3)
  refine run_stage L hn hS hbs1 (.loc (.idx la 0)) ops1 hsb1 (Nat.le_refl _) hsc1 hwf1 hok1 ?_
  rintro env2 ⟨A, hfr2, hlt2, hacc2, hdig2⟩
  have hA : A ≤ 1 := hacc2.2.2.2.2
  refine assign_rule [] _ (heM env2 A (hacc2.top (by omega)) hA) fun env3 hF3 hmt => ?_
  have he3 : ∀ c ∈ dests ops1, env3.get c.1 c.2 = env2.get c.1 c.2 := fun c hc =>
    hF3 c.1 c.2 List.not_mem_nil fun e => hm1 (by rw [← e]; exact hc)
  have hbs2 : Respects env3 ((dests ops1).map (·, 2 ^ w - 1) ++ [((mt, 0), 1)]) :=
    respects_of_forall (respects_cons (hmt ▸ hA) (respects_nil _)) fun c hc =>
      he3 c hc ▸ Nat.le_sub_one_of_lt (hlt2 c hc)
  refine run_stage L hn hS hbs2 s2 ops2 hsb2 (Nat.le_refl _) hsc2 hwf2 hok2 ?_
  rintro env5 ⟨A2, hfr5, hlt5, hacc5, hdig5⟩
  have hA2 : A2 ≤ 2 := hacc5.2.2.2.2
  refine assign_rule [] _ (heP env5 A2 A (hacc5.top (by omega)) ((hfr5 _ _ hmS hm2).trans hmt) hA2 hA) fun env6 hF6 hptv => ?_
  have he6 : ∀ c ∈ dests ops2, env6.get c.1 c.2 = env5.get c.1 c.2 := fun c hc =>
    hF6 c.1 c.2 List.not_mem_nil fun e => hpt (by rw [← e]; exact hc)
  refine K env6 (fun c hc => he6 c hc ▸ hlt5 c hc) (by omega)
    ⟨digitsAt (2 ^ w) env1 (copyCells cp) + digitsAt (2 ^ w) env3 ((dests ops1).drop h ++ [(mt, 0)]), ?_⟩
  have h1 : digitsAt (2 ^ w) env3 ((dests ops1).take h) +
      digitsAt (2 ^ w) env3 ((dests ops1).drop h ++ [(mt, 0)]) * (2 ^ w) ^ h =
      digitsAt (2 ^ w) env1 (cellsOf la 0 h) + digitsAt (2 ^ w) env1 (copyCells cp) * NC := by
    have e : dests ops1 ++ [(mt, 0)] = (dests ops1).take h ++ ((dests ops1).drop h ++ [(mt, 0)]) := by
      rw [← List.append_assoc, List.take_append_drop]
    have := digitsAt_append (2 ^ w) env3 (dests ops1) [(mt, 0)]
    rw [e, digitsAt_append, digitsAt, digitsAt, hmt, digitsAt_congr he3, List.length_take, Nat.min_eq_left hl1] at this
    rw [← ht1, ← show Src.val env1 (.loc (.idx la 0)) = env1.get la 0 from ev_idx_lit .., ← hdig2]
    rw [Nat.mul_zero, Nat.add_zero, Nat.mul_comm _ A] at this
    generalize A * (2 ^ w) ^ (dests ops1).length = X at this ⊢
    rw [Nat.mul_comm _ ((2 ^ w) ^ h)]
    omega
  have h2 : digitsAt (2 ^ w) env6 (dests ops2) + env6.get pt 0 * (2 ^ w) ^ h =
      digitsAt (2 ^ w) env3 ((dests ops1).take h) + digitsAt (2 ^ w) env3 ((dests ops1).drop h ++ [(mt, 0)]) * NC := by
    rw [← ht2, ← hdig5, hptv, digitsAt_congr he6, hmt, hl2]
    ring
  rw [fold_mod hNC h1 h2, digitsAt_congr (cs := cellsOf la 0 h) fun c hc => (mem_cellsOf.1 hc).1 ▸ hla c.2,
    readL_add, valL_append, readL_length, Nat.zero_add, Nat.pow_mul, ← digitsAt_cellsOf, ← digitsAt_cellsOf, ← hck,
    Nat.mul_comm ((2 ^ w) ^ h)]
  congr 2
  clear * - hv
  induction cp with
  | nil => rfl
  | cons q cp ih =>
    rw [List.map_cons, copyCells, List.map_cons, digitsAt, digitsAt, hv q List.mem_cons_self]
    exact congrArg _ (congrArg _ (ih fun p hp => hv p (List.mem_cons_of_mem _ hp)))

open LimbList in
/-- **`secp256k1_scalar_mul_512`** for a layout and operands `a[0..h)`, `b[0..h)`: the accumulator is cleared, the macro
    calls `ops` put their digits into `l[0..m)`, the top limb goes to `l[m]`; the limbs of `l` then represent the sum of
    the added terms -/
theorem mul_run {w M : Nat} (L : Layout (2 ^ w) M) {P : Env × Option Nat → Prop} {n : Names} {S : List String}
    (hn : n.S.Nodup) (hS : ∀ v ∈ n.S, v ∈ S) {env : Env} {a b l : String} {h k m : Nat} {ops : List Op} {r : List Stmt}
    (ha : ∀ d ∈ readL env a 0 h, d < 2 ^ w) (hb : ∀ d ∈ readL env b 0 h, d < 2 ^ w) (hsc : L.Scratch n S k ops)
    (hwf : Wf S ops) (hok : ok (2 ^ w) M ((cellsOf a 0 h ++ cellsOf b 0 h).map (·, 2 ^ w - 1) ++ []) ops 0 (2 ^ w - 1) = true)
    (hl : l ∉ S) (hd : dests ops = cellsOf l 0 m)
    (K : ∀ env', (∀ x i, x ∉ S → x ≠ l → env'.get x i = env.get x i) → (∀ d ∈ readL env' l 0 (m + 1), d < 2 ^ w) →
      valL w (readL env' l 0 (m + 1)) = total (2 ^ w) env ops → P (runR env' r)) :
    P (runR env (.assign n.c0 (.lit 0) :: .assign n.c1 (.lit 0) :: .assign n.c2 (.lit 0) ::
      L.compile n k ops (.store l (.lit m) (.var n.c0) :: r))) := by
  have hW := L.hW
  have hbs := respects_of_forall (B := 2 ^ w - 1) (respects_nil env) (List.forall_mem_append.2
    ⟨forall_cellsOf.2 fun d h => Nat.le_sub_one_of_lt (ha d h), forall_cellsOf.2 fun d h => Nat.le_sub_one_of_lt (hb d h)⟩)
  refine run_stage L hn hS hbs (.const (.lit 0)) ops (Nat.le_refl _) (Nat.zero_le _) hsc hwf hok ?_
  rintro env1 ⟨A, hfr, hlt, hacc, hdig⟩
  refine store_rule S _ (ev_var _ _) fun env2 hF2 etop => ?_
  rw [hd] at hfr hlt hdig
  have hg : readL env2 l 0 m = readL env1 l 0 m := readL_congr _ _ fun j _ hj =>
    hF2 l j hl fun h => by injection h with _ h; omega
  have hA : A < 2 ^ w := Nat.lt_of_le_of_lt hacc.2.2.2.2 (by omega)
  rw [hacc.top (by omega)] at etop
  refine K env2 (fun x i hx hxl => ?_) ?_ ?_
  · refine (hF2 x i hx fun h => hxl (congrArg Prod.fst h)).trans (hfr x i hx fun h => ?_)
    clear * - h hxl
    generalize 0 = j at h
    induction m generalizing j with
    | zero => cases h
    | succ m ih =>
      rcases List.mem_cons.1 h with h | h
      · exact hxl (congrArg Prod.fst h)
      · exact ih _ h
  · rw [readL_succ, Nat.zero_add, hg, etop]
    intro d hd'
    rcases List.mem_append.1 hd' with hd' | hd'
    · exact (forall_cellsOf (p := (· < 2 ^ w))).1 hlt d hd'
    · rw [List.mem_singleton.1 hd']; exact hA
  · have e : Src.val env (.const (.lit 0)) = 0 := rfl
    rw [readL_succ, Nat.zero_add, hg, etop, valL_append, readL_length, valL, valL, Nat.mul_zero, Nat.add_zero,
      ← digitsAt_cellsOf, ← Nat.zero_add (total _ _ _), ← e, ← hdig, Nat.pow_mul, Nat.mul_comm A]
    congr 2
    clear * -
    generalize 0 = j
    induction m generalizing j with
    | zero => rfl
    | succ m ih => rw [cellsOf, List.length_cons, Nat.pow_succ, Nat.pow_succ, ih (j + 1)]

deriving instance DecidableEq for MiniC.Expr

def sameStmt : Stmt → Stmt → Bool
  | .assign x e, .assign y f => x = y && e = f
  | .store a i e, .store b j f => a = b && i = j && e = f
  | .ret e, .ret f => e = f
  | _, _ => false

theorem sameStmt_eq : ∀ {s s' : Stmt}, sameStmt s s' = true → s = s'
  | .assign .., .assign .., h => by simp only [sameStmt, Bool.and_eq_true, decide_eq_true_eq] at h; rw [h.1, h.2]
  | .store .., .store .., h => by simp only [sameStmt, Bool.and_eq_true, decide_eq_true_eq] at h; rw [h.1.1, h.1.2, h.2]
  | .ret _, .ret _, h => by simp only [sameStmt, decide_eq_true_eq] at h; rw [h]

def same : List Stmt → List Stmt → Bool
  | [], [] => true
  | s :: l, s' :: l' => sameStmt s s' && same l l'
  | _, _ => false

theorem same_eq : ∀ {l l' : List Stmt}, same l l' = true → l = l'
  | [], [], _ => rfl
  | s :: l, s' :: l', h => by
    simp only [same, Bool.and_eq_true] at h
    rw [sameStmt_eq h.1, same_eq h.2]

/-! ### `sumadd`, `sumadd_fast`, for both limb widths

The statements are the same up to the widths and to how the translator prints the conversion `cv` of a comparison
result to the type it is added to. -/

def sumaddW (w v : Nat) (cv : Expr → Expr) (n : Names) (l : Loc) (r : List Stmt) : List Stmt :=
  .assign n.c0 (.bin .add w (.var n.c0) l.read) :: .assign n.over (.bin .lt w (.var n.c0) l.read) ::
  .assign n.c1 (.bin .add w (.var n.c1) (.var n.over)) ::
  .assign n.c2 (.bin .add v (.var n.c2) (cv (.bin .lt w (.var n.c1) (.var n.over)))) :: r

def sumaddFastW (w : Nat) (cv : Expr → Expr) (n : Names) (l : Loc) (r : List Stmt) : List Stmt :=
  .assign n.c0 (.bin .add w (.var n.c0) l.read) ::
  .assign n.c1 (.bin .add w (.var n.c1) (cv (.bin .lt w (.var n.c0) l.read))) :: r

theorem sumaddW_rule {w aw v : Nat} (hw : Widths w aw) {cv : Expr → Expr}
    (hcv : ∀ env a b, ev env (cv (.bin .lt w a b)) = binWrap .lt w (ev env a) (ev env b)) {n : Names} {l : Loc}
    {S : List String} {env : Env} {a : Nat} (hd : n.S.Nodup) (hS : ∀ v ∈ n.S, v ∈ S) (hl : l.key.1 ∉ n.S)
    (hea : env.get l.key.1 l.key.2 = a) (ha : a < 2 ^ w) :
    Adds (2 ^ w) (2 ^ v) n S env a (2 ^ w - 1) (2 ^ w * 2 ^ w * 2 ^ v) (sumaddW w v cv n l) := by
  have sq : 2 ^ w * 2 ^ w = 2 ^ aw := by obtain ⟨rfl, rfl⟩ | ⟨rfl, rfl⟩ := hw <;> rfl
  intro P rest A B hacc hno k
  obtain ⟨h0, h1, h2, rfl, hB⟩ := hacc
  rw [sq] at hB hno
  distinct hd hd'
  obtain ⟨c0', c1', c2', e0, e1, e2, l0, l1, l2, hA, hB'⟩ := sumadd_spec hw v _ _ _ a B h0 h1 ha hB hno
  have hr' : ∀ env, ev env l.read = env.get l.key.1 l.key.2 := l.reads
  have hy : ¬ l.key.1 = n.c0 := fun h => hl (h ▸ n.sub3.subset List.mem_cons_self)
  simp only [sumaddW]
  xsteps 4 [hr', hy, hea, hd, hd', hcv]
  simp only [e0, e1, e2]
  refine k _ ?_ ?_
  · frame hS n.S
  · rw [AccAt, sq]
    xreads [hd, hd']
    exact ⟨l0, l1, l2, hA, hA ▸ hB'⟩

theorem sumaddFastW_rule {w aw M : Nat} (hw : Widths w aw) {cv : Expr → Expr}
    (hcv : ∀ env a b, ev env (cv (.bin .lt w a b)) = binWrap .lt w (ev env a) (ev env b)) {n : Names} {l : Loc}
    {S : List String} {env : Env} {a : Nat} (hd : n.S.Nodup) (hS : ∀ v ∈ n.S, v ∈ S) (hl : l.key.1 ∉ n.S)
    (hea : env.get l.key.1 l.key.2 = a) (ha : a < 2 ^ w) :
    Adds (2 ^ w) M n S env a (2 ^ w - 1) (2 ^ w * 2 ^ w) (sumaddFastW w cv n l) := by
  have sq : 2 ^ w * 2 ^ w = 2 ^ aw := by obtain ⟨rfl, rfl⟩ | ⟨rfl, rfl⟩ := hw <;> rfl
  intro P rest A B hacc hno k
  have hz := hacc.c2_zero (by omega)
  obtain ⟨h0, h1, h2, rfl, hB⟩ := hacc
  rw [sq] at hB hno
  rw [hz] at hB h2
  distinct hd hd'
  obtain ⟨c0', c1', e0, e1, l0, l1, hA, hB'⟩ := sumadd_fast_spec hw _ _ a B h0 h1 ha hB hno
  have hr' : ∀ env, ev env l.read = env.get l.key.1 l.key.2 := l.reads
  have hy : ¬ l.key.1 = n.c0 := fun h => hl (h ▸ n.sub3.subset List.mem_cons_self)
  simp only [sumaddFastW]
  xsteps 2 [hr', hy, hea, hd, hd', hcv]
  simp only [e0, e1]
  refine k _ ?_ ?_
  · frame hS n.S
  · rw [AccAt, sq]
    xreads [hd, hd']
    rw [hz]
    exact ⟨l0, l1, h2, hA, hA ▸ hB'⟩

/-! ### the layout of `scalar_8x32_impl.h`

All of `c0, c1, c2, tl, th` are `uint32_t`, the product is formed in `uint64_t`; nothing is inlined. -/

def muladdFast32 (n : Names) (_ : Nat) (x y : Src) (r : List Stmt) : List Stmt :=
  .assign n.t (.bin .mul 64 x.expr y.expr) :: .assign n.th (.cast 32 (.bin .shr 64 (.var n.t) (.lit 32))) ::
  .assign n.tl (.cast 32 (.var n.t)) :: .assign n.c0 (.bin .add 32 (.var n.c0) (.var n.tl)) ::
  .assign n.th (.bin .add 32 (.var n.th) (.bin .lt 32 (.var n.c0) (.var n.tl))) ::
  .assign n.c1 (.bin .add 32 (.var n.c1) (.var n.th)) :: r

def muladd32 (n : Names) (k : Nat) (x y : Src) (r : List Stmt) : List Stmt :=
  muladdFast32 n k x y (.assign n.c2 (.bin .add 32 (.var n.c2) (.bin .lt 32 (.var n.c1) (.var n.th))) :: r)

theorem sq32 : 2 ^ 32 * 2 ^ 32 = 2 ^ 64 := rfl

theorem muladd32_rule {n : Names} {k : Nat} {x y : Src} {S : List String} {env : Env} {a b amax bmax : Nat}
    (hd : ([] ++ n.S).Nodup) (hS : ∀ v ∈ [] ++ n.S, v ∈ S) (hea : ev env x.expr = a)
    (heb : ∀ env', Frame S env env' → ev env' y.expr = b) (ha : a ≤ amax) (hb : b ≤ bmax)
    (ham : amax ≤ 2 ^ 32 - 1) (hbm : bmax ≤ 2 ^ 32 - 1) :
    Adds (2 ^ 32) (2 ^ 32) n S env (a * b) (amax * bmax) (2 ^ 32 * 2 ^ 32 * 2 ^ 32) (muladd32 n k x y) := by
  intro P rest A B hacc hno k
  obtain ⟨h0, h1, h2, rfl, hB⟩ := hacc
  rw [sq32] at hB hno
  have heb := heb env (Frame.refl S env)
  distinct hd hd'
  simp only [muladd32, muladdFast32]
  xsteps 7 [hea, heb, hd, hd']
  obtain ⟨c0', c1', c2', e0, e1, e2, l0, l1, l2, hA, hB'⟩ :=
    muladd_spec (.inl ⟨rfl, rfl⟩) 32 _ _ _ a b amax bmax B h0 h1 ha hb ham hbm hB hno
  simp only [e0, e1, e2]
  refine k _ ?_ ?_
  · frame hS ([] ++ n.S)
  · rw [AccAt, sq32]
    xreads [hd, hd']
    exact ⟨l0, l1, l2, hA, hA ▸ hB'⟩

theorem muladdFast32_rule {n : Names} {k : Nat} {x y : Src} {S : List String} {env : Env} {a b amax bmax : Nat}
    (hd : ([] ++ n.S).Nodup) (hS : ∀ v ∈ [] ++ n.S, v ∈ S) (hea : ev env x.expr = a)
    (heb : ∀ env', Frame S env env' → ev env' y.expr = b) (ha : a ≤ amax) (hb : b ≤ bmax)
    (ham : amax ≤ 2 ^ 32 - 1) (hbm : bmax ≤ 2 ^ 32 - 1) :
    Adds (2 ^ 32) (2 ^ 32) n S env (a * b) (amax * bmax) (2 ^ 32 * 2 ^ 32) (muladdFast32 n k x y) := by
  intro P rest A B hacc hno k
  have hz := hacc.c2_zero (by omega)
  obtain ⟨h0, h1, h2, rfl, hB⟩ := hacc
  rw [sq32] at hB hno
  rw [hz] at hB h2
  have heb := heb env (Frame.refl S env)
  distinct hd hd'
  simp only [muladdFast32]
  xsteps 6 [hea, heb, hd, hd']
  obtain ⟨c0', c1', e0, e1, l0, l1, hA, hB'⟩ :=
    muladd_fast_spec (.inl ⟨rfl, rfl⟩) _ _ a b amax bmax B h0 h1 ha hb ham hbm hB hno
  simp only [e0, e1]
  refine k _ ?_ ?_
  · frame hS ([] ++ n.S)
  · rw [AccAt, sq32]
    xreads [hd, hd']
    rw [hz]
    exact ⟨l0, l1, h2, hA, hA ▸ hB'⟩

def layout32 : Layout (2 ^ 32) (2 ^ 32) where
  hM := by decide
  hMW := Nat.le_refl _
  calls := fun _ => 0
  vars := fun _ _ => []
  muladd := muladd32
  muladdFast := muladdFast32
  sumadd := sumaddW 32 32 id
  sumaddFast := sumaddFastW 32 id
  muladd_rule := muladd32_rule
  muladdFast_rule := muladdFast32_rule
  sumadd_rule := sumaddW_rule (.inl ⟨rfl, rfl⟩) fun _ _ _ => rfl
  sumaddFast_rule := sumaddFastW_rule (.inl ⟨rfl, rfl⟩) fun _ _ _ => rfl

theorem layout32_scratch {n : Names} {S : List String} (hn : n.S.Nodup) : ∀ (k : Nat) (ops : List Op),
    layout32.Scratch n S k ops
  | _, [] => trivial
  | _, _ :: ops => ⟨hn, fun _ h => absurd h List.not_mem_nil, layout32_scratch hn _ ops⟩

/-! ### the layout of `scalar_4x64_impl.h`

`c0, c1, tl, th` are `uint64_t`; the product is formed by `secp256k1_u128_mul` and taken apart by
`secp256k1_u128_hi_u64` and `secp256k1_u128_to_u64`, which the translator inlines.  `c2` has `w` bits
(`unsigned int` in `scalar_mul_512`, `uint64_t` in `scalar_reduce_512`). -/

/-- the callees are numbered `k`, `k + 1`, `k + 2` -/
def tmp (k : Nat) : Tmp :=
  ⟨"u128_mul_" ++ toString k ++ ".a", "u128_mul_" ++ toString k ++ ".b", "u128_hi_u64_" ++ toString (k + 1) ++ ".ret",
   "u128_to_u64_" ++ toString (k + 2) ++ ".ret"⟩

/-- the variables of the callees of `c` consecutive `muladd`s, the first callee numbered `k` -/
def tmps : Nat → Nat → List String
  | _, 0 => []
  | k, c + 1 => (tmp k).S ++ tmps (k + 3) c

def conv (w : Nat) (e : Expr) : Expr := if w = 64 then sext64 e else e

def muladdFast64 (n : Names) (u : Tmp) (x y : Src) (r : List Stmt) : List Stmt :=
  .assign u.a x.expr :: .assign u.b y.expr :: .assign n.t (.bin .mul 128 (.var u.a) (.var u.b)) ::
  .assign u.hi (.cast 64 (.bin .shr 128 (.var n.t) (.lit 64))) :: .assign n.th (.var u.hi) ::
  .assign u.lo (.cast 64 (.var n.t)) :: .assign n.tl (.var u.lo) ::
  .assign n.c0 (.bin .add 64 (.var n.c0) (.var n.tl)) ::
  .assign n.th (.bin .add 64 (.var n.th) (sext64 (.bin .lt 64 (.var n.c0) (.var n.tl)))) ::
  .assign n.c1 (.bin .add 64 (.var n.c1) (.var n.th)) :: r

def muladd64 (w : Nat) (n : Names) (u : Tmp) (x y : Src) (r : List Stmt) : List Stmt :=
  muladdFast64 n u x y
    (.assign n.c2 (.bin .add w (.var n.c2) (conv w (.bin .lt 64 (.var n.c1) (.var n.th)))) :: r)

theorem sq64 : 2 ^ 64 * 2 ^ 64 = 2 ^ 128 := rfl

theorem muladdFast64_rule {M : Nat} {n : Names} {u : Tmp} {x y : Src} {S : List String} {env : Env}
    {a b amax bmax : Nat} (hd : (u.S ++ n.S).Nodup) (hS : ∀ v ∈ u.S ++ n.S, v ∈ S) (hea : ev env x.expr = a)
    (heb : ∀ env', Frame S env env' → ev env' y.expr = b) (ha : a ≤ amax) (hb : b ≤ bmax)
    (ham : amax ≤ 2 ^ 64 - 1) (hbm : bmax ≤ 2 ^ 64 - 1) :
    Adds (2 ^ 64) M n S env (a * b) (amax * bmax) (2 ^ 64 * 2 ^ 64) (muladdFast64 n u x y) := by
  intro P rest A B hacc hno k
  have hz := hacc.c2_zero (by omega)
  obtain ⟨h0, h1, h2, rfl, hB⟩ := hacc
  rw [sq64] at hB hno
  rw [hz] at hB h2
  have heb := heb (env.set u.a 0 a) ((Frame.refl S env).set (hS _ (by simp [Tmp.S])) _ _)
  distinct hd hd'
  simp only [muladdFast64, sext64]
  xsteps 10 [hea, heb, hd, hd', sext_lt]
  obtain ⟨c0', c1', e0, e1, l0, l1, hA, hB'⟩ :=
    muladd_fast_spec (.inr ⟨rfl, rfl⟩) _ _ a b amax bmax B h0 h1 ha hb ham hbm hB hno
  simp only [e0, e1]
  refine k _ ?_ ?_
  · frame hS (u.S ++ n.S)
  · rw [AccAt, sq64]
    xreads [hd, hd']
    rw [hz]
    exact ⟨l0, l1, h2, hA, hA ▸ hB'⟩

theorem muladd64_rule {w : Nat} (hw : w = 32 ∨ w = 64) {n : Names} {u : Tmp} {x y : Src} {S : List String} {env : Env}
    {a b amax bmax : Nat} (hd : (u.S ++ n.S).Nodup) (hS : ∀ v ∈ u.S ++ n.S, v ∈ S) (hea : ev env x.expr = a)
    (heb : ∀ env', Frame S env env' → ev env' y.expr = b) (ha : a ≤ amax) (hb : b ≤ bmax)
    (ham : amax ≤ 2 ^ 64 - 1) (hbm : bmax ≤ 2 ^ 64 - 1) :
    Adds (2 ^ 64) (2 ^ w) n S env (a * b) (amax * bmax) (2 ^ 64 * 2 ^ 64 * 2 ^ w) (muladd64 w n u x y) := by
  intro P rest A B hacc hno k
  obtain ⟨h0, h1, h2, rfl, hB⟩ := hacc
  rw [sq64] at hB hno
  have heb := heb (env.set u.a 0 a) ((Frame.refl S env).set (hS _ (by simp [Tmp.S])) _ _)
  distinct hd hd'
  obtain ⟨c0', c1', c2', e0, e1, e2, l0, l1, l2, hA, hB'⟩ :=
    muladd_spec (.inr ⟨rfl, rfl⟩) w _ _ _ a b amax bmax B h0 h1 ha hb ham hbm hB hno
  have hc : ∀ env e, ev env (conv w (.bin .lt 64 (.var n.c1) e)) = binWrap .lt 64 (env.get n.c1 0) (ev env e) := by
    intro env e
    rcases hw with rfl | rfl <;> simp only [conv, sext64, Nat.reduceEqDiff, ↓reduceIte, ev_bin, ev_lit, ev_var, sext_lt]
  simp only [muladd64, muladdFast64, sext64]
  xsteps 11 [hea, heb, hd, hd', sext_lt, hc]
  simp only [e0, e1, e2]
  refine k _ ?_ ?_
  · frame hS (u.S ++ n.S)
  · rw [AccAt, sq64]
    xreads [hd, hd']
    exact ⟨l0, l1, l2, hA, hA ▸ hB'⟩

/-- three inlined callees per `muladd`, named by `tmp k` -/
def layout64 (w : Nat) (hw : w = 32 ∨ w = 64) : Layout (2 ^ 64) (2 ^ w) where
  hM := Nat.two_pow_pos w
  hMW := Nat.pow_le_pow_right (by decide) (by omega)
  calls := fun | .muladd .. | .muladdFast .. => 3 | _ => 0
  vars := fun k => fun | .muladd .. | .muladdFast .. => (tmp k).S | _ => []
  muladd := fun n k => muladd64 w n (tmp k)
  muladdFast := fun n k => muladdFast64 n (tmp k)
  sumadd := sumaddW 64 w (conv w)
  sumaddFast := sumaddFastW 64 sext64
  muladd_rule := muladd64_rule hw
  muladdFast_rule := muladdFast64_rule
  sumadd_rule := sumaddW_rule (.inr ⟨rfl, rfl⟩) fun env a b => by
    rcases hw with rfl | rfl <;> simp only [conv, sext64, Nat.reduceEqDiff, ↓reduceIte, ev_bin, ev_lit, sext_lt]
  sumaddFast_rule := sumaddFastW_rule (.inr ⟨rfl, rfl⟩) fun env a b => by simp only [sext64, ev_bin, ev_lit, sext_lt]

/-- the part of `Scratch` that is about names being different; that the callee variables are among the scratch
    names follows from how the translator numbers them (`layout64_scratch`) -/
def Layout.Distinct {W M : Nat} (L : Layout W M) (n : Names) : Nat → List Op → Prop
  | _, [] => True
  | k, op :: ops => (L.vars k op ++ n.S).Nodup ∧ L.Distinct n (k + L.calls op) ops

instance {W M : Nat} (L : Layout W M) (n : Names) : ∀ (k : Nat) (ops : List Op), Decidable (L.Distinct n k ops)
  | _, [] => isTrue trivial
  | k, op :: ops => by
    have := instDecidableDistinct L n (k + L.calls op) ops
    unfold Layout.Distinct; infer_instance

def muls : List Op → Nat
  | [] => 0
  | .muladd .. :: ops | .muladdFast .. :: ops => muls ops + 1
  | _ :: ops => muls ops

theorem tmps_add : ∀ (a k b : Nat), tmps k (a + b) = tmps k a ++ tmps (k + 3 * a) b
  | 0, k, b => by rw [Nat.zero_add, Nat.mul_zero, Nat.add_zero]; rfl
  | a + 1, k, b => by
    rw [Nat.add_right_comm, tmps, tmps, tmps_add a, List.append_assoc, Nat.mul_succ, Nat.add_comm (3 * a), ← Nat.add_assoc]

theorem layout64_scratch {w : Nat} (hw : w = 32 ∨ w = 64) {n : Names} {S : List String} : ∀ (ops : List Op) (k : Nat),
    (∀ v ∈ tmps k (muls ops), v ∈ S) → (layout64 w hw).Distinct n k ops → (layout64 w hw).Scratch n S k ops
  | [], _, _, _ => trivial
  | op :: ops, k, hS, ⟨hd, hds⟩ => by
    refine ⟨hd, ?_, ?_⟩
    · cases op <;> exact fun v hv => hS v (List.mem_append_left _ hv)
    · cases op
      all_goals first
        | exact layout64_scratch hw ops _ (fun v hv => hS v (List.mem_append_right _ hv)) hds
        | exact layout64_scratch hw ops _ hS hds

end Accumulator
end SecpZkp
