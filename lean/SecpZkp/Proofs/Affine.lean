import Mathlib.AlgebraicGeometry.EllipticCurve.Affine.Point
import SecpZkp.Proofs.Field
import SecpZkp.Model.Curve
/-
  The affine chord-and-tangent law `Pt.add` / `Pt.neg` / `Pt.dbl` of `Model/Curve.lean` refines the
  group law of Mathlib's `WeierstrassCurve.Affine.Point` for `y² = x³ + 7` over `ZMod P`.
  Commutativity / associativity are pulled back through the injective map `toPoint`.  Then the specification of scalar
  multiplication: double-and-add `Pt.mulSpec k p` is `k • toPoint p` for `k < 2^264` (`toPoint_mulSpec`).
-/
namespace SecpZkp

def W : WeierstrassCurve.Affine (ZMod P) := ⟨0, 0, 0, 0, 7⟩

@[simp] theorem W_a₁ : W.a₁ = 0 := rfl
@[simp] theorem W_a₂ : W.a₂ = 0 := rfl
@[simp] theorem W_a₃ : W.a₃ = 0 := rfl
@[simp] theorem W_a₄ : W.a₄ = 0 := rfl
@[simp] theorem W_a₆ : W.a₆ = 7 := rfl

theorem W_equation_iff (x y : ZMod P) : W.Equation x y ↔ y * y = x * x * x + 7 := by
  rw [WeierstrassCurve.Affine.equation_iff]
  simp only [W_a₁, W_a₂, W_a₃, W_a₄, W_a₆, zero_mul, add_zero]
  constructor <;> intro h <;> linear_combination h

theorem W_negY (x y : ZMod P) : W.negY x y = -y := by
  simp [WeierstrassCurve.Affine.negY]

section PrimeP
variable [Fact (Nat.Prime P)]

theorem zmodP_two_ne_zero : (2 : ZMod P) ≠ 0 := Field.two_ne_zero P_odd
theorem zmodP_three_ne_zero : (3 : ZMod P) ≠ 0 := by
  have := cast_ne_zero_of_mod (a := 3) (by decide); simpa using this
theorem zmodP_seven_ne_zero : (7 : ZMod P) ≠ 0 := by
  have := cast_ne_zero_of_mod (a := 7) (by decide); simpa using this

theorem W_nonsingular_iff (x y : ZMod P) : W.Nonsingular x y ↔ W.Equation x y := by
  rw [WeierstrassCurve.Affine.nonsingular_iff]
  refine ⟨fun h => h.1, fun h => ⟨h, ?_⟩⟩
  simp only [W_a₁, W_a₂, W_a₃, W_a₄, zero_mul, mul_zero, add_zero, sub_zero]
  by_contra hc
  push Not at hc
  obtain ⟨hx, hy⟩ := hc
  have hy0 : y = 0 := by
    have : 2 * y = 0 := by linear_combination hy
    exact (mul_eq_zero.1 this).resolve_left zmodP_two_ne_zero
  have hx0 : x = 0 := by
    have h3 : 3 * x ^ 2 = 0 := hx.symm
    have := (mul_eq_zero.1 h3).resolve_left zmodP_three_ne_zero
    exact pow_eq_zero_iff (two_ne_zero) |>.1 this
  rw [W_equation_iff, hx0, hy0] at h
  exact zmodP_seven_ne_zero (by linear_combination -h)


theorem addX_formula {x1 x2 : ZMod P} (y1 y2 : ZMod P) (hx : x1 ≠ x2) :
    W.addX x1 x2 (W.slope x1 x2 y1 y2) =
      (y2 - y1) * (x2 - x1)⁻¹ * ((y2 - y1) * (x2 - x1)⁻¹) - x1 - x2 := by
  have h1 : x1 - x2 ≠ 0 := sub_ne_zero.2 hx
  have h2 : x2 - x1 ≠ 0 := sub_ne_zero.2 (Ne.symm hx)
  rw [WeierstrassCurve.Affine.slope_of_X_ne hx]
  simp only [WeierstrassCurve.Affine.addX, W_a₁, W_a₂, zero_mul, add_zero, sub_zero]
  field_simp
  ring

theorem addY_formula {x1 x2 : ZMod P} (y1 y2 : ZMod P) (hx : x1 ≠ x2) :
    W.addY x1 x2 y1 (W.slope x1 x2 y1 y2) =
      (y2 - y1) * (x2 - x1)⁻¹ *
        (x1 - ((y2 - y1) * (x2 - x1)⁻¹ * ((y2 - y1) * (x2 - x1)⁻¹) - x1 - x2)) - y1 := by
  have h1 : x1 - x2 ≠ 0 := sub_ne_zero.2 hx
  have h2 : x2 - x1 ≠ 0 := sub_ne_zero.2 (Ne.symm hx)
  rw [WeierstrassCurve.Affine.slope_of_X_ne hx]
  simp only [WeierstrassCurve.Affine.addY, WeierstrassCurve.Affine.negAddY,
    WeierstrassCurve.Affine.negY, WeierstrassCurve.Affine.addX, W_a₁, W_a₂, W_a₃, zero_mul,
    add_zero, sub_zero]
  field_simp
  ring

theorem ne_negY {x y : ZMod P} (hy : y ≠ 0) : y ≠ W.negY x y := by
  rw [W_negY]; intro h
  have : 2 * y = 0 := by linear_combination h
  exact hy ((mul_eq_zero.1 this).resolve_left zmodP_two_ne_zero)

theorem dblX_formula (x y : ZMod P) (hy : y ≠ 0) :
    W.addX x x (W.slope x x y y) =
      3 * (x * x) * (2 * y)⁻¹ * (3 * (x * x) * (2 * y)⁻¹) - 2 * x := by
  rw [WeierstrassCurve.Affine.slope_of_Y_ne rfl (ne_negY hy)]
  simp only [WeierstrassCurve.Affine.addX, WeierstrassCurve.Affine.negY, W_a₁, W_a₂, W_a₃, W_a₄,
    zero_mul, mul_zero, add_zero, sub_zero]
  rw [div_eq_mul_inv]
  ring

theorem dblY_formula (x y : ZMod P) (hy : y ≠ 0) :
    W.addY x x y (W.slope x x y y) =
      3 * (x * x) * (2 * y)⁻¹ *
        (x - (3 * (x * x) * (2 * y)⁻¹ * (3 * (x * x) * (2 * y)⁻¹) - 2 * x)) - y := by
  rw [WeierstrassCurve.Affine.slope_of_Y_ne rfl (ne_negY hy)]
  simp only [WeierstrassCurve.Affine.addY, WeierstrassCurve.Affine.negAddY,
    WeierstrassCurve.Affine.addX, WeierstrassCurve.Affine.negY, W_a₁, W_a₂, W_a₃, W_a₄,
    zero_mul, mul_zero, add_zero, sub_zero]
  rw [div_eq_mul_inv]
  ring


theorem onCurveXY_iff (x y : ℕ) :
    Pt.onCurveXY x y = true ↔ x < P ∧ y < P ∧ W.Equation (x : ZMod P) (y : ZMod P) := by
  unfold Pt.onCurveXY
  simp only [Bool.and_eq_true, decide_eq_true_eq, beq_iff_eq, and_assoc]
  refine and_congr_right fun _ => and_congr_right fun _ => ?_
  rw [W_equation_iff, ← Field.cast_eq_iff (Fe.sqr_lt_P y) (Fe.add_lt_P _ _)]
  simp only [Fe.cast_sqr, Fe.cast_add, Fe.cast_mul, Nat.cast_ofNat]

theorem valid_aff_iff (x y : ℕ) :
    (Pt.aff x y).valid = true ↔ x < P ∧ y < P ∧ W.Nonsingular (x : ZMod P) (y : ZMod P) := by
  rw [W_nonsingular_iff]; exact onCurveXY_iff x y


open Classical in
noncomputable def toPoint : Pt → W.Point
  | .inf => 0
  | .aff x y =>
      if h : W.Nonsingular (x : ZMod P) (y : ZMod P) then .some _ _ h else 0

@[simp] theorem toPoint_inf : toPoint .inf = 0 := rfl

theorem refines_of_cast {x y : ℕ} {X Y : ZMod P} (hx : x < P) (hy : y < P) (hX : (x : ZMod P) = X)
    (hY : (y : ZMod P) = Y) (h : W.Nonsingular X Y) :
    (Pt.aff x y).valid = true ∧ toPoint (.aff x y) = .some X Y h := by
  subst hX hY; exact ⟨(valid_aff_iff x y).2 ⟨hx, hy, h⟩, dif_pos h⟩

theorem toPoint_aff {x y : ℕ} (h : W.Nonsingular (x : ZMod P) (y : ZMod P)) :
    toPoint (.aff x y) = .some _ _ h := dif_pos h

theorem toPoint_injective {p q : Pt} (hp : p.valid = true) (hq : q.valid = true)
    (h : toPoint p = toPoint q) : p = q := by
  cases p with
  | inf =>
    cases q with
    | inf => rfl
    | aff x y =>
      obtain ⟨_, _, hn⟩ := (valid_aff_iff x y).1 hq
      rw [toPoint_aff hn] at h
      exact absurd h.symm (WeierstrassCurve.Affine.Point.some_ne_zero hn)
  | aff x y =>
    obtain ⟨hx, hy, hn⟩ := (valid_aff_iff x y).1 hp
    cases q with
    | inf =>
      rw [toPoint_aff hn] at h
      exact absurd h (WeierstrassCurve.Affine.Point.some_ne_zero hn)
    | aff x' y' =>
      obtain ⟨hx', hy', hn'⟩ := (valid_aff_iff x' y').1 hq
      rw [toPoint_aff hn, toPoint_aff hn'] at h
      injection h with h1 h2
      rw [Fe.eq_of_cast_eq hx hx' h1, Fe.eq_of_cast_eq hy hy' h2]

theorem toPoint_eq_zero_iff {p : Pt} (hp : p.valid = true) : toPoint p = 0 ↔ p = .inf :=
  ⟨fun h => toPoint_injective hp rfl (by rw [h, toPoint_inf]), fun h => by rw [h, toPoint_inf]⟩


theorem neg_refines (p : Pt) (hp : p.valid = true) :
    (Pt.neg p).valid = true ∧ toPoint (Pt.neg p) = -toPoint p := by
  cases p with
  | inf => exact ⟨rfl, by simp [Pt.neg]⟩
  | aff x y =>
    obtain ⟨hx, hy, hn⟩ := (valid_aff_iff x y).1 hp
    have hn' : W.Nonsingular (x : ZMod P) (W.negY (x : ZMod P) (y : ZMod P)) :=
      (WeierstrassCurve.Affine.nonsingular_neg ..).2 hn
    refine (refines_of_cast hx (Fe.neg_lt_P y) rfl (by rw [W_negY, Fe.cast_neg]) hn').imp_right
      fun h => ?_
    rw [Pt.neg, h, toPoint_aff hn, WeierstrassCurve.Affine.Point.neg_some]


theorem dbl_refines (p : Pt) (hp : p.valid = true) :
    (Pt.dbl p).valid = true ∧ toPoint (Pt.dbl p) = toPoint p + toPoint p := by
  cases p with
  | inf => exact ⟨rfl, by simp [Pt.dbl]⟩
  | aff x y =>
    obtain ⟨hx, hy, hn⟩ := (valid_aff_iff x y).1 hp
    simp only [Pt.dbl]
    split
    · next h0 =>
      have hy0 : (y : ZMod P) = 0 := (Fe.cast_eq_zero_iff y).2 h0
      refine ⟨rfl, ?_⟩
      rw [toPoint_aff hn, toPoint_inf,
        WeierstrassCurve.Affine.Point.add_self_of_Y_eq (by rw [W_negY, hy0, neg_zero])]
    · next h0 =>
      have hy0 : (y : ZMod P) ≠ 0 := fun h => h0 ((Fe.cast_eq_zero_iff y).1 h)
      have hne : (y : ZMod P) ≠ W.negY (x : ZMod P) (y : ZMod P) := ne_negY hy0
      have hsum := WeierstrassCurve.Affine.Point.add_self_of_Y_ne (h₁ := hn) hne
      have hns := WeierstrassCurve.Affine.nonsingular_add hn hn (fun hxy => hne hxy.right)
      refine (refines_of_cast (Fe.sub_lt_P _ _) (Fe.sub_lt_P _ _) ?_ ?_ hns).imp_right
        fun h => by rw [h, toPoint_aff hn, hsum]
      · rw [dblX_formula _ _ hy0]
        simp only [Fe.cast_sub, Fe.cast_sqr, Fe.cast_mul, Fe.cast_inv, Nat.cast_ofNat]
      · rw [dblY_formula _ _ hy0]
        simp only [Fe.cast_sub, Fe.cast_sqr, Fe.cast_mul, Fe.cast_inv, Nat.cast_ofNat]


theorem add_refines (p q : Pt) (hp : p.valid = true) (hq : q.valid = true) :
    (Pt.add p q).valid = true ∧ toPoint (Pt.add p q) = toPoint p + toPoint q := by
  cases p with
  | inf => exact ⟨by simpa [Pt.add] using hq, by simp [Pt.add]⟩
  | aff x1 y1 =>
  cases q with
  | inf => exact ⟨by simpa [Pt.add] using hp, by simp [Pt.add]⟩
  | aff x2 y2 =>
    obtain ⟨hx1, hy1, hn1⟩ := (valid_aff_iff x1 y1).1 hp
    obtain ⟨hx2, hy2, hn2⟩ := (valid_aff_iff x2 y2).1 hq
    simp only [Pt.add]
    split
    · next hxe =>
      have hxc : (x1 : ZMod P) = x2 := by rw [hxe]
      split
      · next hys =>
        have hyc : (y1 : ZMod P) = W.negY (x2 : ZMod P) (y2 : ZMod P) := by
          rw [W_negY]
          have : ((y1 + y2 : ℕ) : ZMod P) = 0 := (Fe.cast_eq_zero_iff _).2 hys
          rw [Nat.cast_add] at this
          linear_combination this
        refine ⟨rfl, ?_⟩
        rw [toPoint_aff hn1, toPoint_aff hn2, toPoint_inf,
          WeierstrassCurve.Affine.Point.add_of_Y_eq hxc hyc]
      · next hys =>
        have hyc : (y1 : ZMod P) ≠ W.negY (x2 : ZMod P) (y2 : ZMod P) := by
          rw [W_negY]; intro h
          apply hys
          rw [← Fe.cast_eq_zero_iff, Nat.cast_add]
          linear_combination h
        have hye : y1 = y2 := Fe.eq_of_cast_eq hy1 hy2
          (WeierstrassCurve.Affine.Y_eq_of_Y_ne hn1.1 hn2.1 hxc hyc)
        have := dbl_refines (.aff x1 y1) hp
        refine ⟨this.1, ?_⟩
        rw [this.2, ← hxe, ← hye]
    · next hxe =>
      have hxc : (x1 : ZMod P) ≠ x2 := fun h => hxe (Fe.eq_of_cast_eq hx1 hx2 h)
      have hsum := WeierstrassCurve.Affine.Point.add_of_X_ne (h₁ := hn1) (h₂ := hn2) hxc
      have hns := WeierstrassCurve.Affine.nonsingular_add hn1 hn2 (fun hxy => hxc hxy.left)
      refine (refines_of_cast (Fe.sub_lt_P _ _) (Fe.sub_lt_P _ _) ?_ ?_ hns).imp_right
        fun h => by rw [h, toPoint_aff hn1, toPoint_aff hn2, hsum]
      · rw [addX_formula _ _ hxc]
        simp only [Fe.cast_sub, Fe.cast_sqr, Fe.cast_mul, Fe.cast_inv]
      · rw [addY_formula _ _ hxc]
        simp only [Fe.cast_sub, Fe.cast_sqr, Fe.cast_mul, Fe.cast_inv]

theorem valid_add {p q : Pt} (hp : p.valid = true) (hq : q.valid = true) :
    (Pt.add p q).valid = true := (add_refines p q hp hq).1
theorem toPoint_add {p q : Pt} (hp : p.valid = true) (hq : q.valid = true) :
    toPoint (Pt.add p q) = toPoint p + toPoint q := (add_refines p q hp hq).2
theorem valid_neg {p : Pt} (hp : p.valid = true) : (Pt.neg p).valid = true := (neg_refines p hp).1
theorem toPoint_neg {p : Pt} (hp : p.valid = true) : toPoint (Pt.neg p) = -toPoint p :=
  (neg_refines p hp).2
theorem valid_dbl {p : Pt} (hp : p.valid = true) : (Pt.dbl p).valid = true := (dbl_refines p hp).1
theorem toPoint_dbl {p : Pt} (hp : p.valid = true) : toPoint (Pt.dbl p) = toPoint p + toPoint p :=
  (dbl_refines p hp).2


theorem pt_add_comm {p q : Pt} (hp : p.valid = true) (hq : q.valid = true) :
    Pt.add p q = Pt.add q p :=
  toPoint_injective (valid_add hp hq) (valid_add hq hp)
    (by rw [toPoint_add hp hq, toPoint_add hq hp, add_comm])

theorem pt_add_assoc {p q r : Pt} (hp : p.valid = true) (hq : q.valid = true) (hr : r.valid = true) :
    Pt.add (Pt.add p q) r = Pt.add p (Pt.add q r) :=
  toPoint_injective (valid_add (valid_add hp hq) hr) (valid_add hp (valid_add hq hr))
    (by rw [toPoint_add (valid_add hp hq) hr, toPoint_add hp hq, toPoint_add hp (valid_add hq hr),
      toPoint_add hq hr, add_assoc])

theorem pt_add_neg {p : Pt} (hp : p.valid = true) : Pt.add p (Pt.neg p) = Pt.inf :=
  toPoint_injective (valid_add hp (valid_neg hp)) rfl
    (by rw [toPoint_add hp (valid_neg hp), toPoint_neg hp, add_neg_cancel, toPoint_inf])

theorem dbl_eq_add_self {p : Pt} (hp : p.valid = true) : Pt.dbl p = Pt.add p p :=
  toPoint_injective (valid_dbl hp) (valid_add hp hp) (by rw [toPoint_dbl hp, toPoint_add hp hp])


/-- No bound on `k`, unlike `mulSpecAux_refines`: `valid_mul` (`Proofs/Jacobian.lean`) is stated for every scalar. -/
theorem valid_mulSpecAux {p : Pt} (hp : p.valid = true) : ∀ (fuel k : ℕ),
    (Pt.mulSpecAux fuel k p).valid = true := by
  intro fuel
  induction fuel with
  | zero => intro k; rfl
  | succ n ih =>
    intro k
    rw [Pt.mulSpecAux]
    split
    · rfl
    · have hd := valid_dbl (ih (k / 2))
      split
      · exact valid_add hd hp
      · exact hd

theorem mulSpecAux_refines {p : Pt} (hp : p.valid = true) : ∀ (fuel k : ℕ), k < 2 ^ fuel →
    toPoint (Pt.mulSpecAux fuel k p) = k • toPoint p := by
  intro fuel
  induction fuel with
  | zero =>
    intro k hk
    have : k = 0 := by simpa using hk
    subst this
    simp [Pt.mulSpecAux]
  | succ n ih =>
    intro k hk
    rw [Pt.mulSpecAux]
    split
    · next h0 => subst h0; simp
    · next h0 =>
      have hv := valid_mulSpecAux hp n (k / 2)
      have hd := toPoint_dbl hv
      rw [ih (k / 2) (by rw [pow_succ] at hk; omega)] at hd
      split
      · next h1 =>
        rw [toPoint_add (valid_dbl hv) hp, hd, ← add_smul, ← succ_nsmul]
        congr 1; omega
      · next h1 =>
        rw [hd, ← add_smul]
        congr 1; omega

-- the bound plays no part in validity (`valid_mulSpecAux`)
theorem valid_mulSpec {p : Pt} (hp : p.valid = true) {k : ℕ} (hk : k < 2 ^ 264) :
    (Pt.mulSpec k p).valid = true := have _ := hk; valid_mulSpecAux hp 264 k

theorem toPoint_mulSpec {p : Pt} (hp : p.valid = true) {k : ℕ} (hk : k < 2 ^ 264) :
    toPoint (Pt.mulSpec k p) = k • toPoint p := mulSpecAux_refines hp 264 k hk

end PrimeP
end SecpZkp
