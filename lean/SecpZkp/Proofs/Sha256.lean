import SecpZkp.Model.Sha256
import SecpZkp.Proofs.Bytes
/-
  The streaming SHA-256 of `Model/Sha256.lean` (`write`, `finalize`) computes the one-shot `hashFrom` of the
  concatenated input, for every chunking: one `write` is put in closed form (`write_eq`), so the state
  reached is a function `after` of the bytes written, and `write`, `writeAll`, `finalize` are equations about it.
  Then: a block-aligned prefix moves into the chaining value (`hashFrom_absorb`, for midstates), and the lengths of the
  outputs.  Core Lean only.
-/
namespace SecpZkp
namespace Sha256

/-- The fuel-free reading of `compressBlocks` (`compressBlocks_eq_absorb`). -/
def absorb (s : H8) (bs : Bytes) : H8 := compressBlocks (bs.length / 64) s bs

theorem absorb_short (s : H8) (bs : Bytes) (h : bs.length < 64) : absorb s bs = s := by
  have h0 : bs.length / 64 = 0 := by omega
  simp [absorb, h0, compressBlocks]

theorem absorb_step (s : H8) (bs : Bytes) (h : 64 ≤ bs.length) :
    absorb s bs = absorb (compress s (bs.take 64)) (bs.drop 64) := by
  have hk : bs.length / 64 = (bs.drop 64).length / 64 + 1 := by
    simp only [List.length_drop]; omega
  have hlt : ¬ bs.length < 64 := by omega
  conv => lhs; unfold absorb
  rw [hk]
  simp only [compressBlocks, hlt, if_false]
  rfl

theorem compressBlocks_eq_absorb (fuel : Nat) (s : H8) (bs : Bytes) (h : bs.length / 64 ≤ fuel) :
    compressBlocks fuel s bs = absorb s bs := by
  induction fuel generalizing s bs with
  | zero => rw [absorb_short _ _ (by omega)]; rfl
  | succ n ih =>
    by_cases hlt : bs.length < 64
    · rw [absorb_short _ _ hlt, compressBlocks, if_pos hlt]
    · rw [absorb_step _ _ (by omega), compressBlocks, if_neg hlt]
      exact ih _ _ (by rw [List.length_drop]; omega)

theorem absorb_block_append (s : H8) (blk b : Bytes) (h : blk.length = 64) :
    absorb s (blk ++ b) = absorb (compress s blk) b := by
  rw [absorb_step _ _ (by simp; omega)]
  rw [List.take_append_of_le_length (by omega), List.drop_append_of_le_length (by omega)]
  simp [← h]

theorem absorb_append (s : H8) (a b : Bytes) (h : a.length % 64 = 0) :
    absorb s (a ++ b) = absorb (absorb s a) b := by
  generalize hn : a.length / 64 = n
  induction n generalizing s a with
  | zero =>
    have : a.length = 0 := by omega
    have : a = [] := List.eq_nil_of_length_eq_zero this
    subst this
    simp [absorb_short]
  | succ n ih =>
    have hlen : 64 ≤ a.length := by omega
    have ha : a = a.take 64 ++ a.drop 64 := (List.take_append_drop 64 a).symm
    have htl : (a.take 64).length = 64 := by simp; omega
    rw [ha, List.append_assoc, absorb_block_append _ _ _ htl, absorb_block_append _ _ _ htl]
    apply ih
    · simp only [List.length_drop]; omega
    · simp only [List.length_drop]; omega

theorem absorb_append_short (s : H8) (a r : Bytes) (h : a.length % 64 = 0) (hr : r.length < 64) :
    absorb s (a ++ r) = absorb s a := by
  rw [absorb_append _ _ _ h, absorb_short _ _ hr]

theorem absorb_take (s : H8) (bs : Bytes) :
    absorb s (bs.take (bs.length / 64 * 64)) = absorb s bs := by
  have h1 : bs = bs.take (bs.length / 64 * 64) ++ bs.drop (bs.length / 64 * 64) :=
    (List.take_append_drop _ bs).symm
  have hl : (bs.take (bs.length / 64 * 64)).length = bs.length / 64 * 64 := by
    simp only [List.length_take]; omega
  conv => rhs; rw [h1]
  rw [absorb_append_short]
  · omega
  · simp only [List.length_drop]; omega

def tail64 (bs : Bytes) : Bytes := bs.drop (bs.length / 64 * 64)

theorem length_tail64 (bs : Bytes) : (tail64 bs).length = bs.length % 64 := by
  simp only [tail64, List.length_drop]; omega

theorem length_tail64_lt (bs : Bytes) : (tail64 bs).length < 64 := by
  rw [length_tail64]; omega

theorem tail64_short (bs : Bytes) (h : bs.length < 64) : tail64 bs = bs := by
  have h0 : bs.length / 64 = 0 := by omega
  simp [tail64, h0]

theorem tail64_append (a b : Bytes) (h : a.length % 64 = 0) : tail64 (a ++ b) = tail64 b := by
  unfold tail64
  have hl : (a ++ b).length / 64 * 64 = a.length + b.length / 64 * 64 := by
    simp only [List.length_append]; omega
  rw [hl, List.drop_append]
  have h1 : a.length + b.length / 64 * 64 - a.length = b.length / 64 * 64 := by omega
  rw [h1, List.drop_eq_nil_of_le (by omega)]
  rfl

/-- The left-hand side is step 2 of `write` as the model spells it. -/
theorem write_step2 (s1 : H8) (data1 : Bytes) :
    (if data1.length ≥ 64 then
        (compressBlocks (data1.length / 64) s1 (data1.take (data1.length / 64 * 64)),
          data1.drop (data1.length / 64 * 64))
      else (s1, data1)) = (absorb s1 data1, tail64 data1) := by
  by_cases h : data1.length ≥ 64
  · rw [if_pos h]
    have hl : (data1.take (data1.length / 64 * 64)).length / 64 ≤ data1.length / 64 := by
      simp only [List.length_take]; omega
    rw [compressBlocks_eq_absorb _ _ _ hl, absorb_take]
    rfl
  · rw [if_neg h, absorb_short _ _ (by omega), tail64_short _ (by omega)]

theorem write_eq (h : State) (data : Bytes) (hb : h.buf.length < 64) :
    write h data =
      ⟨absorb h.s (h.buf ++ data), tail64 (h.buf ++ data), h.bytes + data.length⟩ := by
  unfold write
  simp only [write_step2]
  by_cases hc : h.buf.length ≠ 0 ∧ data.length ≥ 64 - h.buf.length
  · -- step 1 fires: the buffer is completed to one block
    simp only [if_pos hc]
    have hblk : (h.buf ++ data.take (64 - h.buf.length)).length = 64 := by
      simp only [List.length_append, List.length_take]; omega
    have hsplit : h.buf ++ data = (h.buf ++ data.take (64 - h.buf.length)) ++ data.drop (64 - h.buf.length) := by
      rw [List.append_assoc, List.take_append_drop]
    rw [hsplit, absorb_block_append _ _ _ hblk, tail64_append _ _ (by omega)]
    simp
  · -- step 1 does not fire: the buffer is empty, or buffer and data together stay below one block
    simp only [if_neg hc]
    by_cases h0 : h.buf.length = 0
    · have : h.buf = [] := List.eq_nil_of_length_eq_zero h0
      simp [this]
    · have hd : data.length < 64 - h.buf.length := by omega
      have hl : (h.buf ++ data).length < 64 := by simp only [List.length_append]; omega
      rw [absorb_short _ _ (by omega), tail64_short _ (by omega), absorb_short _ _ hl, tail64_short _ hl]

/-- The streaming state after the bytes `pre` were written, in any chunking, to the start state `⟨s0, [], n0⟩`. -/
def after (s0 : H8) (n0 : Nat) (pre : Bytes) : State := ⟨absorb s0 pre, tail64 pre, n0 + pre.length⟩

theorem init_eq : init = after iv 0 [] := rfl

theorem initMidstate_eq (n0 : Nat) (s0 : H8) : initMidstate n0 s0 = after s0 n0 [] := rfl

theorem write_after (s0 : H8) (n0 : Nat) (pre data : Bytes) :
    write (after s0 n0 pre) data = after s0 n0 (pre ++ data) := by
  have hm : (pre.take (pre.length / 64 * 64)).length % 64 = 0 := by rw [List.length_take]; omega
  have hsplit : pre ++ data = pre.take (pre.length / 64 * 64) ++ (tail64 pre ++ data) := by
    rw [← List.append_assoc, tail64, List.take_append_drop]
  rw [write_eq _ data (length_tail64_lt pre), after, after, State.mk.injEq]
  refine ⟨?_, ?_, ?_⟩
  · show absorb (absorb s0 pre) (tail64 pre ++ data) = _
    rw [hsplit, absorb_append _ _ _ hm, absorb_take]
  · show tail64 (tail64 pre ++ data) = _
    rw [hsplit, tail64_append _ _ hm]
  · rw [List.length_append, Nat.add_assoc]

theorem writeAll_after (s0 : H8) (n0 : Nat) (pre : Bytes) (chunks : List Bytes) :
    writeAll (after s0 n0 pre) chunks = after s0 n0 (pre ++ chunks.flatten) := by
  induction chunks generalizing pre with
  | nil => simp [writeAll]
  | cons c cs ih =>
    have := ih (pre ++ c)
    simpa [writeAll, write_after, List.append_assoc] using this

/-- The two 4-byte halves written by `finalize` are the 8-byte big-endian bit length. -/
theorem sizedesc_eq (b : Nat) :
    Bytes.ofNat 4 (b >>> 29) ++ Bytes.ofNat 4 (b <<< 3) = Bytes.ofNat 8 (b * 8) := by
  simp only [Bytes.ofNat, Nat.shiftRight_eq_div_pow, Nat.shiftLeft_eq]
  simp only [List.cons_append, List.nil_append]
  -- byte by byte: each `UInt8.ofNat` argument is a quotient of `b` by a power of two, equal mod 256 on both sides;
  -- `ofNat 4` truncates, so no bound on `b` is needed
  repeat (first | rfl | (congr 1; · (congr 1; omega)))

theorem finalize_after (s0 : H8) (n0 : Nat) (pre : Bytes) :
    finalize (after s0 n0 pre) = hashFrom s0 n0 pre := by
  unfold finalize hashFrom
  -- `finalize` is two `write`s, so its state is `after s0 n0 (pre ++ pad ++ sizedesc)`; that tail is `padding`, and the fuel
  -- `len / 64 + 1` of `hashFrom` covers all blocks
  simp only [write_after, sizedesc_eq]
  rw [compressBlocks_eq_absorb _ _ _ (Nat.le_succ _)]
  simp [after, padding, List.append_assoc]

theorem hashFrom_absorb (s : H8) (n : Nat) (a msg : Bytes) (ha : a.length % 64 = 0) :
    hashFrom (absorb s a) (n + a.length) msg = hashFrom s n (a ++ msg) := by
  unfold hashFrom
  simp only
  rw [compressBlocks_eq_absorb _ _ _ (Nat.le_succ _), compressBlocks_eq_absorb _ _ _ (Nat.le_succ _)]
  rw [List.append_assoc, absorb_append _ _ _ ha, List.length_append, Nat.add_assoc]

theorem hashFrom_compress (s : H8) (n : Nat) (blk msg : Bytes) (hb : blk.length = 64) :
    hashFrom (compress s blk) (n + 64) msg = hashFrom s n (blk ++ msg) := by
  have h := hashFrom_absorb s n blk msg (by omega)
  have hc : absorb s blk = compress s blk := by
    have := absorb_block_append s blk [] hb
    rw [List.append_nil] at this
    rw [this, absorb_short _ _ (by simp)]
  rw [hc, hb] at h
  exact h

theorem length_digestBytes (s : H8) : (digestBytes s).length = 32 := by
  simp [digestBytes, H8.toList]

theorem length_hashFrom (s : H8) (n : Nat) (msg : Bytes) : (hashFrom s n msg).length = 32 :=
  length_digestBytes _

theorem length_sha256 (msg : Bytes) : (sha256 msg).length = 32 := length_digestBytes _

theorem length_finalize (h : State) : (finalize h).length = 32 := length_digestBytes _

theorem length_hmac (key msg : Bytes) : (hmac key msg).length = 32 := length_digestBytes _

/-- One round yields at most 32 bytes; `rfc6979Generate` calls the loop with fuel `outlen / 32 + 1`. -/
theorem length_rfc6979GenLoop (fuel : Nat) (k v : Bytes) (outlen : Nat) (acc : Bytes)
    (hf : outlen ≤ fuel * 32) :
    (rfc6979GenLoop fuel k v outlen acc).1.length = acc.length + outlen := by
  induction fuel generalizing v outlen acc with
  | zero =>
    have : outlen = 0 := by omega
    simp [rfc6979GenLoop, this]
  | succ n ih =>
    unfold rfc6979GenLoop
    by_cases h0 : outlen = 0
    · simp [h0]
    · simp only [if_neg h0]
      rw [ih]
      · simp only [List.length_append, List.length_take, length_hmac]
        split <;> omega
      · split <;> omega

end Sha256
end SecpZkp
