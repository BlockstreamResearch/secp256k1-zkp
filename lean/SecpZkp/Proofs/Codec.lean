import SecpZkp.Model.Ecdsa
import SecpZkp.Proofs.Readers
/-
  Normal forms of `Ecdsa.parseCompact` and `Codec.pubkeyParse` as plain `if` cascades, and two facts about
  `Pt.onCurveXY` / `Pt.liftX`, for `Props/C03.lean`.  Core Lean only.
-/
namespace SecpZkp
namespace CodecLemmas
open Bytes

theorem parseCompact_eq (b : Bytes) :
    Ecdsa.parseCompact b =
      if toNat (b.take 32) < N ∧ toNat (b.drop 32) < N
      then (1, (toNat (b.take 32), toNat (b.drop 32))) else (0, (0, 0)) := by
  simp only [Ecdsa.parseCompact, Sc.setB32]
  by_cases h1 : toNat (b.take 32) < N <;> by_cases h2 : toNat (b.drop 32) < N
  · simp [h1, h2, Nat.not_le.2 h1, Nat.not_le.2 h2, Nat.mod_eq_of_lt]
  · simp [h1, h2, Nat.not_lt.1 h2]
  · simp [h1, h2, Nat.not_lt.1 h1]
  · simp [h1, h2, Nat.not_lt.1 h1]

/-- the hybrid tags 6 / 7 of the 65-byte encoding announce the parity of `y` -/
def parityOk (tag : UInt8) (y : Nat) : Prop :=
  (tag = 0x06 → y % 2 = 0) ∧ (tag = 0x07 → y % 2 = 1)

instance (tag : UInt8) (y : Nat) : Decidable (parityOk tag y) := by unfold parityOk; infer_instance

theorem pubkeyParse_cons (tag : UInt8) (rest : Bytes) :
    Codec.pubkeyParse (tag :: rest) =
      if rest.length = 32 ∧ (tag = 0x02 ∨ tag = 0x03) then
        (if toNat rest < P then Pt.liftX (toNat rest) (decide (tag = 0x03)) else none)
      else if rest.length = 64 ∧ (tag = 0x04 ∨ tag = 0x06 ∨ tag = 0x07) then
        (if toNat (rest.take 32) < P ∧ toNat (rest.drop 32) < P ∧
            parityOk tag (toNat (rest.drop 32)) ∧
            Pt.onCurveXY (toNat (rest.take 32)) (toNat (rest.drop 32)) = true
         then some (Pt.aff (toNat (rest.take 32)) (toNat (rest.drop 32))) else none)
      else none := by
  simp only [Codec.pubkeyParse, List.length_cons, Codec.feLimit_eq]
  have e64 : rest.length + 1 = 65 ↔ rest.length = 64 := by omega
  have e33 : rest.length + 1 = 33 ↔ rest.length = 32 := by omega
  simp only [e64, e33]
  by_cases h33 : rest.length = 32 ∧ (tag = 0x02 ∨ tag = 0x03)
  · rw [if_pos h33, if_pos h33]
    by_cases hx : toNat rest < P <;> simp [hx]
  · rw [if_neg h33, if_neg h33]
    by_cases h65 : rest.length = 64 ∧ (tag = 0x04 ∨ tag = 0x06 ∨ tag = 0x07)
    · rw [if_pos h65, if_pos h65]
      by_cases hx : toNat (rest.take 32) < P <;> by_cases hy : toNat (rest.drop 32) < P
      · simp only [hx, hy, if_true, true_and]
        generalize toNat (rest.take 32) = x
        generalize toNat (rest.drop 32) = y
        have hpar : ((tag = 6 ∨ tag = 7) ∧ Fe.isOdd y ≠ decide (tag = 7)) ↔ ¬ parityOk tag y := by
          unfold parityOk Fe.isOdd
          by_cases h6 : tag = 6
          · subst h6; simp
          · by_cases h7 : tag = 7
            · subst h7; simp
            · simp [h6, h7]
        by_cases hp : parityOk tag y
        · have : ¬ ((tag = 6 ∨ tag = 7) ∧ Fe.isOdd y ≠ decide (tag = 7)) := fun h => hpar.1 h hp
          rw [if_neg this]; simp only [hp, true_and]
        · rw [if_pos (hpar.2 hp)]; simp only [hp, false_and, if_false]
      · simp [hx, hy]
      · simp [hx, hy]
      · simp [hx, hy]
    · rw [if_neg h65, if_neg h65]

theorem onCurveXY_lt {x y : Nat} (h : Pt.onCurveXY x y = true) : x < P ∧ y < P := by
  simp [Pt.onCurveXY] at h; exact ⟨h.1.1, h.1.2⟩

theorem liftX_some {x : Nat} {odd : Bool} {p : Pt} (h : Pt.liftX x odd = some p) :
    ∃ y, y < P ∧ p = Pt.aff (x % P) (if Fe.isOdd y = odd then y else Fe.neg y) := by
  unfold Pt.liftX at h
  split at h
  · cases h
  · rename_i y hy
    obtain rfl := Option.some.inj h
    refine ⟨y, ?_, rfl⟩
    unfold Fe.sqrt at hy
    simp only at hy
    split at hy
    · obtain rfl := Option.some.inj hy; exact Fe.sqrtCand_lt_P _
    · exact absurd hy (by simp)

end CodecLemmas
end SecpZkp
