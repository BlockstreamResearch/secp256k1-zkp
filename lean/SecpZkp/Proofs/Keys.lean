import SecpZkp.Model.Keys
import SecpZkp.Proofs.Algebra
import SecpZkp.Proofs.Bytes
import SecpZkp.Proofs.GroupExtra
/-
  Below `Props/C04.lean`, and the base of `Proofs/Schnorr`, `Musig`, `Adaptor`: the functions of `Model/Keys.lean` in normal
  form (plain `if` cascades over `Bytes.toNat`), then on keys of the form `d • G` (`Pt.mulG d`), where the secret and the
  public side are conditionals with the same condition and the same scalar: every commutation theorem of C04 goes
  through `tweak_comm_of_eq` / `chain_of_eq`.
-/
namespace SecpZkp
namespace KeysLemmas
open SecpZkp.Algebra

theorem scNeg_pos {d : Nat} (h0 : 0 < d) (hN : d < N) : 0 < Sc.neg d := by
  rw [Sc.neg_eq_of_pos h0 hN]; omega

theorem seckeyVerify_eq (sk : Bytes) :
    Keys.seckeyVerify sk = if 0 < Bytes.toNat sk ∧ Bytes.toNat sk < N then 1 else 0 := by
  unfold Keys.seckeyVerify; rw [Sc.setB32Seckey_eq]; simp

theorem pubkeyCreate_eq (sk : Bytes) :
    Keys.pubkeyCreate sk =
      if 0 < Bytes.toNat sk ∧ Bytes.toNat sk < N then (1, Pt.mulG (Bytes.toNat sk)) else (0, .inf) := by
  unfold Keys.pubkeyCreate; rw [Sc.setB32Seckey_eq]
  by_cases h : 0 < Bytes.toNat sk ∧ Bytes.toNat sk < N <;> simp [h, Nat.mod_eq_of_lt]

theorem keypairCreate_eq (sk : Bytes) :
    Keys.keypairCreate sk =
      if 0 < Bytes.toNat sk ∧ Bytes.toNat sk < N
      then (1, ⟨Bytes.be32 (Bytes.toNat sk), Pt.mulG (Bytes.toNat sk)⟩) else (0, Keys.Keypair.zero) := by
  unfold Keys.keypairCreate; rw [Sc.setB32Seckey_eq]
  by_cases h : 0 < Bytes.toNat sk ∧ Bytes.toNat sk < N <;> simp [h, Nat.mod_eq_of_lt]

theorem seckeyNegate_eq (sk : Bytes) :
    Keys.seckeyNegate sk =
      if 0 < Bytes.toNat sk ∧ Bytes.toNat sk < N then (1, Bytes.be32 (N - Bytes.toNat sk))
      else (0, Bytes.zeros 32) := by
  unfold Keys.seckeyNegate; rw [Sc.setB32Seckey_eq]
  by_cases h : 0 < Bytes.toNat sk ∧ Bytes.toNat sk < N <;> simp [h, Nat.mod_eq_of_lt, Sc.neg_eq_of_pos]

theorem seckeyTweakAddHelper_eq (d : Nat) (t : Bytes) :
    Ecdsa.seckeyTweakAddHelper d t =
      if Bytes.toNat t < N ∧ (d + Bytes.toNat t) % N ≠ 0 then some ((d + Bytes.toNat t) % N) else none := by
  unfold Ecdsa.seckeyTweakAddHelper; rw [Sc.setB32_eq]
  by_cases h : Bytes.toNat t < N
  · have h' : ¬ N ≤ Bytes.toNat t := Nat.not_le.2 h
    by_cases h2 : (d + Bytes.toNat t) % N = 0
    · simp [h, h', Sc.add, Nat.mod_eq_of_lt h, h2]
    · simp [h, h', Sc.add, Nat.mod_eq_of_lt h, h2]
  · have h' : N ≤ Bytes.toNat t := Nat.not_lt.1 h
    simp [h, h']

theorem seckeyTweakAdd_eq (sk t : Bytes) :
    Keys.seckeyTweakAdd sk t =
      if (0 < Bytes.toNat sk ∧ Bytes.toNat sk < N) ∧ Bytes.toNat t < N ∧
          (Bytes.toNat sk + Bytes.toNat t) % N ≠ 0
      then (1, Bytes.be32 ((Bytes.toNat sk + Bytes.toNat t) % N)) else (0, Bytes.zeros 32) := by
  unfold Keys.seckeyTweakAdd; rw [Sc.setB32Seckey_eq]
  simp only [seckeyTweakAddHelper_eq]
  by_cases h : 0 < Bytes.toNat sk ∧ Bytes.toNat sk < N
  · rw [Nat.mod_eq_of_lt h.2]
    by_cases h2 : Bytes.toNat t < N ∧ (Bytes.toNat sk + Bytes.toNat t) % N ≠ 0
    · simp [h, h2]
    · simp [h2]
  · simp only [h, decide_false, Bool.false_eq_true, if_false]
    split <;> simp

theorem seckeyTweakMul_eq (sk t : Bytes) :
    Keys.seckeyTweakMul sk t =
      if (0 < Bytes.toNat sk ∧ Bytes.toNat sk < N) ∧ Bytes.toNat t < N ∧ Bytes.toNat t ≠ 0
      then (1, Bytes.be32 (Bytes.toNat sk * Bytes.toNat t % N)) else (0, Bytes.zeros 32) := by
  unfold Keys.seckeyTweakMul; rw [Sc.setB32Seckey_eq, Sc.setB32_eq]
  by_cases h : 0 < Bytes.toNat sk ∧ Bytes.toNat sk < N
  · by_cases h2 : Bytes.toNat t < N
    · have h' : ¬ N ≤ Bytes.toNat t := Nat.not_le.2 h2
      by_cases h3 : Bytes.toNat t = 0
      · simp [h, h3]
      · simp [h, h2, h', h3, Nat.mod_eq_of_lt h2, Nat.mod_eq_of_lt h.2, Sc.mul]
    · have h' : N ≤ Bytes.toNat t := Nat.not_lt.1 h2
      simp [h2, h']
  · simp [h]

theorem pubkeyTweakAddHelper_eq (p : Pt) (t : Bytes) :
    Ecdsa.pubkeyTweakAddHelper p t =
      if Bytes.toNat t < N ∧ Pt.add p (Pt.mulG (Bytes.toNat t)) ≠ .inf
      then some (Pt.add p (Pt.mulG (Bytes.toNat t))) else none := by
  unfold Ecdsa.pubkeyTweakAddHelper; rw [Sc.setB32_eq]
  by_cases h : Bytes.toNat t < N
  · have h' : ¬ N ≤ Bytes.toNat t := Nat.not_le.2 h
    simp only [h', decide_false, Bool.false_eq_true, if_false, Nat.mod_eq_of_lt h, h, true_and]
    cases hq : Pt.add p (Pt.mulG (Bytes.toNat t)) <;> simp
  · have h' : N ≤ Bytes.toNat t := Nat.not_lt.1 h
    simp [h, h']

theorem pubkeyNegate_eq (pk : Pt) :
    Keys.pubkeyNegate pk = if pk = .inf then ⟨0, .inf, 1⟩ else ⟨1, Pt.neg pk, 0⟩ := by
  cases pk <;> simp [Keys.pubkeyNegate]

theorem pubkeyTweakAdd_of_ne_inf {pk : Pt} (h : pk ≠ .inf) (t : Bytes) :
    Keys.pubkeyTweakAdd pk t =
      (Ecdsa.pubkeyTweakAddHelper pk t).elim ⟨0, .inf, 0⟩ (⟨1, ·, 0⟩) := by
  cases pk with
  | inf => exact absurd rfl h
  | aff x y =>
    simp only [Keys.pubkeyTweakAdd]
    cases Ecdsa.pubkeyTweakAddHelper (.aff x y) t <;> rfl

theorem pubkeyTweakAdd_eq (pk : Pt) (t : Bytes) :
    Keys.pubkeyTweakAdd pk t =
      if pk = .inf then ⟨0, .inf, 1⟩
      else if Bytes.toNat t < N ∧ Pt.add pk (Pt.mulG (Bytes.toNat t)) ≠ .inf
      then ⟨1, Pt.add pk (Pt.mulG (Bytes.toNat t)), 0⟩ else ⟨0, .inf, 0⟩ := by
  by_cases h : pk = .inf
  · subst h; rfl
  · rw [if_neg h, pubkeyTweakAdd_of_ne_inf h, pubkeyTweakAddHelper_eq]
    split <;> rfl

theorem pubkeyTweakMul_eq (pk : Pt) (t : Bytes) :
    Keys.pubkeyTweakMul pk t =
      if N ≤ Bytes.toNat t then ⟨0, .inf, 0⟩
      else if pk = .inf then ⟨0, .inf, 1⟩
      else if Bytes.toNat t = 0 then ⟨0, .inf, 0⟩
      else ⟨1, Pt.mul (Bytes.toNat t) pk, 0⟩ := by
  unfold Keys.pubkeyTweakMul; rw [Sc.setB32_eq]
  by_cases h : N ≤ Bytes.toNat t
  · simp [h]
  · have h2 : Bytes.toNat t < N := Nat.not_le.1 h
    cases pk with
    | inf => simp [h]
    | aff x y => simp [h, Nat.mod_eq_of_lt h2]

theorem pubkeyCombine_eq (pks : List Pt) :
    Keys.pubkeyCombine pks =
      if pks = [] then ⟨0, .inf, 1⟩
      else if Pt.sum pks = .inf then ⟨0, .inf, 0⟩ else ⟨1, Pt.sum pks, 0⟩ := by
  unfold Keys.pubkeyCombine
  by_cases h : pks = []
  · simp [h]
  · have : pks.isEmpty = false := by simpa using h
    simp only [this, Bool.false_eq_true, if_false, h]
    cases hs : Pt.sum pks <;> simp

theorem evenY_aff (x y : Nat) :
    Keys.evenY (.aff x y) =
      (if Fe.isOdd y then Pt.neg (.aff x y) else .aff x y, if Fe.isOdd y then 1 else 0) := by
  by_cases h : Fe.isOdd y = true <;> simp [Keys.evenY, h, Pt.neg]

theorem xonlyFromPubkey_eq (pk : Pt) :
    Keys.xonlyFromPubkey pk = if pk = .inf then ⟨0, (.inf, 0), 1⟩ else ⟨1, Keys.evenY pk, 0⟩ := by
  cases pk <;> simp [Keys.xonlyFromPubkey]

theorem xonlyTweakAddCheck_eq (tw : Bytes) (par : Nat) (xpk : Pt) (t : Bytes) :
    Keys.xonlyTweakAddCheck tw par xpk t =
      if xpk = .inf then ⟨0, (), 1⟩
      else if Bytes.toNat t < N ∧ Pt.add xpk (Pt.mulG (Bytes.toNat t)) ≠ .inf then
        ⟨if Bytes.be32 (Pt.add xpk (Pt.mulG (Bytes.toNat t))).xOf = tw ∧
            (if Fe.isOdd (Pt.add xpk (Pt.mulG (Bytes.toNat t))).yOf then 1 else 0) = par then 1 else 0, (), 0⟩
      else ⟨0, (), 0⟩ := by
  cases xpk with
  | inf => simp [Keys.xonlyTweakAddCheck]
  | aff x y =>
    simp only [Keys.xonlyTweakAddCheck, pubkeyTweakAddHelper_eq, reduceCtorEq, if_false]
    by_cases h : Bytes.toNat t < N ∧ Pt.add (.aff x y) (Pt.mulG (Bytes.toNat t)) ≠ .inf
    · rw [if_pos h, if_pos h]; simp
    · rw [if_neg h, if_neg h]

theorem keypairLoad_valid {d : Nat} (h0 : 0 < d) (hN : d < N) {q : Pt} (hq : q ≠ .inf) :
    Keys.keypairLoad ⟨Bytes.be32 d, q⟩ true = (true, d, q, 0) := by
  cases q with
  | inf => exact absurd rfl hq
  | aff x y =>
    simp only [Keys.keypairLoad, Sc.setB32Seckey_eq, Bytes.toNat_be32_of_lt_N hN]
    simp [h0, hN, Nat.mod_eq_of_lt hN]

section Alg
variable [HasGroupLaw]

theorem pub_valid {d : Nat} (hd : d < N) : (Pt.mulG d).valid = true :=
  mulG_valid (lt_mulBound_of_lt_N hd)

theorem pub_eq_inf_iff {d : Nat} (hd : d < N) : Pt.mulG d = .inf ↔ d = 0 := by
  rw [mulG_gmul hd, gmul_eq_inf_iff, cast_eq_zero hd]

theorem pub_inj {a b : Nat} (ha : a < N) (hb : b < N) (h : Pt.mulG a = Pt.mulG b) : a = b := by
  rw [mulG_gmul ha, mulG_gmul hb] at h
  exact (Field.cast_eq_iff ha hb).1 (gmul_injective h)

theorem pub_add {a b : Nat} (ha : a < N) (hb : b < N) :
    Pt.add (Pt.mulG a) (Pt.mulG b) = Pt.mulG ((a + b) % N) := by
  rw [mulG_gmul ha, mulG_gmul hb, mulG_gmul (Nat.mod_lt _ N_pos), add_gmul, ZMod.natCast_mod,
    Nat.cast_add]

theorem pub_neg {d : Nat} (hd : d < N) : Pt.neg (Pt.mulG d) = Pt.mulG (Sc.neg d) := by
  rw [mulG_gmul hd, mulG_gmul (Sc.neg_lt_N d), neg_gmul, cast_neg]

theorem pub_neg_sub {d : Nat} (h0 : 0 < d) (hd : d < N) : Pt.neg (Pt.mulG d) = Pt.mulG (N - d) := by
  rw [pub_neg hd, Sc.neg_eq_of_pos h0 hd]

theorem pub_mul {f d : Nat} (hf : f < N) (hd : d < N) :
    Pt.mul f (Pt.mulG d) = Pt.mulG (d * f % N) := by
  rw [mulG_gmul hd, mulG_gmul (Nat.mod_lt _ N_pos), mul_gmul (lt_mulBound_of_lt_N hf),
    ZMod.natCast_mod, Nat.cast_mul, mul_comm]

theorem mul_mod_N_pos {d f : Nat} (hd0 : 0 < d) (hd : d < N) (hf0 : 0 < f) (hf : f < N) :
    0 < d * f % N := by
  apply Nat.pos_of_ne_zero
  intro h
  have h1 : ((d * f : Nat) : ZMod N) = 0 := (Field.cast_eq_zero_iff _).2 h
  rw [Nat.cast_mul, mul_eq_zero, cast_eq_zero hd, cast_eq_zero hf] at h1
  omega

theorem sum_pub (ds : List Nat) (h : ∀ d ∈ ds, d < N) :
    Pt.sum (ds.map Pt.mulG) = Pt.mulG (ds.sum % N) := by
  rw [sum_gmul ds _ _ fun d hd => mulG_gmul (h d hd), mulG_gmul (Nat.mod_lt _ N_pos), ZMod.natCast_mod,
    Nat.cast_list_sum]

theorem sum_append (as bs : List Pt) (ha : ∀ q ∈ as, q.valid = true) (hb : ∀ q ∈ bs, q.valid = true) :
    Pt.sum (as ++ bs) = Pt.add (Pt.sum as) (Pt.sum bs) := by
  rw [sum_eq_val _ (List.forall_mem_append.2 ⟨ha, hb⟩), sum_eq_val as ha, sum_eq_val bs hb,
    List.pmap_append, List.sum_append]
  rfl

end Alg

/-! `decide +kernel` on an equation `p = q` between two COMPUTED points makes the kernel compare the two
unevaluated coordinate expressions structurally (inside the derived `DecidableEq Pt`), which does not
terminate in reasonable time; comparing the coordinates as numbers does.  Hence `sameXY` in the examples. -/

def sameXY (p q : Pt) : Prop := p.isInf = q.isInf ∧ p.xOf = q.xOf ∧ p.yOf = q.yOf

instance (p q : Pt) : Decidable (sameXY p q) := by unfold sameXY; infer_instance

theorem sameXY_iff (p q : Pt) : sameXY p q ↔ p = q := by
  cases p <;> cases q <;> simp [sameXY, Pt.isInf, Pt.xOf, Pt.yOf]

/-- `secp256k1_keypair_xonly_tweak_add` negates the secret key iff the public key has odd y. -/
def evenSk (d : Nat) : Nat := if Fe.isOdd (Pt.mulG d).yOf then N - d else d

def parityOf (d : Nat) : Nat := if Fe.isOdd (Pt.mulG d).yOf then 1 else 0

theorem evenSk_pos_lt {d : Nat} (h0 : 0 < d) (hN : d < N) : 0 < evenSk d ∧ evenSk d < N := by
  unfold evenSk; split <;> omega

theorem seckeyTweakAdd_be32 {d : Nat} (h0 : 0 < d) (hN : d < N) (t : Bytes) :
    Keys.seckeyTweakAdd (Bytes.be32 d) t =
      if Bytes.toNat t < N ∧ (d + Bytes.toNat t) % N ≠ 0
      then (1, Bytes.be32 ((d + Bytes.toNat t) % N)) else (0, Bytes.zeros 32) := by
  rw [seckeyTweakAdd_eq, Bytes.toNat_be32_of_lt_N hN]
  simp only [h0, hN, and_self, true_and]

theorem seckeyTweakMul_be32 {d : Nat} (h0 : 0 < d) (hN : d < N) (t : Bytes) :
    Keys.seckeyTweakMul (Bytes.be32 d) t =
      if Bytes.toNat t < N ∧ Bytes.toNat t ≠ 0
      then (1, Bytes.be32 (d * Bytes.toNat t % N)) else (0, Bytes.zeros 32) := by
  rw [seckeyTweakMul_eq, Bytes.toNat_be32_of_lt_N hN]
  simp only [h0, hN, and_self, true_and]

theorem seckeyNegate_be32 {d : Nat} (h0 : 0 < d) (hN : d < N) :
    Keys.seckeyNegate (Bytes.be32 d) = (1, Bytes.be32 (N - d)) := by
  rw [seckeyNegate_eq, Bytes.toNat_be32_of_lt_N hN]
  simp only [h0, hN, and_self, if_true]

theorem pubkeyCreate_be32 {d : Nat} (h0 : 0 < d) (hN : d < N) :
    Keys.pubkeyCreate (Bytes.be32 d) = (1, Pt.mulG d) := by
  rw [pubkeyCreate_eq, Bytes.toNat_be32_of_lt_N hN]
  simp only [h0, hN, and_self, if_true]

theorem keypairCreate_be32 {d : Nat} (h0 : 0 < d) (hN : d < N) :
    Keys.keypairCreate (Bytes.be32 d) = (1, ⟨Bytes.be32 d, Pt.mulG d⟩) := by
  rw [keypairCreate_eq, Bytes.toNat_be32_of_lt_N hN]
  simp only [h0, hN, and_self, if_true]

/-- The conclusion is the common body of `tweak_add_comm` / `tweak_mul_comm` in `Props/C04`; `fails` is the condition as
those statements phrase it. -/
theorem tweak_comm_of_eq {c fails : Prop} [Decidable c] {v : Nat} {s : Nat × Bytes} {p : Ret Pt}
    (hs : s = if c then (1, Bytes.be32 v) else (0, Bytes.zeros 32))
    (hp : p = if c then ⟨1, Pt.mulG v, 0⟩ else ⟨0, .inf, 0⟩)
    (hf : fails ↔ ¬ c) (hv : c → 0 < v ∧ v < N) :
    (s.1 = 1 ↔ ¬ fails) ∧ (p.ret = 1 ↔ ¬ fails) ∧
    (¬ fails →
      s.2 = Bytes.be32 v ∧ p.out = Pt.mulG v ∧
      0 < Bytes.toNat s.2 ∧ Bytes.toNat s.2 < N ∧ p.out = Pt.mulG (Bytes.toNat s.2) ∧
      Keys.pubkeyCreate s.2 = (1, p.out) ∧ p.illegal = 0) ∧
    (fails → s = (0, Bytes.zeros 32) ∧ p.ret = 0 ∧ p.out = Pt.inf ∧ p.illegal = 0) := by
  subst hs hp
  by_cases h : c
  · obtain ⟨h0, hN⟩ := hv h
    simp [h, hf, h0, hN, Bytes.toNat_be32_of_lt_N hN, pubkeyCreate_be32 h0 hN]
  · simp [h, hf]

theorem chain_of_eq {c : Prop} [Decidable c] {v : Nat} {s : Nat × Bytes} {p : Ret Pt}
    (hs : s = if c then (1, Bytes.be32 v) else (0, Bytes.zeros 32))
    (hp : p = if c then ⟨1, Pt.mulG v, 0⟩ else ⟨0, .inf, 0⟩) (hv : c → 0 < v ∧ v < N) :
    (if s.1 = 1 then some s.2 else none) = (if c then some v else none).map Bytes.be32 ∧
    (if p.ret = 1 then some p.out else none) = (if c then some v else none).map Pt.mulG ∧
    ∀ d' ∈ (if c then some v else none), 0 < d' ∧ d' < N := by
  subst hs hp
  by_cases h : c
  · simpa [h] using hv h
  · simp [h]

theorem ge_or_eq_zero_iff_not {a b n : Nat} : (n ≤ a ∨ b = 0) ↔ ¬ (a < n ∧ b ≠ 0) := by omega

section OnPub
variable [HasGroupLaw]

theorem pubkeyNegate_pub {d : Nat} (h0 : 0 < d) (hN : d < N) :
    Keys.pubkeyNegate (Pt.mulG d) = ⟨1, Pt.mulG (N - d), 0⟩ := by
  rw [pubkeyNegate_eq, if_neg (mulG_ne_inf h0 hN), pub_neg_sub h0 hN]

theorem pubkeyTweakAddHelper_pub {d : Nat} (hN : d < N) (t : Bytes) :
    Ecdsa.pubkeyTweakAddHelper (Pt.mulG d) t =
      if Bytes.toNat t < N ∧ (d + Bytes.toNat t) % N ≠ 0
      then some (Pt.mulG ((d + Bytes.toNat t) % N)) else none := by
  rw [pubkeyTweakAddHelper_eq]
  by_cases ht : Bytes.toNat t < N
  · simp only [ht, true_and, pub_add hN ht, Ne, pub_eq_inf_iff (Nat.mod_lt _ N_pos)]
  · simp only [ht, false_and, if_false]

theorem pubkeyTweakAdd_pub {d : Nat} (h0 : 0 < d) (hN : d < N) (t : Bytes) :
    Keys.pubkeyTweakAdd (Pt.mulG d) t =
      if Bytes.toNat t < N ∧ (d + Bytes.toNat t) % N ≠ 0
      then ⟨1, Pt.mulG ((d + Bytes.toNat t) % N), 0⟩ else ⟨0, .inf, 0⟩ := by
  rw [pubkeyTweakAdd_of_ne_inf (mulG_ne_inf h0 hN), pubkeyTweakAddHelper_pub hN]
  split <;> rfl

theorem pubkeyTweakMul_pub {d : Nat} (h0 : 0 < d) (hN : d < N) (t : Bytes) :
    Keys.pubkeyTweakMul (Pt.mulG d) t =
      if Bytes.toNat t < N ∧ Bytes.toNat t ≠ 0
      then ⟨1, Pt.mulG (d * Bytes.toNat t % N), 0⟩ else ⟨0, .inf, 0⟩ := by
  rw [pubkeyTweakMul_eq]
  by_cases ht : Bytes.toNat t < N
  · rw [if_neg (Nat.not_le.2 ht), if_neg (mulG_ne_inf h0 hN)]
    by_cases h2 : Bytes.toNat t = 0
    · rw [if_pos h2, if_neg (fun h => h.2 h2)]
    · rw [if_neg h2, if_pos ⟨ht, h2⟩, pub_mul ht hN]
  · rw [if_pos (Nat.not_lt.1 ht), if_neg (fun h => ht h.1)]

omit [HasGroupLaw] in
theorem evenSk_eq {d : Nat} (h0 : 0 < d) (hN : d < N) :
    evenSk d = if Fe.isOdd (Pt.mulG d).yOf then Sc.neg d else d := by
  rw [evenSk, Sc.neg_eq_of_pos h0 hN]

theorem evenY_pub {d : Nat} (h0 : 0 < d) (hN : d < N) :
    Keys.evenY (Pt.mulG d) = (Pt.mulG (evenSk d), parityOf d) := by
  obtain ⟨x, y, h⟩ := mulG_eq_aff h0 hN
  rw [evenSk_eq h0 hN, apply_ite Pt.mulG, ← pub_neg hN, parityOf, h, evenY_aff]
  rfl

theorem evenY_valid {x y : Nat} (hv : (Pt.aff x y).valid = true) :
    (Keys.evenY (.aff x y)).1.valid = true ∧ (Keys.evenY (.aff x y)).1 ≠ .inf ∧
    (Keys.evenY (.aff x y)).1.xOf = x ∧ Fe.isOdd (Keys.evenY (.aff x y)).1.yOf = false ∧
    (Keys.evenY (.aff x y)).2 = (if Fe.isOdd y then 1 else 0) ∧
    (Keys.evenY (.aff x y)).1 = (if Fe.isOdd y then Pt.neg (.aff x y) else .aff x y) := by
  have : Fact (Nat.Prime P) := ⟨Algebra.prime_P⟩
  rw [evenY_aff]
  by_cases ho : Fe.isOdd y = true
  · simp only [ho, if_true]
    refine ⟨gl.valid_neg _ hv, by simp [Pt.neg], by simp [Pt.neg], ?_, trivial, trivial⟩
    show Fe.isOdd (Fe.neg y) = false
    rw [isOdd_neg hv, ho]; rfl
  · simp only [ho]
    exact ⟨hv, by simp, by simp, by simpa using ho, by simp⟩

theorem keypairXonlyTweakAdd_valid {d : Nat} (h0 : 0 < d) (hN : d < N) (t : Bytes) :
    Keys.keypairXonlyTweakAdd ⟨Bytes.be32 d, Pt.mulG d⟩ t =
      if Bytes.toNat t < N ∧ (evenSk d + Bytes.toNat t) % N ≠ 0
      then ⟨1, ⟨Bytes.be32 ((evenSk d + Bytes.toNat t) % N), Pt.mulG ((evenSk d + Bytes.toNat t) % N)⟩, 0⟩
      else ⟨0, Keys.Keypair.zero, 0⟩ := by
  unfold Keys.keypairXonlyTweakAdd
  rw [keypairLoad_valid h0 hN (mulG_ne_inf h0 hN)]
  simp only []
  rw [evenY_pub h0 hN]
  simp only []
  have hsk : (if parityOf d = 1 then Sc.neg d else d) = evenSk d := by
    rw [evenSk_eq h0 hN, parityOf]
    split <;> simp
  rw [hsk, seckeyTweakAddHelper_eq, pubkeyTweakAddHelper_pub (evenSk_pos_lt h0 hN).2]
  by_cases h : Bytes.toNat t < N ∧ (evenSk d + Bytes.toNat t) % N ≠ 0
  · rw [if_pos h, if_pos h, if_pos h]; simp
  · rw [if_neg h, if_neg h, if_neg h]

end OnPub

end KeysLemmas
end SecpZkp
