/-
  The interned form of straight-line MiniC programs: a name is a NUMBER, decoded by a naming `ν : Nat → String`.
  String operations are extremely slow in the kernel, so every checker that the kernel runs on a generated program
  (`Rename.icheckL`, `LimbPolyI.mulCheck`, `FieldKernelStruct.liftCheck`) runs on this copy and compares numbers; all a
  soundness proof needs of `ν` is that it is injective.  The copy is produced at elaboration time by `intern_body%`
  and is CHECKED: `decode nmr copy = original` by `kernel_rfl`, i.e. by the kernel's own definitional unfolding.
  Declarations are in namespace `FieldKernelStruct` (as are those of `Int128Blocks`).
-/
import SecpZkp.Proofs.MiniC
import Batteries.Data.Char.Basic
import Mathlib.Data.List.Basic
import Lean

namespace SecpZkp
namespace FieldKernelStruct
open MiniC

def unpackAux : Nat → Nat → List Char
  | 0, _ => []
  | f + 1, k => if k = 0 then [] else Char.ofNat (k % 256) :: unpackAux f (k / 256)

/-- base-256 digits of `k` as characters, least significant first; nothing computes with this naming (see `nmr`) -/
def nm (k : Nat) : String := String.ofList (unpackAux k k)

def repack : List Char → Nat
  | [] => 0
  | c :: cs => c.toNat + 256 * repack cs

theorem repack_unpackAux : ∀ (f k : Nat), k ≤ f → repack (unpackAux f k) = k
  | 0, k, h => by
    have : k = 0 := by omega
    subst this; rfl
  | f + 1, k, h => by
    unfold unpackAux
    by_cases hk : k = 0
    · simp [hk, repack]
    · simp only [hk, ↓reduceIte, repack]
      rw [repack_unpackAux f (k / 256) (by omega), Char.toNat_ofNat]
      have : (k % 256).isValidChar := Or.inl (by omega)
      simp only [this, ↓reduceIte]
      omega

theorem unpackAux_injective {k1 k2 : Nat} (h : unpackAux k1 k1 = unpackAux k2 k2) : k1 = k2 := by
  have := congrArg repack h
  rwa [repack_unpackAux _ _ (Nat.le_refl _), repack_unpackAux _ _ (Nat.le_refl _)] at this

theorem nm_injective : nm.Injective := fun _ _ h => unpackAux_injective (String.ofList_injective h)

/-- first character most significant.  This is the naming to compute with: the kernel hashes a numeral by its low bits,
    and the translator's names share long PREFIXES (`umul128_2.ll`, `umul128_4.ll`, ...), so with `nm` nearly all keys
    collide in the kernel's caches and evaluation becomes quadratic in the length of the program; with `nmr` the low
    bits are the END of the name and differ. -/
def nmr (k : Nat) : String := String.ofList (unpackAux k k).reverse

theorem nmr_injective : nmr.Injective := fun _ _ h =>
  unpackAux_injective (List.reverse_injective (String.ofList_injective h))

abbrev Cell := Nat × Nat

def beqC (c d : Cell) : Bool := Nat.beq c.1 d.1 && Nat.beq c.2 d.2

theorem beqC_iff {c d : Cell} : beqC c d = true ↔ c = d := by
  obtain ⟨c1, c2⟩ := c
  obtain ⟨d1, d2⟩ := d
  simp only [beqC, Bool.and_eq_true, Nat.beq_eq, Prod.mk.injEq]

inductive IExpr where
  | lit (n : Nat)
  | var (x : Nat)
  | idx (a : Nat) (i : Nat)
  | bin (op : BinOp) (w : Nat) (a b : IExpr)
  | cast (w : Nat) (e : IExpr)
deriving DecidableEq, Repr, Inhabited

inductive IStmt where
  | assign (x : Nat) (e : IExpr)
  | store (a : Nat) (i : Nat) (e : IExpr)
  -- the only `if` of the struct kernels (`rshiftS`); `symL`, `icheckL` reject it, so `mulCheck` / `icheckOut` accept
  -- native programs only
  | rshift (lo hi : Nat) (n : Nat)
deriving DecidableEq, Repr, Inhabited

def decE : IExpr → Expr
  | .lit n => .lit n
  | .var x => .var (nm x)
  | .idx a i => .idx (nm a) (.lit i)
  | .bin op w a b => .bin op w (decE a) (decE b)
  | .cast w e => .cast w (decE e)

/-- the inlined `secp256k1_u128_rshift(&r, n)` with a literal `n`, as the translator prints it: the tests `n >= 64`, `n > 0`
    at `unsigned int` (width 32), the shift amounts `n - 64`, `64 - n` folded at that width, `1 * hi` for the source's
    `1U * r->hi`.  What it does: `rshiftS_run` (`Proofs/Int128Blocks.lean`). -/
def rshiftS (lo hi : String) (n : Nat) : Stmt :=
  .ite (.bin .le 32 (.lit 64) (.lit n))
    [.assign lo (.bin .shr 64 (.var hi) (.lit ((n + (4294967296 - 64)) % 4294967296))), .assign hi (.lit 0)]
    [.ite (.bin .lt 32 (.lit 0) (.lit n))
      [.assign lo (.bin .or 64 (.bin .shl 64 (.bin .mul 64 (.lit 1) (.var hi))
          (.lit ((64 + (4294967296 - n)) % 4294967296))) (.bin .shr 64 (.var lo) (.lit n))),
       .assign hi (.bin .shr 64 (.var hi) (.lit n))]
      []]

def decS : IStmt → Stmt
  | .assign x e => .assign (nm x) (decE e)
  | .store a i e => .store (nm a) (.lit i) (decE e)
  | .rshift lo hi n => rshiftS (nm lo) (nm hi) n

def decL (p : List IStmt) : List Stmt := p.map decS

def decodeE (ν : Nat → String) : IExpr → Expr
  | .lit n => .lit n
  | .var x => .var (ν x)
  | .idx a i => .idx (ν a) (.lit i)
  | .bin op w a b => .bin op w (decodeE ν a) (decodeE ν b)
  | .cast w e => .cast w (decodeE ν e)

def decodeS (ν : Nat → String) : IStmt → Stmt
  | .assign x e => .assign (ν x) (decodeE ν e)
  | .store a i e => .store (ν a) (.lit i) (decodeE ν e)
  | .rshift lo hi n => rshiftS (ν lo) (ν hi) n

def decode (ν : Nat → String) (p : List IStmt) : List Stmt := p.map (decodeS ν)

theorem decode_append (ν : Nat → String) (p q : List IStmt) : decode ν (p ++ q) = decode ν p ++ decode ν q :=
  List.map_append

theorem decE_eq (e : IExpr) : decE e = decodeE nm e := by
  induction e <;> simp only [decE, decodeE, *]

theorem decL_eq (p : List IStmt) : decL p = decode nm p := by
  refine List.map_congr_left fun s _ => ?_
  cases s <;> simp only [decS, decodeS, decE_eq]

variable {ν : Nat → String}

def cell (ν : Nat → String) (env : Env) (c : Cell) : Nat := env.get (ν c.1) c.2

theorem cell_set_same (env : Env) (c : Cell) (v : Nat) : cell ν (env.set (ν c.1) c.2 v) c = v :=
  Env.get_set_same _ _ _ _

theorem cell_set_other (hν : ν.Injective) (env : Env) (c d : Cell) (v : Nat) (h : d ≠ c) :
    cell ν (env.set (ν c.1) c.2 v) d = cell ν env d := by
  refine Env.get_set_other _ _ _ _ _ _ ?_
  intro h'
  injection h' with h1 h2
  exact h (Prod.ext (hν h1) h2)

section Interning
open Lean Meta Elab Term Tactic

/-- inverse of `nmr` on names made of characters below 256 that do not begin with the character 0 -/
def packName (s : String) : Nat := s.toList.foldl (fun acc c => c.toNat + 256 * acc) 0

private def strLit? (e : Lean.Expr) : Option String :=
  match e with
  | .lit (.strVal s) => some s
  | _ => none

private def keyOf (e : Lean.Expr) : MetaM Lean.Expr :=
  match strLit? e with
  | some s => return mkNatLit (packName s)
  | none => throwError "intern: string literal expected{indentExpr e}"

private def internE : Nat → Lean.Expr → MetaM Lean.Expr
  | 0, e => throwError "intern: expression too deep{indentExpr e}"
  | fuel + 1, e => do
    let args := e.getAppArgs
    match e.getAppFn.constName? with
    | some ``MiniC.Expr.lit => return mkApp (mkConst ``IExpr.lit) args[0]!
    | some ``MiniC.Expr.var => return mkApp (mkConst ``IExpr.var) (← keyOf args[0]!)
    | some ``MiniC.Expr.idx =>
      let i := args[1]!
      unless i.isAppOf ``MiniC.Expr.lit do throwError "intern: literal index expected{indentExpr e}"
      return mkApp2 (mkConst ``IExpr.idx) (← keyOf args[0]!) i.getAppArgs[0]!
    | some ``MiniC.Expr.bin =>
      return mkApp4 (mkConst ``IExpr.bin) args[0]! args[1]! (← internE fuel args[2]!) (← internE fuel args[3]!)
    | some ``MiniC.Expr.cast => return mkApp2 (mkConst ``IExpr.cast) args[0]! (← internE fuel args[1]!)
    | _ => throwError "intern: unsupported expression{indentExpr e}"

private def listElems (e : Lean.Expr) : MetaM (Array Lean.Expr) := do
  let mut out := #[]
  let mut cur := e
  repeat
    if cur.isAppOf ``List.cons then
      out := out.push cur.getAppArgs[1]!
      cur := cur.getAppArgs[2]!
    else if cur.isAppOf ``List.nil then
      break
    else if let .letE _ _ v b _ := cur then
      cur := b.instantiate1 v      -- long list literals are elaborated in chunks bound by `have`
    else if let .mdata _ b := cur then
      cur := b
    else throwError "intern: list literal expected{indentExpr cur}"
  return out

private def internS (s : Lean.Expr) : MetaM Lean.Expr := do
  let args := s.getAppArgs
  match s.getAppFn.constName? with
  | some ``MiniC.Stmt.assign => return mkApp2 (mkConst ``IStmt.assign) (← keyOf args[0]!) (← internE 64 args[1]!)
  | some ``MiniC.Stmt.store =>
    let i := args[1]!
    unless i.isAppOf ``MiniC.Expr.lit do throwError "intern: literal index expected{indentExpr s}"
    return mkApp3 (mkConst ``IStmt.store) (← keyOf args[0]!) i.getAppArgs[0]! (← internE 64 args[2]!)
  | some ``MiniC.Stmt.ite =>
    -- the only `if` of the kernels: the inlined `secp256k1_u128_rshift(&r, n)`; names and `n` are read off,
    -- the exact shape is checked by the kernel when the decoded program is compared with the original
    let c := args[0]!
    let t ← listElems args[1]!
    unless c.isAppOf ``MiniC.Expr.bin && t.size == 2 do throwError "intern: unsupported if{indentExpr s}"
    let n := c.getAppArgs[3]!
    unless n.isAppOf ``MiniC.Expr.lit do throwError "intern: unsupported if{indentExpr s}"
    return mkApp3 (mkConst ``IStmt.rshift) (← keyOf t[0]!.getAppArgs[0]!) (← keyOf t[1]!.getAppArgs[0]!) n.getAppArgs[0]!
  | _ => throwError "intern: unsupported statement{indentExpr s}"

/-- `intern_body% f` : the body of the translated function `f : MiniC.Fn` in interned form (`List IStmt`) -/
elab "intern_body% " id:ident : term => do
  let c ← realizeGlobalConstNoOverloadWithInfo id
  let v ← whnfD (mkConst c)
  unless v.isAppOf ``MiniC.Fn.mk do throwError "intern_body%: a literal MiniC.Fn expected"
  let elems ← listElems v.getAppArgs[3]!
  let mut out := mkApp (mkConst ``List.nil [Level.zero]) (mkConst ``IStmt)
  for s in elems.reverse do
    out := mkApp3 (mkConst ``List.cons [Level.zero]) (mkConst ``IStmt) (← internS s) out
  return out

/-- close `a = b` with `Eq.refl a`: the definitional equality is checked by the KERNEL only, not first by the
    elaborator's slower unifier -/
elab "kernel_rfl" : tactic => do
  let g ← getMainGoal
  let t ← instantiateMVars (← g.getType)
  match t.eq? with
  | some (_, a, _) => g.assign (← mkEqRefl a)
  | none => throwError "kernel_rfl: the goal is not an equality"

end Interning

end FieldKernelStruct
end SecpZkp
