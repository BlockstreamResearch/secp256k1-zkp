import SecpZkp.Model.Schnorr
import SecpZkp.Proofs.Keys
import SecpZkp.Proofs.BytesBasic
/-
  BIP-340 below the property statements of `Props/C02.lean`: the normal forms of `Schnorr.verify` and
  `Schnorr.signInternal`, the even-y normalisation, and acceptance stated in the scalar field (`verify_of_gmul`), which
  the MuSig completeness proof (`Proofs/Musig.lean`) shares with single-signer signing.
-/
namespace SecpZkp
namespace C02
open SecpZkp.Algebra

/-- The point `R = s•G − e•P` of BIP-340 Verify, for `sig64 = r ‖ s`. -/
def verifyPoint (sig64 msg : Bytes) (pk : Pt) : Pt :=
  let e := Schnorr.challenge (sig64.take 32) msg (Bytes.be32 pk.xOf)
  Pt.add (Pt.mul (Sc.neg e) pk) (Pt.mulG (Bytes.toNat (sig64.drop 32)))

/-- In the order of the C code: the callback for a zero key object comes after the range checks on `r` and `s`. -/
theorem verify_eq (sig64 msg : Bytes) (pk : Pt) :
    Schnorr.verify sig64 msg pk =
      if Bytes.toNat (sig64.take 32) < P ∧ Bytes.toNat (sig64.drop 32) < N then
        match pk with
        | .inf => ⟨0, (), 1⟩
        | .aff _ _ =>
          ⟨if verifyPoint sig64 msg pk ≠ .inf ∧ (verifyPoint sig64 msg pk).hasEvenY = true ∧
            (verifyPoint sig64 msg pk).xOf = Bytes.toNat (sig64.take 32) then 1 else 0, (), 0⟩
      else ⟨0, (), 0⟩ := by
  unfold Schnorr.verify Codec.feLimit Sc.setB32
  by_cases hr : Bytes.toNat (sig64.take 32) < P <;> by_cases hs : Bytes.toNat (sig64.drop 32) < N <;>
    cases pk <;> simp [hr, hs, Nat.not_le.mpr, Nat.not_lt.mp, Nat.mod_eq_of_lt]
  -- the case left: both range checks pass and the key is a point
  rw [verifyPoint, xOf_aff]
  split <;> next h => simp [h, Pt.hasEvenY, Fe.isOdd]

theorem evenY_fst_aff (x y : Nat) :
    (Keys.evenY (Pt.aff x y)).1 = Pt.aff x (if Fe.isOdd y then Fe.neg y else y) := by
  simp only [Keys.evenY]; split <;> rfl

theorem hasEvenY_iff (x y : Nat) : (Pt.aff x y).hasEvenY = true ↔ ¬ Fe.isOdd y = true := by
  simp only [Fe.isOdd, Pt.hasEvenY, decide_eq_true_eq]; omega

theorem hasEvenY_evenFix (x : Nat) {y : Nat} (hy : y < P) :
    (Pt.aff x (if Fe.isOdd y then Fe.neg y else y)).hasEvenY = true := by
  rw [hasEvenY_iff]
  split
  · next h => rw [Fe.isOdd_neg_of_pos (Nat.pos_of_ne_zero fun h0 => by subst h0; cases h) hy, h]; decide
  · next h => exact h

theorem signInternal_valid {d : Nat} (hd0 : 0 < d) (hdN : d < N) (px py : Nat) (msg : Bytes)
    (noncefp : Option Schnorr.NonceFnH) (ndata : Option Bytes) :
    Schnorr.signInternal msg ⟨Bytes.be32 d, Pt.aff px py⟩ noncefp ndata =
      let d' := if Fe.isOdd py then Sc.neg d else d
      match (noncefp.getD Schnorr.nonceBip340) msg (Bytes.be32 d') (Bytes.be32 px) Schnorr.bip340Algo ndata with
      | none => ⟨0, Bytes.zeros 64, 0⟩
      | some n =>
        let k0 := Bytes.toNat n % N
        if k0 = 0 then ⟨0, Bytes.zeros 64, 0⟩ else
        let R := Pt.mulG k0
        let k := if Fe.isOdd R.yOf then Sc.neg k0 else k0
        let e := Schnorr.challenge (Bytes.be32 R.xOf) msg (Bytes.be32 px)
        ⟨1, Bytes.be32 R.xOf ++ Bytes.be32 (Sc.add (Sc.mul e d') k), 0⟩ := by
  simp only [Schnorr.signInternal, KeysLemmas.keypairLoad_valid hd0 hdN (q := Pt.aff px py) (fun h => Pt.noConfusion h), xOf_aff, yOf_aff, Bool.true_and]
  generalize noncefp.getD _ msg _ _ _ ndata = nonce
  cases nonce with
  | none => simp
  | some n => by_cases hk0 : Bytes.toNat n % N = 0 <;> simp [hk0]

section
variable [HasGroupLaw]

/-- BIP-340 acceptance from an equation in `ZMod N`: `s = e·(±a) ± k`, each sign the one that makes the y-coordinate of its
    point even.  Every completeness statement about BIP-340 signatures (single signer, MuSig with tweaks and adaptor) is
    this lemma plus an identity in `ZMod N`. -/
theorem verify_of_gmul {qx qy rx ry s : Nat} {a k : ZMod N} {msg : Bytes} (hs : s < N)
    (hQ : Pt.aff qx qy = gmul a) (hR : Pt.aff rx ry = gmul k)
    (h : (s : ZMod N) = (Schnorr.challenge (Bytes.be32 rx) msg (Bytes.be32 qx) : ZMod N) *
        (if Fe.isOdd qy then -a else a) + (if Fe.isOdd ry then -k else k)) :
    (Schnorr.verify (Bytes.be32 rx ++ Bytes.be32 s) msg (Keys.evenY (Pt.aff qx qy)).1).ret = 1 := by
  obtain ⟨hrx, hry⟩ := valid_aff_lt (hR ▸ valid_gmul k)
  rw [evenY_fst_aff, verify_eq, verifyPoint]
  simp only [take_be32_append, drop_be32_append, xOf_aff]
  rw [Bytes.toNat_be32_of_lt_P hrx, Bytes.toNat_be32_of_lt_N hs, ← gmul_pm hQ.symm,
    mul_gmul' (Sc.neg_lt_N _), mulG_gmul hs, add_gmul, cast_neg, h, neg_mul, neg_add_cancel_left, gmul_pm hR.symm,
    if_pos ⟨hrx, hs⟩]
  exact if_pos ⟨by simp, hasEvenY_evenFix rx hry, rfl⟩

end

end C02
end SecpZkp
