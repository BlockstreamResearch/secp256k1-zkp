import SecpZkp.Model.Halfagg
import SecpZkp.Proofs.Sha256
import SecpZkp.Proofs.Readers
import SecpZkp.Proofs.GroupLawCore
/-
  Lemmas behind property C17 (Props/C17*.lean), on the model `SecpZkp/Model/Halfagg.lean` of
  src/modules/schnorrsig_halfagg/main_impl.h.  Aggregation: `absorbNewSt` is the second loop of `inc_aggregate` returning
  also its hash state, which the first loop recomputes from the `r_i` in the buffer (`absorbOld_eq`); hence the closed
  form `incAggregate_closed`.  Verification: `verifyLoop_ok_iff` reads the loop index by index against `termSpec`, whose
  randomizers are one-shot hashes; `verifyLoop_complete` is the loop invariant of completeness.  Core Lean only: the
  group law enters as the hypothesis `gl : GroupLaw`, through `Proofs/GroupLawCore.lean`.
-/
namespace SecpZkp

namespace Halfagg

/-- (x-only key object, 32-byte message, 64-byte BIP-340 signature): one row of the three C arrays -/
abbrev Entry := Pt × Bytes × Bytes

def keys (xs : List Entry) : List Pt := xs.map (·.1)
def msgs (xs : List Entry) : List Bytes := xs.map (·.2.1)
def sigs (xs : List Entry) : List Bytes := xs.map (·.2.2)
def keyMsgs (xs : List Entry) : List (Pt × Bytes) := xs.map (fun e => (e.1, e.2.1))
def rs (xs : List Entry) : Bytes := ((sigs xs).map (·.take 32)).flatten

@[simp] theorem keys_nil : keys [] = [] := rfl
@[simp] theorem msgs_nil : msgs [] = [] := rfl
@[simp] theorem sigs_nil : sigs [] = [] := rfl
@[simp] theorem rs_nil : rs [] = [] := rfl
@[simp] theorem keyMsgs_nil : keyMsgs [] = [] := rfl
@[simp] theorem keys_cons (e : Entry) (xs) : keys (e :: xs) = e.1 :: keys xs := rfl
@[simp] theorem msgs_cons (e : Entry) (xs) : msgs (e :: xs) = e.2.1 :: msgs xs := rfl
@[simp] theorem sigs_cons (e : Entry) (xs) : sigs (e :: xs) = e.2.2 :: sigs xs := rfl
@[simp] theorem keyMsgs_cons (e : Entry) (xs) : keyMsgs (e :: xs) = (e.1, e.2.1) :: keyMsgs xs := rfl
@[simp] theorem rs_cons (e : Entry) (xs) : rs (e :: xs) = e.2.2.take 32 ++ rs xs := by
  simp [rs]
@[simp] theorem keys_append (xs ys : List Entry) : keys (xs ++ ys) = keys xs ++ keys ys := by simp [keys]
@[simp] theorem msgs_append (xs ys : List Entry) : msgs (xs ++ ys) = msgs xs ++ msgs ys := by simp [msgs]
@[simp] theorem sigs_append (xs ys : List Entry) : sigs (xs ++ ys) = sigs xs ++ sigs ys := by simp [sigs]
@[simp] theorem keyMsgs_append (xs ys : List Entry) : keyMsgs (xs ++ ys) = keyMsgs xs ++ keyMsgs ys := by
  simp [keyMsgs]
@[simp] theorem rs_append (xs ys : List Entry) : rs (xs ++ ys) = rs xs ++ rs ys := by simp [rs]
@[simp] theorem length_keys (xs : List Entry) : (keys xs).length = xs.length := by simp [keys]
@[simp] theorem length_msgs (xs : List Entry) : (msgs xs).length = xs.length := by simp [msgs]
@[simp] theorem length_sigs (xs : List Entry) : (sigs xs).length = xs.length := by simp [sigs]
@[simp] theorem length_keyMsgs (xs : List Entry) : (keyMsgs xs).length = xs.length := by simp [keyMsgs]

theorem zip_keys_msgs (xs : List Entry) : List.zip (keys xs) (msgs xs) = keyMsgs xs := by
  induction xs with
  | nil => rfl
  | cons e xs ih => simp [ih]

theorem zipWith_keyMsgs_sigs (xs : List Entry) :
    List.zipWith (fun (pm : Pt × Bytes) sg => (pm.1, pm.2, sg)) (keyMsgs xs) (sigs xs) = xs := by
  induction xs with
  | nil => rfl
  | cons e xs ih => simp [ih]

theorem length_take32 {sg : Bytes} (h : sg.length = 64) : (sg.take 32).length = 32 := by
  rw [List.length_take, h]; rfl

theorem length_rs (xs : List Entry) (h : ∀ e ∈ xs, e.2.2.length = 64) : (rs xs).length = 32 * xs.length := by
  rw [rs, Bytes.length_flatten_take, length_sigs]
  intro b hb
  obtain ⟨e, he, rfl⟩ := List.mem_map.1 hb
  rw [h e he]; decide

theorem chunk32_mid (a c b : Bytes) (k : Nat) (ha : a.length = 32 * k) (hc : c.length = 32) :
    chunk32 (a ++ (c ++ b)) k = c := by
  rw [chunk32, ← ha, ← hc, ← List.append_assoc, Bytes.slice_append]

theorem length_append_drop {α : Type} (a b : List α) (h : a.length ≤ b.length) :
    (a ++ b.drop a.length).length = b.length := by
  rw [List.length_append, List.length_drop]; omega

theorem drop_append_drop {α : Type} (a b : List α) {m : Nat} (h : a.length ≤ m) :
    (a ++ b.drop a.length).drop m = b.drop m := by
  rw [List.drop_append, List.drop_eq_nil_of_le h, List.nil_append, List.drop_drop]
  congr 1; omega

/-- Repeats the body of the model's `absorbNew` (second loop of `inc_aggregate`, main_impl.h:62-92), with
    `xonlySerialize pk` written as the match it is, and returns the final hash state besides the scalar.  The two are tied
    by `absorbNew_eq`. -/
def absorbNewSt : (i : Nat) → List Entry → Sha256.State → Nat → Option (Sha256.State × Nat)
  | _, [], h, s => some (h, s)
  | i, (pk, m, sig64) :: rest, h, s =>
    match pk with
    | .inf => none
    | .aff px _ =>
      let h' := Sha256.writeAll h [sig64.take 32, Bytes.be32 px, m]
      let zi := Bytes.toNat (Sha256.finalize h') % N
      let si0 := Bytes.toNat (sig64.drop 32) % N
      let si := if i ≠ 0 then Sc.mul si0 zi else si0
      absorbNewSt (i + 1) rest h' (Sc.add s si)

theorem absorbNew_eq (i : Nat) (xs : List Entry) (h : Sha256.State) (s : Nat) :
    absorbNew i xs h s = (absorbNewSt i xs h s).map (·.2) := by
  induction xs generalizing i h s with
  | nil => rfl
  | cons e xs ih =>
    obtain ⟨pk, m, sg⟩ := e
    cases pk with
    | inf => simp [absorbNew, absorbNewSt, Keys.xonlySerialize]
    | aff px py => simp [absorbNew, absorbNewSt, Keys.xonlySerialize, ih]

theorem absorbNewSt_append (i : Nat) (xs ys : List Entry) (h : Sha256.State) (s : Nat) :
    absorbNewSt i (xs ++ ys) h s =
      (absorbNewSt i xs h s).bind (fun r => absorbNewSt (i + xs.length) ys r.1 r.2) := by
  induction xs generalizing i h s with
  | nil => simp [absorbNewSt]
  | cons e xs ih =>
    obtain ⟨pk, m, sg⟩ := e
    cases pk with
    | inf => simp [absorbNewSt]
    | aff px py =>
      simp only [List.cons_append, absorbNewSt, ih, List.length_cons]
      have : i + 1 + xs.length = i + (xs.length + 1) := by omega
      rw [this]

theorem absorbNewSt_isSome (i : Nat) (xs : List Entry) (h : Sha256.State) (s : Nat) :
    (absorbNewSt i xs h s).isSome = true ↔ ∀ e ∈ xs, e.1 ≠ Pt.inf := by
  induction xs generalizing i h s with
  | nil => simp [absorbNewSt]
  | cons e xs ih =>
    obtain ⟨pk, m, sg⟩ := e
    cases pk with
    | inf => simp [absorbNewSt]
    | aff px py => simp [absorbNewSt, ih]

theorem absorbNewSt_lt (i : Nat) (xs : List Entry) (h : Sha256.State) (s : Nat) (r : Sha256.State × Nat)
    (hr : absorbNewSt i xs h s = some r) (hs : s < N) : r.2 < N := by
  induction xs generalizing i h s with
  | nil => simp [absorbNewSt] at hr; subst hr; exact hs
  | cons e xs ih =>
    obtain ⟨pk, m, sg⟩ := e
    cases pk with
    | inf => simp [absorbNewSt] at hr
    | aff px py =>
      simp only [absorbNewSt] at hr
      exact ih _ _ _ hr (Nat.mod_lt _ N_pos)

/-- The first loop of `inc_aggregate` recomputes the running hash of the second: fed the `r_j` read back from the buffer,
    it reaches the state the second loop had after the same entries.  `s` is arbitrary: the hash state does not depend
    on the accumulator. -/
theorem absorbOld_eq (pre post : Bytes) (i : Nat) (xs : List Entry) (h : Sha256.State) (s : Nat)
    (hpre : pre.length = 32 * i) (hsig : ∀ e ∈ xs, e.2.2.length = 64) :
    absorbOld (pre ++ (rs xs ++ post)) i (keyMsgs xs) h = (absorbNewSt i xs h s).map (·.1) := by
  induction xs generalizing i h s pre with
  | nil => rfl
  | cons e xs ih =>
    obtain ⟨pk, m, sg⟩ := e
    have hsg := length_take32 (hsig (pk, m, sg) (by simp))
    cases pk with
    | inf => simp [absorbOld, absorbNewSt, Keys.xonlySerialize]
    | aff px py =>
      simp only [keyMsgs_cons, rs_cons, absorbOld, absorbNewSt, Keys.xonlySerialize]
      simp only [List.append_assoc]
      rw [chunk32_mid _ _ _ _ hpre hsg]
      have := ih (pre ++ sg.take 32) (i + 1)
        (Sha256.writeAll h [sg.take 32, Bytes.be32 px, m])
        (Sc.add s (if i ≠ 0 then Sc.mul (Bytes.toNat (sg.drop 32) % N)
          (Bytes.toNat (Sha256.finalize (Sha256.writeAll h [sg.take 32, Bytes.be32 px, m])) % N)
          else Bytes.toNat (sg.drop 32) % N))
        (by simp only [List.length_append, hsg, hpre]; omega)
        (fun e he => hsig e (by simp [he]))
      simp only [List.append_assoc] at this
      simpa using this

/-- `hs` has the shape of main_impl.h:61: for `n_before = 0` the scalar is not read from the buffer.  `32 * (1 + n)` is the
    C expression for the new `*aggsig_len` (main_impl.h:100), kept by the model. -/
theorem incAggregate_closed (agg : Bytes) (xs ys : List Entry) (h1 : Sha256.State) (s1 : Nat)
    (hsx : ∀ e ∈ xs, e.2.2.length = 64)
    (hn : xs.length + ys.length < sizeMax)
    (hr : agg.take (32 * xs.length) = rs xs)
    (hs : (if xs.length > 0 then Bytes.toNat (chunk32 agg xs.length) % N else 0) = s1)
    (hx : absorbNewSt 0 xs tagAgg 0 = some (h1, s1)) :
    incAggregate agg (keys (xs ++ ys)) (msgs (xs ++ ys)) (sigs ys) xs.length =
      if 32 * (xs.length + ys.length + 1) ≤ agg.length then
        match absorbNewSt xs.length ys h1 s1 with
        | none => ⟨0, (agg, agg.length), 1⟩
        | some r => ⟨1, (rs xs ++ rs ys ++ Bytes.be32 r.2 ++ agg.drop (32 * (xs.length + ys.length + 1)),
                        32 * (1 + (xs.length + ys.length))), 0⟩
      else ⟨0, (agg, agg.length), 0⟩ := by
  have hnm : (xs.length + ys.length) % sizeMax = xs.length + ys.length := Nat.mod_eq_of_lt hn
  have hpairs : List.zip (keys (xs ++ ys)) (msgs (xs ++ ys)) = keyMsgs xs ++ keyMsgs ys := by
    rw [zip_keys_msgs, keyMsgs_append]
  have htake : (keyMsgs xs ++ keyMsgs ys).take xs.length = keyMsgs xs := List.take_left' (length_keyMsgs xs)
  have hdrop : (keyMsgs xs ++ keyMsgs ys).drop xs.length = keyMsgs ys := List.drop_left' (length_keyMsgs xs)
  have hagg : agg = [] ++ (rs xs ++ agg.drop (32 * xs.length)) := by
    rw [← hr, List.nil_append, List.take_append_drop]
  have hold : absorbOld agg 0 (keyMsgs xs) tagAgg = some h1 := by
    rw [hagg, absorbOld_eq [] _ 0 xs tagAgg 0 rfl hsx, hx]
    rfl
  have hk : (keys (xs ++ ys)).isEmpty = true ↔ xs.length + ys.length = 0 := by
    rw [List.isEmpty_iff_length_eq_zero]; simp
  have hm : (msgs (xs ++ ys)).isEmpty = true ↔ xs.length + ys.length = 0 := by
    rw [List.isEmpty_iff_length_eq_zero]; simp
  unfold incAggregate
  simp only [length_sigs, hnm, hpairs, htake, hdrop, hold, zipWith_keyMsgs_sigs, hs, absorbNew_eq, hk, hm]
  -- the exits in the order of the code: `n ≥ n_before` (`hg1`), keys / messages NULL (`hg2`), buffer length (`hg`)
  have hg1 : ¬ (¬ xs.length + ys.length ≥ xs.length) := by omega
  have hg2 : ¬ (xs.length + ys.length = 0 ∧ xs.length + ys.length ≠ 0) := by omega
  by_cases hlen : 32 * (xs.length + ys.length + 1) ≤ agg.length
  · have hg : ¬ (agg.length / 32 ≤ 0 ∨ agg.length / 32 - 1 < xs.length + ys.length) := by omega
    simp only [hlen, hg, hg1, hg2, if_true, if_false]
    cases absorbNewSt xs.length ys h1 s1 with
    | none => rfl
    | some r =>
      simp only [Option.map_some]
      rw [hr]
      rfl
  · have hg : (agg.length / 32 ≤ 0 ∨ agg.length / 32 - 1 < xs.length + ys.length) := by omega
    simp only [hlen, hg, hg1, hg2, if_true, if_false]

theorem aggregate_closed (buf : Bytes) (xs : List Entry) (hn : xs.length < sizeMax) :
    aggregate buf (keys xs) (msgs xs) (sigs xs) =
      if 32 * (xs.length + 1) ≤ buf.length then
        match absorbNewSt 0 xs tagAgg 0 with
        | none => ⟨0, (buf, buf.length), 1⟩
        | some r => ⟨1, (rs xs ++ Bytes.be32 r.2 ++ buf.drop (32 * (xs.length + 1)), 32 * (1 + xs.length)), 0⟩
      else ⟨0, (buf, buf.length), 0⟩ := by
  have h := incAggregate_closed buf [] xs tagAgg 0 (by simp) (by simpa using hn) (by simp) (by simp) rfl
  simpa [aggregate] using h

theorem aggregate_ok (buf : Bytes) (xs : List Entry) (hn : xs.length < sizeMax)
    (hok : (aggregate buf (keys xs) (msgs xs) (sigs xs)).ret = 1) :
    ∃ h1 S, absorbNewSt 0 xs tagAgg 0 = some (h1, S) ∧ S < N ∧
      aggregate buf (keys xs) (msgs xs) (sigs xs) =
        ⟨1, (rs xs ++ Bytes.be32 S ++ buf.drop (32 * (xs.length + 1)), 32 * (1 + xs.length)), 0⟩ := by
  rw [aggregate_closed buf xs hn] at hok ⊢
  by_cases hlen : 32 * (xs.length + 1) ≤ buf.length
  · simp only [hlen, if_true] at hok ⊢
    cases hx : absorbNewSt 0 xs tagAgg 0 with
    | none => rw [hx] at hok; cases hok
    | some r => exact ⟨r.1, r.2, rfl, absorbNewSt_lt 0 xs tagAgg 0 r hx N_pos, rfl⟩
  · rw [if_neg hlen] at hok; cases hok

theorem length_rs_be32 (xs : List Entry) (hsig : ∀ e ∈ xs, e.2.2.length = 64) (S : Nat) :
    (rs xs ++ Bytes.be32 S).length = 32 * (xs.length + 1) := by
  rw [List.length_append, length_rs xs hsig, Bytes.be32_length]; omega

theorem take_rs_be32 (xs : List Entry) (hsig : ∀ e ∈ xs, e.2.2.length = 64) (S : Nat) (tail : Bytes) :
    (rs xs ++ Bytes.be32 S ++ tail).take (32 * (1 + xs.length)) = rs xs ++ Bytes.be32 S := by
  rw [Nat.add_comm 1, ← length_rs_be32 xs hsig S, List.take_left]

/-- the literal inside the model's `tagAgg`, spelled a second time; `tagAgg_eq_after` ties the two -/
def tagBytes : Bytes := "HalfAgg/randomizer".toUTF8.toList

def tagBlock : Bytes := Sha256.sha256 tagBytes ++ Sha256.sha256 tagBytes

def hashedBytes (agg : Bytes) : Nat → List (Pt × Bytes) → Bytes
  | _, [] => []
  | i, (pk, m) :: rest => chunk32 agg i ++ Bytes.be32 pk.xOf ++ m ++ hashedBytes agg (i + 1) rest

/-- The randomizer `z_i` of the half-aggregation specification: ONE tagged SHA-256 of the whole prefix
    `r_0‖pk_0‖m_0‖…‖r_i‖pk_i‖m_i`, where the C code finalizes a copy of a running hash.  Used for `i ≥ 1` only (`z_0 = 1`). -/
def zSpec (agg : Bytes) (pms : List (Pt × Bytes)) (i : Nat) : Nat :=
  Bytes.toNat (Sha256.sha256 (tagBlock ++ hashedBytes agg 0 (pms.take (i + 1)))) % N

/-- The term `z_i • (e_i • P_i + R_i)` of the specification, a function of the index with no running state; `none` out of
    range and where `verifyLoop` stops (`illegal` or `reject`). -/
def termSpec (agg : Bytes) (pms : List (Pt × Bytes)) (i : Nat) : Option Pt :=
  match pms[i]? with
  | none => none
  | some (pk, m) =>
    match pk with
    | .inf => none
    | .aff px _ =>
      match Codec.feLimit (chunk32 agg i) with
      | none => none
      | some rx =>
        match Pt.liftX rx false with
        | none => none
        | some R =>
          let e := Schnorr.challenge (chunk32 agg i) m (Bytes.be32 px)
          let T := Pt.add (Pt.mul e pk) R
          some (if i ≠ 0 then Pt.mul (zSpec agg pms i) T else T)

theorem hashedBytes_append (agg : Bytes) (i : Nat) (a b : List (Pt × Bytes)) :
    hashedBytes agg i (a ++ b) = hashedBytes agg i a ++ hashedBytes agg (i + a.length) b := by
  induction a generalizing i with
  | nil => simp [hashedBytes]
  | cons x a ih =>
    obtain ⟨pk, m⟩ := x
    simp only [List.cons_append, hashedBytes, ih, List.length_cons, List.append_assoc]
    have : i + 1 + a.length = i + (a.length + 1) := by omega
    rw [this]

/-- `++ []` is `hashedBytes agg 0 []`: the shape of `hA` in `verifyLoop_ok_iff` for `pre = []`. -/
theorem tagAgg_eq_after : tagAgg = Sha256.after Sha256.iv 0 (tagBlock ++ []) := by
  simp [tagAgg, Sha256.initTagged, Sha256.init_eq, Sha256.write_after, tagBlock, tagBytes]

theorem cons_exists_iff {α : Type} (o : Option α) (os : List (Option α)) (Q : List α → Prop) :
    (∃ ts : List α, o :: os = ts.map some ∧ Q ts) ↔
      ∃ t, o = some t ∧ ∃ ts', os = ts'.map some ∧ Q (t :: ts') := by
  constructor
  · rintro ⟨ts, h, hq⟩
    cases ts with
    | nil => simp at h
    | cons t ts' =>
      simp only [List.map_cons, List.cons.injEq] at h
      exact ⟨t, h.1, ts', h.2, hq⟩
  · rintro ⟨t, h, ts', h', hq⟩
    exact ⟨t :: ts', by simp [h, h'], hq⟩

theorem verifyLoop_nil (agg : Bytes) (i : Nat) (h : Sha256.State) (rhs : Pt) :
    verifyLoop agg i [] h rhs = .ok rhs := rfl

theorem verifyLoop_inf (agg : Bytes) (i : Nat) (h : Sha256.State) (rhs : Pt) (m : Bytes)
    (rest : List (Pt × Bytes)) : verifyLoop agg i ((Pt.inf, m) :: rest) h rhs = .illegal := rfl

/-- One step on a finite key: both rejections (`r_i ≥ p`, no curve point with that x) are the `none` of one `bind`. -/
theorem verifyLoop_aff (agg : Bytes) (i : Nat) (h : Sha256.State) (rhs : Pt) (px py : Nat) (m : Bytes)
    (rest : List (Pt × Bytes)) :
    verifyLoop agg i ((Pt.aff px py, m) :: rest) h rhs =
      match (Codec.feLimit (chunk32 agg i)).bind (Pt.liftX · false) with
      | none => .reject
      | some rp =>
        verifyLoop agg (i + 1) rest (Sha256.writeAll h [chunk32 agg i, Bytes.be32 px, m])
          (Pt.add rhs
            (if i ≠ 0 then
              Pt.mul (Bytes.toNat (Sha256.finalize (Sha256.writeAll h [chunk32 agg i, Bytes.be32 px, m])) % N)
                (Pt.add (Pt.mul (Schnorr.challenge (chunk32 agg i) m (Bytes.be32 px)) (Pt.aff px py)) rp)
             else Pt.add (Pt.mul (Schnorr.challenge (chunk32 agg i) m (Bytes.be32 px)) (Pt.aff px py)) rp)) := by
  -- `whnf` unfolds one step of the recursion and stops at the stuck `match Codec.feLimit …`; nothing below it (`liftX`,
  -- `Fe.sqrt`) is touched.
  conv => lhs; whnf
  cases Codec.feLimit (chunk32 agg i) with
  | none => rfl
  | some rx => dsimp only [Option.bind_some]; cases Pt.liftX rx false <;> rfl

/-- Invariant `hA`: after the entries `pre` the hash object has absorbed exactly `tagBlock` and their bytes; hence every
    `z_i` the loop derives from its running hash is the one-shot `zSpec` (step `hz`). -/
theorem verifyLoop_ok_iff (agg : Bytes) (pms pre rest : List (Pt × Bytes)) (h : Sha256.State) (rhs out : Pt)
    (hp : pms = pre ++ rest)
    (hA : h = Sha256.after Sha256.iv 0 (tagBlock ++ hashedBytes agg 0 pre)) :
    verifyLoop agg pre.length rest h rhs = .ok out ↔
      ∃ terms : List Pt, (List.range' pre.length rest.length).map (termSpec agg pms) = terms.map some ∧
        out = terms.foldl Pt.add rhs := by
  induction rest generalizing pre h rhs with
  | nil =>
    rw [verifyLoop_nil]
    simp [eq_comm (a := out)]
  | cons x rest ih =>
    obtain ⟨pk, m⟩ := x
    have hget : pms[pre.length]? = some (pk, m) := by
      rw [hp]; simp
    have htk : pms.take (pre.length + 1) = pre ++ [(pk, m)] := by
      rw [hp, List.take_append]
      simp [List.take_of_length_le]
    rw [List.length_cons, List.range'_succ, List.map_cons, cons_exists_iff]
    cases pk with
    | inf =>
      rw [verifyLoop_inf]
      simp [termSpec, hget]
    | aff px py =>
      have hA' := hA ▸ Sha256.writeAll_after _ _ _ [chunk32 agg pre.length, Bytes.be32 px, m]
      have hb : tagBlock ++ hashedBytes agg 0 pre ++ [chunk32 agg pre.length, Bytes.be32 px, m].flatten
          = tagBlock ++ hashedBytes agg 0 (pre ++ [(Pt.aff px py, m)]) := by
        simp [hashedBytes_append, hashedBytes, Pt.xOf]
      rw [hb] at hA'
      -- streaming = one-shot: the state after the three writes is `after` of the longer prefix
      have hz : Bytes.toNat (Sha256.finalize
          (Sha256.writeAll h [chunk32 agg pre.length, Bytes.be32 px, m])) % N = zSpec agg pms pre.length := by
        rw [hA', Sha256.finalize_after, zSpec, htk]; rfl
      have hp' : pms = (pre ++ [(Pt.aff px py, m)]) ++ rest := by rw [hp]; simp
      have ih' := fun rhs' => ih (pre ++ [(Pt.aff px py, m)]) _ rhs' hp' hA'
      simp only [List.length_append, List.length_cons, List.length_nil, Nat.zero_add] at ih'
      simp only [termSpec, hget]
      cases hf : Codec.feLimit (chunk32 agg pre.length) with
      | none =>
        rw [verifyLoop_aff, hf]
        simp
      | some rx =>
        cases hl : Pt.liftX rx false with
        | none =>
          rw [verifyLoop_aff, hf, Option.bind_some, hl]
          simp [hl]
        | some R =>
          rw [verifyLoop_aff, hf, Option.bind_some, hl]
          simp only [hl, hz, ih', Option.some.injEq, exists_eq_left', List.foldl_cons]

theorem aggverify_cases (pks : List Pt) (ms : List Bytes) (agg : Bytes) :
    ((aggverify pks ms (some agg)).ret = 0 ∨ (aggverify pks ms (some agg)).ret = 1) ∧
    ((aggverify pks ms (some agg)).ret = 1 ↔
      agg.length = 32 * (pks.length + 1) ∧ ∃ rhs, verifyLoop agg 0 (List.zip pks ms) tagAgg Pt.inf = .ok rhs ∧
        Bytes.toNat (chunk32 agg pks.length) < N ∧
        Pt.add (Pt.neg (Pt.mulG (Bytes.toNat (chunk32 agg pks.length)))) rhs = Pt.inf) := by
  unfold aggverify
  simp only
  by_cases hg : agg.length / 32 ≤ 0 ∨ agg.length / 32 - 1 ≠ pks.length ∨ agg.length % 32 ≠ 0
  · rw [if_pos hg]
    exact ⟨Or.inl rfl, fun h => Nat.noConfusion h, fun h => by omega⟩
  rw [if_neg hg, and_iff_right (by omega : agg.length = 32 * (pks.length + 1))]
  cases verifyLoop agg 0 (List.zip pks ms) tagAgg Pt.inf with
  | illegal => exact ⟨Or.inl rfl, fun h => Nat.noConfusion h, fun ⟨_, h, _⟩ => LoopOut.noConfusion h⟩
  | reject => exact ⟨Or.inl rfl, fun h => Nat.noConfusion h, fun ⟨_, h, _⟩ => LoopOut.noConfusion h⟩
  | ok rhs =>
    simp only [Sc.setB32, LoopOut.ok.injEq, exists_eq_left']
    by_cases hov : Bytes.toNat (chunk32 agg pks.length) ≥ N
    · simp only [hov, decide_true, if_true]
      exact ⟨Or.inl trivial, fun h => Nat.noConfusion h, fun h => by omega⟩
    · have hlt : Bytes.toNat (chunk32 agg pks.length) < N := by omega
      simp only [hov, decide_false, Bool.false_eq_true, if_false, Nat.mod_eq_of_lt hlt, and_iff_right hlt, ← Pt.isInf_iff]
      split <;> simp [*]

section Algebra
variable (gl : GroupLaw)
include gl

/-- `b` is the `i ≠ 0` of both loops: the verifier multiplies its term by `z`, the aggregator its scalar. -/
theorem mulG_add_term (S s z : Nat) (hS : S < N) (hs : s < N) (hz : z < N) (b : Prop) [Decidable b] :
    Pt.add (Pt.mul S Pt.G) (if b then Pt.mul z (Pt.mulG s) else Pt.mulG s) =
      Pt.mul (Sc.add S (if b then Sc.mul s z else s)) Pt.G := by
  have hN : 0 < N := by omega
  by_cases hb : b
  · rw [if_pos hb, if_pos hb, Pt.mulG, gl.mul_mul gl.valid_G gl.mul_N_G hz hs,
      gl.mul_add_mod gl.valid_G gl.mul_N_G hS (Nat.mod_lt _ hN)]; rfl
  · rw [if_neg hb, if_neg hb, Pt.mulG, gl.mul_add_mod gl.valid_G gl.mul_N_G hS hs]; rfl

theorem neg_add_self_mulG (k : Nat) (hk : k < mulBound) :
    Pt.add (Pt.neg (Pt.mul k Pt.G)) (Pt.mul k Pt.G) = Pt.inf := by
  have hv := gl.valid_mul gl.valid_G hk
  rw [gl.add_comm _ _ (gl.valid_neg _ hv) hv, gl.add_neg _ hv]

end Algebra

/-- The BIP-340 verification equation for one entry `(P, m, r ‖ s)`, in the form `s•G = R + e•P`; `Schnorr.verify` checks
    `(-e)•P + s•G = R` (why this form: `agg_complete` in Props/C17.lean). -/
def bip340Holds (e : Entry) : Bool :=
  match e.1 with
  | .inf => false
  | .aff px _ =>
    match Codec.feLimit (e.2.2.take 32) with
    | none => false
    | some rx =>
      match Pt.liftX rx false with
      | none => false
      | some R =>
        decide (Bytes.toNat (e.2.2.drop 32) < N) &&
        decide (Pt.mulG (Bytes.toNat (e.2.2.drop 32)) =
          Pt.add (Pt.mul (Schnorr.challenge (e.2.2.take 32) e.2.1 (Bytes.be32 px)) e.1) R)

theorem bip340Holds_elim {pk : Pt} {m sg : Bytes} (h : bip340Holds (pk, m, sg) = true) :
    ∃ px py rx R, pk = .aff px py ∧ Codec.feLimit (sg.take 32) = some rx ∧ Pt.liftX rx false = some R ∧
      Bytes.toNat (sg.drop 32) < N ∧
      Pt.mulG (Bytes.toNat (sg.drop 32)) = Pt.add (Pt.mul (Schnorr.challenge (sg.take 32) m (Bytes.be32 px)) pk) R := by
  unfold bip340Holds at h
  split at h
  · cases h
  · next px py hpk =>
    split at h
    · cases h
    · next rx hf =>
      split at h
      · cases h
      · next R hl =>
        simp only [Bool.and_eq_true, decide_eq_true_eq] at h
        exact ⟨px, py, rx, R, hpk, hf, hl, h.1, h.2⟩

theorem key_valid_of_bip340Holds (e : Entry) (h : bip340Holds e = true) : e.1 ≠ Pt.inf := by
  obtain ⟨_, _, _, _, hpk, -⟩ := bip340Holds_elim (pk := e.1) (m := e.2.1) (sg := e.2.2) h
  rw [hpk]; exact Pt.noConfusion

/-- The loop invariant of completeness: the verifier's running sum is `S•G` for the aggregator's running scalar `S`, both
    loops being in the same hash state. -/
theorem verifyLoop_complete (gl : GroupLaw) (pre post : Bytes) (i : Nat) (xs : List Entry)
    (h : Sha256.State) (S : Nat) (r : Sha256.State × Nat)
    (hpre : pre.length = 32 * i) (hsig : ∀ e ∈ xs, e.2.2.length = 64)
    (hok : ∀ e ∈ xs, bip340Holds e = true) (hS : S < N)
    (hr : absorbNewSt i xs h S = some r) :
    verifyLoop (pre ++ (rs xs ++ post)) i (keyMsgs xs) h (Pt.mul S Pt.G) = .ok (Pt.mul r.2 Pt.G) := by
  have hN : 0 < N := by omega
  induction xs generalizing i h S pre with
  | nil =>
    simp only [absorbNewSt, Option.some.injEq] at hr
    subst hr
    rfl
  | cons e xs ih =>
    obtain ⟨pk, m, sg⟩ := e
    have hsg := length_take32 (hsig (pk, m, sg) (by simp))
    obtain ⟨px, py, rx, R, rfl, hf, hl, hslt, heq⟩ := bip340Holds_elim (hok (pk, m, sg) (by simp))
    simp only [absorbNewSt] at hr
    have hchunk : chunk32 (pre ++ (rs ((Pt.aff px py, m, sg) :: xs) ++ post)) i = sg.take 32 := by
      simp only [rs_cons, List.append_assoc]
      exact chunk32_mid _ _ _ _ hpre hsg
    have hf' : Codec.feLimit (chunk32 (pre ++ (rs ((Pt.aff px py, m, sg) :: xs) ++ post)) i) = some rx := by
      rw [hchunk, hf]
    rw [keyMsgs_cons, verifyLoop_aff, hf', Option.bind_some, hl, hchunk]
    -- by the BIP-340 equation the verifier's `e•P + R` is `s•G`, which `mulG_add_term` moves into the scalar
    simp only [← heq]
    rw [mulG_add_term gl S _ _ hS hslt (Nat.mod_lt _ hN)]
    rw [Nat.mod_eq_of_lt hslt] at hr
    have := ih (pre ++ sg.take 32) (i + 1) _ _
      (by simp only [List.length_append, hsg, hpre]; omega)
      (fun e he => hsig e (by simp [he])) (fun e he => hok e (by simp [he]))
      (Nat.mod_lt _ hN) hr
    simp only [rs_cons, List.append_assoc] at this ⊢
    exact this

end Halfagg

end SecpZkp
