import SecpZkp.Model.Musig
import SecpZkp.Proofs.BytesBasic
import SecpZkp.Proofs.Bytes
import SecpZkp.Proofs.Schnorr
import SecpZkp.Proofs.Musig13
/-
  What property C12 (MuSig2 = BIP-327, `Props/C12.lean`) rests on: closed forms of the API functions on honest-shaped
  inputs; the per-signer algebra (`partial_core`); the key-aggregation invariant `CacheInv` and its preservation by
  tweak calls; the honest run in one statement (`honest_run`), which ends in `C02.verify_of_gmul`.
-/
namespace SecpZkp
namespace Musig
open SecpZkp.Algebra


theorem cacheLoad_of_magic {c : KeyaggCache} (h : c.magic = keyaggCacheMagic) :
    cacheLoad c = some ⟨c.pk, c.secondPk, c.pksHash, c.tweak % N, c.parityAcc % 2⟩ := by
  simp [cacheLoad, h]

theorem cacheLoad_bad {c : KeyaggCache} (h : c.magic ≠ keyaggCacheMagic) : cacheLoad c = none := by
  simp [cacheLoad, h]

theorem sessionLoad_of_magic {s : Session} (h : s.magic = sessionMagic) :
    sessionLoad s = some ⟨s.finNonceParity, s.finNonce, s.noncecoef % N, s.challenge % N, s.sPart % N⟩ := by
  simp [sessionLoad, h]

theorem sessionLoad_bad {s : Session} (h : s.magic ≠ sessionMagic) : sessionLoad s = none := by
  simp [sessionLoad, h]

theorem secnonceLoad_save {k1 k2 : Nat} (pk : Pt) (h1 : k1 < N) (h2 : k2 < N) (h : ¬ (k1 = 0 ∧ k2 = 0)) :
    secnonceLoad (secnonceSave k1 k2 pk) = some (k1, k2, pk) := by
  simp [secnonceLoad, secnonceSave, Nat.mod_eq_of_lt h1, Nat.mod_eq_of_lt h2, h]

theorem secnonceLoad_save_zero (pk : Pt) : secnonceLoad (secnonceSave 0 0 pk) = none :=
  secnonceLoad_zero_scalars rfl rfl


/-- The secret key as `partial_sign` uses it: times `g·gacc` of BIP-327. -/
def signSk (c : KeyaggCache) (d : Nat) : Nat :=
  if Fe.isOdd c.pk.yOf != (c.parityAcc % 2 == 1) then Sc.neg d else d

/-- The scalar `partial_sign` writes. -/
def signScalar (c : KeyaggCache) (sess : Session) (pk : Pt) (d k1 k2 : Nat) : Nat :=
  let mu := keyaggCoefInternal c.pksHash pk c.secondPk
  let k1' := if sess.finNonceParity ≠ 0 then Sc.neg k1 else k1
  let k2' := if sess.finNonceParity ≠ 0 then Sc.neg k2 else k2
  Sc.add (Sc.mul (sess.challenge % N) (Sc.mul (signSk c d) mu)) (Sc.add k1' (Sc.mul (sess.noncecoef % N) k2'))

theorem partialSign_eq {d k1 k2 : Nat} (hd0 : 0 < d) (hdN : d < N) (hk1 : k1 < N) (hk2 : k2 < N)
    (hk : ¬ (k1 = 0 ∧ k2 = 0)) {c : KeyaggCache} {sess : Session} (hc : c.magic = keyaggCacheMagic)
    (hs : sess.magic = sessionMagic) {x y : Nat} :
    partialSign true (some (secnonceSave k1 k2 (Pt.aff x y))) (some ⟨Bytes.be32 d, Pt.aff x y⟩) (some c) (some sess)
      = ⟨1, ⟨some (partialSigSave (signScalar c sess (Pt.aff x y) d k1 k2)), some Secnonce.zero⟩, 0⟩ := by
  simp only [partialSign, secnonceLoad_save _ hk1 hk2 hk, KeysLemmas.keypairLoad_valid hd0 hdN (q := Pt.aff x y) (fun h => Pt.noConfusion h), cacheLoad_of_magic hc,
    sessionLoad_of_magic hs, signScalar, signSk, keyaggCoef]
  simp

/-- The point that `partial_sig_verify` tests for infinity: `e·a·g•P − s•G + R*`.  `s % N % N`: the scalar goes through
    `partialSigSave` and then `partialSigLoad`, each of which reduces. -/
def verifyTmp (c : KeyaggCache) (sess : Session) (pk r1 r2 : Pt) (s : Nat) : Pt :=
  let mu := keyaggCoefInternal c.pksHash pk c.secondPk
  let e0 := Sc.mul (sess.challenge % N) mu
  let e := if Fe.isOdd c.pk.yOf != (c.parityAcc % 2 == 1) then Sc.neg e0 else e0
  let rj := effectiveNonce r1 r2 (sess.noncecoef % N)
  let rj' := if sess.finNonceParity ≠ 0 then Pt.neg rj else rj
  Pt.add (Pt.add (Pt.mul e pk) (Pt.mulG (Sc.neg (s % N % N)))) rj'

theorem partialSigVerify_eq {c : KeyaggCache} {sess : Session} (hc : c.magic = keyaggCacheMagic)
    (hs : sess.magic = sessionMagic) (x y s : Nat) (r1 r2 : Pt) :
    partialSigVerify (some (partialSigSave s)) (some (pubnonceSave r1 r2)) (some (Pt.aff x y)) (some c) (some sess)
      = ⟨if (verifyTmp c sess (Pt.aff x y) r1 r2 s).isInf then 1 else 0, (), 0⟩ := by
  simp only [partialSigVerify, sessionLoad_of_magic hs, cacheLoad_of_magic hc, pubnonceLoad, pubnonceSave,
    partialSigLoad, partialSigSave, verifyTmp, keyaggCoef]
  simp

def sgn (b : Bool) : ZMod N := if b then -1 else 1

/-- a conditional negation is a factor `±1`: the signs then enter every identity linearly and `ring` needs no cases -/
theorem ite_neg_eq (p : Prop) [Decidable p] (x : ZMod N) : (if p then -x else x) = sgn (decide p) * x := by
  by_cases h : p <;> simp [h, sgn]

theorem sgn_bne (a b : Bool) : sgn (a != b) = sgn a * sgn b := by
  cases a <;> cases b <;> simp [sgn]

section
variable [HasGroupLaw]

/-- With `s = e·(±d)·a + (±k1) + b·(±k2)` the verifier's point `(±e·a)•(d•G) − s•G ± (b•(k2•G) + k1•G)` is `∞`; the two
    signs are arbitrary but the same on both sides. -/
theorem partial_core (p q : Prop) [Decidable p] [Decidable q] (e mu b d k1 k2 : Nat) (hb : b < N) :
    Pt.add (Pt.add (Pt.mul (if p then Sc.neg (Sc.mul e mu) else Sc.mul e mu) (gmul (d : ZMod N)))
        (Pt.mulG (Sc.neg ((Sc.add (Sc.mul e (Sc.mul (if p then Sc.neg d else d) mu))
          (Sc.add (if q then Sc.neg k1 else k1) (Sc.mul b (if q then Sc.neg k2 else k2)))) % N % N))))
      (if q then Pt.neg (Pt.add (Pt.mul b (gmul (k2 : ZMod N))) (gmul (k1 : ZMod N)))
        else Pt.add (Pt.mul b (gmul (k2 : ZMod N))) (gmul (k1 : ZMod N))) = .inf := by
  rw [mul_gmul' (ite_neg_lt p (Sc.mul_lt _ _)), mul_gmul' hb, add_gmul, ite_neg_gmul, mulG_gmul (Sc.neg_lt_N _),
    add_gmul, add_gmul, gmul_eq_inf_iff]
  simp only [cast_neg, cast_add, cast_mul, ZMod.natCast_mod, cast_ite_neg, ite_neg_eq]
  ring

theorem verifyTmp_signScalar (c : KeyaggCache) (sess : Session) {d k1 k2 : Nat} (hd : d < N) (hk1 : k1 < N)
    (hk2 : k2 < N) :
    verifyTmp c sess (Pt.mulG d) (Pt.mulG k1) (Pt.mulG k2) (signScalar c sess (Pt.mulG d) d k1 k2) = .inf := by
  rw [mulG_gmul hd, mulG_gmul hk1,
    mulG_gmul hk2]
  unfold verifyTmp signScalar signSk effectiveNonce
  exact partial_core _ _ _ _ _ d k1 k2 (Nat.mod_lt _ N_pos)

end

theorem partialSign_ret_one {d k1 k2 : Nat} {pk : Pt} {c : KeyaggCache} {sess : Session}
    (h : (partialSign true (some (secnonceSave k1 k2 pk)) (some ⟨Bytes.be32 d, pk⟩) (some c) (some sess)).ret = 1) :
    c.magic = keyaggCacheMagic ∧ sess.magic = sessionMagic ∧ ¬ (k1 % N = 0 ∧ k2 % N = 0) := by
  rcases partialSign_cases true (secnonceSave k1 k2 pk) (some ⟨Bytes.be32 d, pk⟩) (some c) (some sess) with
    h0 | ⟨_, _, _, c', ci, s', si, _, hz, _, _, _, _, hc, hci, hs, hsi⟩
  · rw [h0] at h; cases h
  cases hc; cases hs
  refine ⟨?_, ?_, hz⟩
  · by_contra hm; rw [cacheLoad_bad hm] at hci; cases hci
  · by_contra hm; rw [sessionLoad_bad hm] at hsi; cases hsi


/-- what `nonce_process` hashes and combines -/
def withAdaptor (r1 : Pt) : Option Pt → Pt
  | none => r1
  | some a => Pt.add r1 a

def finalNonce (r1a r2 : Pt) (aggPk32 msg : Bytes) : Pt :=
  match effectiveNonce r1a r2 (nonceCoef r1a r2 aggPk32 msg) with
  | .inf => Pt.G
  | q => q

theorem finalNonce_of_inf {r1a r2 : Pt} {aggPk32 msg : Bytes}
    (h : effectiveNonce r1a r2 (nonceCoef r1a r2 aggPk32 msg) = .inf) : finalNonce r1a r2 aggPk32 msg = Pt.G := by
  simp [finalNonce, h]

theorem finalNonce_of_ne_inf {r1a r2 : Pt} {aggPk32 msg : Bytes}
    (h : effectiveNonce r1a r2 (nonceCoef r1a r2 aggPk32 msg) ≠ .inf) :
    finalNonce r1a r2 aggPk32 msg = effectiveNonce r1a r2 (nonceCoef r1a r2 aggPk32 msg) := by
  unfold finalNonce
  cases hq : effectiveNonce r1a r2 (nonceCoef r1a r2 aggPk32 msg) with
  | inf => exact absurd hq h
  | aff x y => rfl

/-- The session object `nonce_process` writes; `r1a` is the first aggregate nonce with the adaptor already added. -/
def sessionOf (c : KeyaggCache) (r1a r2 : Pt) (msg : Bytes) : Session :=
  let aggPk32 := Bytes.be32 c.pk.xOf
  let b := nonceCoef r1a r2 aggPk32 msg
  let fin := finalNonce r1a r2 aggPk32 msg
  let e := Schnorr.challenge (Bytes.be32 fin.xOf) msg aggPk32
  let sPart :=
    if c.tweak % N ≠ 0 then
      let et := Sc.mul e (c.tweak % N)
      if Fe.isOdd c.pk.yOf then Sc.neg et else et
    else 0
  sessionSave ⟨if Fe.isOdd fin.yOf then 1 else 0, Bytes.be32 fin.xOf, b, e, sPart⟩

theorem nonceProcess_eq {c : KeyaggCache} (hc : c.magic = keyaggCacheMagic) {an : Aggnonce}
    (han : an.magic = aggnonceMagic) (msg : Bytes) {adaptor : Option Pt} (ha : adaptor ≠ some .inf) :
    nonceProcess true (some an) (some msg) (some c) adaptor
      = ⟨1, some (sessionOf c (withAdaptor an.r1 adaptor) an.r2 msg), 0⟩ := by
  rcases adaptor with _ | _ | ⟨x, y⟩
  · simp only [nonceProcess, cacheLoad_of_magic hc, aggnonceLoad, han, nonceProcessInternal, Bool.not_true,
      Bool.false_eq_true, if_false, if_true]
    rfl
  · exact absurd rfl ha
  · simp only [nonceProcess, cacheLoad_of_magic hc, aggnonceLoad, han, nonceProcessInternal, Bool.not_true,
      Bool.false_eq_true, if_false, if_true]
    rfl

theorem sessionOf_magic (c : KeyaggCache) (r1a r2 : Pt) (msg : Bytes) :
    (sessionOf c r1a r2 msg).magic = sessionMagic := rfl


theorem keyaggCoefInternal_lt (h : Bytes) (pk second : Pt) : keyaggCoefInternal h pk second < N := by
  unfold keyaggCoefInternal
  split
  · exact lt_of_lt_of_le (by decide) two_le_N
  · exact Nat.mod_lt _ N_pos

/-- BIP-327 `KeyAggCoeffInternal`, transcribed from the specification text. -/
def keyAggCoeffSpec (L : Bytes) (second pk : Pt) : Nat :=
  if pk = second then 1
  else Bytes.toNat (Sha256.finalize (Sha256.writeAll shaKeyaggCoef [L, Codec.serialize33 pk])) % N

/-- `hpk`: the C code's extra test "the second key is not the zero point" matters for the zero object only. -/
theorem keyaggCoefInternal_eq (L : Bytes) {pk : Pt} (second : Pt) (hpk : pk ≠ .inf) :
    keyaggCoefInternal L pk second = keyAggCoeffSpec L second pk := by
  unfold keyaggCoefInternal keyAggCoeffSpec
  by_cases h : pk = second
  · subst h
    cases pk with
    | inf => exact absurd rfl hpk
    | aff x y => simp [Pt.isInf]
  · simp [h]

/-- BIP-327 `GetSecondKey`, with `∞` for its 33 zero bytes. -/
def secondKey : List Pt → Pt
  | [] => .inf
  | p0 :: rest => (firstDifferent p0 rest).getD .inf

theorem firstDifferent_mem {p0 q : Pt} {l : List Pt} (h : firstDifferent p0 l = some q) : q ∈ l ∧ q ≠ p0 := by
  induction l with
  | nil => simp [firstDifferent] at h
  | cons a l ih =>
    unfold firstDifferent at h
    split at h
    · have := ih h; exact ⟨List.mem_cons_of_mem _ this.1, this.2⟩
    · next hne => cases h; exact ⟨List.mem_cons_self, hne⟩

/-- the cache object `pubkey_agg` writes -/
def aggCache (ps : List Pt) : KeyaggCache :=
  ⟨keyaggCacheMagic, aggPoint (pksHash ps) (secondKey ps) ps, secondKey ps, pksHash ps, 0, 0⟩

theorem pubkeyAgg_eq (wa wc : Bool) {ps : List Pt} (hne : ps ≠ []) (hv : ∀ p ∈ ps, p ≠ .inf) :
    pubkeyAgg wa wc (ps.map some) =
      ⟨1, ⟨if wa then some (Keys.evenY (aggPoint (pksHash ps) (secondKey ps) ps)).1 else none,
           if wc then some (aggCache ps) else none⟩, 0⟩ := by
  have hfm : (ps.map some).filterMap id = ps := by simp [List.filterMap_map]
  have hany : (ps.map some).any Option.isNone = false := by simp
  have hinf : ps.any Pt.isInf = false := by
    rw [List.any_eq_false]; intro p hp; have := hv p hp; cases p <;> simp_all [Pt.isInf]
  cases ps with
  | nil => exact absurd rfl hne
  | cons p0 rest =>
    unfold pubkeyAgg
    rw [hfm]
    simp only [hany, hinf]
    cases hfd : firstDifferent p0 rest with
    | none => simp [secondKey, hfd, aggCache, cacheSave]
    | some q =>
      have hq := (firstDifferent_mem hfd).1
      have hqi : q ≠ .inf := hv q (List.mem_cons_of_mem _ hq)
      cases q with
      | inf => exact absurd rfl hqi
      | aff x y => simp [secondKey, hfd, aggCache, cacheSave]

theorem aggPoint_eq_sum (h : Bytes) (second : Pt) (ps : List Pt) :
    aggPoint h second ps = Pt.sum (ps.map fun p => Pt.mul (keyaggCoefInternal h p second) p) := by
  simp [aggPoint, Pt.sum, List.foldl_map]

/-- The cache object that `pubkey_ec_tweak_add` / `pubkey_xonly_tweak_add` write (`tweakAddInternal`, BIP-327 ApplyTweak):
    the x-only variant first negates key, parity accumulator and tweak accumulator iff the key has odd y. -/
def tweakedCache (xonly : Bool) (c : KeyaggCache) (t : Nat) : KeyaggCache :=
  let flip := xonly && Fe.isOdd c.pk.yOf
  let pk1 := if flip then Pt.neg c.pk else c.pk
  let par1 := if flip then (c.parityAcc % 2) ^^^ 1 else c.parityAcc % 2
  let tacc1 := if flip then Sc.neg (c.tweak % N) else c.tweak % N
  cacheSave ⟨Pt.add pk1 (Pt.mulG t), c.secondPk, c.pksHash, Sc.add tacc1 t, par1⟩

theorem tweakAddInternal_ret_one {xonly w : Bool} {c : KeyaggCache} {tw : Bytes}
    (h : (tweakAddInternal xonly w (some c) (some tw)).ret = 1) :
    c.magic = keyaggCacheMagic ∧ Bytes.toNat tw < N ∧ (tweakedCache xonly c (Bytes.toNat tw % N)).pk ≠ .inf ∧
    tweakAddInternal xonly w (some c) (some tw) =
      ⟨1, ⟨if w then some (tweakedCache xonly c (Bytes.toNat tw % N)).pk else none,
           some (tweakedCache xonly c (Bytes.toNat tw % N))⟩, 0⟩ := by
  by_cases hc : c.magic = keyaggCacheMagic
  swap
  · simp [tweakAddInternal, cacheLoad_bad hc] at h
  by_cases hov : Bytes.toNat tw < N
  swap
  · have : Bytes.toNat tw ≥ N := by omega
    simp [tweakAddInternal, cacheLoad_of_magic hc, Sc.setB32, this] at h
  have hov' : ¬ Bytes.toNat tw ≥ N := by omega
  refine ⟨hc, hov, ?_⟩
  simp only [tweakAddInternal, cacheLoad_of_magic hc, Sc.setB32, hov', decide_false, Bool.false_eq_true,
    if_false] at h ⊢
  simp only [tweakedCache, cacheSave]
  generalize Pt.add (if (xonly && Fe.isOdd c.pk.yOf) = true then c.pk.neg else c.pk)
    (Pt.mulG (Bytes.toNat tw % N)) = pk2 at h ⊢
  cases pk2 with
  | inf => simp at h
  | aff x y => simp

section
variable [HasGroupLaw]

/-- The BIP-327 invariant `Q = gacc•Q0 + tacc•G` relative to the untweaked aggregate point `Q0` (`gacc = −1` iff the parity
    accumulator is 1), for an object that loads. -/
def CacheInv (Q0 : Pt) (c : KeyaggCache) : Prop :=
  c.magic = keyaggCacheMagic ∧
  c.pk = Pt.add (if c.parityAcc % 2 = 1 then Pt.neg Q0 else Q0) (Pt.mulG (c.tweak % N))

theorem cacheInv_tweaked {Q0 : Pt} (hQ0 : Q0.valid = true) {c : KeyaggCache} (hinv : CacheInv Q0 c)
    (xonly : Bool) {t : Nat} (ht : t < N) : CacheInv Q0 (tweakedCache xonly c t) := by
  obtain ⟨-, hpk⟩ := hinv
  refine ⟨rfl, ?_⟩
  have hnQ0 : (Pt.neg Q0).valid = true := gl.valid_neg _ hQ0
  have hN := N_pos
  -- `tweakedCache` stores through `cacheSave` (the parity in one byte: `% 256`), `CacheInv` reads with the reductions of
  -- `cacheLoad` (`% 2`, `% N`); the `show` unfolds both
  show Pt.add (if (xonly && Fe.isOdd c.pk.yOf) = true then Pt.neg c.pk else c.pk) (Pt.mulG t) =
    Pt.add (if (if (xonly && Fe.isOdd c.pk.yOf) = true then c.parityAcc % 2 ^^^ 1 else c.parityAcc % 2) % 256 % 2 = 1
        then Pt.neg Q0 else Q0)
      (Pt.mulG (Sc.add (if (xonly && Fe.isOdd c.pk.yOf) = true then Sc.neg (c.tweak % N) else c.tweak % N) t % N % N))
  rw [hpk, mulG_gmul ht, mulG_gmul (Nat.mod_lt _ hN), mulG_gmul (Nat.mod_lt _ hN)]
  rcases Nat.mod_two_eq_zero_or_one c.parityAcc with hp | hp <;> cases (xonly && Fe.isOdd (Pt.add _ _).yOf) <;>
    simp only [hp, Bool.false_eq_true, if_true, if_false, zero_ne_one, Nat.zero_mod, Nat.one_mod, Nat.mod_succ,
      Nat.zero_xor, Nat.xor_self, neg_add_gmul hQ0, neg_add_gmul hnQ0, add_gmul_assoc hQ0, add_gmul_assoc hnQ0,
      neg_neg_valid hQ0, ZMod.natCast_mod, cast_add, cast_neg]

end

/-- One call of `pubkey_ec_tweak_add` (`xonly = false`) or `pubkey_xonly_tweak_add` (`xonly = true`). -/
structure TweakStep where
  xonly : Bool
  wantOut : Bool
  tweak : Bytes

def applyTweaks : KeyaggCache → List TweakStep → Option KeyaggCache
  | c, [] => some c
  | c, st :: rest =>
    let r := tweakAddInternal st.xonly st.wantOut (some c) (some st.tweak)
    if r.ret = 1 then
      match r.out.cache with
      | some c' => applyTweaks c' rest
      | none => none
    else none

theorem applyTweaks_cons {c c' : KeyaggCache} {st : TweakStep} {rest : List TweakStep}
    (h : applyTweaks c (st :: rest) = some c') :
    (tweakAddInternal st.xonly st.wantOut (some c) (some st.tweak)).ret = 1 ∧
    applyTweaks (tweakedCache st.xonly c (Bytes.toNat st.tweak % N)) rest = some c' := by
  unfold applyTweaks at h
  simp only at h
  split at h
  · next hret =>
    obtain ⟨_, _, _, he⟩ := tweakAddInternal_ret_one hret
    rw [he] at h
    exact ⟨hret, h⟩
  · exact absurd h (by simp)

section
variable [HasGroupLaw]

theorem cacheInv_applyTweaks {Q0 : Pt} (hQ0 : Q0.valid = true) (tws : List TweakStep) {c c' : KeyaggCache}
    (hinv : CacheInv Q0 c) (h : applyTweaks c tws = some c') :
    CacheInv Q0 c' ∧ c'.secondPk = c.secondPk ∧ c'.pksHash = c.pksHash ∧ (tws ≠ [] → c'.pk ≠ .inf) := by
  induction tws generalizing c with
  | nil =>
    simp only [applyTweaks, Option.some.injEq] at h
    subst h
    exact ⟨hinv, rfl, rfl, fun h => absurd rfl h⟩
  | cons st rest ih =>
    obtain ⟨hret, hrest⟩ := applyTweaks_cons h
    obtain ⟨_, hlt, hne, _⟩ := tweakAddInternal_ret_one hret
    have hinv1 := cacheInv_tweaked hQ0 hinv st.xonly (Nat.mod_lt (Bytes.toNat st.tweak) N_pos)
    obtain ⟨h1, h2, h3, h4⟩ := ih hinv1 hrest
    refine ⟨h1, h2, h3, fun _ => ?_⟩
    cases rest with
    | nil =>
      simp only [applyTweaks, Option.some.injEq] at hrest
      subst hrest
      exact hne
    | cons a l => exact h4 (by simp)

end


structure Signer where
  d : Nat
  k1 : Nat
  k2 : Nat

namespace Signer
def pk (s : Signer) : Pt := Pt.mulG s.d
def keypair (s : Signer) : Keys.Keypair := ⟨Bytes.be32 s.d, Pt.mulG s.d⟩
/-- the secret and the public nonce object as `nonce_gen` writes them -/
def secnonce (s : Signer) : Secnonce := secnonceSave s.k1 s.k2 (Pt.mulG s.d)
def pubnonce (s : Signer) : Pubnonce := pubnonceSave (Pt.mulG s.k1) (Pt.mulG s.k2)
def Honest (s : Signer) : Prop := 0 < s.d ∧ s.d < N ∧ s.k1 < N ∧ s.k2 < N ∧ ¬ (s.k1 = 0 ∧ s.k2 = 0)
instance (s : Signer) : Decidable s.Honest := by unfold Honest; infer_instance
end Signer

theorem sumPubnonces_eq (L : List Signer) (a1 a2 : Pt) :
    sumPubnonces (L.map Signer.pubnonce) (a1, a2) =
      some ((L.map fun s => Pt.mulG s.k1).foldl Pt.add a1, (L.map fun s => Pt.mulG s.k2).foldl Pt.add a2) := by
  induction L generalizing a1 a2 with
  | nil => rfl
  | cons s L ih =>
    simp only [List.map_cons, sumPubnonces, Signer.pubnonce, pubnonceLoad, pubnonceSave, if_true, List.foldl_cons]
    exact ih _ _

theorem nonceAgg_eq {L : List Signer} (hne : L ≠ []) :
    nonceAgg true (L.map fun s => some s.pubnonce) =
      ⟨1, some (aggnonceSave (Pt.sum (L.map fun s => Pt.mulG s.k1)) (Pt.sum (L.map fun s => Pt.mulG s.k2))), 0⟩ := by
  have hfm : (L.map fun s => some s.pubnonce).filterMap id = L.map Signer.pubnonce := by
    simp [List.filterMap_map]
  have hany : (L.map fun s => some s.pubnonce).any Option.isNone = false := by simp
  have hemp : (L.map fun s => some s.pubnonce).isEmpty = false := by simpa using hne
  unfold nonceAgg
  rw [hfm, sumPubnonces_eq]
  simp only [hany, hemp, Pt.sum]
  rfl

section
variable [HasGroupLaw]

theorem aggPoint_signers (h : Bytes) (sec : Pt) (L : List Signer) (hd : ∀ s ∈ L, s.d < N) :
    aggPoint h sec (L.map Signer.pk) =
      gmul ((L.map fun s => ((keyaggCoefInternal h s.pk sec : Nat) : ZMod N) * (s.d : ZMod N)).sum) := by
  rw [aggPoint_eq_sum, List.map_map]
  refine sum_gmul L _ _ fun s hs => ?_
  have hs : s.pk = gmul (s.d : ZMod N) := mulG_gmul (hd s hs)
  rw [Function.comp_apply, hs, mul_gmul' (keyaggCoefInternal_lt _ _ _), ← hs]

end


section
variable [HasGroupLaw]

theorem partialSign_signer {s : Signer} (hs : s.Honest) {c : KeyaggCache} {sess : Session}
    (hc : c.magic = keyaggCacheMagic) (hss : sess.magic = sessionMagic) :
    partialSign true (some s.secnonce) (some s.keypair) (some c) (some sess)
      = ⟨1, ⟨some (partialSigSave (signScalar c sess s.pk s.d s.k1 s.k2)), some Secnonce.zero⟩, 0⟩ := by
  obtain ⟨hd0, hdN, hk1, hk2, hk⟩ := hs
  obtain ⟨x, y, hpk⟩ := mulG_eq_aff hd0 hdN
  simp only [Signer.secnonce, Signer.keypair, Signer.pk, hpk]
  exact partialSign_eq hd0 hdN hk1 hk2 hk hc hss

end

theorem sumPartialSigs_eq (l : List Nat) (acc : Nat) (hacc : acc < N) :
    ∃ r, sumPartialSigs (l.map partialSigSave) acc = some r ∧ r < N ∧
      (r : ZMod N) = (acc : ZMod N) + (l.map (Nat.cast : Nat → ZMod N)).sum := by
  induction l generalizing acc with
  | nil => exact ⟨acc, rfl, hacc, by simp⟩
  | cons t l ih =>
    obtain ⟨r, h1, h2, h3⟩ := ih (Sc.add acc (t % N % N)) (Sc.add_lt _ _)
    refine ⟨r, ?_, h2, ?_⟩
    · simpa [sumPartialSigs, partialSigLoad, partialSigSave] using h1
    · rw [h3]; simp [add_assoc]

theorem partialSigAgg_eq {sess : Session} (hs : sess.magic = sessionMagic) {l : List Nat} (hne : l ≠ []) :
    ∃ r, r < N ∧ (r : ZMod N) = (sess.sPart : ZMod N) + (l.map (Nat.cast : Nat → ZMod N)).sum ∧
      partialSigAgg true (some sess) (l.map fun t => some (partialSigSave t))
        = ⟨1, some (sess.finNonce ++ Bytes.be32 r), 0⟩ := by
  obtain ⟨r, h1, h2, h3⟩ := sumPartialSigs_eq l (sess.sPart % N) (Nat.mod_lt _ N_pos)
  refine ⟨r, h2, by rw [h3, ZMod.natCast_mod], ?_⟩
  have hfm : (l.map fun t => some (partialSigSave t)).filterMap id = l.map partialSigSave := by
    simp [List.filterMap_map]
  have hany : (l.map fun t => some (partialSigSave t)).any Option.isNone = false := by simp
  have hemp : (l.map fun t => some (partialSigSave t)).isEmpty = false := by simpa using hne
  unfold partialSigAgg
  rw [hfm]
  simp only [hany, hemp, sessionLoad_of_magic hs, h1]
  rfl

theorem cast_signScalar (c : KeyaggCache) (sess : Session) (pk : Pt) (d k1 k2 : Nat) :
    ((signScalar c sess pk d k1 k2 : Nat) : ZMod N) =
      (sess.challenge : ZMod N) * (sgn (Fe.isOdd c.pk.yOf != (c.parityAcc % 2 == 1)) * (d : ZMod N) *
          ((keyaggCoefInternal c.pksHash pk c.secondPk : Nat) : ZMod N)) +
        (sgn (decide (sess.finNonceParity ≠ 0)) * (k1 : ZMod N) +
          (sess.noncecoef : ZMod N) * (sgn (decide (sess.finNonceParity ≠ 0)) * (k2 : ZMod N))) := by
  simp only [signScalar, signSk, cast_add, cast_mul, ZMod.natCast_mod, cast_ite_neg, ite_neg_eq, Bool.decide_eq_true]

theorem sum_signScalar (c : KeyaggCache) (sess : Session) (L : List Signer) :
    (L.map fun s => ((signScalar c sess s.pk s.d s.k1 s.k2 : Nat) : ZMod N)).sum =
      (sess.challenge : ZMod N) * sgn (Fe.isOdd c.pk.yOf != (c.parityAcc % 2 == 1)) *
          (L.map fun s => ((keyaggCoefInternal c.pksHash s.pk c.secondPk : Nat) : ZMod N) * (s.d : ZMod N)).sum +
        sgn (decide (sess.finNonceParity ≠ 0)) *
          ((L.map fun s => (s.k1 : ZMod N)).sum + (sess.noncecoef : ZMod N) * (L.map fun s => (s.k2 : ZMod N)).sum) := by
  induction L with
  | nil => simp
  | cons s L ih =>
    simp only [List.map_cons, List.sum_cons]
    rw [ih, cast_signScalar]
    ring

theorem sessionOf_fields {c : KeyaggCache} {r1a r2 : Pt} {msg : Bytes} {rx ry : Nat}
    (hfin : finalNonce r1a r2 (Bytes.be32 c.pk.xOf) msg = .aff rx ry) :
    (sessionOf c r1a r2 msg).finNonce = Bytes.be32 rx ∧
    (sessionOf c r1a r2 msg).finNonceParity = (if Fe.isOdd ry then 1 else 0) ∧
    ((sessionOf c r1a r2 msg).noncecoef : ZMod N) = (nonceCoef r1a r2 (Bytes.be32 c.pk.xOf) msg : ZMod N) ∧
    ((sessionOf c r1a r2 msg).challenge : ZMod N)
      = (Schnorr.challenge (Bytes.be32 rx) msg (Bytes.be32 c.pk.xOf) : ZMod N) ∧
    ((sessionOf c r1a r2 msg).sPart : ZMod N) = sgn (Fe.isOdd c.pk.yOf) *
      ((Schnorr.challenge (Bytes.be32 rx) msg (Bytes.be32 c.pk.xOf) : ZMod N) * (c.tweak : ZMod N)) := by
  simp only [sessionOf, sessionSave, hfin, xOf_aff, yOf_aff]
  refine ⟨trivial, by split <;> rfl, ZMod.natCast_mod _ _, ZMod.natCast_mod _ _, ?_⟩
  by_cases ht : c.tweak % N = 0
  · have : (c.tweak : ZMod N) = 0 := (Field.cast_eq_zero_iff _).mpr ht
    simp [ht, this]
  · simp only [ne_eq, ht, not_false_eq_true, if_true, ZMod.natCast_mod, cast_ite_neg, ite_neg_eq, Bool.decide_eq_true, cast_mul]

def aggR1 (L : List Signer) : Pt := Pt.sum (L.map fun s => Pt.mulG s.k1)
def aggR2 (L : List Signer) : Pt := Pt.sum (L.map fun s => Pt.mulG s.k2)

/-- `R = R1 (+ T) + b•R2` of the honest session, before the `∞ ↦ G` substitution of `finalNonce`. -/
def finalNoncePoint (L : List Signer) (c : KeyaggCache) (msg : Bytes) (adaptor : Option Pt) : Pt :=
  effectiveNonce (withAdaptor (aggR1 L) adaptor) (aggR2 L)
    (nonceCoef (withAdaptor (aggR1 L) adaptor) (aggR2 L) (Bytes.be32 c.pk.xOf) msg)

def honestSession (L : List Signer) (c : KeyaggCache) (msg : Bytes) (adaptor : Option Pt) : Session :=
  sessionOf c (withAdaptor (aggR1 L) adaptor) (aggR2 L) msg

theorem eq_aff_of_ne_inf {p : Pt} (h : p ≠ .inf) : ∃ x y, p = .aff x y := by
  cases p with
  | inf => exact absurd rfl h
  | aff x y => exact ⟨x, y, rfl⟩

section
variable [HasGroupLaw]

/-- One statement with and without adaptor: `ta` is the adaptor secret, `0` when there is none (`hadp`).  The last conjunct
    adds `±ta` to the aggregated `r`, the sign being the session's nonce parity. -/
theorem honest_run {L : List Signer} (hne : L ≠ []) (hh : ∀ s ∈ L, s.Honest) {c : KeyaggCache}
    (hinv : CacheInv (aggPoint c.pksHash c.secondPk (L.map Signer.pk)) c) (msg : Bytes) {ta : Nat} (hta : ta < N)
    {adaptor : Option Pt} (hadp : withAdaptor (aggR1 L) adaptor = Pt.add (aggR1 L) (Pt.mulG ta))
    (hane : adaptor ≠ some .inf) (hQne : c.pk ≠ .inf) (hRne : finalNoncePoint L c msg adaptor ≠ .inf) :
    ∃ an rx ry r, r < N ∧
      nonceAgg true (L.map fun s => some s.pubnonce) = ⟨1, some an, 0⟩ ∧
      nonceProcess true (some an) (some msg) (some c) adaptor = ⟨1, some (honestSession L c msg adaptor), 0⟩ ∧
      (honestSession L c msg adaptor).finNonceParity = (if Fe.isOdd ry then 1 else 0) ∧
      (∀ s ∈ L, (partialSign true (some s.secnonce) (some s.keypair) (some c)
        (some (honestSession L c msg adaptor))).ret = 1) ∧
      partialSigAgg true (some (honestSession L c msg adaptor))
        (L.map fun s => (partialSign true (some s.secnonce) (some s.keypair) (some c)
          (some (honestSession L c msg adaptor))).out.sig) = ⟨1, some (Bytes.be32 rx ++ Bytes.be32 r), 0⟩ ∧
      (Schnorr.verify (Bytes.be32 rx ++ Bytes.be32 (Sc.add r (if Fe.isOdd ry then Sc.neg ta else ta))) msg
        (Keys.evenY c.pk).1).ret = 1 := by
  obtain ⟨qx, qy, hQ⟩ := eq_aff_of_ne_inf hQne
  obtain ⟨rx, ry, hR⟩ := eq_aff_of_ne_inf hRne
  obtain ⟨hm, hpk⟩ := hinv
  have hd : ∀ s ∈ L, s.d < N := fun s hs => (hh s hs).2.1
  rw [aggPoint_signers c.pksHash c.secondPk L hd, mulG_gmul (Nat.mod_lt _ N_pos), ite_neg_gmul, add_gmul,
    ZMod.natCast_mod] at hpk
  have hR1 : aggR1 L = _ := sum_gmul L _ (fun s => (s.k1 : ZMod N)) fun s hs => mulG_gmul (hh s hs).2.2.1
  have hR2 : aggR2 L = _ := sum_gmul L _ (fun s => (s.k2 : ZMod N)) fun s hs => mulG_gmul (hh s hs).2.2.2.1
  have hfin : finalNonce (withAdaptor (aggR1 L) adaptor) (aggR2 L) (Bytes.be32 c.pk.xOf) msg = .aff rx ry := by
    rw [finalNonce_of_ne_inf (by rw [show effectiveNonce _ _ _ = _ from hR]; exact Pt.noConfusion)]
    exact hR
  obtain ⟨f1, f2, f3, f4, f5⟩ := sessionOf_fields hfin
  have hsm := sessionOf_magic c (withAdaptor (aggR1 L) adaptor) (aggR2 L) msg
  have hnp : nonceProcess true (some (aggnonceSave (aggR1 L) (aggR2 L))) (some msg) (some c) adaptor =
      ⟨1, some (honestSession L c msg adaptor), 0⟩ := nonceProcess_eq hm rfl msg hane
  unfold finalNoncePoint effectiveNonce at hR
  generalize hb : nonceCoef (withAdaptor (aggR1 L) adaptor) (aggR2 L) (Bytes.be32 c.pk.xOf) msg = b at hR f3
  have hbN : b < N := hb ▸ Nat.mod_lt _ N_pos
  rw [hadp, hR1, hR2, mulG_gmul hta, add_gmul, mul_gmul' hbN, add_gmul] at hR
  -- from here on the session is an arbitrary object with these fields
  unfold honestSession at hnp ⊢
  generalize sessionOf c (withAdaptor (aggR1 L) adaptor) (aggR2 L) msg = S at f1 f2 f3 f4 f5 hsm hnp ⊢
  have hsigs : (L.map fun s => (partialSign true (some s.secnonce) (some s.keypair) (some c) (some S)).out.sig) =
      (L.map fun s => signScalar c S s.pk s.d s.k1 s.k2).map fun t => some (partialSigSave t) := by
    rw [List.map_map]
    exact List.map_congr_left fun s hs => by rw [partialSign_signer (hh s hs) hm hsm]; rfl
  obtain ⟨r, hrN, hrc, hagg⟩ :=
    partialSigAgg_eq hsm (l := L.map fun s => signScalar c S s.pk s.d s.k1 s.k2) (by simpa using hne)
  refine ⟨_, rx, ry, r, hrN, nonceAgg_eq hne, hnp, f2, fun s hs => by rw [partialSign_signer (hh s hs) hm hsm],
    by rw [hsigs, ← f1]; exact hagg, ?_⟩
  rw [hQ] at hpk ⊢
  refine C02.verify_of_gmul (Sc.add_lt _ _) hpk hR.symm ?_
  have hpar : decide (S.finNonceParity ≠ 0) = Fe.isOdd ry := by rw [f2]; cases Fe.isOdd ry <;> simp
  rw [List.map_map] at hrc
  simp only [Function.comp_def] at hrc
  rw [sum_signScalar, f3, f4, f5, hpar, hQ] at hrc
  simp only [xOf_aff, yOf_aff] at hrc
  -- the identity in `ZMod N`: the signs enter linearly, `g' = g_Q·g_acc`
  simp only [cast_add, cast_ite_neg, ite_neg_eq, Bool.decide_eq_true, beq_eq_decide, hrc, sgn_bne]
  ring

end


theorem adapt_eq (pre : Bytes) {t : Nat} (ht : t < N) (hs : Bytes.toNat (pre.drop 32) < N) {par : Int}
    (hp : par = 0 ∨ par = 1) :
    adapt true (some pre) (some (Bytes.be32 t)) par =
      ⟨1, some (pre.take 32 ++ Bytes.be32 (Sc.add (Bytes.toNat (pre.drop 32))
        (if par ≠ 0 then Sc.neg t else t))), 0⟩ := by
  have h1 : ¬ (par ≠ 0 ∧ par ≠ 1) := by rcases hp with h | h <;> simp [h]
  simp [adapt, h1, Sc.setB32_of_lt hs, Sc.setB32_be32 ht]

theorem extractAdaptor_eq (sig pre : Bytes) (hsig : Bytes.toNat (sig.drop 32) < N)
    (hs : Bytes.toNat (pre.drop 32) < N) {par : Int} (hp : par = 0 ∨ par = 1) :
    extractAdaptor true (some sig) (some pre) par =
      ⟨1, some (Bytes.be32 (if par = 0
        then Sc.neg (Sc.add (Sc.neg (Bytes.toNat (sig.drop 32))) (Bytes.toNat (pre.drop 32)))
        else Sc.add (Sc.neg (Bytes.toNat (sig.drop 32))) (Bytes.toNat (pre.drop 32)))), 0⟩ := by
  have h1 : ¬ (par ≠ 0 ∧ par ≠ 1) := by rcases hp with h | h <;> simp [h]
  simp only [extractAdaptor, h1, Sc.setB32_of_lt hs, Sc.setB32_of_lt hsig, Bool.not_true, Bool.false_eq_true, if_false]

/-- `extract (adapt s t) = t` on the scalars of `adapt_eq` / `extractAdaptor_eq`, `s` the pre-signature scalar. -/
theorem extract_adapt (s t : Nat) (ht : t < N) {par : Int} (hp : par = 0 ∨ par = 1) :
    (if par = 0 then Sc.neg (Sc.add (Sc.neg (Sc.add s (if par ≠ 0 then Sc.neg t else t))) s)
      else Sc.add (Sc.neg (Sc.add s (if par ≠ 0 then Sc.neg t else t))) s) = t := by
  refine (Field.cast_eq_iff (ite_neg_lt _ (Sc.add_lt _ _)) ht).1 ?_
  rcases hp with rfl | rfl <;> simp

/-- `adapt s (extract s' s) = s'`, `s'` the signature scalar. -/
theorem adapt_extract (s' s : Nat) (hs' : s' < N) {par : Int} (hp : par = 0 ∨ par = 1) :
    Sc.add s (if par ≠ 0 then
        Sc.neg (if par = 0 then Sc.neg (Sc.add (Sc.neg s') s) else Sc.add (Sc.neg s') s)
      else (if par = 0 then Sc.neg (Sc.add (Sc.neg s') s) else Sc.add (Sc.neg s') s)) = s' := by
  refine (Field.cast_eq_iff (Sc.add_lt _ _) hs').1 ?_
  rcases hp with rfl | rfl <;> simp


section
variable [HasGroupLaw]

theorem aggPoint_valid (h : Bytes) (sec : Pt) (ps : List Pt) (hv : ∀ p ∈ ps, p.valid = true) :
    (aggPoint h sec ps).valid = true := by
  rw [aggPoint_eq_sum]
  refine sum_valid fun q hq => ?_
  obtain ⟨p, hp, rfl⟩ := List.mem_map.1 hq
  exact Algebra.valid_mul (lt_mulBound_of_lt_N (keyaggCoefInternal_lt _ _ _)) (hv p hp)

theorem cacheInv_aggCache (ps : List Pt) :
    CacheInv (aggPoint (pksHash ps) (secondKey ps) ps) (aggCache ps) := by
  refine ⟨rfl, ?_⟩
  show aggPoint _ _ _ = Pt.add (aggPoint _ _ _) (Pt.mulG (0 % N))
  rw [Nat.zero_mod]
  show _ = Pt.add _ (Pt.mul 0 Pt.G)
  rw [gl.mul_zero, add_inf_right]

theorem Signer.pk_ne_inf {s : Signer} (hs : s.Honest) : s.pk ≠ .inf := Algebra.mulG_ne_inf hs.1 hs.2.1

theorem Signer.pk_valid {s : Signer} (hs : s.Honest) : s.pk.valid = true :=
  Algebra.mulG_valid (lt_mulBound_of_lt_N hs.2.1)

theorem cacheInv_of_run {L : List Signer} (hh : ∀ s ∈ L, s.Honest) {tws : List TweakStep} {c : KeyaggCache}
    (htw : applyTweaks (aggCache (L.map Signer.pk)) tws = some c) :
    CacheInv (aggPoint c.pksHash c.secondPk (L.map Signer.pk)) c ∧ (tws ≠ [] → c.pk ≠ .inf) := by
  have hv : ∀ p ∈ L.map Signer.pk, p.valid = true := by
    intro p hp
    obtain ⟨s, hs, rfl⟩ := List.mem_map.1 hp
    exact Signer.pk_valid (hh s hs)
  obtain ⟨h1, h2, h3, h4⟩ := cacheInv_applyTweaks (aggPoint_valid _ _ _ hv) tws (cacheInv_aggCache _) htw
  have e2 : c.secondPk = secondKey (L.map Signer.pk) := h2
  have e3 : c.pksHash = pksHash (L.map Signer.pk) := h3
  rw [e2, e3]
  exact ⟨h1, h4⟩

end

theorem Sc.neg_zero : Sc.neg 0 = 0 := by decide +kernel


/-- what `nonce_gen_counter` uses in place of the session randomness -/
def counterInput (cnt : Nat) : Bytes := Bytes.be8 cnt ++ Bytes.zeros 24

theorem nonceGenCounter_eq (wantPub : Bool) (cnt : Nat) (kp : Keys.Keypair) (msg32 : Option Bytes)
    (cache : Option KeyaggCache) (extra32 : Option Bytes) :
    nonceGenCounter true wantPub cnt (some kp) msg32 cache extra32 =
      let r := nonceGenInternal wantPub (counterInput cnt) (some kp.sk) (some kp.pk) msg32 cache extra32
      ⟨r.ret, ⟨some (r.out.secnonce.getD Secnonce.zero), r.out.pubnonce, none⟩, r.illegal⟩ := rfl

/-- i.e. with a secret key present `secrand` enters through the "MuSig/aux" hash only -/
theorem nonceFunction_secrand (secrand sk : Bytes) (msg32 : Option Bytes) (pk33 : Bytes) (aggPk32 extra32 : Option Bytes) :
    nonceFunction secrand msg32 (some sk) pk33 aggPk32 extra32 =
      nonceFunction (Bytes.xor (Sha256.finalize (Sha256.write shaAux secrand)) sk) msg32 none pk33 aggPk32 extra32 :=
  rfl

theorem counterInput_length (cnt : Nat) : (counterInput cnt).length = 32 := by
  simp [counterInput, Bytes.be8]

theorem counterInput_take (cnt : Nat) : Bytes.toNat ((counterInput cnt).take 8) = cnt % 2 ^ 64 := by
  have h : (Bytes.be8 cnt).length = 8 := by simp [Bytes.be8]
  rw [counterInput, List.take_left' h, Bytes.be8, Bytes.toNat_ofNat]; rfl

theorem counterInput_injective {c1 c2 : Nat} (h1 : c1 < 2 ^ 64) (h2 : c2 < 2 ^ 64)
    (h : counterInput c1 = counterInput c2) : c1 = c2 := by
  have := congrArg (fun b => Bytes.toNat (b.take 8)) h
  simp only [counterInput_take, Nat.mod_eq_of_lt h1, Nat.mod_eq_of_lt h2] at this
  exact this

end Musig
end SecpZkp
