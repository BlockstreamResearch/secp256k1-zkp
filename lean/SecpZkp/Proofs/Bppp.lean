import SecpZkp.Model.Bppp
import SecpZkp.Proofs.GroupExtra
import SecpZkp.Proofs.Algebra
import SecpZkp.Proofs.EarlyReturn
import Mathlib.Algebra.Module.ZMod
import Mathlib.Algebra.BigOperators.Group.Finset.Basic
import Mathlib.Tactic.Module
import Mathlib.Algebra.BigOperators.Ring.Finset
/-
  Lemmas about the Bulletproofs++ norm argument model (`Model/Bppp.lean`): the normal form of `verify` (guards, scratch
  accounting) and the value and failure of `ecmultMulti`; prefix consistency of `gensLoop`; the `ZMod N`-module `TPt` of
  valid points of order dividing `N`; the sum identities of one folding round and the weights `wt`, for any module over a
  commutative ring; the model's scalars and points as elements of `ZMod N` and `TPt` (`sv`, `pv`); the in-place loops of
  the prover as one `pairLoop`.
-/
namespace SecpZkp
namespace Bppp

/-- `n_rounds = max (log2 g_len) (log2 h_len)` as the C code computes it -/
def nRounds (gLen hLen : Nat) : Nat := if log2 gLen > log2 hLen then log2 gLen else log2 hLen

def finalNBytes (proof : Bytes) (r : Nat) : Bytes := (proof.drop (r * 65)).take 32
def finalLBytes (proof : Bytes) (r : Nat) : Bytes := (proof.drop (r * 65 + 32)).take 32

/-- total (aligned) scratch space the verifier allocates: gammas, s_g, s_h, rho_inv_pows -/
def scratchNeed (gLen hLen : Nat) : Nat :=
  roundToAlign (nRounds gLen hLen * scalarSize) + roundToAlign (gLen * scalarSize) +
  roundToAlign (hLen * scalarSize) + roundToAlign (log2 gLen * scalarSize)

def Guards (scratch : Scratch) (proof : Bytes) (rho : Nat) (gens : List Pt) (gLen : Nat) (cVec : List Nat) :
    Prop :=
  gLen ≠ 0 ∧ cVec.length ≠ 0 ∧
  gens.length = cVec.length + gLen ∧
  proof.length = 65 * nRounds gLen cVec.length + 64 ∧
  isPowerOfTwo gLen = true ∧ isPowerOfTwo cVec.length = true ∧
  Bytes.toNat (finalNBytes proof (nRounds gLen cVec.length)) < N ∧
  Bytes.toNat (finalLBytes proof (nRounds gLen cVec.length)) < N ∧
  rho ≠ 0 ∧
  scratchNeed gLen cVec.length ≤ scratch.maxSize - scratch.allocSize

instance (scratch : Scratch) (proof : Bytes) (rho : Nat) (gens : List Pt) (gLen : Nat) (cVec : List Nat) :
    Decidable (Guards scratch proof rho gens gLen cVec) := by unfold Guards; infer_instance

theorem isPowerOfTwo_eq_true_iff (n : Nat) : isPowerOfTwo n = true ↔ ∃ k, n = 2 ^ k := by
  unfold isPowerOfTwo
  rw [Bool.and_eq_true, decide_eq_true_eq, beq_iff_eq, ← Nat.isPowerOfTwo,
    ← Nat.ne_zero_and_sub_one_eq_zero_iff_isPowerOfTwo, gt_iff_lt, Nat.pos_iff_ne_zero]

theorem tryAlloc_maxSize (s : Scratch) (size : Nat) : (s.tryAlloc size).1.maxSize = s.maxSize := by
  unfold Scratch.tryAlloc Scratch.alloc
  by_cases h : roundToAlign size > s.maxSize - s.allocSize
  · rw [if_pos h]
  · rw [if_neg h]

theorem tryAlloc_step (s : Scratch) (size T : Nat) :
    ((s.tryAlloc size).2 = true ∧ T ≤ (s.tryAlloc size).1.maxSize - (s.tryAlloc size).1.allocSize) ↔
      roundToAlign size + T ≤ s.maxSize - s.allocSize := by
  unfold Scratch.tryAlloc Scratch.alloc
  by_cases h : roundToAlign size > s.maxSize - s.allocSize
  · rw [if_pos h]
    exact ⟨fun h' => Bool.noConfusion h'.1, fun h' => by omega⟩
  · rw [if_neg h]
    exact ⟨fun h' => by have := h'.2; dsimp only at this; omega, fun h' => ⟨rfl, by dsimp only; omega⟩⟩

theorem allocs_ok_iff (s : Scratch) (a b c d : Nat) :
    (((s.tryAlloc a).2 && ((s.tryAlloc a).1.tryAlloc b).2 && (((s.tryAlloc a).1.tryAlloc b).1.tryAlloc c).2 &&
        ((((s.tryAlloc a).1.tryAlloc b).1.tryAlloc c).1.tryAlloc d).2) = true ↔
      roundToAlign a + roundToAlign b + roundToAlign c + roundToAlign d ≤ s.maxSize - s.allocSize) ∧
    ((((s.tryAlloc a).1.tryAlloc b).1.tryAlloc c).1.tryAlloc d).1.maxSize = s.maxSize := by
  refine ⟨?_, by simp only [tryAlloc_maxSize]⟩
  -- from the last allocation backwards; the `T` of `tryAlloc_step` is what the later ones still need
  have i4 := (and_iff_left (Nat.zero_le _)).symm.trans (tryAlloc_step (((s.tryAlloc a).1.tryAlloc b).1.tryAlloc c).1 d 0)
  have i3 := (and_congr_right' i4).trans (tryAlloc_step ((s.tryAlloc a).1.tryAlloc b).1 c _)
  have i2 := (and_congr_right' i3).trans (tryAlloc_step (s.tryAlloc a).1 b _)
  have i1 := (and_congr_right' i2).trans (tryAlloc_step s a _)
  simp only [Bool.and_eq_true, and_assoc, i1]
  omega

theorem verify_eq (scratch : Scratch) (proof : Bytes) (transcript : Sha256.State) (rho : Nat)
    (gens : List Pt) (gLen : Nat) (cVec : List Nat) (commit : Pt) :
    verify scratch proof transcript rho gens gLen cVec commit =
      (if Guards scratch proof rho gens gLen cVec then
        match verifyEquation proof transcript rho gens gLen cVec commit (nRounds gLen cVec.length)
            (log2 gLen) (Sc.setB32 (finalNBytes proof (nRounds gLen cVec.length))).1
            (Sc.setB32 (finalLBytes proof (nRounds gLen cVec.length))).1 with
        | none => 0
        | some (res1, res2) => if res1 = res2 then 1 else 0
      else 0, scratch) := by
  obtain ⟨hok, hmax⟩ := allocs_ok_iff scratch (nRounds gLen cVec.length * scalarSize) (gLen * scalarSize)
    (cVec.length * scalarSize) (log2 gLen * scalarSize)
  have hrest : ({ maxSize := (((((scratch.tryAlloc (nRounds gLen cVec.length * scalarSize)).1.tryAlloc
      (gLen * scalarSize)).1.tryAlloc (cVec.length * scalarSize)).1.tryAlloc
      (log2 gLen * scalarSize)).1).maxSize, allocSize := scratch.allocSize } : Scratch) = scratch := by
    rw [hmax]
  have hn : (if log2 gLen > log2 cVec.length then log2 gLen else log2 cVec.length)
      = nRounds gLen cVec.length := rfl
  rw [apply_ite (fun r : Nat => (r, scratch))]
  unfold verify Guards
  simp only [hn, hrest]
  refine ite_guard₂ (by omega) (ite_guard₂ (by omega) (ite_guard₂
    (by cases isPowerOfTwo gLen <;> cases isPowerOfTwo cVec.length <;> simp) ?_))
  change (if (Sc.setB32 (finalNBytes proof (nRounds gLen cVec.length))).2 = true then _ else _) = _
  refine ite_guard (by simp only [Sc.setB32, decide_eq_true_eq]; omega) ?_
  change (if (Sc.setB32 (finalLBytes proof (nRounds gLen cVec.length))).2 = true then _ else _) = _
  refine ite_guard (by simp only [Sc.setB32, decide_eq_true_eq]; omega) (ite_guard (by omega) ?_)
  by_cases h6 : scratchNeed gLen cVec.length ≤ scratch.maxSize - scratch.allocSize
  · rw [if_neg (by rw [Bool.not_eq_true', Bool.not_eq_false]; exact hok.2 h6), if_pos h6]
    have hm : ∀ o : Option (Pt × Pt),
        (match o with | none => (0, scratch) | some (r1, r2) => ((if r1 = r2 then 1 else 0 : Nat), scratch)) =
          ((match o with | none => 0 | some (r1, r2) => if r1 = r2 then 1 else 0 : Nat), scratch) := by
      rintro (_ | ⟨_, _⟩) <;> rfl
    exact hm _
  · rw [if_neg h6, if_pos]
    rw [Bool.not_eq_true']
    exact Bool.eq_false_iff.2 fun hb => h6 (hok.1 hb)

def emInit : Option Nat → Pt
  | none => .inf
  | some s => Pt.mulG s

def emStep (cb : Nat → Option (Nat × Pt)) (acc : Pt) (i : Nat) : Option Pt := do
  let (sc, pt) ← cb i
  pure (Pt.add acc (Pt.mul sc pt))

theorem ecmultMulti_eq (gsc : Option Nat) (cb : Nat → Option (Nat × Pt)) (n : Nat) :
    ecmultMulti gsc cb n = (List.range n).foldlM (emStep cb) (emInit gsc) := by
  unfold ecmultMulti emInit
  cases gsc <;> rfl

theorem ecmultMulti_none (gsc : Option Nat) (cb : Nat → Option (Nat × Pt)) (n i : Nat) (hi : i < n)
    (h : cb i = none) : ecmultMulti gsc cb n = none := by
  rw [ecmultMulti_eq]
  generalize emInit gsc = init
  induction n with
  | zero => omega
  | succ k ih =>
    rw [List.range_succ, List.foldlM_append]
    by_cases hik : i < k
    · rw [ih hik]; rfl
    · have : i = k := by omega
      subst this
      cases (List.range i).foldlM (emStep cb) init with
      | none => rfl
      | some acc => simp [emStep, h]

theorem ecmultMulti_some (gsc : Option Nat) (cb : Nat → Option (Nat × Pt)) (n : Nat)
    (sc : Nat → Nat) (pt : Nat → Pt) (h : ∀ i, i < n → cb i = some (sc i, pt i)) :
    ecmultMulti gsc cb n =
      some ((List.range n).foldl (fun acc i => Pt.add acc (Pt.mul (sc i) (pt i))) (emInit gsc)) := by
  rw [ecmultMulti_eq]
  generalize emInit gsc = init
  induction n with
  | zero => rfl
  | succ k ih =>
    rw [List.range_succ, List.foldlM_append, List.foldl_append, ih (fun i hi => h i (by omega))]
    simp [emStep, h k (by omega)]

theorem verifyEquation_eq (proof : Bytes) (transcript : Sha256.State) (rho : Nat) (gens : List Pt) (gLen : Nat)
    (cVec : List Nat) (commit : Pt) (nRounds logGLen : Nat) (n l : Nat) :
    verifyEquation proof transcript rho gens gLen cVec commit nRounds logGLen n l =
      let gammas := (gammasLoop proof nRounds 0 transcript []).1
      let rhoInv := Sc.inv rho
      let rhoF := sqrTimes rho logGLen
      let sG := sGLoop gammas (powersOfRho rhoInv logGLen) (gLen - 1) 1 [Sc.mul (Sc.mul n rhoF) rhoInv]
      let sH := sHLoop gammas (cVec.length - 1) 1 [l]
      let v := Sc.add (Sc.mul (Sc.mul n n) (scSqr rhoF)) (scalarInnerProduct cVec 0 sH 0 1 cVec.length)
      (ecmultMulti none (verifyCb1 proof commit gammas) (2 * nRounds + 1)).bind fun res1 =>
      (ecmultMulti (some v) (verifyCb2 sG sH gens gLen) (gLen + cVec.length)).bind fun res2 =>
      some (res1, res2) := by
  rfl

theorem verifyEquation_none_of_bad_point (proof : Bytes) (transcript : Sha256.State) (rho : Nat)
    (gens : List Pt) (gLen : Nat) (cVec : List Nat) (commit : Pt) (nRounds logGLen : Nat) (n l : Nat)
    (i : Nat) (hi : i < nRounds) (idx : Nat) (hidx : idx = 0 ∨ idx = 1)
    (hbad : parseOneOfPoints ((proof.drop (65 * i)).take 65) idx = none) :
    verifyEquation proof transcript rho gens gLen cVec commit nRounds logGLen n l = none := by
  rw [verifyEquation_eq]
  simp only []
  rw [ecmultMulti_none none _ (2 * nRounds + 1) (2 * i + idx + 1) (by omega)]
  · rfl
  · unfold verifyCb1
    rw [if_neg (by omega)]
    simp only [Nat.add_sub_cancel]
    rcases hidx with h | h <;> subst h
    · rw [if_pos (by omega), show (2 * i + 0) / 2 = i by omega, hbad]
    · rw [if_neg (by omega), show (2 * i + 1) / 2 = i by omega, hbad]

theorem gensLoop_length (n : Nat) (rng : Sha256.Rfc6979) (acc l : List Pt)
    (h : gensLoop n rng acc = some l) : l.length = acc.length + n := by
  induction n generalizing rng acc with
  | zero => simp only [gensLoop, Option.some.injEq] at h; subst h; rfl
  | succ k ih =>
    unfold gensLoop at h
    simp only [] at h
    split at h
    · simp at h
    · have := ih _ _ h
      simp only [List.length_append, List.length_cons, List.length_nil] at this
      omega

theorem gensLoop_prefix (n k : Nat) (rng : Sha256.Rfc6979) (acc l : List Pt)
    (h : gensLoop (n + k) rng acc = some l) : gensLoop n rng acc = some (l.take (acc.length + n)) := by
  induction n generalizing rng acc with
  | zero =>
    simp only [gensLoop, Nat.add_zero, Option.some.injEq]
    -- the accumulator is a prefix of the result
    rw [Nat.zero_add] at h
    induction k generalizing rng acc with
    | zero => simp only [gensLoop, Option.some.injEq] at h; subst h; simp
    | succ j ihj =>
      unfold gensLoop at h
      simp only [] at h
      split at h
      · simp at h
      · have := ihj _ _ h
        simp only [List.length_append, List.length_cons, List.length_nil] at this
        have h2 := congrArg (List.take acc.length) this
        rw [List.take_append_of_le_length (Nat.le_refl _), List.take_take] at h2
        simpa using h2
  | succ m ih =>
    rw [show m + 1 + k = (m + k) + 1 by omega] at h
    unfold gensLoop at h ⊢
    simp only [] at h ⊢
    split
    · rename_i h0; rw [if_pos h0] at h; simp at h
    · rename_i h0; rw [if_neg h0] at h
      have := ih _ _ h
      simp only [List.length_append, List.length_cons, List.length_nil] at this
      rw [this]; congr 2; omega

open _root_.SecpZkp.Algebra

section Tors
variable [hgl : HasGroupLaw]

/-- The valid points killed by `N`.  That every valid point is (cofactor 1) is not proved, and `AddCommGroup.zmodModule`
    needs `N • x = 0` for all `x`: so the `ZMod N`-module is this subgroup. -/
def Tors : AddSubgroup VPt := (nsmulAddMonoidHom N : VPt →+ VPt).ker

abbrev TPt := ↥(Tors)

theorem TPt.nsmul_N (x : TPt) : N • x = 0 := Subtype.ext x.2

instance instModuleTPt : Module (ZMod N) TPt := AddCommGroup.zmodModule TPt.nsmul_N

def Good (p : Pt) : Prop := p.valid = true ∧ Pt.mul N p = .inf

instance (p : Pt) : Decidable (Good p) := by unfold Good; infer_instance

def ofT (x : TPt) : Pt := x.1.1

theorem good_ofT (x : TPt) : Good (ofT x) := by
  refine ⟨x.1.2, ?_⟩
  have h : N • x.1 = 0 := x.2
  unfold ofT
  rw [mul_eq_nsmul N_lt_mulBound, h]; rfl

def toT (p : Pt) : TPt :=
  if h : Good p then
    ⟨⟨p, h.1⟩, by
      show (nsmulAddMonoidHom N : VPt →+ VPt) ⟨p, h.1⟩ = 0
      apply Subtype.ext
      show (N • (⟨p, h.1⟩ : VPt)).1 = Pt.inf
      rw [← mul_eq_nsmul N_lt_mulBound]; exact h.2⟩
  else 0

theorem ofT_toT {p : Pt} (h : Good p) : ofT (toT p) = p := by
  unfold toT; rw [dif_pos h]; rfl

theorem toT_ofT (x : TPt) : toT (ofT x) = x := by
  unfold toT; rw [dif_pos (good_ofT x)]; rfl

theorem ofT_injective : Function.Injective ofT := fun a b h => by
  apply Subtype.ext; apply Subtype.ext; exact h

@[simp] theorem ofT_zero : ofT 0 = Pt.inf := rfl
theorem ofT_add (x y : TPt) : ofT (x + y) = Pt.add (ofT x) (ofT y) := rfl

theorem ofT_smul {k : Nat} (hk : k < mulBound) (x : TPt) : Pt.mul k (ofT x) = ofT ((k : ZMod N) • x) := by
  rw [Nat.cast_smul_eq_nsmul]
  unfold ofT
  rw [mul_eq_nsmul hk]
  simp

omit hgl in
theorem good_inf : Good Pt.inf := ⟨rfl, rfl⟩
theorem good_G : Good Pt.G := ⟨gl.valid_G, gl.mul_N_G⟩
theorem good_mulG {k : Nat} (hk : k < mulBound) : Good (Pt.mulG k) := ⟨mulG_valid hk, mul_N_mulG hk⟩
theorem good_add {p q : Pt} (hp : Good p) (hq : Good q) : Good (Pt.add p q) := by
  rw [← ofT_toT hp, ← ofT_toT hq, ← ofT_add]; exact good_ofT _
theorem good_mul {k : Nat} (hk : k < mulBound) {p : Pt} (hp : Good p) : Good (Pt.mul k p) := by
  rw [← ofT_toT hp, ofT_smul hk]; exact good_ofT _

def GT : TPt := toT Pt.G

theorem mulG_eq_ofT {k : Nat} (hk : k < mulBound) : Pt.mulG k = ofT ((k : ZMod N) • GT) := by
  rw [← ofT_smul hk, GT, ofT_toT good_G]; rfl

end Tors
open Finset

section Sums
variable {R M : Type*} [CommRing R] [AddCommGroup M] [Module R M]

theorem sum_range_even_odd {A : Type*} [AddCommMonoid A] (f : ℕ → A) (m : ℕ) :
    ∑ i ∈ range (2 * m), f i = ∑ j ∈ range m, f (2 * j) + ∑ j ∈ range m, f (2 * j + 1) := by
  induction m with
  | zero => simp
  | succ k ih =>
    rw [show 2 * (k + 1) = 2 * k + 1 + 1 by ring, sum_range_succ, sum_range_succ, ih, sum_range_succ,
      sum_range_succ]
    abel

theorem fold_G_identity (n : ℕ → R) (G : ℕ → M) (rho rhoInv gamma : R) (h : rhoInv * rho = 1) (m : ℕ) :
    ∑ j ∈ range m, (n (2 * j) * rhoInv + n (2 * j + 1) * gamma) • (rho • G (2 * j) + gamma • G (2 * j + 1)) =
      ∑ i ∈ range (2 * m), n i • G i +
      gamma • (∑ i ∈ range (2 * m), (if i % 2 = 0 then n (i + 1) * rho else n (i - 1) * rhoInv) • G i) +
      (gamma ^ 2 - 1) • ∑ j ∈ range m, n (2 * j + 1) • G (2 * j + 1) := by
  rw [sum_range_even_odd, sum_range_even_odd]
  simp only [smul_sum, ← sum_add_distrib]
  apply sum_congr rfl
  intro j _
  rw [if_pos (by omega), if_neg (by omega), show 2 * j + 1 - 1 = 2 * j by omega]
  linear_combination (norm := module) (n (2 * j) * h) • G (2 * j)

theorem fold_H_identity (l : ℕ → R) (H : ℕ → M) (gamma : R) (m : ℕ) :
    ∑ j ∈ range m, (l (2 * j) + l (2 * j + 1) * gamma) • (gamma • H (2 * j + 1) + H (2 * j)) =
      ∑ i ∈ range (2 * m), l i • H i +
      gamma • (∑ i ∈ range (2 * m), (if i % 2 = 0 then l (i + 1) else l (i - 1)) • H i) +
      (gamma ^ 2 - 1) • ∑ j ∈ range m, l (2 * j + 1) • H (2 * j + 1) := by
  simpa only [mul_one, one_smul, add_comm (H _)] using fold_G_identity l H 1 1 gamma (one_mul 1) m

theorem fold_dot_identity (c l : ℕ → R) (gamma : R) (m : ℕ) :
    ∑ j ∈ range m, (c (2 * j) + c (2 * j + 1) * gamma) * (l (2 * j) + l (2 * j + 1) * gamma) =
      ∑ i ∈ range (2 * m), c i * l i +
      gamma * (∑ j ∈ range m, c (2 * j) * l (2 * j + 1) + ∑ j ∈ range m, c (2 * j + 1) * l (2 * j)) +
      (gamma ^ 2 - 1) * ∑ j ∈ range m, c (2 * j + 1) * l (2 * j + 1) := by
  rw [sum_range_even_odd]
  simp only [mul_sum, ← sum_add_distrib]
  apply sum_congr rfl
  intro j _
  ring

/-- The cross term stands twice, not with a factor 2, as the C code computes `x_v`
    (`secp256k1_scalar_add(&x_v, &x_v, &x_v)`). -/
theorem fold_norm_identity (n : ℕ → R) (rho rhoInv mu gamma : R) (h : rhoInv * rho = 1) (hmu : mu = rho ^ 2)
    (m : ℕ) :
    ∑ j ∈ range m, (n (2 * j) * rhoInv + n (2 * j + 1) * gamma) * (n (2 * j) * rhoInv + n (2 * j + 1) * gamma)
        * (mu ^ 2) ^ (j + 1) =
      ∑ i ∈ range (2 * m), n i * n i * mu ^ (i + 1) +
      gamma * ((∑ j ∈ range m, n (2 * j) * n (2 * j + 1) * (mu ^ 2) ^ (j + 1)) * rhoInv +
               (∑ j ∈ range m, n (2 * j) * n (2 * j + 1) * (mu ^ 2) ^ (j + 1)) * rhoInv) +
      (gamma ^ 2 - 1) * ∑ j ∈ range m, n (2 * j + 1) * n (2 * j + 1) * (mu ^ 2) ^ (j + 1) := by
  rw [sum_range_even_odd]
  simp only [mul_sum, sum_mul, ← sum_add_distrib]
  apply sum_congr rfl
  intro j _
  -- even entries: `ρ⁻² (μ²)^(j+1) = μ^(2j+1)` because `μ = ρ²`; that is why `n'` is weighted by `μ²`
  have e1 : (mu ^ 2) ^ (j + 1) = mu ^ (2 * j + 1) * mu := by rw [← pow_mul, ← pow_succ]; congr 1
  have e2 : mu ^ (2 * j + 1 + 1) = mu ^ (2 * j + 1) * mu := pow_succ _ _
  rw [e1, e2, hmu]
  generalize (rho ^ 2) ^ (2 * j + 1) = w
  linear_combination (n (2 * j) * n (2 * j) * w * (rhoInv * rho + 1)) * h

/-- `Π_{k<m} (if bit k of i then (c k).2 else (c k).1)`; `k` is the round number, `m` the number of rounds -/
def wt (c : ℕ → R × R) : ℕ → ℕ → R
  | 0, _ => 1
  | m + 1, i => (if i % 2 = 1 then (c 0).2 else (c 0).1) * wt (fun k => c (k + 1)) m (i / 2)

theorem wt_sum_split (c : ℕ → R × R) (n : ℕ) (f : ℕ → M) (m : ℕ) :
    ∑ i ∈ range (2 * m), wt c (n + 1) i • f i =
      ∑ j ∈ range m, wt (fun k => c (k + 1)) n j • ((c 0).1 • f (2 * j) + (c 0).2 • f (2 * j + 1)) := by
  rw [sum_range_even_odd, ← sum_add_distrib]
  apply sum_congr rfl
  intro j _
  simp only [wt]
  rw [if_neg (by omega), if_pos (by omega), show 2 * j / 2 = j by omega, show (2 * j + 1) / 2 = j by omega]
  module

theorem wt_top_bit (c : ℕ → R × R) (m k i : ℕ) (hk : k < m) (hlo : 2 ^ k ≤ i) (hhi : i < 2 ^ (k + 1)) :
    wt c m i * (c k).1 = wt c m (i - 2 ^ k) * (c k).2 := by
  induction m generalizing c k i with
  | zero => omega
  | succ m ih =>
    cases k with
    | zero =>
      have hi : i = 1 := by simp at hlo hhi; omega
      subst hi
      simp [wt]; ring
    | succ k' =>
      have h2 : (2 : ℕ) ^ (k' + 1) = 2 * 2 ^ k' := by rw [pow_succ]; ring
      have h3 : (2 : ℕ) ^ (k' + 1 + 1) = 2 * 2 ^ (k' + 1) := by rw [pow_succ]; ring
      have e1 : (i - 2 ^ (k' + 1)) % 2 = i % 2 := by omega
      have e2 : (i - 2 ^ (k' + 1)) / 2 = i / 2 - 2 ^ k' := by omega
      simp only [wt]
      rw [e1, e2, mul_assoc, ih (fun k => c (k + 1)) k' (i / 2) (by omega) (by omega) (by omega), mul_assoc]

end Sums
open _root_.SecpZkp.Algebra Finset

section Ties

def sv (l : List Nat) (i : Nat) : ZMod N := ((l.getD i 0 : Nat) : ZMod N)

theorem cast_sip (a : List Nat) (ao : Nat) (b : List Nat) (bo step len : Nat) :
    ((scalarInnerProduct a ao b bo step len : Nat) : ZMod N) =
      ∑ i ∈ range len, sv a (ao + step * i) * sv b (bo + step * i) := by
  unfold scalarInnerProduct
  induction len with
  | zero => simp
  | succ k ih =>
    rw [List.range_succ, List.foldl_append, sum_range_succ, ← ih]
    simp [sv]

theorem sip_lt (a : List Nat) (ao : Nat) (b : List Nat) (bo step len : Nat) :
    scalarInnerProduct a ao b bo step len < N := by
  unfold scalarInnerProduct
  cases len with
  | zero => exact N_pos
  | succ k => rw [List.range_succ, List.foldl_append]; exact Sc.add_lt _ _

theorem wsip_fold (a : List Nat) (ao : Nat) (b : List Nat) (bo step mu len : Nat) :
    let st := (List.range len).foldl
      (fun (st : Nat × Nat) i =>
        let term := Sc.mul (Sc.mul (a.getD (ao + step * i) 0) (b.getD (bo + step * i) 0)) st.2
        (Sc.add st.1 term, Sc.mul st.2 mu)) (0, mu)
    ((st.1 : Nat) : ZMod N) = ∑ i ∈ range len, sv a (ao + step * i) * sv b (bo + step * i) * (mu : ZMod N) ^ (i + 1) ∧
    ((st.2 : Nat) : ZMod N) = (mu : ZMod N) ^ (len + 1) ∧ st.1 < N := by
  induction len with
  | zero => simp [N_pos]
  | succ k ih =>
    simp only [] at ih ⊢
    rw [List.range_succ, List.foldl_append, sum_range_succ]
    obtain ⟨h1, h2, _⟩ := ih
    refine ⟨?_, ?_, ?_⟩
    · simp only [List.foldl_cons, List.foldl_nil, cast_add, cast_mul, h1, h2, sv]
    · simp only [List.foldl_cons, List.foldl_nil, cast_mul, h2]; ring
    · exact Sc.add_lt _ _

theorem cast_wsip (a : List Nat) (ao : Nat) (b : List Nat) (bo step len mu : Nat) :
    ((weightedScalarInnerProduct a ao b bo step len mu : Nat) : ZMod N) =
      ∑ i ∈ range len, sv a (ao + step * i) * sv b (bo + step * i) * (mu : ZMod N) ^ (i + 1) :=
  (wsip_fold a ao b bo step mu len).1

theorem wsip_lt (a : List Nat) (ao : Nat) (b : List Nat) (bo step len mu : Nat) :
    weightedScalarInnerProduct a ao b bo step len mu < N :=
  (wsip_fold a ao b bo step mu len).2.2

variable [hgl : HasGroupLaw]

/-- Entry `i` of a point list in `TPt`: 0 beyond the end AND for an entry that is not `Good`, so statements about `pv g`
    carry `∀ j, Good (g.getD j .inf)`. -/
def pv (g : List Pt) (i : Nat) : TPt := toT (g.getD i .inf)

def initT : Option Nat → TPt
  | none => 0
  | some s => (s : ZMod N) • GT

theorem ecmultMulti_T (gsc : Option Nat) (cb : Nat → Option (Nat × Pt)) (n : Nat)
    (sc : Nat → Nat) (pt : Nat → TPt) (h : ∀ i, i < n → cb i = some (sc i, ofT (pt i)))
    (hsc : ∀ i, i < n → sc i < N) (hg : ∀ s, gsc = some s → s < N) :
    ecmultMulti gsc cb n =
      some (ofT (initT gsc + ∑ i ∈ range n, (sc i : ZMod N) • pt i)) := by
  rw [ecmultMulti_some gsc cb n sc (fun i => ofT (pt i)) h]
  congr 1
  have hinit : emInit gsc = ofT (initT gsc) := by
    cases gsc with
    | none => rfl
    | some s => exact mulG_eq_ofT (lt_mulBound_of_lt_N (hg s rfl))
  rw [hinit]
  generalize initT gsc = init
  clear hinit hg h
  induction n with
  | zero => simp
  | succ k ih =>
    rw [List.range_succ, List.foldl_append, ih (fun i hi => hsc i (by omega)), sum_range_succ]
    simp only [List.foldl_cons, List.foldl_nil]
    rw [ofT_smul (lt_mulBound_of_lt_N (hsc k (by omega))), ← ofT_add, add_assoc]

/-- the shape of `commitCb` and `verifyCb2`: the `G` part, then the `H` part -/
theorem ecmultMulti_two (gsc : Option Nat) (cb : Nat → Option (Nat × Pt)) (n₁ n₂ : Nat)
    (s₁ s₂ : Nat → Nat) (p₁ p₂ : Nat → TPt)
    (h₁ : ∀ i, i < n₁ → cb i = some (s₁ i, ofT (p₁ i)))
    (h₂ : ∀ i, i < n₂ → cb (n₁ + i) = some (s₂ i, ofT (p₂ i)))
    (hs₁ : ∀ i, i < n₁ → s₁ i < N) (hs₂ : ∀ i, i < n₂ → s₂ i < N) (hg : ∀ s, gsc = some s → s < N) :
    ecmultMulti gsc cb (n₁ + n₂) =
      some (ofT (initT gsc +
        (∑ i ∈ range n₁, (s₁ i : ZMod N) • p₁ i + ∑ i ∈ range n₂, (s₂ i : ZMod N) • p₂ i))) := by
  rw [ecmultMulti_T gsc cb (n₁ + n₂) (fun i => if i < n₁ then s₁ i else s₂ (i - n₁))
    (fun i => if i < n₁ then p₁ i else p₂ (i - n₁)), sum_range_add]
  · congr 4
    · exact sum_congr rfl fun i hi => by simp only [if_pos (mem_range.1 hi)]
    · exact sum_congr rfl fun i _ => by
        simp only [if_neg (show ¬ n₁ + i < n₁ by omega), Nat.add_sub_cancel_left]
  · intro i hi
    by_cases h : i < n₁
    · simp only [if_pos h]; exact h₁ i h
    · simp only [if_neg h]
      have := h₂ (i - n₁) (by omega)
      rwa [show n₁ + (i - n₁) = i by omega] at this
  · intro i hi
    split
    · exact hs₁ i (by assumption)
    · exact hs₂ _ (by omega)
  · exact hg

end Ties

section InPlace

theorem getD_set {α : Type} (l : List α) (k j : Nat) (x d : α) :
    (l.set k x).getD j d = if k = j ∧ k < l.length then x else l.getD j d := by
  simp only [List.getD_eq_getElem?_getD, List.getElem?_set]
  by_cases h : k = j
  · subst h
    by_cases hk : k < l.length
    · simp [hk]
    · simp [hk]
  · simp [h]

/-- the in-place loop shared by `foldG` and `foldH` -/
def pairLoop {α : Type} (f : α → α → α) (d : α) (off len : Nat) : Nat → Nat → List α → List α
  | 0, _, l => l
  | fuel + 1, i, l =>
    if i < len then
      pairLoop f d off len fuel (i + 2) (l.set (off + i / 2) (f (l.getD (off + i) d) (l.getD (off + i + 1) d)))
    else l

/-- Every folded entry comes from the ORIGINAL entries: the write position `off + i/2` is never ahead of a later read. -/
theorem pairLoop_spec {α : Type} (f : α → α → α) (d : α) (off len fuel i : Nat) (l : List α)
    (hi : i % 2 = 0) (hlen : len % 2 = 0) (hfuel : len ≤ i + 2 * fuel) (hl : off + len ≤ l.length) :
    (pairLoop f d off len fuel i l).length = l.length ∧
    ∀ j, (pairLoop f d off len fuel i l).getD j d =
      if off + i / 2 ≤ j ∧ j < off + len / 2 then f (l.getD (2 * j - off) d) (l.getD (2 * j - off + 1) d)
      else l.getD j d := by
  induction fuel generalizing i l with
  | zero => exact ⟨rfl, fun j => by rw [if_neg (by omega)]; rfl⟩
  | succ k ih =>
    unfold pairLoop
    by_cases hlt : i < len
    · rw [if_pos hlt]
      obtain ⟨h1, h2⟩ := ih (i + 2) (l.set (off + i / 2) (f (l.getD (off + i) d) (l.getD (off + i + 1) d)))
        (by omega) (by omega) (by simpa using hl)
      refine ⟨by simpa using h1, fun j => ?_⟩
      rw [h2 j]
      by_cases hj : off + (i + 2) / 2 ≤ j ∧ j < off + len / 2
      · rw [if_pos hj, if_pos (by omega), getD_set, getD_set, if_neg (by omega), if_neg (by omega)]
      · rw [if_neg hj, getD_set]
        by_cases hj2 : off + i / 2 = j
        · subst hj2
          rw [if_pos ⟨rfl, by omega⟩, if_pos (by omega), show 2 * (off + i / 2) - off = off + i by omega]
        · rw [if_neg (by omega), if_neg (by omega)]
    · rw [if_neg hlt]
      exact ⟨rfl, fun j => by rw [if_neg (by omega)]⟩

theorem foldG_eq (rhoInv gamma rhoF gLen fuel i : Nat) (n : List Nat) (g : List Pt) :
    foldG rhoInv gamma rhoF gLen fuel i n g =
      (pairLoop (fun x y => Sc.add (Sc.mul x rhoInv) (Sc.mul y gamma)) 0 0 gLen fuel i n,
       pairLoop (fun p q => Pt.add (Pt.mul rhoF p) (Pt.mul gamma q)) .inf 0 gLen fuel i g) := by
  induction fuel generalizing i n g with
  | zero => rfl
  | succ k ih =>
    unfold foldG pairLoop
    split
    · simp only [ih, Nat.zero_add]
    · rfl

theorem foldH_eq (gamma G hLen fuel i : Nat) (c l : List Nat) (g : List Pt) :
    foldH gamma G hLen fuel i c l g =
      (pairLoop (fun x y => Sc.add x (Sc.mul y gamma)) 0 0 hLen fuel i c,
       pairLoop (fun x y => Sc.add x (Sc.mul y gamma)) 0 0 hLen fuel i l,
       pairLoop (fun p q => Pt.add (Pt.mul gamma q) p) .inf G hLen fuel i g) := by
  induction fuel generalizing i c l g with
  | zero => rfl
  | succ k ih =>
    unfold foldH pairLoop
    split
    · simp only [ih, Nat.zero_add]
    · rfl

end InPlace
end Bppp
end SecpZkp

