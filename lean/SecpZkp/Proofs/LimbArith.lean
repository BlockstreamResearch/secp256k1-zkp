/-
  The arithmetic of the "linear" field kernels (`normalize_weak`, `normalize`, `add`, `mul_int`, `negate`, `half`) on LISTS of
  limbs (`LimbList.valL`): no program, no memory.  What the two limb layouts share is proved once, for any limb width and
  count.  Per layout there remain the word-level functions (`final5`, `carry5`, `mask5`, … and their 10×26 twins) that symbolic
  evaluation of the translated C code produces: a program is identified with one of them by `rfl` (in `FieldLinear`, `CtSpec`,
  `CtSpecGroup`), so they are spelt exactly as the evaluator leaves them, `% 2^64` and all, and must not be normalised.
  The namespace is `FieldLinear`, which `Proofs/FieldLinear.lean` continues.
-/
import SecpZkp.Proofs.FieldKernel
import SecpZkp.Proofs.LimbList

namespace SecpZkp
namespace FieldLinear
open FieldKernel LimbList

theorem xor_bit31 (x : Nat) (h : x < 2147483648) : x ^^^ 2147483648 = x + 2147483648 := by
  have h' : x < 2 ^ 31 := h
  have h1 : 2 ^ 31 * 1 + x = 2 ^ 31 * 1 ||| x := Nat.two_pow_add_eq_or_of_lt h' 1
  have h2 : x ^^^ 2 ^ 31 = 2 ^ 31 * 1 ||| x := by
    apply Nat.eq_of_testBit_eq
    intro i
    rw [Nat.testBit_xor, Nat.testBit_or, Nat.mul_one, Nat.testBit_two_pow]
    by_cases hi : 31 = i
    · subst hi; simp [Nat.testBit_lt_two_pow h']
    · simp [hi]
  have h3 : x ^^^ 2147483648 = x ^^^ 2 ^ 31 := rfl
  rw [h3, h2, ← h1]; omega

/-- the translator renders C's implicit `int → uint64_t` as `(x ^ 0x80000000) - 0x80000000` at width 64 -/
theorem sext32 (x : Nat) (h : x < 2147483648) :
    ((x ^^^ 2147483648) + (18446744073709551616 - 2147483648 % 18446744073709551616)) % 18446744073709551616 = x := by
  rw [xor_bit31 x h]; omega

theorem sext32_ite (c : Prop) [Decidable c] :
    (((if c then 1 else 0) ^^^ 2147483648) + (18446744073709551616 - 2147483648 % 18446744073709551616)) %
      18446744073709551616 = if c then 1 else 0 :=
  sext32 _ (by split <;> omega)

theorem and_eq_mask {a b M : Nat} (ha : a ≤ M) (hb : b ≤ M) : a &&& b = M ↔ a = M ∧ b = M := by
  constructor
  · intro h
    have h3 : a &&& b ≤ a := Nat.and_le_left
    have h4 : a &&& b ≤ b := Nat.and_le_right
    omega
  · rintro ⟨rfl, rfl⟩; simp

theorem and_le_mask {a b M : Nat} (ha : a ≤ M) : a &&& b ≤ M := Nat.le_trans Nat.and_le_left ha

theorem and3_eq_mask {a b c M : Nat} (ha : a ≤ M) (hb : b ≤ M) (hc : c ≤ M) :
    a &&& b &&& c = M ↔ a = M ∧ b = M ∧ c = M := by
  rw [and_eq_mask (and_le_mask ha) hc, and_eq_mask ha hb, and_assoc]

theorem and7_eq_mask {a b c d e f g M : Nat} (ha : a ≤ M) (hb : b ≤ M) (hc : c ≤ M) (hd : d ≤ M)
    (he : e ≤ M) (hf : f ≤ M) (hg : g ≤ M) :
    a &&& b &&& c &&& d &&& e &&& f &&& g = M ↔ a = M ∧ b = M ∧ c = M ∧ d = M ∧ e = M ∧ f = M ∧ g = M := by
  rw [and_eq_mask (and_le_mask (and_le_mask (and_le_mask (and_le_mask (and_le_mask ha))))) hg,
    and_eq_mask (and_le_mask (and_le_mask (and_le_mask (and_le_mask ha)))) hf,
    and_eq_mask (and_le_mask (and_le_mask (and_le_mask ha))) he, and_eq_mask (and_le_mask (and_le_mask ha)) hd, and3_eq_mask ha hb hc]
  simp only [and_assoc]

/-- `sub64w_add` as a rewriting rule for the evaluated `fe_negate`, whose minuend `2 (m+1) p_i` is itself a 64-bit product -/
theorem sub64 (x b : Nat) (hx : x < 18446744073709551616) (hb : b ≤ x) :
    (x % 18446744073709551616 + (18446744073709551616 - b % 18446744073709551616)) % 18446744073709551616 = x - b := by
  omega

theorem and_M26 (x : Nat) : x &&& 67108863 = x % 67108864 := Nat.and_two_pow_sub_one_eq_mod x 26

theorem and_M22 (x : Nat) : x &&& 4194303 = x % 4194304 := Nat.and_two_pow_sub_one_eq_mod x 22

theorem mod26_mod32 (x : Nat) : x % 67108864 % 4294967296 = x % 67108864 :=
  Nat.mod_eq_of_lt (Nat.lt_of_lt_of_le (Nat.mod_lt _ (by decide)) (by decide))

theorem mod22_mod32 (x : Nat) : x % 4194304 % 4294967296 = x % 4194304 :=
  Nat.mod_eq_of_lt (Nat.lt_of_lt_of_le (Nat.mod_lt _ (by decide)) (by decide))

theorem mod64_mod32 (x : Nat) : x % 2 ^ 64 % 2 ^ 32 = x % 2 ^ 32 := Nat.mod_mod_of_dvd x (by decide)

theorem mul_bound {r m a B : Nat} (h : r ≤ 2 * m * B) : r * a ≤ 2 * (m * a) * B := by
  calc r * a ≤ 2 * m * B * a := Nat.mul_le_mul_right a h
    _ = 2 * (m * a) * B := by ring

/-- `4294968273 = 0x1000003D1 = 2^256 - p` (here and below) -/
theorem cond_sub_mod {T U x : Nat} (hT : T < 2 * P) (hx : x = if P ≤ T then 1 else 0) (hU : U = T + x * 4294968273) :
    U % 2 ^ 256 = T % P := by
  subst hx hU
  by_cases h : P ≤ T
  · rw [if_pos h]
    simp only [P, Nat.reducePow] at *
    omega
  · rw [if_neg h]
    simp only [P, Nat.reducePow] at *
    omega

def LeL : List Nat → List Nat → Prop
  | [], [] => True
  | x :: xs, b :: bs => x ≤ b ∧ LeL xs bs
  | _, _ => False

/-- what `secp256k1_fe_impl_verify` checks at magnitude `m`: `n` low limbs of `w` bits, a top limb of `wt` bits -/
def magB (w wt n m : Nat) : List Nat := List.replicate n (2 * m * (2 ^ w - 1)) ++ [2 * m * (2 ^ wt - 1)]

theorem LeL.refl : ∀ xs : List Nat, LeL xs xs
  | [] => trivial
  | _ :: xs => ⟨Nat.le_refl _, LeL.refl xs⟩

theorem LeL.trans : ∀ {xs ys zs : List Nat}, LeL xs ys → LeL ys zs → LeL xs zs
  | [], [], [], _, _ => trivial
  | _ :: _, _ :: _, _ :: _, h1, h2 => ⟨Nat.le_trans h1.1 h2.1, h1.2.trans h2.2⟩

theorem magB_add (w wt n a b : Nat) :
    List.zipWith (· + ·) (magB w wt n a) (magB w wt n b) = magB w wt n (a + b) := by
  simp [magB, List.zipWith_append, Nat.mul_add, Nat.add_mul]

theorem magB_mul (w wt n a b : Nat) : (magB w wt n a).map (· * b) = magB w wt n (a * b) := by
  simp [magB, Nat.mul_assoc, Nat.mul_comm, Nat.mul_left_comm]

theorem map_mul_add (xs : List Nat) (a b : Nat) :
    List.zipWith (· + ·) (xs.map (· * a)) (xs.map (· * b)) = xs.map (· * (a + b)) := by
  induction xs with
  | nil => rfl
  | cons x xs ih => rw [List.map_cons, List.map_cons, List.map_cons, List.zipWith_cons_cons, ih, Nat.mul_add]

theorem map_mul_mul (xs : List Nat) (a b : Nat) : (xs.map (· * a)).map (· * b) = xs.map (· * (a * b)) := by
  simp

theorem add_spec {w : Nat} : ∀ {xs ys bs cs : List Nat}, LeL xs bs → LeL ys cs → xs.length = ys.length →
    valL w (List.zipWith (· + ·) xs ys) = valL w xs + valL w ys ∧
    LeL (List.zipWith (· + ·) xs ys) (List.zipWith (· + ·) bs cs)
  | [], [], [], [], _, _, _ => ⟨rfl, trivial⟩
  | _ :: _, _ :: _, _ :: _, _ :: _, hx, hy, hl =>
    ⟨valL_zipWith_add _ _ _ hl, Nat.add_le_add hx.1 hy.1, (add_spec (w := w) hx.2 hy.2 (Nat.succ.inj hl)).2⟩

theorem scale_spec {w a : Nat} : ∀ {xs bs : List Nat}, LeL xs bs →
    valL w (xs.map (· * a)) = valL w xs * a ∧ LeL (xs.map (· * a)) (bs.map (· * a))
  | [], [], _ => ⟨by simp [valL], trivial⟩
  | _ :: _, _ :: _, h =>
    ⟨by rw [show (· * a) = (a * ·) from funext fun _ => Nat.mul_comm _ _, valL_map_mul, Nat.mul_comm],
      Nat.mul_le_mul_right a h.1, (scale_spec (w := w) (a := a) h.2).2⟩

abbrev sub64w (k s : Nat) : Nat := (k + (2 ^ 64 - s % 2 ^ 64)) % 2 ^ 64

/-- the 10×26 `negate`: its constants are `UL`, so C subtracts at 64 bits and converts to `uint32_t` -/
abbrev sub32w (k s : Nat) : Nat := sub64w k s % 2 ^ 32

theorem sub64w_add {k s : Nat} (hk : k < 2 ^ 64) (hs : s ≤ k) : sub64w k s + s = k := by
  simp only [sub64w, Nat.reducePow] at *
  omega

theorem sub32w_add {k s : Nat} (hk : k < 2 ^ 32) (hs : s ≤ k) : sub32w k s + s = k := by
  simp only [sub32w, sub64w, Nat.reducePow] at *
  omega

theorem zipWith_sub {w : Nat} {f : Nat → Nat → Nat} : ∀ {ks ss : List Nat}, (∀ k ∈ ks, ∀ s, s ≤ k → f k s + s = k) →
    LeL ss ks → valL w (List.zipWith f ks ss) + valL w ss = valL w ks ∧ LeL (List.zipWith f ks ss) ks
  | [], [], _, _ => ⟨rfl, trivial⟩
  | k :: ks, s :: ss, hf, h => by
    obtain ⟨hv, hb⟩ := zipWith_sub (w := w) (fun k hk => hf k (List.mem_cons_of_mem _ hk)) h.2
    have h0 := hf k List.mem_cons_self s h.1
    refine ⟨?_, by omega, hb⟩
    rw [List.zipWith_cons_cons, valL, valL, valL, ← hv]
    generalize f k s = d at h0 ⊢
    subst h0
    ring

/-- `-(t0 & one) >> s` of `secp256k1_fe_impl_half`, at `W` bits -/
abbrev oddMask (W s r0 : Nat) : Nat := (2 ^ W - (r0 &&& 1) % 2 ^ W) % 2 ^ W / 2 ^ s

abbrev shrIn (W k t u : Nat) : Nat := (t / 2 ^ 1 + (u &&& 1) * 2 ^ k % 2 ^ W) % 2 ^ W

theorem half_limb_le {r v p u K m B s : Nat} (hr : r ≤ 2 * m * B) (hp : p / 2 + K ≤ B + s) :
    (r + v % 2 * p) / 2 + u % 2 * K ≤ 2 * (m / 2 + 1) * B + s := by
  have h1 : (m + 1) * B ≤ 2 * (m / 2 + 1) * B := Nat.mul_le_mul_right B (by omega)
  have h2 : v % 2 * p ≤ 1 * p := Nat.mul_le_mul_right p (by omega)
  have h3 : u % 2 * K ≤ 1 * K := Nat.mul_le_mul_right K (by omega)
  rw [Nat.add_mul] at h1
  rw [Nat.one_mul] at h1 h2 h3
  rw [Nat.mul_assoc] at hr
  generalize m * B = X at *
  omega

theorem half_limb_le' {r v p u K m B : Nat} (hr : r ≤ 2 * m * B) (hp : p / 2 + K ≤ B) :
    (r + v % 2 * p) / 2 + u % 2 * K ≤ 2 * (m / 2 + 1) * B :=
  half_limb_le (s := 0) hr hp

theorem half_top_le {r v p m B : Nat} (hr : r ≤ 2 * m * B) (hp : p / 2 ≤ B) :
    (r + v % 2 * p) / 2 ≤ 2 * (m / 2 + 1) * B :=
  Nat.le_trans (Nat.le_add_right _ _) (half_limb_le' (u := 0) (K := 0) hr hp)

def halfI (k : Nat) (ps rs : List Nat) : List Nat :=
  shr1L k (List.zipWith (fun r p => r + rs.headD 0 % 2 * p) rs ps)

theorem valL_zipWith_add_mul {w b : Nat} {rs ps : List Nat} (h : rs.length = ps.length) :
    valL w (List.zipWith (fun r p => r + b * p) rs ps) = valL w rs + b * valL w ps := by
  rw [← valL_map_mul, ← valL_zipWith_add _ _ _ (by rw [List.length_map, h]), List.zipWith_map_right]

theorem halfI_val {k r0 p0 : Nat} {rs ps : List Nat} (hl : rs.length = ps.length) (hp : p0 % 2 = 1) :
    2 * valL (k + 1) (halfI k (p0 :: ps) (r0 :: rs)) = valL (k + 1) (r0 :: rs) + r0 % 2 * valL (k + 1) (p0 :: ps) := by
  have hs := valL_shr1L k (List.zipWith (fun r p => r + r0 % 2 * p) (r0 :: rs) (p0 :: ps))
  rw [valL_zipWith_add_mul (rs := r0 :: rs) (ps := p0 :: ps) (congrArg Nat.succ hl), List.zipWith_cons_cons, List.headD] at hs
  have : (r0 + r0 % 2 * p0) % 2 = 0 := by
    rcases Nat.mod_two_eq_zero_or_one r0 with e | e <;> rw [e] <;> omega
  rw [halfI, List.headD, List.zipWith_cons_cons, ← hs]
  omega

def shrW (W k : Nat) : List Nat → List Nat
  | [] => []
  | [t] => [t / 2 ^ 1]
  | t :: u :: ts => shrIn W k t u :: shrW W k (u :: ts)

theorem shrW_mod {W k : Nat} (hk : k < W) : ∀ ts : List Nat,
    shrW W k (ts.map (· % 2 ^ W)) = shr1L k (ts.map (· % 2 ^ W))
  | [] => rfl
  | [t] => by simp [shrW, shr1L]
  | t :: u :: ts => by
    have ih := shrW_mod hk (u :: ts)
    rw [List.map_cons] at ih
    rw [List.map_cons, List.map_cons, shrW, shr1L, ih, shrIn, Nat.and_one_is_mod, Nat.pow_one]
    congr 1
    have h1 : 2 ^ k ≤ 2 ^ (W - 1) := Nat.pow_le_pow_right (by decide) (by omega)
    have h2 : 2 ^ W = 2 * 2 ^ (W - 1) := by rw [← Nat.pow_succ']; congr 1; omega
    have h3 : u % 2 ^ W % 2 * 2 ^ k ≤ 1 * 2 ^ k := Nat.mul_le_mul_right _ (by omega)
    have h4 := Nat.mod_lt t (Nat.two_pow_pos W)
    rw [Nat.mod_eq_of_lt (a := u % 2 ^ W % 2 * 2 ^ k) (by omega), Nat.mod_eq_of_lt (by omega)]

def halfW (W k : Nat) (xs rs : List Nat) : List Nat := shrW W k ((List.zipWith (· + ·) rs xs).map (· % 2 ^ W))

theorem halfW_ideal {W k b : Nat} {ps rs : List Nat} (hk : k < W) (hb : rs.headD 0 % 2 = b)
    (h : ∀ x ∈ List.zipWith (· + ·) rs (ps.map (b * ·)), x < 2 ^ W) :
    halfW W k (ps.map (b * ·)) rs = halfI k ps rs := by
  rw [halfW, shrW_mod hk, (List.map_congr_left fun x hx => Nat.mod_eq_of_lt (h x hx)).trans (List.map_id _),
    List.zipWith_map_right, halfI, hb]

/-! A field element is ONE list of limbs and its bounds a bound list (`magB`, `weakB`, `redB`: `n` equal bounds and a last one).
Only `leL_replicate` takes the list apart into low limbs and top limb, the one that is folded, masked and bounded differently. -/

theorem exists_list4 {l : List Nat} (h : l.length = 4) : ∃ a b c d, l = [a, b, c, d] := ⟨_, _, _, _, eq_map_range h⟩

theorem exists_list9 {l : List Nat} (h : l.length = 9) : ∃ a b c d e f g i j, l = [a, b, c, d, e, f, g, i, j] :=
  ⟨_, _, _, _, _, _, _, _, _, eq_map_range h⟩

/-- `t += u >> w; u &= 2^w - 1` along the limbs `ts` at `W`-bit words, `u` the word carried out of; the last word stays unreduced -/
def chainW (w W u : Nat) : List Nat → List Nat × Nat
  | [] => ([], u)
  | t :: ts => match chainW w W ((t + u / 2 ^ w) % 2 ^ W) ts with
    | (init, last) => (u % 2 ^ w :: init, last)

theorem chainW_spec {w W C : Nat} (hC : C * 2 ^ w ≤ 2 ^ W) :
    ∀ (ts : List Nat) (u : Nat), u < C * 2 ^ w → (∀ t ∈ ts, t ≤ C * (2 ^ w - 1)) →
      (∀ s ∈ (chainW w W u ts).1, s < 2 ^ w) ∧ (chainW w W u ts).1.length = ts.length ∧
      valL w ((chainW w W u ts).1 ++ [(chainW w W u ts).2]) = u + 2 ^ w * valL w ts ∧
      (chainW w W u ts).2 < ts.getLastD u + C
  | [], u, hu, _ => ⟨fun _ h => absurd h List.not_mem_nil, rfl, by simp [chainW, valL],
      Nat.lt_add_of_pos_right (Nat.pos_of_mul_pos_right (Nat.zero_lt_of_lt hu))⟩
  | t :: ts, u, hu, ht => by
    have hpos : 0 < 2 ^ w := Nat.two_pow_pos w
    -- the invariant: a word `< C 2^w` carries `< C` into a limb `≤ C (2^w - 1)`, which makes a word `< C 2^w` again
    have hc : u / 2 ^ w < C := (Nat.div_lt_iff_lt_mul hpos).2 hu
    have hlt : t + u / 2 ^ w < C * 2 ^ w := by
      have h1 := ht t List.mem_cons_self
      have h2 : C * (2 ^ w - 1) + C = C * 2 ^ w := by
        rw [← Nat.mul_succ, Nat.succ_eq_add_one, Nat.sub_add_cancel hpos]
      omega
    obtain ⟨hb, hn, hv, hl⟩ := chainW_spec hC ts (t + u / 2 ^ w) hlt (fun t' h => ht t' (List.mem_cons_of_mem _ h))
    have h3 : (chainW w W (t + u / 2 ^ w) ts).2 < (t :: ts).getLastD u + C := by
      cases ts with
      | nil => exact Nat.add_lt_add_left hc t
      | cons t' ts' => exact hl
    rw [chainW, Nat.mod_eq_of_lt (Nat.lt_of_lt_of_le hlt hC)]
    generalize chainW w W (t + u / 2 ^ w) ts = r at *
    obtain ⟨init, last⟩ := r
    refine ⟨fun s hs => ?_, congrArg Nat.succ hn, ?_, h3⟩
    · rcases List.mem_cons.mp hs with rfl | hs
      · exact Nat.mod_lt _ hpos
      · exact hb s hs
    · rw [List.cons_append, valL, hv, valL]
      have h := Nat.div_add_mod u (2 ^ w)
      generalize 2 ^ w = K at *
      generalize u / K = q at *
      generalize u % K = r at *
      subst h
      ring

theorem leL_replicate {b c : Nat} : ∀ {n : Nat} {ts : List Nat}, LeL ts (List.replicate n b ++ [c]) →
    ∃ lo top, ts = lo ++ [top] ∧ lo.length = n ∧ (∀ t ∈ lo, t ≤ b) ∧ top ≤ c
  | 0, [], h => h.elim
  | 0, [top], h => ⟨[], top, rfl, rfl, fun _ h => absurd h List.not_mem_nil, h.1⟩
  | 0, _ :: _ :: _, h => h.2.elim
  | _ + 1, [], h => h.elim
  | n + 1, t :: ts, h => by
    obtain ⟨lo, top, rfl, hn, hlo, htop⟩ := leL_replicate (n := n) h.2
    exact ⟨t :: lo, top, rfl, congrArg Nat.succ hn, List.forall_mem_cons.mpr ⟨h.1, hlo⟩, htop⟩

theorem leL_concat {b c top : Nat} : ∀ {lo : List Nat}, (∀ t ∈ lo, t ≤ b) → top ≤ c →
    LeL (lo ++ [top]) (List.replicate lo.length b ++ [c])
  | [], _, h => ⟨h, trivial⟩
  | t :: _, hlo, h => ⟨hlo t List.mem_cons_self, leL_concat (fun x hx => hlo x (List.mem_cons_of_mem _ hx)) h⟩

def redB (w wt n : Nat) : List Nat := List.replicate n (2 ^ w - 1) ++ [2 ^ wt - 1]

theorem fold_top {w wt top : Nat} {lo : List Nat} {r : List Nat × Nat} (hlen : w * lo.length + wt = 256)
    (hv : valL w (r.1 ++ [r.2]) = valL w (lo ++ [top % 2 ^ wt]) + top / 2 ^ wt * 4294968273) :
    valL w (r.1 ++ [r.2]) + top / 2 ^ wt * P = valL w (lo ++ [top]) := by
  have h2 : 2 ^ (w * lo.length) * 2 ^ wt = P + 4294968273 := by rw [← Nat.pow_add, hlen]; decide
  have ht := Nat.div_add_mod top (2 ^ wt)
  rw [hv, valL_append, valL_append]
  simp only [valL, Nat.mul_zero, Nat.add_zero]
  generalize 2 ^ (w * lo.length) = K at *
  generalize 2 ^ wt = T at *
  generalize top / T = x at *
  generalize top % T = y at *
  subst ht
  rw [Nat.mul_add, ← Nat.mul_assoc, h2]
  ring

theorem valL_top_mod {w wt t : Nat} {lo : List Nat} (hlo : ∀ s ∈ lo, s < 2 ^ w) :
    valL w (lo ++ [t % 2 ^ wt]) = valL w (lo ++ [t]) % 2 ^ (w * lo.length + wt) := by
  have h0 := valL_lt_pow hlo
  rw [valL_append, valL_append, Nat.pow_add]
  simp only [valL, Nat.mul_zero, Nat.add_zero]
  generalize 2 ^ (w * lo.length) = K at *
  rw [Nat.mod_mul, Nat.add_mul_mod_self_left, Nat.mod_eq_of_lt h0, Nat.add_mul_div_left _ _ (Nat.zero_lt_of_lt h0),
    Nat.div_eq_of_lt h0, Nat.zero_add]

def Pass (w x C : Nat) (ts : List Nat) (r : List Nat × Nat) : Prop :=
  (∀ s ∈ r.1, s < 2 ^ w) ∧ r.1.length + 1 = ts.length ∧ valL w (r.1 ++ [r.2]) = valL w ts + x * 4294968273 ∧
  r.2 < ts.getLastD 0 + C

/-- top limb: masked (`≤ 2^wt - 1`) plus a carry `< C` -/
def weakB (w wt n C : Nat) : List Nat := List.replicate n (2 ^ w - 1) ++ [2 ^ wt + C - 2]

def joinL : List Nat × Nat → List Nat
  | (v, u) => v ++ [u]

def Weak (w wt C n : Nat) (ts r : List Nat) : Prop :=
  LeL r (weakB w wt n C) ∧ valL w r + ts.getLastD 0 / 2 ^ wt * P = valL w ts

theorem weak_of_pass {w wt C top : Nat} {lo : List Nat} {r : List Nat × Nat} (hlen : w * lo.length + wt = 256)
    (h : Pass w (top / 2 ^ wt) C (lo ++ [top % 2 ^ wt]) r) : Weak w wt C lo.length (lo ++ [top]) (joinL r) := by
  obtain ⟨v, u⟩ := r
  obtain ⟨hb, hn, hv, hl⟩ := h
  rw [List.getLastD_concat] at hl
  rw [List.length_append, List.length_singleton] at hn
  have := Nat.mod_lt top (Nat.two_pow_pos wt)
  refine ⟨?_, by rw [List.getLastD_concat]; exact fold_top hlen hv⟩
  rw [weakB, ← Nat.succ.inj hn]
  exact leL_concat (fun s hs => Nat.le_pred_of_lt (hb s hs)) (by omega)

theorem norm_of_passes {w wt x1 x2 V : Nat} {lo1 lo2 : List Nat} {t1 t2 : Nat} (hlen : w * lo2.length + wt = 256)
    (h1 : valL w (lo1 ++ [t1]) + x1 * P = V) (hlt : valL w (lo1 ++ [t1]) < 2 * P)
    (hx : x2 = if P ≤ valL w (lo1 ++ [t1]) then 1 else 0)
    (h2 : valL w (lo2 ++ [t2]) = valL w (lo1 ++ [t1]) + x2 * 4294968273) (hb2 : ∀ s ∈ lo2, s < 2 ^ w) :
    valL w (lo2 ++ [t2 % 2 ^ wt]) = V % P := by
  rw [valL_top_mod hb2, hlen, ← h1, Nat.add_mul_mod_self_right]
  exact cond_sub_mod hlt hx h2

def normG (carry : Nat → List Nat → List Nat × Nat) (final : List Nat → Nat) (wt : Nat) (r : List Nat) : List Nat :=
  match carry (final r) r with
  | (v, u) => v ++ [u % 2 ^ wt]

/-- `hlt`: the `weakB` bounds keep the value after the first pass below `2p`; `C2`: the carry bound of the second pass -/
theorem normG_spec {w wt C C2 n : Nat} {carry : Nat → List Nat → List Nat × Nat} {final : List Nat → Nat}
    {ts r : List Nat} (hw : Weak w wt C n ts r) (hlen : w * n + wt = 256)
    (hlt : 2 ^ (w * n) * (2 ^ wt + C - 2 + 1) ≤ 2 * P) (hx : final r = if P ≤ valL w r then 1 else 0)
    (hp : Pass w (final r) C2 r (carry (final r) r)) :
    LeL (normG carry final wt r) (redB w wt n) ∧ valL w (normG carry final wt r) = valL w ts % P := by
  obtain ⟨hr, hv⟩ := hw
  obtain ⟨lo, t, rfl, hn, hb, hl⟩ := leL_replicate hr
  obtain ⟨c, cn, hU, -⟩ := hp
  rw [normG]
  generalize carry (final (lo ++ [t])) (lo ++ [t]) = v at *
  obtain ⟨v, u⟩ := v
  rw [List.length_append, List.length_singleton] at cn
  have cn' : v.length = n := (Nat.succ.inj cn).trans hn
  have hpos := Nat.two_pow_pos w
  refine ⟨?_, norm_of_passes (by rw [cn']; exact hlen) hv (Nat.lt_of_lt_of_le
    (valL_lt fun s hs => by have := hb s hs; omega) (Nat.le_trans (Nat.mul_le_mul_left _ (by omega)) (hn ▸ hlt))) hx hU c⟩
  rw [redB, ← cn']
  exact leL_concat (fun s hs => Nat.le_pred_of_lt (c s hs)) (Nat.le_pred_of_lt (Nat.mod_lt _ (Nat.two_pow_pos wt)))

/-- `(t4 >> 48) | ((t4 == 0x0FFFFFFFFFFFF) & ((t1 & t2 & t3) == 0xFFFFFFFFFFFFF) & (t0 >= 0xFFFFEFFFFFC2F))` of
    `secp256k1_fe_impl_normalize`; the 0/1 `int` on the right is sign-extended to `uint64_t` (`sext32`) -/
def final5 : List Nat → Nat
  | [s0, s1, s2, s3, t4] => t4 / 2 ^ 48 ||| ((((if t4 = 281474976710655 then 1 else 0) &&&
    (if s1 &&& s2 &&& s3 = 4503599627370495 then 1 else 0) &&&
    (if 4503595332402223 ≤ s0 then 1 else 0)) ^^^ 2147483648) + (2 ^ 64 - 2147483648 % 2 ^ 64)) % 2 ^ 64
  | _ => 0

theorem final5_spec {s0 s1 s2 s3 t4 : Nat} (h0 : s0 < 2 ^ 52) (h1 : s1 < 2 ^ 52) (h2 : s2 < 2 ^ 52) (h3 : s3 < 2 ^ 52)
    (h4 : t4 < 2 ^ 49) : final5 [s0, s1, s2, s3, t4] = if P ≤ val5 s0 s1 s2 s3 t4 then 1 else 0 := by
  simp only [final5, Nat.reducePow, MiniC.ite_and_ite, sext32_ite] at *
  simp (disch := omega) only [and3_eq_mask]
  have hq : t4 / 281474976710656 = 0 ∨ t4 / 281474976710656 = 1 := by omega
  rcases hq with hq | hq <;> rw [hq]
  · rw [Nat.zero_or]
    exact if_congr (by simp only [val5, P, Nat.reducePow]; omega) rfl rfl
  · have hP : P ≤ val5 s0 s1 s2 s3 t4 := by simp only [val5, P, Nat.reducePow]; omega
    rw [if_pos hP]
    split <;> rfl

theorem val5_eq_valL (x0 x1 x2 x3 x4 : Nat) : val5 x0 x1 x2 x3 x4 = valL 52 [x0, x1, x2, x3, x4] := by
  simp only [val5, valL, Nat.reducePow]
  omega

/-- `p` in 5×52 limbs: `0xFFFFEFFFFFC2F`, `0xFFFFFFFFFFFFF` ×3, `0x0FFFFFFFFFFFF` -/
def pL5 : List Nat := [4503595332402223, 4503599627370495, 4503599627370495, 4503599627370495, 281474976710655]

/-- what `secp256k1_fe_impl_half` adds: `0xFFFFEFFFFFC2F & mask`, `mask` ×3, `mask >> 4`, with `mask = -(t0 & one) >> 12` -/
def mask5 (r0 : Nat) : List Nat :=
  [4503595332402223 &&& oddMask 64 12 r0, oddMask 64 12 r0, oddMask 64 12 r0, oddMask 64 12 r0, oddMask 64 12 r0 / 2 ^ 4]

theorem mask5_eq (r0 : Nat) : mask5 r0 = pL5.map (r0 % 2 * ·) := by
  simp only [mask5, oddMask, Nat.and_one_is_mod]
  rcases Nat.mod_two_eq_zero_or_one r0 with e | e <;> rw [e] <;> rfl

def half5 (rs : List Nat) : List Nat := halfW 64 51 (mask5 (rs.headD 0)) rs

theorem half5_ideal {m r0 r1 r2 r3 r4 : Nat} (hm : m ≤ 31) (h : LeL [r0, r1, r2, r3, r4] (magB 52 48 4 m)) :
    half5 [r0, r1, r2, r3, r4] = halfI 51 pL5 [r0, r1, r2, r3, r4] := by
  rw [half5, mask5_eq]
  refine halfW_ideal (by decide) rfl ?_
  simp only [LeL, magB, List.replicate, List.cons_append, List.nil_append, and_true, pL5, List.headD, List.map,
    List.zipWith, List.forall_mem_cons, List.not_mem_nil, false_imp_iff, implies_true, Nat.reducePow, Nat.reduceSub] at h ⊢
  omega

/-- `t0 += x * 0x1000003D1; t1 += (t0 >> 52); t0 &= M; …; t4 += (t3 >> 52); t3 &= M` -/
def carry5 (x : Nat) : List Nat → List Nat × Nat
  | [] => ([], 0)
  | t0 :: ts => chainW 52 64 ((t0 + x * 4294968273 % 2 ^ 64) % 2 ^ 64) ts

theorem carry5_spec {C x t0 : Nat} {ts : List Nat} (hC : C * 2 ^ 52 ≤ 2 ^ 64) (h0 : t0 + x * 4294968273 < C * 2 ^ 52)
    (ht : ∀ t ∈ ts, t ≤ C * (2 ^ 52 - 1)) (hne : ts ≠ []) : Pass 52 x C (t0 :: ts) (carry5 x (t0 :: ts)) := by
  have hu : (t0 + x * 4294968273 % 2 ^ 64) % 2 ^ 64 = t0 + x * 4294968273 := by
    have := Nat.lt_of_lt_of_le h0 hC
    rw [Nat.mod_eq_of_lt (a := x * 4294968273) (by omega), Nat.mod_eq_of_lt this]
  obtain ⟨hb, hn, hv, hl⟩ := chainW_spec hC ts _ h0 ht
  rw [carry5, hu]
  refine ⟨hb, congrArg Nat.succ hn, by rw [hv, valL]; omega, ?_⟩
  cases ts with
  | nil => exact absurd rfl hne
  | cons t ts => simpa only [List.getLastD_cons] using hl

/-- `secp256k1_fe_impl_normalize_weak`: `x = t4 >> 48; t4 &= 0x0FFFFFFFFFFFF`, then the pass -/
def weak5 (ts : List Nat) : List Nat := joinL (carry5 (ts.getLastD 0 / 2 ^ 48) (ts.dropLast ++ [ts.getLastD 0 % 2 ^ 48]))

theorem weak5_spec {ts : List Nat} (h : LeL ts (magB 52 48 4 32)) : Weak 52 48 65 4 ts (weak5 ts) := by
  obtain ⟨lo, top, rfl, hlen, hlo, htop⟩ := leL_replicate h
  rw [weak5, List.dropLast_concat, List.getLastD_concat, ← hlen]
  refine weak_of_pass (by rw [hlen]) ?_
  cases lo with
  | nil => simp at hlen
  | cons t0 ts =>
    have h0 := hlo t0 List.mem_cons_self
    -- `C = 65`: the limbs are `≤ 64 (2^52-1)`, and the first word `t0 + x·0x1000003D1` (`x ≤ 63`) exceeds `64·2^52` by less
    -- than `2^52`; hence limb 4 `≤ 2^48 + 63`
    exact carry5_spec (by decide) (by omega) (fun t ht => by
      rcases List.mem_append.mp ht with ht | ht
      · have := hlo t (List.mem_cons_of_mem _ ht); omega
      · rw [List.mem_singleton.mp ht]; omega) (by simp)

def norm5 (ts : List Nat) : List Nat := normG carry5 final5 48 (weak5 ts)

theorem norm5_spec {ts : List Nat} (h : LeL ts (magB 52 48 4 32)) :
    LeL (norm5 ts) (redB 52 48 4) ∧ valL 52 (norm5 ts) = valL 52 ts % P := by
  have hw := weak5_spec h
  rw [norm5]
  generalize weak5 ts = r at *
  obtain ⟨lo, t4, rfl, hn, hb, hl⟩ := leL_replicate hw.1
  obtain ⟨s0, s1, s2, s3, rfl⟩ := exists_list4 hn
  simp only [List.forall_mem_cons, List.not_mem_nil, false_imp_iff, implies_true, and_true, List.cons_append,
    List.nil_append] at hb hw ⊢
  have hx := (final5_spec (s0 := s0) (s1 := s1) (s2 := s2) (s3 := s3) (t4 := t4) (by omega) (by omega) (by omega) (by omega)
    (by omega)).trans (by rw [val5_eq_valL])
  exact normG_spec hw rfl (by decide) hx (carry5_spec (C := 2) (t0 := s0) (ts := [s1, s2, s3, t4]) (by decide)
    (by rw [hx]; split <;> omega) (by
      simp only [List.forall_mem_cons, List.not_mem_nil, false_imp_iff, implies_true, and_true]; omega) (by simp))

def val10 (x0 x1 x2 x3 x4 x5 x6 x7 x8 x9 : Nat) : Nat :=
  x0 + x1 * 2 ^ 26 + x2 * 2 ^ 52 + x3 * 2 ^ 78 + x4 * 2 ^ 104 + x5 * 2 ^ 130 + x6 * 2 ^ 156 + x7 * 2 ^ 182 +
    x8 * 2 ^ 208 + x9 * 2 ^ 234

/-- `(t9 >> 22) | ((t9 == 0x03FFFFF) & (m == 0x3FFFFFF) & ((t1 + 0x40 + ((t0 + 0x3D1) >> 26)) > 0x3FFFFFF))` with
    `m = t2 & … & t8`, of `secp256k1_fe_impl_normalize`; the constants are `UL`, hence `% 2^64` -/
def final10 : List Nat → Nat
  | [s0, s1, s2, s3, s4, s5, s6, s7, s8, t9] => t9 / 2 ^ 22 ||| (if t9 = 4194303 then 1 else 0) &&&
    (if s2 &&& s3 &&& s4 &&& s5 &&& s6 &&& s7 &&& s8 = 67108863 then 1 else 0) &&&
    (if 67108863 < ((s1 + 64) % 2 ^ 64 + (s0 + 977) % 2 ^ 64 / 2 ^ 26) % 2 ^ 64 then 1 else 0)
  | _ => 0

theorem final10_spec {s0 s1 s2 s3 s4 s5 s6 s7 s8 t9 : Nat} (h0 : s0 < 2 ^ 26) (h1 : s1 < 2 ^ 26) (h2 : s2 < 2 ^ 26)
    (h3 : s3 < 2 ^ 26) (h4 : s4 < 2 ^ 26) (h5 : s5 < 2 ^ 26) (h6 : s6 < 2 ^ 26) (h7 : s7 < 2 ^ 26) (h8 : s8 < 2 ^ 26)
    (h9 : t9 < 2 ^ 23) :
    final10 [s0, s1, s2, s3, s4, s5, s6, s7, s8, t9] = if P ≤ val10 s0 s1 s2 s3 s4 s5 s6 s7 s8 t9 then 1 else 0 := by
  simp only [final10, Nat.reducePow, MiniC.ite_and_ite] at *
  simp (disch := omega) only [and7_eq_mask]
  rw [Nat.mod_eq_of_lt (show s1 + 64 < 18446744073709551616 by omega),
    Nat.mod_eq_of_lt (show s0 + 977 < 18446744073709551616 by omega),
    Nat.mod_eq_of_lt (show s1 + 64 + (s0 + 977) / 67108864 < 18446744073709551616 by omega)]
  have hq : t9 / 4194304 = 0 ∨ t9 / 4194304 = 1 := by omega
  rcases hq with hq | hq <;> rw [hq]
  · rw [Nat.zero_or]
    exact if_congr (by simp only [val10, P, Nat.reducePow]; omega) rfl rfl
  · have hP : P ≤ val10 s0 s1 s2 s3 s4 s5 s6 s7 s8 t9 := by simp only [val10, P, Nat.reducePow]; omega
    rw [if_pos hP]
    split <;> rfl

theorem val10_eq_valL (x0 x1 x2 x3 x4 x5 x6 x7 x8 x9 : Nat) :
    val10 x0 x1 x2 x3 x4 x5 x6 x7 x8 x9 = valL 26 [x0, x1, x2, x3, x4, x5, x6, x7, x8, x9] := by
  simp only [val10, valL, Nat.reducePow]
  omega

/-- `p` in 10×26 limbs: `0x3FFFC2F`, `0x3FFFFBF`, `0x3FFFFFF` ×7, `0x03FFFFF` -/
def pL10 : List Nat :=
  [67107887, 67108799, 67108863, 67108863, 67108863, 67108863, 67108863, 67108863, 67108863, 4194303]

/-- as `mask5`, with `mask = -(t0 & one) >> 6` -/
def mask10 (r0 : Nat) : List Nat :=
  [67107887 &&& oddMask 32 6 r0, 67108799 &&& oddMask 32 6 r0, oddMask 32 6 r0, oddMask 32 6 r0, oddMask 32 6 r0,
    oddMask 32 6 r0, oddMask 32 6 r0, oddMask 32 6 r0, oddMask 32 6 r0, oddMask 32 6 r0 / 2 ^ 4]

theorem mask10_eq (r0 : Nat) : mask10 r0 = pL10.map (r0 % 2 * ·) := by
  simp only [mask10, oddMask, Nat.and_one_is_mod]
  rcases Nat.mod_two_eq_zero_or_one r0 with e | e <;> rw [e] <;> rfl

def half10 (rs : List Nat) : List Nat := halfW 32 25 (mask10 (rs.headD 0)) rs

/-- `m ≤ 31` (the documented contract) cannot be dropped here: at magnitude 32, `r0 + p_0` can reach `2^32` -/
theorem half10_ideal {m r0 r1 r2 r3 r4 r5 r6 r7 r8 r9 : Nat} (hm : m ≤ 31)
    (h : LeL [r0, r1, r2, r3, r4, r5, r6, r7, r8, r9] (magB 26 22 9 m)) :
    half10 [r0, r1, r2, r3, r4, r5, r6, r7, r8, r9] = halfI 25 pL10 [r0, r1, r2, r3, r4, r5, r6, r7, r8, r9] := by
  rw [half10, mask10_eq]
  refine halfW_ideal (by decide) rfl ?_
  simp only [LeL, magB, List.replicate, List.cons_append, List.nil_append, and_true, pL10, List.headD, List.map,
    List.zipWith, List.forall_mem_cons, List.not_mem_nil, false_imp_iff, implies_true, Nat.reducePow, Nat.reduceSub] at h ⊢
  omega

/-- `t0 += x * 0x3D1UL; t1 += (x << 6); t1 += (t0 >> 26); t0 &= M; …; t9 += (t8 >> 26); t8 &= M`; the `UL` makes the first
    addition a 64-bit one, converted back to `uint32_t` -/
def carry10 (x : Nat) : List Nat → List Nat × Nat
  | t0 :: t1 :: ts =>
    match chainW 26 32 (((t1 + x * 2 ^ 6 % 2 ^ 32) % 2 ^ 32 + (t0 + x * 977 % 2 ^ 64) % 2 ^ 64 % 2 ^ 32 / 2 ^ 26) % 2 ^ 32) ts with
    | (init, last) => ((t0 + x * 977 % 2 ^ 64) % 2 ^ 64 % 2 ^ 32 % 2 ^ 26 :: init, last)
  | _ => ([], 0)

theorem carry10_spec {x t0 t1 : Nat} {ts : List Nat} (h0 : t0 + x * 977 < 2 ^ 32)
    (h1 : t1 + x * 64 + (t0 + x * 977) / 2 ^ 26 < 2 ^ 32) (ht : ∀ t ∈ ts, t ≤ 64 * (2 ^ 26 - 1)) (hne : ts ≠ []) :
    Pass 26 x 64 (t0 :: t1 :: ts) (carry10 x (t0 :: t1 :: ts)) := by
  have hu0 : (t0 + x * 977 % 2 ^ 64) % 2 ^ 64 % 2 ^ 32 = t0 + x * 977 := by omega
  have hu1 : ((t1 + x * 2 ^ 6 % 2 ^ 32) % 2 ^ 32 + (t0 + x * 977) / 2 ^ 26) % 2 ^ 32 =
      t1 + x * 64 + (t0 + x * 977) / 2 ^ 26 := by omega
  obtain ⟨hb, hn, hv, hl⟩ := chainW_spec (w := 26) (W := 32) (C := 64) (by decide) ts _ h1 ht
  have hl' : (chainW 26 32 (t1 + x * 64 + (t0 + x * 977) / 2 ^ 26) ts).2 < (t0 :: t1 :: ts).getLastD 0 + 64 := by
    cases ts with
    | nil => exact absurd rfl hne
    | cons t ts => simpa only [List.getLastD_cons] using hl
  rw [carry10, hu0, hu1]
  generalize chainW 26 32 (t1 + x * 64 + (t0 + x * 977) / 2 ^ 26) ts = r at *
  obtain ⟨init, last⟩ := r
  refine ⟨fun s hs => ?_, congrArg (· + 2) hn, ?_, hl'⟩
  · rcases List.mem_cons.mp hs with rfl | hs
    · exact Nat.mod_lt _ (by decide)
    · exact hb s hs
  · rw [List.cons_append, valL, hv, valL, valL]
    generalize valL 26 ts = V
    omega

/-- `secp256k1_fe_impl_normalize_weak`: `x = t9 >> 22; t9 &= 0x03FFFFF`, then the pass -/
def weak10 (ts : List Nat) : List Nat :=
  joinL (carry10 (ts.getLastD 0 / 2 ^ 22) (ts.dropLast ++ [ts.getLastD 0 % 2 ^ 22]))

/-- the 32-bit additions `t0 += x * 0x3D1`, `t1 += (x << 6); t1 += (t0 >> 26)` (with `x = top >> 22`) stay below `2^32`.
    Magnitude 32 does not imply it (finding F4). -/
def NoOvfL (ts : List Nat) : Prop :=
  ts.headD 0 + ts.getLastD 0 / 2 ^ 22 * 977 < 2 ^ 32 ∧
  ts.tail.headD 0 + ts.getLastD 0 / 2 ^ 22 * 64 + (ts.headD 0 + ts.getLastD 0 / 2 ^ 22 * 977) / 2 ^ 26 < 2 ^ 32

theorem weak10_spec {ts : List Nat} (h : LeL ts (magB 26 22 9 32)) (hn : NoOvfL ts) : Weak 26 22 64 9 ts (weak10 ts) := by
  obtain ⟨lo, top, rfl, hlen, hlo, htop⟩ := leL_replicate h
  rw [weak10, List.dropLast_concat, List.getLastD_concat, ← hlen]
  refine weak_of_pass (by rw [hlen]) ?_
  match lo, hlen with
  | t0 :: t1 :: ts, hlen =>
    rw [NoOvfL, List.getLastD_concat] at hn
    exact carry10_spec hn.1 hn.2 (fun t ht => by
      rcases List.mem_append.mp ht with ht | ht
      · have := hlo t (List.mem_cons_of_mem _ (List.mem_cons_of_mem _ ht)); omega
      · rw [List.mem_singleton.mp ht]; omega) (by simp)

def norm10 (ts : List Nat) : List Nat := normG carry10 final10 22 (weak10 ts)

theorem norm10_spec {ts : List Nat} (h : LeL ts (magB 26 22 9 32)) (hno : NoOvfL ts) :
    LeL (norm10 ts) (redB 26 22 9) ∧ valL 26 (norm10 ts) = valL 26 ts % P := by
  have hw := weak10_spec h hno
  rw [norm10]
  generalize weak10 ts = r at *
  obtain ⟨lo, t9, rfl, hn, hb, hl⟩ := leL_replicate hw.1
  obtain ⟨s0, s1, s2, s3, s4, s5, s6, s7, s8, rfl⟩ := exists_list9 hn
  simp only [List.forall_mem_cons, List.not_mem_nil, false_imp_iff, implies_true, and_true, List.cons_append,
    List.nil_append] at hb hw ⊢
  have hx := (final10_spec (s0 := s0) (s1 := s1) (s2 := s2) (s3 := s3) (s4 := s4) (s5 := s5) (s6 := s6) (s7 := s7) (s8 := s8)
    (t9 := t9) (by omega) (by omega) (by omega) (by omega) (by omega) (by omega) (by omega) (by omega) (by omega)
    (by omega)).trans (by rw [val10_eq_valL])
  exact normG_spec hw rfl (by decide) hx (carry10_spec (x := final10 [s0, s1, s2, s3, s4, s5, s6, s7, s8, t9]) (t0 := s0)
    (t1 := s1) (ts := [s2, s3, s4, s5, s6, s7, s8, t9]) (by rw [hx]; split <;> omega) (by rw [hx]; split <;> omega) (by
      simp only [List.forall_mem_cons, List.not_mem_nil, false_imp_iff, implies_true, and_true]; omega) (by simp))

end FieldLinear
end SecpZkp
