import SecpZkp.Model.Rangeproof
import SecpZkp.Proofs.Bytes
/-
  The sign bytes of a range proof: bit `i` as `readDigits` reads it (`signBit`) is bit `i % 8` of byte `i / 8`,
  and `setSignBit` ORs a flag into exactly that bit.
-/
namespace SecpZkp
namespace Rangeproof

def signBit (signs : Bytes) (i : Nat) : Bool :=
  signs.getD (i / 8) 0 &&& ((1 : UInt8) <<< UInt8.ofNat (i % 8)) ≠ 0

theorem toNat_shiftLeft_ofNat (q : UInt8) {k : Nat} (hk : k < 8) :
    (q <<< UInt8.ofNat k).toNat = q.toNat <<< k % 2 ^ 8 := by
  rw [UInt8.toNat_shiftLeft, UInt8.toNat_ofNat', Nat.mod_mod_of_dvd _ (by decide : 8 ∣ 2 ^ 8), Nat.mod_eq_of_lt hk]

theorem and_one_shiftLeft_ne_zero (b : UInt8) {k : Nat} (hk : k < 8) :
    b &&& ((1 : UInt8) <<< UInt8.ofNat k) ≠ 0 ↔ b.toNat.testBit k = true := by
  have h1 : ((1 : UInt8) <<< UInt8.ofNat k).toNat = 2 ^ k := by
    rw [toNat_shiftLeft_ofNat _ hk, UInt8.toNat_one, Nat.one_shiftLeft]
    exact Nat.mod_eq_of_lt (Nat.pow_lt_pow_right (by omega) hk)
  rw [Ne, ← UInt8.toNat_inj, UInt8.toNat_and, h1, UInt8.toNat_zero]
  constructor
  · intro h
    cases hb : b.toNat.testBit k
    · refine absurd (Nat.eq_of_testBit_eq fun i => ?_) h
      rw [Nat.testBit_and, Nat.testBit_two_pow, Nat.zero_testBit]
      by_cases hki : k = i
      · rw [← hki, hb]; rfl
      · rw [decide_eq_false hki, Bool.and_false]
    · rfl
  · intro hb h
    have := congrArg (Nat.testBit · k) h
    simp [Nat.testBit_and, hb] at this

theorem signBit_eq (signs : Bytes) (i : Nat) : signBit signs i = (signs.getD (i / 8) 0).toNat.testBit (i % 8) := by
  rw [Bool.eq_iff_iff, signBit, decide_eq_true_eq]
  exact and_one_shiftLeft_ne_zero _ (Nat.mod_lt _ (by decide))

theorem signBit_zeros (n i : Nat) : signBit (Bytes.zeros n) i = false := by
  have : (List.replicate n (0 : UInt8)).getD (i / 8) 0 = 0 := by
    rw [List.getD_eq_getElem?_getD, List.getElem?_replicate]
    split <;> rfl
  rw [signBit_eq, Bytes.zeros, this]
  exact Nat.zero_testBit _

theorem testBit_or_shiftLeft (b q : UInt8) (hq : q ≤ 1) {k : Nat} (hk : k < 8) (k' : Nat) (hk' : k' < 8) :
    (b ||| (q <<< UInt8.ofNat k)).toNat.testBit k' = (b.toNat.testBit k' || (decide (k' = k) && q == 1)) := by
  rw [UInt8.toNat_or, Nat.testBit_or, toNat_shiftLeft_ofNat _ hk, Nat.testBit_mod_two_pow, Nat.testBit_shiftLeft,
    decide_eq_true hk', Bool.true_and]
  congr 1
  have hq1 : q.toNat ≤ 1 := UInt8.le_iff_toNat_le.mp hq
  by_cases hkk : k' = k
  · subst hkk
    rw [Nat.sub_self, Nat.testBit_zero, decide_eq_true (Nat.le_refl _), decide_eq_true rfl, Bool.true_and, Bool.true_and,
      Bool.eq_iff_iff, decide_eq_true_eq, beq_iff_eq, ← UInt8.toNat_inj, UInt8.toNat_one]
    omega
  · rw [decide_eq_false hkk, Bool.false_and]
    by_cases hge : k' ≥ k
    · rw [Nat.testBit_lt_two_pow (i := k' - k), Bool.and_false]
      exact Nat.lt_of_le_of_lt hq1 (Nat.one_lt_two_pow (by omega))
    · rw [decide_eq_false hge, Bool.false_and]

theorem signBit_setSignBit (signs : Bytes) (i : Nat) (q : UInt8) (hq : q ≤ 1) (hi : i / 8 < signs.length) (t : Nat) :
    signBit (setSignBit signs i q) t = if t = i then (signBit signs i || q == 1) else signBit signs t := by
  simp only [signBit_eq, setSignBit]
  by_cases hb : t / 8 = i / 8
  · rw [hb, List.getD_eq_getElem?_getD, List.getElem?_set_self hi, Option.getD_some,
      testBit_or_shiftLeft _ _ hq (Nat.mod_lt _ (by decide)) _ (Nat.mod_lt _ (by decide))]
    by_cases hti : t = i
    · subst hti; simp
    · rw [if_neg hti, decide_eq_false (by omega), Bool.false_and, Bool.or_false]
  · have hti : t ≠ i := by intro h; subst h; exact hb rfl
    rw [if_neg hti, List.getD_eq_getElem?_getD, List.getElem?_set_ne (Ne.symm hb), ← List.getD_eq_getElem?_getD]

theorem length_setSignBit (signs : Bytes) (i : Nat) (q : UInt8) : (setSignBit signs i q).length = signs.length := by
  simp [setSignBit]

/-- the conclusion is the spare-bit test of `verifyImpl` (`VerifyChecks.spare`) -/
theorem shiftRight_eq_zero_of_signBit (signs : Bytes) (n k : Nat)
    (h : ∀ pos, k ≤ pos → pos < 8 → signBit signs (8 * n + pos) = false) : (signs.getD n 0).toNat >>> k = 0 := by
  rw [Nat.shiftRight_eq_div_pow]
  refine Nat.div_eq_of_lt (Nat.lt_pow_two_of_testBit _ fun pos hpos => ?_)
  by_cases h8 : pos < 8
  · have := h pos hpos h8
    rwa [signBit_eq, show (8 * n + pos) / 8 = n by omega, show (8 * n + pos) % 8 = pos by omega] at this
  · exact Nat.testBit_lt_two_pow (Nat.lt_of_lt_of_le (UInt8.toNat_lt _) (Nat.pow_le_pow_right (by omega) (by omega : 8 ≤ pos)))

end Rangeproof
end SecpZkp
