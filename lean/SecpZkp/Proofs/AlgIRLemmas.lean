import SecpZkp.Model.AlgIR
import SecpZkp.Proofs.AlgIRAttr
import SecpZkp.Proofs.FeIRRun
/-
  Symbolic execution of `AlgIR` programs (`Model/AlgIR.lean`; the generated protocol cores of `Gen/P_*.lean`) by
  rewriting with the simp set `alg_run` (tagged at the end of this file).  The rules rewrite on a state written as an
  explicit constructor `⟨sc, fe, pt, bs, ints, returned⟩` (`State.exists_mk`), with the getters as `lookup` / `feGetL` /
  `Env.get`; the continuation of a statement list is pushed into both branches of an `if` (`execL_ite`), so that a
  function with early returns is executed by ONE `simp only [alg_run, …]` call into a decision tree of final states.

  Two hazards (both are about REDUCTION, not about the logic):
  * `rw [execS]` / `execS.eq_1` cannot be generated (recursion depth); the rules below are proved by `rfl` or from
    `execS.eq_def`.
  * A term `match Pt.liftX (r + N) b with …` must never be the major premise of a matcher that the KERNEL has to
    reduce: `r + N` with the literal `N` is turned into `Nat.succ (r + (N - 1))` and peeled `N` times (the check does not
    terminate, and the kernel has no heartbeat limit).  `generalize` does not help (the proof term is β-reduced when the
    metavariables are instantiated); a LEMMA whose statement has a variable `fx` with `r + N = fx` does
    (`Props/C01_ir.lean`, `sig_recover_aux`).
-/
namespace SecpZkp
namespace AlgIR
open MiniC

theorem lookup_update {α : Type} (dflt : α) (l : List (String × α)) (x y : String) (v : α) :
    lookup dflt (update l x v) y = if x = y then v else lookup dflt l y := by
  unfold lookup update bne
  rw [find_set]
  by_cases h : x = y <;> simp [h, eq_comm (a := y)]

theorem lookup_update_same {α : Type} (dflt : α) (l : List (String × α)) (x : String) (v : α) :
    lookup dflt (update l x v) x = v := by rw [lookup_update, if_pos rfl]

theorem lookup_update_ne {α : Type} (dflt : α) (l : List (String × α)) (x y : String) (v : α) (h : x ≠ y) :
    lookup dflt (update l x v) y = lookup dflt l y := by rw [lookup_update, if_neg h]

/-- `State.feGet` as a function of the two stores it reads -/
def feGetL (fe : List (String × Nat)) (pt : List (String × Pt)) (x : String) : Nat :=
  match fe.find? (·.1 == x) with
  | some p => p.2
  | none =>
    if x.endsWith ".x" then Pt.xOf (lookup Pt.inf pt (String.ofList (x.toList.dropLast.dropLast)))
    else if x.endsWith ".y" then Pt.yOf (lookup Pt.inf pt (String.ofList (x.toList.dropLast.dropLast)))
    else 0

theorem feGetL_update (fe : List (String × Nat)) (pt : List (String × Pt)) (x y : String) (v : Nat) :
    feGetL (update fe x v) pt y = if x = y then v else feGetL fe pt y := by
  unfold feGetL update bne
  rw [find_set]
  by_cases h : x = y <;> simp [h, eq_comm (a := y)]

theorem endsWith_iff (s pat : String) : s.endsWith pat = true ↔ pat.toList <:+ s.toList := by
  rw [String.endsWith_eq_endsWith_toSlice, String.Slice.endsWith_string_iff]
  simp

theorem feGetL_x {fe : List (String × Nat)} {pt : List (String × Pt)} {x : String}
    (hfe : fe.find? (·.1 == x) = none) (p : String) (hx : x = p ++ ".x") :
    feGetL fe pt x = Pt.xOf (lookup Pt.inf pt p) := by
  subst hx
  unfold feGetL
  rw [hfe]
  simp [endsWith_iff]

theorem feGetL_y {fe : List (String × Nat)} {pt : List (String × Pt)} {x : String}
    (hfe : fe.find? (·.1 == x) = none) (p : String) (hx : x = p ++ ".y") :
    feGetL fe pt x = Pt.yOf (lookup Pt.inf pt p) := by
  subst hx
  -- two suffixes of the same length of one list are equal
  have hx : ¬ ['.', 'x'] <:+ p.toList ++ ['.', 'y'] := fun h =>
    absurd (List.suffix_of_suffix_length_le h (List.suffix_append p.toList ['.', 'y']) (Nat.le_refl 2)) (by decide)
  unfold feGetL
  rw [hfe]
  simp [endsWith_iff, hx]

section getters
variable (sc fe : List (String × Nat)) (pt : List (String × Pt)) (bs : List (String × Bytes)) (ints : Env) (r : Bool)

theorem scGet_mk (x : String) : State.scGet ⟨sc, fe, pt, bs, ints, r⟩ x = lookup 0 sc x := rfl
theorem ptGet_mk (x : String) : State.ptGet ⟨sc, fe, pt, bs, ints, r⟩ x = lookup Pt.inf pt x := rfl
theorem byGet_mk (x : String) : State.byGet ⟨sc, fe, pt, bs, ints, r⟩ x = lookup (Bytes.zeros 32) bs x := rfl
theorem feGet_mk (x : String) : State.feGet ⟨sc, fe, pt, bs, ints, r⟩ x = feGetL fe pt x := rfl

end getters

theorem State.exists_mk (st : State) (h : st.returned = false) :
    ∃ sc fe pt bs ints, st = ⟨sc, fe, pt, bs, ints, false⟩ := by
  cases st; cases h; exact ⟨_, _, _, _, _, rfl⟩

theorem execL_nil (st : State) : execL st [] = st := by rw [execL]

theorem execL_returned (sc fe : List (String × Nat)) (pt : List (String × Pt)) (bs : List (String × Bytes))
    (ints : Env) (l : List Stmt) :
    execL ⟨sc, fe, pt, bs, ints, true⟩ l = ⟨sc, fe, pt, bs, ints, true⟩ := by
  cases l with
  | nil => rw [execL]
  | cons s rest => rw [execL]; simp

theorem execL_cons (sc fe : List (String × Nat)) (pt : List (String × Pt)) (bs : List (String × Bytes))
    (ints : Env) (s : Stmt) (rest : List Stmt) :
    execL ⟨sc, fe, pt, bs, ints, false⟩ (s :: rest) = execL (execS ⟨sc, fe, pt, bs, ints, false⟩ s) rest := by
  rw [execL]
  simp only [Bool.false_eq_true, if_false]

theorem execL_ite (c : Prop) [Decidable c] (a b : State) (rest : List Stmt) :
    execL (if c then a else b) rest = if c then execL a rest else execL b rest :=
  apply_ite (execL · rest) c a b

/-- the `match` on the outcome of `liftX` behind a name, so that running on, leaving a callee and reading a variable can
    be pushed into both outcomes by rewriting (`apply_optCase`) -/
def optCase {α β : Type} (o : Option α) (f : α → β) (g : β) : β :=
  match o with
  | some q => f q
  | none => g

theorem optCase_some {α β : Type} (q : α) (f : α → β) (g : β) : optCase (some q) f g = f q := rfl
theorem optCase_none {α β : Type} (f : α → β) (g : β) : optCase (none : Option α) f g = g := rfl

theorem apply_optCase {α β γ : Type} (h : β → γ) (o : Option α) (f : α → β) (g : β) :
    h (optCase o f g) = optCase o (fun q => h (f q)) (h g) := by
  cases o <;> rfl

def unscope (r : Bool) (st : State) : State := { st with returned := r }

theorem unscope_mk (r r' : Bool) (sc fe : List (String × Nat)) (pt : List (String × Pt)) (bs : List (String × Bytes))
    (ints : Env) : unscope r ⟨sc, fe, pt, bs, ints, r'⟩ = ⟨sc, fe, pt, bs, ints, r⟩ := rfl

theorem execL_optCase {α : Type} (o : Option α) (f : α → State) (g : State) (rest : List Stmt) :
    execL (optCase o f g) rest = optCase o (fun q => execL (f q) rest) (execL g rest) :=
  apply_optCase (execL · rest) o f g
theorem unscope_optCase {α : Type} (r : Bool) (o : Option α) (f : α → State) (g : State) :
    unscope r (optCase o f g) = optCase o (fun q => unscope r (f q)) (unscope r g) := apply_optCase _ o f g
theorem ints_optCase {α : Type} (o : Option α) (f : α → State) (g : State) :
    (optCase o f g).ints = optCase o (fun q => (f q).ints) g.ints := apply_optCase _ o f g
theorem get_optCase {α : Type} (o : Option α) (f : α → Env) (g : Env) (x : String) :
    (optCase o f g).get x 0 = optCase o (fun q => (f q).get x 0) (g.get x 0) := apply_optCase (·.get x 0) o f g
theorem scGet_optCase {α : Type} (o : Option α) (f : α → State) (g : State) (x : String) :
    (optCase o f g).scGet x = optCase o (fun q => (f q).scGet x) (g.scGet x) := apply_optCase (·.scGet x) o f g
theorem ptGet_optCase {α : Type} (o : Option α) (f : α → State) (g : State) (x : String) :
    (optCase o f g).ptGet x = optCase o (fun q => (f q).ptGet x) (g.ptGet x) := apply_optCase (·.ptGet x) o f g

theorem unscope_ite (r : Bool) (c : Prop) [Decidable c] (a b : State) :
    unscope r (if c then a else b) = if c then unscope r a else unscope r b := apply_ite _ c a b
theorem ints_ite (c : Prop) [Decidable c] (a b : State) : (if c then a else b).ints = if c then a.ints else b.ints :=
  apply_ite _ c a b
theorem get_ite (c : Prop) [Decidable c] (a b : Env) (x : String) :
    (if c then a else b).get x 0 = if c then a.get x 0 else b.get x 0 := apply_ite (·.get x 0) c a b
theorem scGet_ite (c : Prop) [Decidable c] (a b : State) (x : String) :
    (if c then a else b).scGet x = if c then a.scGet x else b.scGet x := apply_ite (·.scGet x) c a b
theorem ptGet_ite (c : Prop) [Decidable c] (a b : State) (x : String) :
    (if c then a else b).ptGet x = if c then a.ptGet x else b.ptGet x := apply_ite (·.ptGet x) c a b
theorem byGet_ite (c : Prop) [Decidable c] (a b : State) (x : String) :
    (if c then a else b).byGet x = if c then a.byGet x else b.byGet x := apply_ite (·.byGet x) c a b

section stmts
variable (sc fe : List (String × Nat)) (pt : List (String × Pt)) (bs : List (String × Bytes)) (ints : Env) (r : Bool)

theorem execS_scSet (d s : String) :
    execS ⟨sc, fe, pt, bs, ints, r⟩ (.scSet d s) = ⟨update sc d (lookup 0 sc s), fe, pt, bs, ints, r⟩ := rfl
theorem execS_scMul (d a b : String) :
    execS ⟨sc, fe, pt, bs, ints, r⟩ (.scMul d a b) =
      ⟨update sc d (Sc.mul (lookup 0 sc a) (lookup 0 sc b)), fe, pt, bs, ints, r⟩ := rfl
theorem execS_scAdd (d a b : String) :
    execS ⟨sc, fe, pt, bs, ints, r⟩ (.scAdd d a b) =
      ⟨update sc d (Sc.add (lookup 0 sc a) (lookup 0 sc b)), fe, pt, bs, ints, r⟩ := rfl
theorem execS_scNeg (d a : String) :
    execS ⟨sc, fe, pt, bs, ints, r⟩ (.scNeg d a) = ⟨update sc d (Sc.neg (lookup 0 sc a)), fe, pt, bs, ints, r⟩ := rfl
theorem execS_scInv (d a : String) :
    execS ⟨sc, fe, pt, bs, ints, r⟩ (.scInv d a) = ⟨update sc d (Sc.inv (lookup 0 sc a)), fe, pt, bs, ints, r⟩ := rfl
theorem execS_scClear (d : String) :
    execS ⟨sc, fe, pt, bs, ints, r⟩ (.scClear d) = ⟨update sc d 0, fe, pt, bs, ints, r⟩ := rfl
theorem execS_scIsZero (x s : String) :
    execS ⟨sc, fe, pt, bs, ints, r⟩ (.scIsZero x s) =
      ⟨sc, fe, pt, bs, ints.set x 0 (i32 (decide (lookup 0 sc s % N = 0))), r⟩ := rfl
theorem execS_scIsHigh (x s : String) :
    execS ⟨sc, fe, pt, bs, ints, r⟩ (.scIsHigh x s) =
      ⟨sc, fe, pt, bs, ints.set x 0 (i32 (Sc.isHigh (lookup 0 sc s))), r⟩ := rfl
theorem execS_scCondNeg (d : String) (flag : Expr) :
    execS ⟨sc, fe, pt, bs, ints, r⟩ (.scCondNeg d flag) =
      if evalEI ints flag ≠ 0 then ⟨update sc d (Sc.neg (lookup 0 sc d)), fe, pt, bs, ints, r⟩
      else ⟨sc, fe, pt, bs, ints, r⟩ := rfl
theorem execS_scOfBytes_some (d b o : String) :
    execS ⟨sc, fe, pt, bs, ints, r⟩ (.scOfBytes d b (some o)) =
      ⟨update sc d (Bytes.toNat (lookup (Bytes.zeros 32) bs b) % N), fe, pt, bs,
        ints.set o 0 (i32 (decide (Bytes.toNat (lookup (Bytes.zeros 32) bs b) ≥ N))), r⟩ := rfl
theorem execS_scOfBytes_none (d b : String) :
    execS ⟨sc, fe, pt, bs, ints, r⟩ (.scOfBytes d b none) =
      ⟨update sc d (Bytes.toNat (lookup (Bytes.zeros 32) bs b) % N), fe, pt, bs, ints, r⟩ := rfl
theorem execS_bytesOfSc (b s : String) :
    execS ⟨sc, fe, pt, bs, ints, r⟩ (.bytesOfSc b s) =
      ⟨sc, fe, pt, update bs b (Bytes.be32 (lookup 0 sc s % N)), ints, r⟩ := rfl
theorem execS_feConst (d : String) (n : Nat) :
    execS ⟨sc, fe, pt, bs, ints, r⟩ (.feConst d n) = ⟨sc, update fe d (n % P), pt, bs, ints, r⟩ := rfl
theorem execS_feOfBytesMod (d b : String) :
    execS ⟨sc, fe, pt, bs, ints, r⟩ (.feOfBytesMod d b) =
      ⟨sc, update fe d (Bytes.toNat (lookup (Bytes.zeros 32) bs b) % P), pt, bs, ints, r⟩ := rfl
theorem execS_feOfBytesLimit (x d b : String) :
    execS ⟨sc, fe, pt, bs, ints, r⟩ (.feOfBytesLimit x d b) =
      ⟨sc, update fe d (Bytes.toNat (lookup (Bytes.zeros 32) bs b) % P), pt, bs,
        ints.set x 0 (i32 (decide (Bytes.toNat (lookup (Bytes.zeros 32) bs b) < P))), r⟩ := rfl
theorem execS_bytesOfFe (b f : String) :
    execS ⟨sc, fe, pt, bs, ints, r⟩ (.bytesOfFe b f) =
      ⟨sc, fe, pt, update bs b (Bytes.be32 (feGetL fe pt f % P)), ints, r⟩ := rfl
theorem execS_feAdd (d a : String) :
    execS ⟨sc, fe, pt, bs, ints, r⟩ (.feAdd d a) =
      ⟨sc, update fe d (Fe.add (feGetL fe pt d) (feGetL fe pt a)), pt, bs, ints, r⟩ := rfl
theorem execS_feNorm (d : String) :
    execS ⟨sc, fe, pt, bs, ints, r⟩ (.feNorm d) = ⟨sc, update fe d (feGetL fe pt d % P), pt, bs, ints, r⟩ := rfl
theorem execS_feCmp (x a b : String) :
    execS ⟨sc, fe, pt, bs, ints, r⟩ (.feCmp x a b) =
      ⟨sc, fe, pt, bs, ints.set x 0 (if feGetL fe pt a % P > feGetL fe pt b % P then 1
        else if feGetL fe pt a % P = feGetL fe pt b % P then 0 else 2 ^ 32 - 1), r⟩ := rfl
theorem execS_feIsOdd (x f : String) :
    execS ⟨sc, fe, pt, bs, ints, r⟩ (.feIsOdd x f) = ⟨sc, fe, pt, bs, ints.set x 0 (feGetL fe pt f % P % 2), r⟩ := rfl
theorem execS_ptSet (d s : String) :
    execS ⟨sc, fe, pt, bs, ints, r⟩ (.ptSet d s) = ⟨sc, fe, update pt d (lookup Pt.inf pt s), bs, ints, r⟩ := rfl
theorem execS_ptClear (d : String) :
    execS ⟨sc, fe, pt, bs, ints, r⟩ (.ptClear d) = ⟨sc, fe, update pt d Pt.inf, bs, ints, r⟩ := rfl
theorem execS_ecmult (d a na ng : String) :
    execS ⟨sc, fe, pt, bs, ints, r⟩ (.ecmult d a na ng) =
      ⟨sc, fe, update pt d (Pt.add (Pt.mul (lookup 0 sc na % N) (lookup Pt.inf pt a)) (Pt.mulG (lookup 0 sc ng % N))),
        bs, ints, r⟩ := rfl
theorem execS_ecmultGen (d n : String) :
    execS ⟨sc, fe, pt, bs, ints, r⟩ (.ecmultGen d n) = ⟨sc, fe, update pt d (Pt.mulG (lookup 0 sc n % N)), bs, ints, r⟩ := rfl
theorem execS_ptIsInf (x p : String) :
    execS ⟨sc, fe, pt, bs, ints, r⟩ (.ptIsInf x p) =
      ⟨sc, fe, pt, bs, ints.set x 0 (i32 (lookup Pt.inf pt p).isInf), r⟩ := rfl
theorem execS_eqX (x f p : String) :
    execS ⟨sc, fe, pt, bs, ints, r⟩ (.eqX x f p) =
      ⟨sc, fe, pt, bs, ints.set x 0 (i32 (decide (Pt.xOf (lookup Pt.inf pt p) = feGetL fe pt f % P))), r⟩ := rfl
theorem execS_liftX (x d f : String) (odd : Expr) :
    execS ⟨sc, fe, pt, bs, ints, r⟩ (.liftX x d f odd) =
      optCase (Pt.liftX (feGetL fe pt f % P) (decide (evalEI ints odd ≠ 0)))
        (fun q => ⟨sc, fe, update pt d q, bs, ints.set x 0 1, r⟩) ⟨sc, fe, pt, bs, ints.set x 0 0, r⟩ := by
  rw [execS.eq_def]
  simp only [feGet_mk]
  generalize Pt.liftX _ _ = o
  cases o <;> rfl
theorem execS_int (x : String) (e : Expr) :
    execS ⟨sc, fe, pt, bs, ints, r⟩ (.int x e) = ⟨sc, fe, pt, bs, ints.set x 0 (evalEI ints e), r⟩ := rfl
theorem execS_ite (c : Expr) (t e : List Stmt) :
    execS ⟨sc, fe, pt, bs, ints, r⟩ (.ite c t e) =
      if evalEI ints c ≠ 0 then execL ⟨sc, fe, pt, bs, ints, r⟩ t else execL ⟨sc, fe, pt, bs, ints, r⟩ e := rfl
theorem execS_ret : execS ⟨sc, fe, pt, bs, ints, r⟩ .ret = ⟨sc, fe, pt, bs, ints, true⟩ := rfl
theorem execS_scConst (d : String) (n : Nat) :
    execS ⟨sc, fe, pt, bs, ints, r⟩ (.scConst d n) = ⟨update sc d (n % N), fe, pt, bs, ints, r⟩ := rfl
theorem execS_scOfBytesSeckey (x d b : String) :
    execS ⟨sc, fe, pt, bs, ints, r⟩ (.scOfBytesSeckey x d b) =
      ⟨update sc d (Bytes.toNat (lookup (Bytes.zeros 32) bs b) % N), fe, pt, bs,
        ints.set x 0 (i32 (decide (Bytes.toNat (lookup (Bytes.zeros 32) bs b) < N ∧
          Bytes.toNat (lookup (Bytes.zeros 32) bs b) ≠ 0))), r⟩ := rfl
theorem execS_scCmov (d s : String) (flag : Expr) :
    execS ⟨sc, fe, pt, bs, ints, r⟩ (.scCmov d s flag) =
      if evalEI ints flag ≠ 0 then ⟨update sc d (lookup 0 sc s), fe, pt, bs, ints, r⟩
      else ⟨sc, fe, pt, bs, ints, r⟩ := rfl
theorem execS_ptAdd (d a b : String) :
    execS ⟨sc, fe, pt, bs, ints, r⟩ (.ptAdd d a b) =
      ⟨sc, fe, update pt d (Pt.add (lookup Pt.inf pt a) (lookup Pt.inf pt b)), bs, ints, r⟩ := rfl
theorem execS_ptNeg (d a : String) :
    execS ⟨sc, fe, pt, bs, ints, r⟩ (.ptNeg d a) = ⟨sc, fe, update pt d (Pt.neg (lookup Pt.inf pt a)), bs, ints, r⟩ := rfl
theorem execS_ptLoad (x d src : String) :
    execS ⟨sc, fe, pt, bs, ints, r⟩ (.ptLoad x d src) =
      if lookup Pt.inf pt src = Pt.inf then
        ⟨sc, fe, pt, bs, (ints.set x 0 0).set "illegal" 0 (ints.get "illegal" 0 + 1), r⟩
      else ⟨sc, fe, update pt d (lookup Pt.inf pt src), bs, ints.set x 0 1, r⟩ := by
  rw [execS.eq_def]
  simp only [ptGet_mk]
  generalize lookup Pt.inf pt src = q
  cases q with
  | inf => simp only [if_true]
  | aff a b => simp only [reduceCtorEq, if_false]
theorem execS_feEqual (x a b : String) :
    execS ⟨sc, fe, pt, bs, ints, r⟩ (.feEqual x a b) =
      ⟨sc, fe, pt, bs, ints.set x 0 (i32 (decide (feGetL fe pt a % P = feGetL fe pt b % P))), r⟩ := rfl
theorem execS_challenge (e r32 msg pk32 : String) :
    execS ⟨sc, fe, pt, bs, ints, r⟩ (.challenge e r32 msg pk32) =
      ⟨update sc e (Schnorr.challenge (lookup (Bytes.zeros 32) bs r32) (lookup [] bs msg)
        (lookup (Bytes.zeros 32) bs pk32)), fe, pt, bs, ints, r⟩ := rfl
theorem execS_scope (body : List Stmt) :
    execS ⟨sc, fe, pt, bs, ints, r⟩ (.scope body) = unscope r (execL ⟨sc, fe, pt, bs, ints, r⟩ body) := rfl

end stmts

theorem i32_decide (p : Prop) [Decidable p] : i32 (decide p) = if p then 1 else 0 := by
  by_cases h : p <;> simp [i32, h]
theorem i32_bool (b : Bool) : i32 b = if b = true then 1 else 0 := rfl

theorem evalEI_lit (ints : Env) (n : Nat) : evalEI ints (.lit n) = n := rfl
theorem evalEI_var (ints : Env) (x : String) : evalEI ints (.var x) = ints.get x 0 := rfl
theorem evalEI_bin (ints : Env) (op : BinOp) (w : Nat) (a b : Expr) :
    evalEI ints (.bin op w a b) = binIdeal op (evalEI ints a) (evalEI ints b) := rfl
theorem evalEI_lnot (ints : Env) (e : Expr) : evalEI ints (.lnot e) = if evalEI ints e = 0 then 1 else 0 := rfl
theorem evalEI_cond (ints : Env) (c a b : Expr) :
    evalEI ints (.cond c a b) = if evalEI ints c ≠ 0 then evalEI ints a else evalEI ints b := rfl

theorem binIdeal_ne (a b : Nat) : binIdeal .ne a b = if a ≠ b then 1 else 0 := FeIR.binIdeal_ne a b
theorem binIdeal_le (a b : Nat) : binIdeal .le a b = if a ≤ b then 1 else 0 := rfl
theorem binIdeal_lt (a b : Nat) : binIdeal .lt a b = if a < b then 1 else 0 := rfl
theorem binIdeal_eq (a b : Nat) : binIdeal .eq a b = if a = b then 1 else 0 := FeIR.binIdeal_eq a b
theorem binIdeal_and (a b : Nat) : binIdeal .and a b = a &&& b := FeIR.binIdeal_and a b
theorem binIdeal_or (a b : Nat) : binIdeal .or a b = a ||| b := rfl
theorem binIdeal_xor (a b : Nat) : binIdeal .xor a b = a ^^^ b := rfl
theorem binIdeal_shl (a b : Nat) : binIdeal .shl a b = a * 2 ^ b := rfl

theorem one_ne_zero_eq : ((1 : Nat) ≠ 0) = True := by simp
theorem one_eq_zero_eq : ((1 : Nat) = 0) = False := by simp
theorem zero_ne_zero_eq : ((0 : Nat) ≠ 0) = False := by simp
theorem zero_eq_zero_eq : ((0 : Nat) = 0) = True := by simp

theorem scAdd_mod (a b : Nat) : Sc.add a b % N = Sc.add a b := Nat.mod_mod _ _
theorem scMul_mod (a b : Nat) : Sc.mul a b % N = Sc.mul a b := Nat.mod_mod _ _
theorem scNeg_mod (a : Nat) : Sc.neg a % N = Sc.neg a := Nat.mod_mod _ _

/-- `secp256k1_fe_cmp_var(a, b) >= 0` as clang shows a signed comparison: unsigned `2^31 ≤ cmp ^ 2^31`, where `cmp` is
    1, 0 or `2^32 - 1` -/
theorem feCmp_ge (a b : Nat) :
    (2147483648 ≤ (if a > b then 1 else if a = b then 0 else 2 ^ 32 - 1) ^^^ 2147483648) = (b ≤ a) := by
  by_cases h1 : a > b
  · simp only [h1, if_true, eq_iff_iff]; exact ⟨fun _ => by omega, fun _ => by decide⟩
  · by_cases h2 : a = b
    · subst h2; simp only [gt_iff_lt, lt_irrefl, if_false, if_true, le_refl, eq_iff_iff, iff_true]; decide
    · simp only [h1, h2, if_false, eq_iff_iff]
      exact ⟨fun h => absurd h (by decide), fun h => by omega⟩

attribute [alg_run] ite_and_ite FeIR.ite_one_zero_eq_zero ite_self
attribute [alg_run] execL_cons execL_nil execL_returned execL_ite execL_optCase
  execS_scSet execS_scMul execS_scAdd execS_scNeg execS_scInv execS_scClear execS_scConst execS_scOfBytesSeckey
  execS_scCmov execS_scIsZero execS_scIsHigh execS_scCondNeg execS_scOfBytes_some execS_scOfBytes_none execS_bytesOfSc
  execS_feConst execS_feOfBytesMod execS_feOfBytesLimit execS_bytesOfFe execS_feAdd execS_feNorm execS_feCmp
  execS_feIsOdd execS_feEqual execS_ptSet execS_ptClear execS_ptAdd execS_ptNeg execS_ecmult execS_ecmultGen
  execS_ptIsInf execS_eqX execS_liftX execS_ptLoad execS_challenge execS_int execS_ite execS_scope execS_ret
  unscope_mk unscope_ite unscope_optCase
  lookup_update feGetL_update FeIR.ints_get_set if_true if_false
  evalEI_lit evalEI_var evalEI_bin evalEI_lnot evalEI_cond i32_decide i32_bool
  binIdeal_ne binIdeal_le binIdeal_lt binIdeal_eq binIdeal_and binIdeal_or binIdeal_xor binIdeal_shl
  one_ne_zero_eq one_eq_zero_eq zero_ne_zero_eq zero_eq_zero_eq FeIR.ite_one_zero_ne_zero decide_eq_true_eq
  scAdd_mod scMul_mod scNeg_mod Nat.mod_mod
  scGet_mk ptGet_mk byGet_mk ints_ite get_ite scGet_ite ptGet_ite byGet_ite ints_optCase get_optCase ptGet_optCase
-- `↓reduceIte`: as in `fe_core` (`Proofs/FeIRRun.lean`); without it the execution is quadratic in the program's length
attribute [alg_run_proc] String.reduceEq
attribute [alg_run_proc ↓] reduceIte

end AlgIR
end SecpZkp
