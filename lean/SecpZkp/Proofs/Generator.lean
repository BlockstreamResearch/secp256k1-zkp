import SecpZkp.Model.Generator
-- `GroupLawProved` (hence `Prime`, with `fact_prime_N`) is imported BEFORE `GroupExtra` (hence `Algebra`): of two instances of
-- `Fact (Nat.Prime N)` the later one is chosen, and the terms of `sc`, `term`, `signedSum` below (which the statements of
-- `Props/C08.lean` mention) are elaborated with `Algebra.instFactPrimeN`.
import SecpZkp.Proofs.GroupLawProved
import SecpZkp.Proofs.GroupExtra
import SecpZkp.Proofs.Parsers
import SecpZkp.Proofs.Algebra
import SecpZkp.Proofs.Bytes
import SecpZkp.Proofs.BytesBasic
import SecpZkp.Proofs.EllswiftField
/-
  Under property C08 (`Props/C08.lean`): the points over an abscissa in terms of the root `Fe.sqrtCand (x³ + 7)` and the
  flag "ordinate is a square" (`valid_aff_iff_sqrtCand`), on which the 33-byte commitment (prefix 8/9) and generator
  (prefix 10/11) encodings rest; `verifyTally` as a difference of sums; the two blind-sum loops as signed sums in `ZMod N`;
  the Shallue–van de Woestijne map lands on the curve (`svdw_spec`).
-/
namespace SecpZkp
namespace GeneratorLemmas

local instance instHGL : HasGroupLaw := ⟨groupLaw⟩

/- `whnf` on terms containing `Fe.sqrtCand` would otherwise unroll the 520-step `powMod` loop, and on
   `decide (genT1 key < P)` it would run SHA-256 on an open term. -/
attribute [local irreducible] powMod Sha256.sha256
open Generator
open Parsers (curveRhs)

theorem isSquare_sqrtCand {x : ℕ} (hx : x < P) (h : Fe.isSquare (curveRhs x) = true) :
    Fe.isSquare (Fe.sqrtCand (curveRhs x)) = true ∧
      Fe.isSquare (Fe.neg (Fe.sqrtCand (curveRhs x))) = false := by
  have hq := Fe.sqrtCand_isSquare ((Fe.isSquare_iff _).1 h)
  refine ⟨(Fe.isSquare_iff _).2 hq, ?_⟩
  rw [Bool.eq_false_iff, Ne, Fe.isSquare_iff, Fe.cast_neg]
  refine not_isSquare_neg ?_ hq
  rw [Ne, Fe.cast_eq_zero_iff]
  exact valid_y_mod_ne_zero (Parsers.onCurve_sqrtCand hx h)

/-- `s` stands for the flag "the ordinate is a square" that the commitment and generator objects store in their prefix. -/
theorem valid_aff_iff_sqrtCand {x y : ℕ} (hx : x < P) (s : Prop) [Decidable s] :
    (Pt.aff x y).valid = true ∧ (Fe.isSquare y = true ↔ s) ↔ Fe.isSquare (curveRhs x) = true ∧
      y = if s then Fe.sqrtCand (curveRhs x) else Fe.neg (Fe.sqrtCand (curveRhs x)) := by
  constructor
  · rintro ⟨hv, hs⟩
    have h := isSquare_rhs_of_valid hv
    obtain ⟨hq, hnq⟩ := isSquare_sqrtCand hx h
    refine ⟨h, ?_⟩
    rcases eq_or_eq_neg_of_x_eq (Parsers.onCurve_sqrtCand hx h) hv with rfl | rfl
    · rw [if_pos (hs.1 hq)]
    · rw [if_neg fun c => Bool.false_ne_true (hnq.symm.trans (hs.2 c))]
  · rintro ⟨h, rfl⟩
    obtain ⟨hq, hnq⟩ := isSquare_sqrtCand hx h
    have hv : (Pt.aff x _).valid = true := Parsers.onCurve_sqrtCand hx h
    by_cases c : s
    · rw [if_pos c]
      exact ⟨hv, iff_of_true hq c⟩
    · rw [if_neg c]
      exact ⟨valid_neg hv, iff_of_false (hnq ▸ Bool.false_ne_true) c⟩

/-- Decoding rule of the commitment / generator objects: lift the abscissa to the point with square
    ordinate, negate it when the stored flag says "ordinate is not a square". -/
theorem quad_select {x y : ℕ} (h : (Pt.aff x y).valid = true) :
    ∃ r, Pt.liftXQuad x = some (.aff x r) ∧
      (if Fe.isSquare y = true then Pt.aff x r else Pt.neg (.aff x r)) = .aff x y := by
  have hx := (Algebra.valid_aff_lt h).1
  obtain ⟨hs, hy⟩ := (valid_aff_iff_sqrtCand hx _).1 ⟨h, Iff.rfl⟩
  refine ⟨_, by rw [Parsers.liftXQuad_eq, if_pos hs, Nat.mod_eq_of_lt hx], ?_⟩
  exact (apply_ite (Pt.aff x) _ _ _).symm.trans (congrArg _ hy.symm)

theorem sum_nil : Pt.sum [] = .inf := rfl

theorem commitSave_aff (x y : ℕ) : commitSave (.aff x y) =
    (if Fe.isSquare y = true then (8 : UInt8) else 9) :: Bytes.be32 x := rfl

theorem serialize_aff (x y : ℕ) : serialize (.aff x y) =
    (if Fe.isSquare y = true then (10 : UInt8) else 11) :: Bytes.be32 x := rfl

/- In the three normal forms below the abscissa is a variable `x` with `e : Bytes.toNat rest = x`: a caller that read the bytes
   passes `rfl`, one that wrote `be32 x` passes `Bytes.toNat_be32_of_lt_P`. -/
theorem commitLoad_eq_aff {b0 : UInt8} {rest : Bytes} {x : ℕ} (e : Bytes.toNat rest = x)
    (hb : b0 = 8 ∨ b0 = 9) (hx : x < P) (hs : Fe.isSquare (curveRhs x) = true) :
    commitLoad (b0 :: rest) =
      .aff x (if b0 = 8 then Fe.sqrtCand (curveRhs x) else Fe.neg (Fe.sqrtCand (curveRhs x))) := by
  subst e
  rw [Parsers.commitLoad_cons b0 rest hx hs]
  rcases hb with rfl | rfl
  · rw [if_neg (by decide), if_pos rfl]
  · rw [if_pos (by decide), if_neg (by decide)]; rfl

theorem commitLoad_commitSave {x y : ℕ} (h : (Pt.aff x y).valid = true) :
    commitLoad (commitSave (.aff x y)) = .aff x y := by
  have hx := (Algebra.valid_aff_lt h).1
  have e := Bytes.toNat_be32_of_lt_P hx
  obtain ⟨hs, hy⟩ := (valid_aff_iff_sqrtCand hx _).1 ⟨h, Iff.rfl⟩
  rw [commitSave_aff]
  split at hy
  · rw [if_pos ‹_›, commitLoad_eq_aff e (.inl rfl) hx hs, if_pos rfl, ← hy]
  · rw [if_neg ‹_›, commitLoad_eq_aff e (.inr rfl) hx hs, if_neg (by decide), ← hy]

theorem commitLoad_valid (c : Bytes) : (commitLoad c).valid = true := by
  unfold commitLoad
  split
  · rfl
  · split
    · rfl
    · next p hp =>
      have hv := (liftXQuad_some hp).1
      split
      · exact valid_neg hv
      · exact hv

theorem commitParse_cons {b0 : UInt8} {rest : Bytes} {x : ℕ} (e : Bytes.toNat rest = x) :
    commitParse (b0 :: rest) =
      if (b0 = 8 ∨ b0 = 9) ∧ x < P ∧ Fe.isSquare (curveRhs x) = true then some (b0 :: rest)
      else none := by
  subst e
  simp only [commitParse, Codec.feLimit, curveRhs, ← Parsers.commit_prefix]
  split_ifs <;> simp_all

theorem parse_cons {b0 : UInt8} {rest : Bytes} {x : ℕ} (e : Bytes.toNat rest = x) :
    parse (b0 :: rest) =
      if (b0 = 10 ∨ b0 = 11) ∧ x < P ∧ Fe.isSquare (curveRhs x) = true
      then some (.aff x (if b0 = 10 then Fe.sqrtCand (curveRhs x) else Fe.neg (Fe.sqrtCand (curveRhs x))))
      else none := by
  subst e
  rw [Parsers.generator_parse_cons]
  by_cases h : (b0 = 10 ∨ b0 = 11) ∧ Bytes.toNat rest < P ∧
      Fe.isSquare (curveRhs (Bytes.toNat rest)) = true
  · rw [if_pos h, if_pos h]
    rcases h.1 with rfl | rfl
    · rw [if_neg (by decide), if_pos rfl]
    · rw [if_pos rfl, if_neg (by decide)]; rfl
  · rw [if_neg h, if_neg h]

theorem prefix_eq {b0 k k' : UInt8} (hb : b0 = k ∨ b0 = k') (hk : k' ≠ k) {c : Prop} [Decidable c]
    (h : c ↔ b0 = k) : (if c then k else k') = b0 := by
  rcases hb with rfl | rfl
  · rw [if_pos (h.2 rfl)]
  · rw [if_neg fun hc => hk (h.1 hc)]

theorem commit_of_ge {blind : Bytes} (value : ℕ) (gen : Pt) (h : Bytes.toNat blind ≥ N) :
    commit blind value gen = none := by
  unfold commit Sc.setB32; simp [h]

theorem commit_of_lt {blind : Bytes} (value : ℕ) (gen : Pt) (h : Bytes.toNat blind < N) :
    commit blind value gen =
      if Pt.add (Pt.mulG (Bytes.toNat blind)) (Pt.mul value gen) = .inf then none
      else some (commitSave (Pt.add (Pt.mulG (Bytes.toNat blind)) (Pt.mul value gen))) := by
  unfold commit
  simp only [Sc.setB32_of_lt h]
  cases Pt.add (Pt.mulG (Bytes.toNat blind)) (Pt.mul value gen) <;> simp

theorem commitLoad_map_valid (l : List Bytes) : ∀ p ∈ l.map commitLoad, p.valid = true := by
  intro p hp
  obtain ⟨c, _, rfl⟩ := List.mem_map.1 hp
  exact commitLoad_valid c

theorem verifyTally_eq (pos neg : List Bytes) : verifyTally pos neg =
    (Pt.sub (Pt.sum (pos.map commitLoad)) (Pt.sum (neg.map commitLoad))).isInf := by
  have hp := Algebra.sum_valid (commitLoad_map_valid pos)
  have hn := valid_neg (Algebra.sum_valid (commitLoad_map_valid neg))
  -- the model folds `pos` into the accumulator `−Σneg`
  rw [Pt.sub, pt_add_comm hp hn, ← Algebra.foldl_add (commitLoad_map_valid pos) hn, Pt.sum,
    List.foldl_map, List.foldl_map]
  rfl

theorem sub_eq_inf_iff {p q : Pt} (hp : p.valid = true) (hq : q.valid = true) :
    Pt.sub p q = .inf ↔ p = q := by
  rw [Pt.sub, add_eq_inf_iff hp (valid_neg hq)]
  refine ⟨fun h => ?_, fun h => by rw [h]⟩
  have := congrArg toPoint h
  rw [toPoint_neg hq, toPoint_neg hp, neg_inj] at this
  exact toPoint_injective hp hq this.symm

/-! ### Scalar bookkeeping: `blindSum` and `blindGeneratorBlindSum`

Both loops accumulate `± term` according to the position of the index relative to a threshold `n`; at
index `i` the terms still to come are split at `n - i`. -/

abbrev sc (b : Bytes) : ZMod N := ((Bytes.toNat b : ℕ) : ZMod N)

theorem drop_sub_take_cons {α G : Type} [AddCommGroup G] (f : α → G) (a : α) (l : List α) (k : ℕ) :
    (((a :: l).drop k).map f).sum - (((a :: l).take k).map f).sum =
      (if 0 < k then -f a else f a) +
        (((l.drop (k - 1)).map f).sum - ((l.take (k - 1)).map f).sum) := by
  cases k with
  | zero => simp
  | succ k => simp; abel

theorem blindSum_go_none (npos : ℕ) : ∀ (l : List Bytes) (i acc : ℕ),
    blindSum.go npos l i acc = none ↔ ∃ b ∈ l, Bytes.toNat b ≥ N := by
  intro l
  induction l with
  | nil => intro i acc; simp [blindSum.go]
  | cons b bs ih => intro i acc; simp [blindSum.go, Sc.setB32, ih, imp_iff_not_or]

theorem blindSum_go_some (npos : ℕ) : ∀ (l : List Bytes) (i acc : ℕ),
    (∀ b ∈ l, Bytes.toNat b < N) → acc < N →
    ∃ r, r < N ∧ blindSum.go npos l i acc = some r ∧
      (r : ZMod N) = (acc : ZMod N) -
        (((l.drop (npos - i)).map sc).sum - ((l.take (npos - i)).map sc).sum) := by
  intro l
  induction l with
  | nil => intro i acc _ hacc; exact ⟨acc, hacc, rfl, by simp⟩
  | cons b bs ih =>
    intro i acc hl hacc
    obtain ⟨hb, hbs⟩ := List.forall_mem_cons.1 hl
    simp only [blindSum.go, Sc.setB32_of_lt hb, Bool.false_eq_true, if_false]
    refine (ih (i + 1) _ hbs (Sc.add_lt _ _)).imp fun r ⟨hr, hgo, hcast⟩ => ⟨hr, hgo, ?_⟩
    rw [hcast, drop_sub_take_cons, Nat.sub_sub, Sc.cast_add]
    by_cases hi : npos ≤ i
    · rw [if_pos hi, if_neg (by omega), Sc.cast_neg]
      ring
    · rw [if_neg hi, if_pos (by omega)]
      ring

theorem blindSum_none_iff (blinds : List Bytes) (npos : ℕ) :
    blindSum blinds npos = none ↔ ∃ b ∈ blinds, Bytes.toNat b ≥ N := by
  unfold blindSum
  rw [Option.map_eq_none_iff]
  exact blindSum_go_none npos blinds 0 0

theorem blindSum_some (blinds : List Bytes) (npos : ℕ) (h : ∀ b ∈ blinds, Bytes.toNat b < N) :
    ∃ r, r < N ∧ blindSum blinds npos = some (Bytes.be32 r) ∧
      (r : ZMod N) = ((blinds.take npos).map sc).sum - ((blinds.drop npos).map sc).sum := by
  obtain ⟨r, hr, hgo, hcast⟩ := blindSum_go_some npos blinds 0 0 h N_pos
  refine ⟨r, hr, ?_, by rw [hcast]; simp⟩
  unfold blindSum
  rw [hgo]
  rfl

theorem eq_emod_of_cast {r : ℕ} {z : ℤ} (hr : r < N) (h : (r : ZMod N) = (z : ZMod N)) :
    r = (z % (N : ℤ)).toNat := by
  rw [← ZMod.val_intCast, ← h, ZMod.val_natCast_of_lt hr, Int.toNat_natCast]

/-- an entry `(value, generator blind, blinding factor)` -/
abbrev Entry := ℕ × Bytes × Bytes

/-- what `blindGeneratorBlindSum.go` adds for one entry: `value · generator blind + blinding factor` -/
def term (e : Entry) : ZMod N := (e.1 : ZMod N) * sc e.2.1 + sc e.2.2

/-- outputs (index ≥ `k`) minus inputs (index < `k`) -/
def signedSum (l : List Entry) (k : ℕ) : ZMod N :=
  ((l.drop k).map term).sum - ((l.take k).map term).sum

/-- the two range checks of `blindGeneratorBlindSum.go` on an entry -/
def entryOk (e : Entry) : Prop := Bytes.toNat e.2.1 < N ∧ Bytes.toNat e.2.2 < N

theorem bgbs_go_none (nIn : ℕ) : ∀ (l : List Entry) (i sum tmp : ℕ),
    blindGeneratorBlindSum.go nIn l i sum tmp = none ↔ ∃ e ∈ l, ¬ entryOk e := by
  intro l
  induction l with
  | nil => intro i sum tmp; simp [blindGeneratorBlindSum.go]
  | cons e es ih =>
    intro i sum tmp
    simp [blindGeneratorBlindSum.go, Sc.setB32, entryOk, ih, imp_iff_not_or, or_assoc]

theorem bgbs_go_some (nIn : ℕ) : ∀ (l : List Entry) (i sum tmp : ℕ),
    (∀ e ∈ l, entryOk e) →
    ∃ s, blindGeneratorBlindSum.go nIn l i sum tmp =
        some (s, (l.map fun e => Bytes.toNat e.2.2).getLastD tmp) ∧
      (s : ZMod N) = (sum : ZMod N) + signedSum l (nIn - i) := by
  intro l
  induction l with
  | nil => intro i sum tmp _; exact ⟨sum, rfl, by simp [signedSum]⟩
  | cons e es ih =>
    intro i sum tmp hl
    obtain ⟨v, gb, bf⟩ := e
    obtain ⟨⟨h1, h2⟩, hes⟩ := List.forall_mem_cons.1 hl
    simp only at h1 h2
    simp only [blindGeneratorBlindSum.go, Sc.setB32_of_lt h1, Sc.setB32_of_lt h2, Bool.false_eq_true, if_false,
      List.map_cons, List.getLastD_cons]
    refine (ih (i + 1) _ _ hes).imp fun s ⟨hgo, hcast⟩ => ⟨hgo, ?_⟩
    rw [hcast, signedSum, signedSum, drop_sub_take_cons, Nat.sub_sub, Sc.cast_add]
    by_cases hi : i < nIn
    · simp only [Nat.sub_pos_iff_lt, if_pos hi, term, Sc.cast_neg, Sc.cast_add, Sc.cast_mul,
        ZMod.natCast_mod]
      ring
    · simp only [Nat.sub_pos_iff_lt, if_neg hi, term, Sc.cast_add, Sc.cast_mul, ZMod.natCast_mod]
      ring

theorem signedSum_append_singleton (l : List Entry) (e : Entry) {k : ℕ} (hk : k ≤ l.length) :
    signedSum (l ++ [e]) k = signedSum l k + term e := by
  unfold signedSum
  rw [List.take_append_of_le_length hk, List.drop_append_of_le_length hk]
  simp
  ring

/-! ### The Shallue–van de Woestijne map lands on the curve

With `g(x) = x³ + 7`, `c² = -3`, `d = (c - 1)/2`, `T = t²`, `D = T + 8`: the three candidates are
`x1 = d - cT/D`, `x2 = -x1 - 1`, `x3 = 1 + s` with `s = -D²/(3T)`, a square.  For `h = x1² + x1 + 1` one
has `s·h = -8` and `g(x3)·h² = s·g(x1)·g(x2)`, so `g(x1)`, `g(x2)`, `g(x3)` are not all non-residues. -/

section SvdwAlgebra
variable {F : Type} [Field F]

/-- `hd2` follows from `hc` and `hd` only where 2 is invertible; as a hypothesis it costs no assumption on the characteristic. -/
theorem svdw_sh {T c d D x1 s h : F} (hD : D = T + 8) (hx1 : x1 * D = d * D - c * T)
    (hc : c * c = -3) (hd : 2 * d + 1 = c) (hd2 : d * d + d + 1 = 0) (hh : h = x1 * x1 + x1 + 1)
    (hs : s * (3 * T) = -D ^ 2) (hD0 : D ≠ 0) (hT0 : T ≠ 0) (h3 : (3 : F) ≠ 0) : s * h = -8 := by
  have hhD : h * D ^ 2 = 24 * T := by
    subst hh hD
    linear_combination (x1 * (T + 8) + d * (T + 8) - c * T + (T + 8)) * hx1 + ((T + 8) ^ 2) * hd2
      - (c * T * (T + 8)) * hd - (8 * T) * hc
  have e : (s * h + 8) * (3 * T * D ^ 2) = 0 := by
    linear_combination (h * D ^ 2) * hs + (-(D ^ 2)) * hhD
  have := (mul_eq_zero.1 e).resolve_right (mul_ne_zero (mul_ne_zero h3 hT0) (pow_ne_zero 2 hD0))
  linear_combination this

theorem svdw_identity {x1 x2 x3 h : F} (h2 : x2 = -(x1 + 1)) (hh : h = x1 * x1 + x1 + 1)
    (hsh : (x3 - 1) * h = -8) :
    (x3 * x3 * x3 + 7) * h ^ 2 = (x3 - 1) * ((x1 * x1 * x1 + 7) * (x2 * x2 * x2 + 7)) := by
  have e1 : x1 * x1 * x1 + 7 = h * (x1 - x3) := by subst hh; linear_combination hsh
  have e2 : x2 * x2 * x2 + 7 = -(h * (x3 + 1 + x1)) := by subst hh h2; linear_combination hsh
  have e3 : x3 * x3 * x3 + 7 = (x3 - 1) * (x3 - x1) * (x3 + 1 + x1) := by
    subst hh; linear_combination hsh
  rw [e1, e2, e3]; ring

theorem svdw_s_sq {s D c t : F} (hs : s * (3 * (t * t)) = -D ^ 2) (hc : c * c = -3) (hc0 : c ≠ 0)
    (ht : t ≠ 0) : IsSquare s := by
  refine ⟨D / (c * t), ?_⟩
  field_simp
  linear_combination (s * t ^ 2) * hc - hs

end SvdwAlgebra

theorem isSquare_eight : IsSquare (8 : ZMod P) := (Fe.isSquare_iff 8).1 (by decide +kernel)

theorem zmodP_eight_ne_zero : (8 : ZMod P) ≠ 0 := by decide +kernel

theorem sq_add_eight_ne_zero (t : ZMod P) : t * t + 8 ≠ 0 := fun h =>
  not_isSquare_neg zmodP_eight_ne_zero isSquare_eight ⟨t, by linear_combination -h⟩

theorem cast_dconst : ((dconst : ℕ) : ZMod P) = Ellswift.ω := rfl

theorem cast_negc : ((negc : ℕ) : ZMod P) = -Ellswift.ρ := by decide +kernel

/-- The variables are the intermediate values of `svdw`; `svdw_spec` supplies them after `extract_lets`. -/
theorem svdw_third {t T D X J x1 x2 x3 : ZMod P} (hT : T = t * t) (hD : D = T + 8)
    (hX : X = -(3 * T)) (hJ : J = (D * X)⁻¹) (h1 : x1 = negc * T * X * J + dconst)
    (h2 : x2 = -(x1 + 1)) (h3 : x3 = D * D * D * J + 1) (hg1 : ¬ IsSquare (x1 * x1 * x1 + 7))
    (hg2 : ¬ IsSquare (x2 * x2 * x2 + 7)) : IsSquare (x3 * x3 * x3 + 7) := by
  have hd2 := Ellswift.ω_rel
  rw [cast_negc, cast_dconst] at h1
  by_cases ht : t = 0
  · -- `t = 0`: `x1 = ω`, `g(x1) = 8` is a square
    have e : x1 * x1 * x1 + 7 = 8 := by
      rw [h1, hT, ht]
      linear_combination (Ellswift.ω - 1) * hd2
    exact absurd (e ▸ isSquare_eight) hg1
  · have hT0 : T ≠ 0 := hT ▸ mul_ne_zero ht ht
    have hD0 : D ≠ 0 := by rw [hD, hT]; exact sq_add_eight_ne_zero t
    have h3' := zmodP_three_ne_zero
    have hx1 : x1 * D = Ellswift.ω * D - Ellswift.ρ * T := by
      rw [h1, hJ, hX]; field_simp; ring
    have hs : (x3 - 1) * (3 * T) = -D ^ 2 := by
      rw [h3, hJ, hX]; field_simp; ring
    have hsh := svdw_sh hD hx1 Ellswift.ρ_sq rfl hd2 rfl hs hD0 hT0 h3'
    have hh0 : x1 * x1 + x1 + 1 ≠ 0 := fun h0 =>
      zmodP_eight_ne_zero (by rw [h0, mul_zero] at hsh; linear_combination hsh)
    -- `g(x3) = s·(g(x1)·g(x2))/h²`: `s` is a square, and a product of two non-residues is a square
    rw [eq_div_of_mul_eq (pow_ne_zero 2 hh0) (svdw_identity h2 rfl hsh)]
    exact ((svdw_s_sq (hT ▸ hs) Ellswift.ρ_sq Ellswift.ρ_ne_zero ht).mul
      ((isSquare_mul_iff (neg_seven_not_cube x1) (neg_seven_not_cube x2)).2 (iff_of_false hg1 hg2))).div
      (IsSquare.sq _)

open Lean Elab Term Meta in
elab "defValue% " id:ident : term => do
  let c ← realizeGlobalConstNoOverloadWithInfo id
  let info ← getConstInfo c
  match info.value? with
  | some v => return v
  | none => throwError "constant has no value"

/-- Unfolding of `svdw`, stated with the verbatim body (`defValue%` only looks up the value of the constant) so that the
    kernel accepts `rfl` by syntactic identity: `svdw` is a `match` on an `if` whose condition contains `Fe.sqrtCand` of terms
    with literals, the kernel unfolds matchers eagerly, and the generic `unfold`/`delta`/`rfl` make it unroll `powMod` on open
    terms without end.  `svdw_spec` works on this equation as a hypothesis and never asks the kernel to unfold `svdw`. -/
theorem svdw_def : svdw = defValue% svdw := rfl

theorem svdw_spec (t : ℕ) : ∃ x, x < P ∧ Fe.isSquare (curveRhs x) = true ∧
    svdw t = .aff x
      (if Fe.isOdd t = true then Fe.neg (Fe.sqrtCand (curveRhs x)) else Fe.sqrtCand (curveRhs x)) := by
  have h : svdw t = (defValue% svdw) t := congrFun svdw_def t
  beta_reduce at h
  extract_lets t2 wd x3d jinv x1 x2 x3 f a b c aq bq at h
  have hthird : ¬ Fe.isSquare (curveRhs x1) = true → ¬ Fe.isSquare (curveRhs x2) = true →
      Fe.isSquare (curveRhs x3) = true := by
    intro h1 h2
    rw [Fe.isSquare_iff, curveRhs, cast_rhs] at h1 h2 ⊢
    refine svdw_third (t := t) (T := t2) (D := wd) (X := x3d) (J := jinv) ?_ ?_ ?_ ?_ ?_ ?_ ?_ h1 h2 <;>
      simp only [t2, wd, x3d, jinv, x1, x2, x3, Fe.cast_add, Fe.cast_mul, Fe.cast_neg, Fe.cast_inv,
        Fe.cast_sqr, Nat.cast_ofNat, Nat.cast_one]
  rw [h]
  by_cases haq : aq = true
  · exact ⟨x1, Fe.add_lt_P _ _, haq, by rw [if_pos haq, curveRhs]⟩
  · by_cases hbq : bq = true
    · exact ⟨x2, Fe.neg_lt_P _, hbq, by rw [if_neg haq, if_pos hbq, curveRhs]⟩
    · exact ⟨x3, Fe.add_lt_P _ _, hthird haq hbq, by rw [if_neg haq, if_neg hbq, curveRhs]⟩

theorem svdw_valid (t : ℕ) : (svdw t).valid = true := by
  obtain ⟨x, hx, hsq, h⟩ := svdw_spec t
  rw [h]
  have hv : (Pt.aff x _).valid = true := Parsers.onCurve_sqrtCand hx hsq
  split
  · exact valid_neg hv
  · exact hv

theorem svdw_ne_inf (t : ℕ) : svdw t ≠ .inf := by
  obtain ⟨x, _, _, h⟩ := svdw_spec t
  rw [h]
  exact fun h => Pt.noConfusion h

/-- the two hash-derived field elements of `generateInternal` (before the range check) -/
def genT1 (key32 : Bytes) : ℕ := Bytes.toNat (Sha256.sha256 ("1st generation: ".toUTF8.toList ++ key32))
def genT2 (key32 : Bytes) : ℕ := Bytes.toNat (Sha256.sha256 ("2nd generation: ".toUTF8.toList ++ key32))

theorem generateInternal_fst (key : Bytes) (blind : Option Bytes) : (generateInternal key blind).1 =
    if (∀ b, blind = some b → Bytes.toNat b < N) ∧ genT1 key < P ∧ genT2 key < P then 1 else 0 := by
  cases blind <;> simp [generateInternal, genT1, genT2, Sc.setB32, and_assoc]

theorem generateInternal_snd (key : Bytes) (blind : Option Bytes) : (generateInternal key blind).2 =
    Pt.add (Pt.add (blind.elim .inf fun b => Pt.mulG (Bytes.toNat b % N)) (svdw (genT1 key % P)))
      (svdw (genT2 key % P)) := by
  cases blind <;> rfl

end GeneratorLemmas
end SecpZkp
