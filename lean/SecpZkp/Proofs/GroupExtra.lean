import SecpZkp.Proofs.Group
import SecpZkp.Proofs.Algebra
/-
  What protocol-level proofs use about the curve model beside `GroupLaw`, i.e. in coordinates: `y ≠ 0` on the curve (no
  point of order two), parity of `y` under negation, the two points over an abscissa, the x-only lifts, the order of `G`.
-/
namespace SecpZkp

theorem neg_seven_not_cube_aux : powMod (P - 7) ((P - 1) / 3) P ≠ 1 := by decide +kernel

section PrimeP
variable [Fact (Nat.Prime P)]

/-- `y = 0` is impossible on the curve: `x³ = −7` would give `(−7)^((P−1)/3) = x^(P−1) = 1`. -/
theorem neg_seven_not_cube (x : ZMod P) : x * x * x + 7 ≠ 0 := by
  intro h
  have hx0 : x ≠ 0 := by
    intro h0; rw [h0] at h
    exact zmodP_seven_ne_zero (by linear_combination h)
  have h1 : x ^ (P - 1) = 1 := ZMod.pow_card_sub_one_eq_one hx0
  have hc : ((P - 7 : ℕ) : ZMod P) = x ^ 3 := by
    rw [Nat.cast_sub (by decide), ZMod.natCast_self]
    simp only [Nat.cast_ofNat]
    linear_combination -h
  have he : 3 * ((P - 1) / 3) = P - 1 := by decide
  apply neg_seven_not_cube_aux
  apply Fe.eq_of_cast_eq (powMod_lt P_pos)
    (by decide)
  rw [Field.cast_powMod _ _ (Field.lt_pow_520 (by decide +kernel)), hc, ← pow_mul, he, h1,
    Nat.cast_one]

theorem valid_y_ne_zero {x y : ℕ} (h : (Pt.aff x y).valid = true) : y ≠ 0 := by
  intro hy
  obtain ⟨_, _, hn⟩ := (valid_aff_iff x y).1 h
  have he := (W_equation_iff _ _).1 hn.1
  rw [hy, Nat.cast_zero, mul_zero] at he
  exact neg_seven_not_cube _ he.symm

theorem valid_y_mod_ne_zero {x y : ℕ} (h : (Pt.aff x y).valid = true) : y % P ≠ 0 := by
  obtain ⟨_, hy, _⟩ := (valid_aff_iff x y).1 h
  rw [Nat.mod_eq_of_lt hy]; exact valid_y_ne_zero h

theorem dbl_ne_inf {x y : ℕ} (h : (Pt.aff x y).valid = true) : Pt.dbl (.aff x y) ≠ .inf := by
  rw [Pt.dbl, if_neg (valid_y_mod_ne_zero h)]
  exact fun h => Pt.noConfusion h

theorem add_eq_inf_iff {p q : Pt} (hp : p.valid = true) (hq : q.valid = true) :
    Pt.add p q = .inf ↔ q = Pt.neg p := by
  rw [← toPoint_eq_zero_iff (valid_add hp hq), toPoint_add hp hq, add_eq_zero_iff_neg_eq,
    ← toPoint_neg hp]
  exact ⟨fun h => (toPoint_injective (valid_neg hp) hq h).symm, fun h => by rw [h]⟩

theorem isOdd_neg {x y : ℕ} (h : (Pt.aff x y).valid = true) :
    Fe.isOdd (Fe.neg y) = !Fe.isOdd y := by
  obtain ⟨_, hy, _⟩ := (valid_aff_iff x y).1 h
  exact Fe.isOdd_neg_of_pos (Nat.pos_of_ne_zero (valid_y_ne_zero h)) hy

theorem hasEvenY_neg {x y : ℕ} (h : (Pt.aff x y).valid = true) :
    (Pt.neg (.aff x y)).hasEvenY = !(Pt.aff x y).hasEvenY := by
  have := isOdd_neg h
  unfold Fe.isOdd at this
  simp only [Pt.neg, Pt.hasEvenY]
  rcases Nat.mod_two_eq_zero_or_one y with e | e <;>
  rcases Nat.mod_two_eq_zero_or_one (Fe.neg y) with e' | e' <;> simp_all

theorem eq_or_eq_neg_of_x_eq {x y y' : ℕ} (h : (Pt.aff x y).valid = true)
    (h' : (Pt.aff x y').valid = true) : y' = y ∨ y' = Fe.neg y := by
  obtain ⟨_, hy, hn⟩ := (valid_aff_iff x y).1 h
  obtain ⟨_, hy', hn'⟩ := (valid_aff_iff x y').1 h'
  rcases WeierstrassCurve.Affine.Y_eq_of_X_eq hn'.1 hn.1 rfl with e | e
  · exact Or.inl (Fe.eq_of_cast_eq hy' hy e)
  · right
    apply Fe.eq_of_cast_eq hy' (Fe.neg_lt_P y)
    rw [e, W_negY, Fe.cast_neg]

theorem eq_of_x_eq_of_parity {x y y' : ℕ} (h : (Pt.aff x y).valid = true)
    (h' : (Pt.aff x y').valid = true) (hpar : Fe.isOdd y' = Fe.isOdd y) : y' = y := by
  rcases eq_or_eq_neg_of_x_eq h h' with e | e
  · exact e
  · rw [e, isOdd_neg h] at hpar
    cases hb : Fe.isOdd y <;> rw [hb] at hpar <;> simp at hpar


theorem cast_rhs (x : ℕ) :
    ((Fe.add (Fe.mul (Fe.sqr x) x) 7 : ℕ) : ZMod P) = (x : ZMod P) * x * x + 7 := by
  simp only [Fe.cast_add, Fe.cast_mul, Fe.cast_sqr, Nat.cast_ofNat]

theorem isSquare_rhs_of_valid {x y : ℕ} (h : (Pt.aff x y).valid = true) :
    Fe.isSquare (Fe.add (Fe.mul (Fe.sqr x) x) 7) = true := by
  obtain ⟨_, _, hn⟩ := (valid_aff_iff x y).1 h
  rw [Fe.isSquare_iff, cast_rhs]
  exact ⟨y, ((W_equation_iff _ _).1 hn.1).symm⟩

theorem valid_of_sqrt {x r : ℕ} (h : Fe.sqrt (Fe.add (Fe.mul (Fe.sqr x) x) 7) = some r) :
    (Pt.aff (x % P) r).valid = true := by
  obtain ⟨hr, hsq, _⟩ := Fe.sqrt_some h
  rw [cast_rhs] at hsq
  refine (valid_aff_iff _ _).2 ⟨Nat.mod_lt _ P_pos, hr, (W_nonsingular_iff _ _).2 ?_⟩
  rw [W_equation_iff, ZMod.natCast_mod]; exact hsq

theorem liftX_some {x : ℕ} {odd : Bool} {p : Pt} (h : Pt.liftX x odd = some p) :
    p.valid = true ∧ p ≠ .inf ∧ p.xOf = x % P ∧ Fe.isOdd p.yOf = odd := by
  unfold Pt.liftX at h
  split at h
  · exact absurd h (by simp)
  · next r hr =>
    have hv := valid_of_sqrt hr
    injection h with h
    subst h
    refine ⟨?_, fun h => Pt.noConfusion h, rfl, ?_⟩
    · split
      · exact hv
      · exact valid_neg hv
    · simp only [Pt.yOf]
      split
      · next e => exact e
      · next e =>
        rw [isOdd_neg hv]
        cases hb : Fe.isOdd r <;> cases odd <;> simp_all

theorem liftX_eq_none_iff (x : ℕ) (odd : Bool) :
    Pt.liftX x odd = none ↔ ¬ IsSquare ((x : ZMod P) * x * x + 7) := by
  rw [← cast_rhs, ← Fe.sqrt_eq_none_iff]
  unfold Pt.liftX
  split <;> simp_all

theorem liftX_of_valid {x y : ℕ} (h : (Pt.aff x y).valid = true) :
    Pt.liftX x (Fe.isOdd y) = some (.aff x y) := by
  obtain ⟨hx, _, _⟩ := (valid_aff_iff x y).1 h
  cases hl : Pt.liftX x (Fe.isOdd y) with
  | none =>
    rw [liftX_eq_none_iff, ← cast_rhs, ← Fe.isSquare_iff] at hl
    exact absurd (isSquare_rhs_of_valid h) hl
  | some p =>
    obtain ⟨hv, hne, hxo, hpar⟩ := liftX_some hl
    cases p with
    | inf => exact absurd rfl hne
    | aff x' y' =>
      simp only [Pt.xOf, Pt.yOf] at hxo hpar
      rw [Nat.mod_eq_of_lt hx] at hxo
      subst hxo
      rw [eq_of_x_eq_of_parity h hv hpar]

theorem liftXQuad_some {x : ℕ} {p : Pt} (h : Pt.liftXQuad x = some p) :
    p.valid = true ∧ p ≠ .inf ∧ p.xOf = x % P ∧ IsSquare ((p.yOf : ℕ) : ZMod P) := by
  unfold Pt.liftXQuad at h
  split at h
  · exact absurd h (by simp)
  · next r hr =>
    have hv := valid_of_sqrt hr
    injection h with h
    subst h
    refine ⟨hv, fun h => Pt.noConfusion h, rfl, ?_⟩
    obtain ⟨hre, hsq⟩ := (Fe.sqrt_eq_some_iff _ _).1 hr
    simp only [Pt.yOf]
    rw [hre]
    exact Fe.sqrtCand_isSquare hsq

theorem liftXQuad_eq_none_iff (x : ℕ) :
    Pt.liftXQuad x = none ↔ ¬ IsSquare ((x : ZMod P) * x * x + 7) := by
  rw [← cast_rhs, ← Fe.sqrt_eq_none_iff]
  unfold Pt.liftXQuad
  split <;> simp_all


/- Primality of `N` stays a hypothesis (`hN`): this file does not import `Proofs/Prime.lean`. -/
section Order
open SecpZkp.Algebra

theorem mul_G_eq_inf_iff (hN : Nat.Prime N) {k : ℕ} (hk : k < mulBound) :
    Pt.mul k Pt.G = .inf ↔ N ∣ k := by
  have : HasGroupLaw := ⟨groupLaw_holds Fact.out hN⟩
  rw [mul_G_eq_gmul hk, gmul_eq_inf_iff, ZMod.natCast_eq_zero_iff]

theorem mul_mod_N_G (hN : Nat.Prime N) {k : ℕ} (hk : k < mulBound) :
    Pt.mul (k % N) Pt.G = Pt.mul k Pt.G :=
  have : HasGroupLaw := ⟨groupLaw_holds Fact.out hN⟩
  Algebra.mul_mod_N_G hk

theorem mul_G_injective (hN : Nat.Prime N) {a b : ℕ} (ha : a < N) (hb : b < N)
    (h : Pt.mul a Pt.G = Pt.mul b Pt.G) : a = b := by
  have : HasGroupLaw := ⟨groupLaw_holds Fact.out hN⟩
  rw [mul_G_eq_gmul (lt_mulBound_of_lt_N ha), mul_G_eq_gmul (lt_mulBound_of_lt_N hb)] at h
  exact (Field.cast_eq_iff ha hb).1 (gmul_injective h)

theorem addOrderOf_G (hN : Nat.Prime N) : addOrderOf (toPoint Pt.G) = N := by
  have : Fact (Nat.Prime N) := ⟨hN⟩
  apply addOrderOf_eq_prime
  · rw [← toPoint_mul (Field.lt_pow_264 N_lt) valid_G, mul_N_G, toPoint_inf]
  · rw [Ne, toPoint_eq_zero_iff valid_G]; exact G_ne_inf

end Order

end PrimeP

-- Non-vacuity: the lifts find the generator and reject an abscissa off the curve; `G + G` is a valid point.

example : Pt.liftX Pt.Gx false = some Pt.G := by decide +kernel
example : Pt.liftX 5 false = none := by decide +kernel
example : (Pt.add Pt.G Pt.G).valid = true := by decide +kernel
example : Pt.mul 2 Pt.G = Pt.add Pt.G Pt.G := by decide +kernel

end SecpZkp
