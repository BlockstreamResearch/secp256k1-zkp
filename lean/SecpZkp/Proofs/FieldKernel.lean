/-
  The common base of the modules about translated kernels (MiniC IR): the interval analysis packaged with output
  bounds (`checkOut`), a kernel-reducible copy of `execL` for closed runs (`straightEnv`), the masks and ors of the C
  code as `%` and `+`, the read-after-write equation `get_set`; and the documented bounds of the 5×52
  `secp256k1_fe_mul_inner` / `secp256k1_fe_sqr_inner` as bound environments.
-/
import SecpZkp.Proofs.MiniC
import SecpZkp.Model.Field
import Mathlib.Tactic.Ring

namespace SecpZkp
namespace FieldKernel
open MiniC MiniC.Bounds

def val5 (x0 x1 x2 x3 x4 : Nat) : Nat := x0 + x1 * 2 ^ 52 + x2 * 2 ^ 104 + x3 * 2 ^ 156 + x4 * 2 ^ 208

/-- `secp256k1_fe_mul_inner`: both operands have magnitude ≤ 8 (limbs 0..3 below `2^56`, limb 4 below `2^52`) -/
def mulB : BEnv :=
  [(("a", 0), 2 ^ 56 - 1), (("a", 1), 2 ^ 56 - 1), (("a", 2), 2 ^ 56 - 1), (("a", 3), 2 ^ 56 - 1), (("a", 4), 2 ^ 52 - 1),
   (("b", 0), 2 ^ 56 - 1), (("b", 1), 2 ^ 56 - 1), (("b", 2), 2 ^ 56 - 1), (("b", 3), 2 ^ 56 - 1), (("b", 4), 2 ^ 52 - 1)]

/-- `secp256k1_fe_sqr_inner`: magnitude ≤ 8 -/
def sqrB : BEnv :=
  [(("a", 0), 2 ^ 56 - 1), (("a", 1), 2 ^ 56 - 1), (("a", 2), 2 ^ 56 - 1), (("a", 3), 2 ^ 56 - 1), (("a", 4), 2 ^ 52 - 1)]

/-- the magnitude-1 output contract: `r[0..3] < 2^52`, `r[4] < 2^49` -/
def outB : List ((String × Nat) × Nat) :=
  [(("r", 0), 2 ^ 52 - 1), (("r", 1), 2 ^ 52 - 1), (("r", 2), 2 ^ 52 - 1), (("r", 3), 2 ^ 52 - 1), (("r", 4), 2 ^ 49 - 1)]

def cellLe (b : BEnv) (x : String) (i m : Nat) : Bool :=
  match b.get? x i with
  | some v => decide (v ≤ m)
  | none => false

def checkOut (b : BEnv) (prog : List Stmt) (outs : List ((String × Nat) × Nat)) : Bool :=
  match checkL b prog with
  | some b' => outs.all (fun o => cellLe b' o.1.1 o.1.2 o.2)
  | none => false

theorem cellLe_sound {env : Env} {b : BEnv} (hr : Respects env b) {x : String} {i m : Nat}
    (h : cellLe b x i m = true) : env.get x i ≤ m := by
  unfold cellLe at h
  split at h
  · rename_i v hv
    exact Nat.le_trans (hr x i v hv) (of_decide_eq_true h)
  · cases h

theorem checkOut_isSome {b : BEnv} {prog : List Stmt} {outs : List ((String × Nat) × Nat)}
    (h : checkOut b prog outs = true) : (checkL b prog).isSome = true := by
  unfold checkOut at h
  split at h
  · rename_i b' hb'; simp [hb']
  · cases h

theorem checkOut_sound {env : Env} {b : BEnv} {prog : List Stmt} {outs : List ((String × Nat) × Nat)}
    (hr : Respects env b) (h : checkOut b prog outs = true) :
    (execL env prog).env = (execLI env prog).1 ∧
      ∀ o ∈ outs, (execL env prog).env.get o.1.1 o.1.2 ≤ o.2 := by
  unfold checkOut at h
  split at h
  · rename_i b' hb'
    obtain ⟨h1, _, h3⟩ := checkL_sound prog hr hb'
    refine ⟨h1, fun o ho => ?_⟩
    exact cellLe_sound h3 (List.all_eq_true.mp h o ho)
  · cases h

theorem respects_of_all {env : Env} : ∀ {b : BEnv},
    (b.all fun p => decide (env.get p.1.1 p.1.2 ≤ p.2)) = true → Respects env b
  | [], _ => respects_nil env
  | ((x, i), v) :: b, h => by
    simp only [List.all_cons, Bool.and_eq_true, decide_eq_true_eq] at h
    exact respects_cons h.1 (respects_of_all h.2)

/-! `execL` does not reduce inside the kernel: it is mutually recursive with `execLoop`, which recurses on its fuel
(`Int128.runL`, structurally recursive through `ite` only, does reduce).  Closed runs of a straight-line program on a
literal memory evaluate this copy, which recurses structurally on the statement list. -/

def straightEnv (env : Env) : List Stmt → Option Env
  | [] => some env
  | .assign x e :: rest => straightEnv (env.set x 0 (evalE env e).1) rest
  | .store a i e :: rest => straightEnv (env.set a (evalE env i).1 (evalE env e).1) rest
  | _ => none

theorem straightEnv_eq : ∀ (prog : List Stmt) {env out : Env}, straightEnv env prog = some out →
    (execL env prog).env = out := by
  intro prog
  induction prog with
  | nil => intro env out h; simp [straightEnv] at h; subst h; simp [execL]
  | cons s rest ih =>
    intro env out h
    cases s with
    | assign x e => rw [execL_cons_assign]; exact ih (by simpa [straightEnv] using h)
    | store a i e => rw [execL_cons_store]; exact ih (by simpa [straightEnv] using h)
    | ite c t e => simp [straightEnv] at h
    | loop x n body => simp [straightEnv] at h
    | declassify x => simp [straightEnv] at h
    | ret e => simp [straightEnv] at h

def runStraight (env : Env) (prog : List Stmt) : Env := (straightEnv env prog).getD []

theorem execL_eq_runStraight {env : Env} {prog : List Stmt} (h : (straightEnv env prog).isSome = true) :
    (execL env prog).env = runStraight env prog := by
  obtain ⟨out, hout⟩ := Option.isSome_iff_exists.mp h
  rw [straightEnv_eq prog hout, runStraight, hout]; rfl

def checkRun (env : Env) (prog : List Stmt) (post : Env → Bool) : Bool :=
  match straightEnv env prog with
  | some out => post out
  | none => false

theorem checkRun_sound {env : Env} {prog : List Stmt} {post : Env → Bool} (h : checkRun env prog post = true) :
    post (execL env prog).env = true := by
  unfold checkRun at h
  split at h
  · rename_i out hout; rw [straightEnv_eq prog hout]; exact h
  · cases h

/-- `x & M` with `M = 0xFFFFFFFFFFFFF` -/
theorem and_M52 (x : Nat) : x &&& 4503599627370495 = x % 4503599627370496 :=
  Nat.and_two_pow_sub_one_eq_mod x 52

/-- `x & (M >> 4)` -/
theorem and_M48 (x : Nat) : x &&& 281474976710655 = x % 281474976710656 :=
  Nat.and_two_pow_sub_one_eq_mod x 48

theorem shl_or (u t k : Nat) (h : t < 2 ^ k) : u * 2 ^ k ||| t = u * 2 ^ k + t := by
  rw [← Nat.shiftLeft_eq, ← Nat.shiftLeft_add_eq_or_of_lt h]

theorem shl4_or (u t : Nat) (h : t < 16) : u * 16 ||| t = u * 16 + t := shl_or u t 4 h

/-- a read after a write, as one unconditional equation: `simp` decides the test in place and caches the
    verdict for each pair of cells, where the conditional `Env.get_set_other` would prove its side condition
    anew at every read -/
theorem get_set (env : Env) (x y : String) (i j v : Nat) :
    (env.set x i v).get y j = if y = x ∧ j = i then v else env.get y j := by
  split
  · rename_i h; rw [h.1, h.2, Env.get_set_same]
  · rename_i h; exact Env.get_set_other _ _ _ _ _ _ (fun h' => h (Prod.mk.injEq .. ▸ h'))

end FieldKernel
end SecpZkp
