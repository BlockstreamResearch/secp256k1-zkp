/-
  `secp256k1_gej_neg` and `secp256k1_ge_to_storage` of both configurations (`Gen.ct.*`: 5×52 field, `Gen.ct32.*`: 10×26), on
  the generated IR.  In `gej_neg`, `y` goes through the inlined `normalize_weak` and `negate(·, 1)`: `r.y = 4p -
  normalize_weak(a.y)` limb-wise (`negOne5/10 (weak5/10 …)`); in `ge_to_storage` both coordinates go through the inlined
  full `normalize` and are packed into 4×64 / 8×32 storage words (`pack5/10 (norm5/10 …)`; `lo | (hi << k)` is an addition).
  The 10×26 statements carry `NoOvf10` (`Proofs/FieldLinear.lean`).  The namespace is `CtSpec`.
-/
import SecpZkp.Proofs.CtSpec

namespace SecpZkp
namespace CtSpec
open MiniC FieldLinear FieldKernel LimbList

/-- the limbs of `4p` minus the limbs: in the inlined `negate(·, 1)` the translator folds `m = 1` into literals, so the
    evaluation is `rfl` and `zipWith_sub` gives the rest (`fe_negate_*_key` of `FieldLinear`, with a variable `m`, evaluate and
    exclude the borrow in one `omega`) -/
def negOne5 (r : List Nat) : List Nat :=
  List.zipWith sub64w [18014381329608892, 18014398509481980, 18014398509481980, 18014398509481980, 1125899906842620] r

theorem gej_neg_5x52_copy (env : Env) :
    readL (runW env Gen.ct.gej_neg.body) "r.x.n" 0 5 = readL env "a.x.n" 0 5 ∧
    readL (runW env Gen.ct.gej_neg.body) "r.z.n" 0 5 = readL env "a.z.n" 0 5 ∧
    (runW env Gen.ct.gej_neg.body).get "r.infinity" 0 = env.get "a.infinity" 0 := by
  -- statements 0..15 are the copies; the rest writes `r.y.n` and locals only
  have f : ∀ x, x ∉ written (List.drop 16 Gen.ct.gej_neg.body) → ∀ e j,
      (runW e (List.drop 16 Gen.ct.gej_neg.body)).get x j = e.get x j := fun x hx e j => runW_get_of_not_written j _ e hx
  rw [← List.take_append_drop 16 Gen.ct.gej_neg.body, runW_append,
    readL_congr 5 0 fun j _ _ => f "r.x.n" (by decide +kernel) _ j,
    readL_congr 5 0 fun j _ _ => f "r.z.n" (by decide +kernel) _ j, f "r.infinity" (by decide +kernel)]
  simp only [readL, Gen.ct.gej_neg, ↓List.take_succ_cons, ↓List.take_zero]
  minic_evalW

theorem gej_neg_5x52_eval (env : Env) : readL (runW env Gen.ct.gej_neg.body) "r.y.n" 0 5 =
    negOne5 (weak5 (readL env "a.y.n" 0 5)) := by
  simp only [readL, Gen.ct.gej_neg]
  minic_evalW
  simp only [and_M52, and_M48]
  rfl

theorem gej_neg_5x52_key (env : Env) (h : Mag5 env "a.y.n" 32) :
    (val5At (runW env Gen.ct.gej_neg.body) "r.y.n" + val5At env "a.y.n") % P = 0 ∧
    Mag5 (runW env Gen.ct.gej_neg.body) "r.y.n" 2 := by
  obtain ⟨hb, hv⟩ := weak5_spec (mag5_leL.mp h)
  have E := gej_neg_5x52_eval env
  generalize runW env Gen.ct.gej_neg.body = out at *
  generalize weak5 _ = r at *
  obtain ⟨kv, kb⟩ := zipWith_sub (w := 52) (f := sub64w) (ss := r)
    (fun k hk s hs => sub64w_add ((by decide : ∀ k ∈ [18014381329608892, 18014398509481980, 18014398509481980,
      18014398509481980, 1125899906842620], k < 2 ^ 64) k hk) hs) (hb.trans (by simp [LeL, weakB, List.replicate]))
  rw [negOne5] at E
  rw [← E] at kv kb
  refine ⟨?_, mag5_leL.mpr (kb.trans (by simp [LeL, magB, List.replicate]))⟩
  rw [val5At_eq, val5At_eq, ← hv, ← Nat.add_assoc, kv, show valL 52 _ = 4 * P from by decide, ← Nat.add_mul]
  exact Nat.mul_mod_left _ _

def negOne10 (r : List Nat) : List Nat :=
  List.zipWith sub32w [268431548, 268435196, 268435452, 268435452, 268435452, 268435452, 268435452, 268435452, 268435452,
    16777212] r

theorem gej_neg_10x26_copy (env : Env) :
    readL (runW env Gen.ct32.gej_neg.body) "r.x.n" 0 10 = readL env "a.x.n" 0 10 ∧
    readL (runW env Gen.ct32.gej_neg.body) "r.z.n" 0 10 = readL env "a.z.n" 0 10 ∧
    (runW env Gen.ct32.gej_neg.body).get "r.infinity" 0 = env.get "a.infinity" 0 := by
  -- statements 0..30 are the copies
  have f : ∀ x, x ∉ written (List.drop 31 Gen.ct32.gej_neg.body) → ∀ e j,
      (runW e (List.drop 31 Gen.ct32.gej_neg.body)).get x j = e.get x j := fun x hx e j => runW_get_of_not_written j _ e hx
  rw [← List.take_append_drop 31 Gen.ct32.gej_neg.body, runW_append,
    readL_congr 10 0 fun j _ _ => f "r.x.n" (by decide +kernel) _ j,
    readL_congr 10 0 fun j _ _ => f "r.z.n" (by decide +kernel) _ j, f "r.infinity" (by decide +kernel)]
  simp only [readL, Gen.ct32.gej_neg, ↓List.take_succ_cons, ↓List.take_zero]
  minic_evalW

theorem gej_neg_10x26_eval (env : Env) : readL (runW env Gen.ct32.gej_neg.body) "r.y.n" 0 10 =
    negOne10 (weak10 (readL env "a.y.n" 0 10)) := by
  simp only [readL, Gen.ct32.gej_neg]
  minic_evalW
  simp only [Nat.reducePow, and_M26, and_M22, mod26_mod32, mod22_mod32]
  rfl

theorem gej_neg_10x26_key (env : Env) (h : NoOvf10 env "a.y.n") :
    (val10At (runW env Gen.ct32.gej_neg.body) "r.y.n" + val10At env "a.y.n") % P = 0 ∧
    Mag10 (runW env Gen.ct32.gej_neg.body) "r.y.n" 2 := by
  obtain ⟨hb, hv⟩ := weak10_spec (mag10_leL.mp h.1) h.2
  have E := gej_neg_10x26_eval env
  generalize runW env Gen.ct32.gej_neg.body = out at *
  generalize weak10 _ = r at *
  obtain ⟨kv, kb⟩ := zipWith_sub (w := 26) (f := sub32w) (ss := r)
    (fun k hk s hs => sub32w_add ((by decide : ∀ k ∈ [268431548, 268435196, 268435452, 268435452, 268435452, 268435452,
      268435452, 268435452, 268435452, 16777212], k < 2 ^ 32) k hk) hs) (hb.trans (by simp [LeL, weakB, List.replicate]))
  rw [negOne10] at E
  rw [← E] at kv kb
  refine ⟨?_, mag10_leL.mpr (kb.trans (by simp [LeL, magB, List.replicate]))⟩
  rw [val10At_eq, val10At_eq, ← hv, ← Nat.add_assoc, kv, show valL 26 _ = 4 * P from by decide, ← Nat.add_mul]
  exact Nat.mul_mod_left _ _

abbrev orShl (w k lo hi : Nat) : Nat := lo ||| hi * 2 ^ k % 2 ^ w

theorem pack_or (a b k w : Nat) (hk : k ≤ w) (ha : a < 2 ^ k) :
    orShl w k a b = a + b % 2 ^ (w - k) * 2 ^ k := by
  have e : (2 : Nat) ^ w = 2 ^ (w - k) * 2 ^ k := by rw [← Nat.pow_add]; congr 1; omega
  rw [orShl, e, Nat.mul_mod_mul_right, Nat.or_comm, shl_or _ _ k ha, Nat.add_comm]

/-- `secp256k1_fe_impl_to_storage` (5×52): four 64-bit words from five limbs -/
def pack5 : List Nat → List Nat
  | [v0, v1, v2, v3, v4] =>
    [orShl 64 52 v0 v1, orShl 64 40 (v1 / 2 ^ 12) v2, orShl 64 28 (v2 / 2 ^ 24) v3, orShl 64 16 (v3 / 2 ^ 36) v4]
  | _ => []

theorem pack5_spec {v : List Nat} (h : LeL v (redB 52 48 4)) :
    valL 64 (pack5 v) = valL 52 v ∧ ∀ w ∈ pack5 v, w < 2 ^ 64 := by
  obtain ⟨lo, v4, rfl, hlen, hb, h4⟩ := leL_replicate h
  obtain ⟨v0, v1, v2, v3, rfl⟩ := exists_list4 hlen
  simp only [List.forall_mem_cons, List.not_mem_nil, false_imp_iff, implies_true, and_true] at hb
  obtain ⟨h0, h1, h2, h3⟩ := hb
  simp only [pack5, List.forall_mem_cons, List.not_mem_nil, false_imp_iff, implies_true, and_true, valL,
    List.cons_append, List.nil_append]
  rw [pack_or v0 v1 52 64 (by decide) (by omega), pack_or (v1 / 2 ^ 12) v2 40 64 (by decide) (by omega),
    pack_or (v2 / 2 ^ 24) v3 28 64 (by decide) (by omega), pack_or (v3 / 2 ^ 36) v4 16 64 (by decide) (by omega)]
  simp only [Nat.reducePow, Nat.reduceSub] at *
  omega

theorem ge_to_storage_5x52_eval (env : Env) :
    readL (runW env Gen.ct.ge_to_storage.body) "r.x.n" 0 4 =
      pack5 (norm5 (readL env "a.x.n" 0 5)) ∧
    readL (runW env Gen.ct.ge_to_storage.body) "r.y.n" 0 4 =
      pack5 (norm5 (readL env "a.y.n" 0 5)) := by
  simp only [readL, Gen.ct.ge_to_storage]
  minic_evalW
  simp only [and_M52, and_M48]
  exact ⟨rfl, rfl⟩

theorem pack5_norm5 {env out : Env} {a r : String} (h : Mag5 env a 32)
    (e : readL out r 0 4 = pack5 (norm5 (readL env a 0 5))) :
    valL 64 (readL out r 0 4) = val5At env a % P ∧ ∀ w ∈ readL out r 0 4, w < 2 ^ 64 := by
  obtain ⟨hr, hv⟩ := norm5_spec (mag5_leL.mp h)
  obtain ⟨kv, kb⟩ := pack5_spec hr
  rw [e, val5At_eq, ← hv]
  exact ⟨kv, kb⟩

def pack10 : List Nat → List Nat
  | [v0, v1, v2, v3, v4, v5, v6, v7, v8, v9] =>
    [orShl 32 26 v0 v1, orShl 32 20 (v1 / 2 ^ 6) v2, orShl 32 14 (v2 / 2 ^ 12) v3, orShl 32 8 (v3 / 2 ^ 18) v4,
      orShl 32 28 (orShl 32 2 (v4 / 2 ^ 24) v5) v6, orShl 32 22 (v6 / 2 ^ 4) v7, orShl 32 16 (v7 / 2 ^ 10) v8,
      orShl 32 10 (v8 / 2 ^ 16) v9]
  | _ => []

theorem pack10_spec {v : List Nat} (h : LeL v (redB 26 22 9)) :
    valL 32 (pack10 v) = valL 26 v ∧ ∀ w ∈ pack10 v, w < 2 ^ 32 := by
  obtain ⟨lo, v9, rfl, hlen, hb, h9⟩ := leL_replicate h
  obtain ⟨v0, v1, v2, v3, v4, v5, v6, v7, v8, rfl⟩ := exists_list9 hlen
  simp only [List.forall_mem_cons, List.not_mem_nil, false_imp_iff, implies_true, and_true] at hb
  obtain ⟨h0, h1, h2, h3, h4, h5, h6, h7, h8⟩ := hb
  have q4 : orShl 32 2 (v4 / 2 ^ 24) v5 = v4 / 2 ^ 24 + v5 * 2 ^ 2 := by
    rw [pack_or (v4 / 2 ^ 24) v5 2 32 (by decide) (by omega)]; omega
  simp only [pack10, List.forall_mem_cons, List.not_mem_nil, false_imp_iff, implies_true, and_true, valL,
    List.cons_append, List.nil_append]
  rw [pack_or v0 v1 26 32 (by decide) (by omega), pack_or (v1 / 2 ^ 6) v2 20 32 (by decide) (by omega),
    pack_or (v2 / 2 ^ 12) v3 14 32 (by decide) (by omega), pack_or (v3 / 2 ^ 18) v4 8 32 (by decide) (by omega), q4,
    pack_or (v4 / 2 ^ 24 + v5 * 2 ^ 2) v6 28 32 (by decide) (by omega),
    pack_or (v6 / 2 ^ 4) v7 22 32 (by decide) (by omega), pack_or (v7 / 2 ^ 10) v8 16 32 (by decide) (by omega),
    pack_or (v8 / 2 ^ 16) v9 10 32 (by decide) (by omega)]
  simp only [Nat.reducePow, Nat.reduceSub] at *
  omega

/-- `x = a->x; normalize(&x)`, then `y = a->y; normalize(&y)`, then the two `fe_to_storage` -/
abbrev gtsX : List Stmt := List.take 81 Gen.ct32.ge_to_storage.body
abbrev gtsY : List Stmt := List.take 81 (List.drop 81 Gen.ct32.ge_to_storage.body)
abbrev gtsP : List Stmt := List.drop 81 (List.drop 81 Gen.ct32.ge_to_storage.body)

theorem ge_to_storage_10x26_x (env : Env) :
    readL (runW env gtsX) "x.n" 0 10 = norm10 (readL env "a.x.n" 0 10) := by
  simp only [readL, gtsX, Gen.ct32.ge_to_storage, ↓List.take_succ_cons, ↓List.take_zero]
  minic_evalW
  simp only [Nat.reducePow, and_M26, and_M22, mod26_mod32, mod22_mod32]
  rfl

theorem ge_to_storage_10x26_y (env : Env) :
    readL (runW env gtsY) "y.n" 0 10 = norm10 (readL env "a.y.n" 0 10) := by
  simp only [readL, gtsY, Gen.ct32.ge_to_storage, ↓List.drop_succ_cons, ↓List.drop_zero, ↓List.take_succ_cons,
    ↓List.take_zero]
  minic_evalW
  simp only [Nat.reducePow, and_M26, and_M22, mod26_mod32, mod22_mod32]
  rfl

theorem ge_to_storage_10x26_pack (env : Env) :
    readL (runW env gtsP) "r.x.n" 0 8 = pack10 (readL env "x.n" 0 10) ∧
    readL (runW env gtsP) "r.y.n" 0 8 = pack10 (readL env "y.n" 0 10) := by
  simp only [readL, gtsP, Gen.ct32.ge_to_storage, ↓List.drop_succ_cons, ↓List.drop_zero]
  minic_evalW
  exact ⟨rfl, rfl⟩

/-- the pieces are evaluated one by one, each on an arbitrary memory (evaluating the 178 statements in one go nests the
    rewriting of `runW` too deeply); what a piece does not write is carried across it by `runW_get_of_not_written` -/
theorem ge_to_storage_10x26_eval (env : Env) :
    readL (runW env Gen.ct32.ge_to_storage.body) "r.x.n" 0 8 =
      pack10 (norm10 (readL env "a.x.n" 0 10)) ∧
    readL (runW env Gen.ct32.ge_to_storage.body) "r.y.n" 0 8 =
      pack10 (norm10 (readL env "a.y.n" 0 10)) := by
  have hb : Gen.ct32.ge_to_storage.body = gtsX ++ (gtsY ++ gtsP) := by rw [List.take_append_drop, List.take_append_drop]
  have X := ge_to_storage_10x26_x env
  have Y := ge_to_storage_10x26_y (runW env gtsX)
  obtain ⟨kx, ky⟩ := ge_to_storage_10x26_pack (runW (runW env gtsX) gtsY)
  have fy : ∀ j, (runW env gtsX).get "a.y.n" j = env.get "a.y.n" j :=
    fun j => runW_get_of_not_written j _ env (by decide +kernel)
  have fx : ∀ j, (runW (runW env gtsX) gtsY).get "x.n" j = (runW env gtsX).get "x.n" j :=
    fun j => runW_get_of_not_written j _ _ (by decide +kernel)
  rw [readL_congr 10 0 fun j _ _ => fy j] at Y
  rw [hb, runW_append, runW_append, kx, ky, readL_congr 10 0 fun j _ _ => fx j, X, Y]
  exact ⟨rfl, rfl⟩

theorem pack10_norm10 {env out : Env} {a r : String} (h : NoOvf10 env a)
    (e : readL out r 0 8 = pack10 (norm10 (readL env a 0 10))) :
    valL 32 (readL out r 0 8) = val10At env a % P ∧ ∀ w ∈ readL out r 0 8, w < 2 ^ 32 := by
  obtain ⟨hr, hv⟩ := norm10_spec (mag10_leL.mp h.1) h.2
  obtain ⟨kv, kb⟩ := pack10_spec hr
  rw [e, val10At_eq, ← hv]
  exact ⟨kv, kb⟩

end CtSpec
end SecpZkp
