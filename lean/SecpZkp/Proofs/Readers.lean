import SecpZkp.Model.Codec
import SecpZkp.Proofs.Bytes
/-
  The three readers of a 32-byte big-endian field below a bound (`Sc.setB32`, `Sc.setB32Seckey`, `Codec.feLimit`) in
  closed form, and their values on `be32 v`.  Core Lean only: the bounds on `P`, `N` and on the results of `powMod`,
  `Fe.neg`, `Fe.sqrtCand` stand here so that the Mathlib-free files (Codec, Parsers) and the Mathlib strand share them.
-/
namespace SecpZkp

theorem P_pos : 0 < P := by decide
theorem N_pos : 0 < N := by decide
theorem P_lt : P < 2 ^ 256 := by decide
theorem N_lt : N < 2 ^ 256 := by decide
theorem P_odd : P % 2 = 1 := by decide

theorem powModAux_lt (fuel a e m acc : Nat) (hm : 0 < m) (hacc : acc < m) :
    powModAux fuel a e m acc < m := by
  induction fuel generalizing a e acc with
  | zero => exact hacc
  | succ f ih =>
    unfold powModAux
    split
    · exact hacc
    · apply ih
      split
      · exact Nat.mod_lt _ hm
      · exact hacc

theorem Fe.neg_lt_P (a : Nat) : Fe.neg a < P := Nat.mod_lt _ P_pos

theorem powMod_lt {a e m : Nat} (hm : 0 < m) : powMod a e m < m :=
  powModAux_lt _ _ _ _ _ hm (Nat.mod_lt _ hm)

theorem Fe.sqrtCand_lt_P (a : Nat) : Fe.sqrtCand a < P := powMod_lt P_pos

namespace Bytes

theorem toNat_be32_of_lt_N {v : Nat} (h : v < N) : toNat (be32 v) = v := toNat_be32 (Nat.lt_trans h N_lt)

theorem toNat_be32_of_lt_P {v : Nat} (h : v < P) : toNat (be32 v) = v := toNat_be32 (Nat.lt_trans h P_lt)

end Bytes

namespace Sc
open Bytes

theorem setB32_eq (b : Bytes) : setB32 b = (toNat b % N, decide (N ≤ toNat b)) := rfl

theorem setB32_fst_lt (b : Bytes) : (Sc.setB32 b).1 < N := Nat.mod_lt _ N_pos

theorem setB32_of_lt {b : Bytes} (h : toNat b < N) : setB32 b = (toNat b, false) := by
  rw [setB32_eq, Nat.mod_eq_of_lt h, decide_eq_false (Nat.not_le.2 h)]

theorem setB32_be32 {v : Nat} (h : v < N) : setB32 (be32 v) = (v, false) := by
  rw [setB32_of_lt (by rwa [toNat_be32_of_lt_N h]), toNat_be32_of_lt_N h]

/-- The C callers' test `overflow || secp256k1_scalar_is_zero(&s)` after `secp256k1_scalar_set_b32`. -/
theorem setB32_bad_iff (b : Bytes) :
    ((setB32 b).2 = true ∨ (setB32 b).1 = 0) ↔ (toNat b = 0 ∨ N ≤ toNat b) := by
  by_cases h : toNat b < N
  · rw [setB32_of_lt h]; simp; omega
  · simp [setB32_eq, Nat.not_lt.1 h]

theorem setB32Seckey_eq (b : Bytes) :
    setB32Seckey b = (toNat b % N, decide (0 < toNat b ∧ toNat b < N)) := by
  by_cases h : toNat b < N
  · simp [setB32Seckey, setB32_of_lt h, Nat.mod_eq_of_lt h, h, Nat.pos_iff_ne_zero, bne, BEq.beq]
  · simp [setB32Seckey, setB32_eq, h, Nat.not_lt.1 h]

theorem setB32Seckey_of_valid {b : Bytes} (h0 : 0 < toNat b) (h : toNat b < N) : setB32Seckey b = (toNat b, true) := by
  rw [setB32Seckey_eq, Nat.mod_eq_of_lt h, decide_eq_true ⟨h0, h⟩]

theorem setB32Seckey_of_true {b : Bytes} {v : Nat} (h : setB32Seckey b = (v, true)) :
    0 < v ∧ v < N ∧ v = toNat b := by
  simp only [setB32Seckey_eq, Prod.mk.injEq, decide_eq_true_eq] at h
  obtain ⟨rfl, h0, hN⟩ := h
  rw [Nat.mod_eq_of_lt hN]
  exact ⟨h0, hN, rfl⟩

theorem setB32Seckey_be32 {v : Nat} (h0 : 0 < v) (h : v < N) : setB32Seckey (be32 v) = (v, true) := by
  have e := toNat_be32_of_lt_N h
  rw [setB32Seckey_of_valid (by rwa [e]) (by rwa [e]), e]

end Sc

namespace Codec
open Bytes

theorem feLimit_eq (b : Bytes) : feLimit b = if toNat b < P then some (toNat b) else none := rfl

theorem feLimit_some {b : Bytes} {v : Nat} (h : feLimit b = some v) : v = toNat b ∧ toNat b < P := by
  rw [feLimit_eq] at h
  split at h
  · exact ⟨(Option.some.inj h).symm, ‹_›⟩
  · cases h

theorem feLimit_be32 {x : Nat} (h : x < P) : feLimit (be32 x) = some x := by
  rw [feLimit_eq, toNat_be32_of_lt_P h, if_pos h]

end Codec
end SecpZkp
