import SecpZkp.Model.Surjection
import SecpZkp.Model.Whitelist
import SecpZkp.Model.Halfagg
import SecpZkp.Model.Bppp
import SecpZkp.Model.Musig
import SecpZkp.Model.Adaptor
import SecpZkp.Proofs.Bytes
import SecpZkp.Proofs.Codec
import SecpZkp.Proofs.Readers
/-
  Core-Lean lemmas under the object parsers.  Surjection proofs: `le16`, the C padding test `padBad` = ¬`NoPadding`,
  `countBitsSet` as a count of set bits.  The curve equation without Mathlib: `curveRhs`, `sqr_neg`, `onCurve_sqrtCand`,
  normal forms of `Pt.liftXQuad` / `Pt.liftX`; `FinValid` and the closure of `pubkeyParse`.  Normal forms of
  `Generator.parse`, `commitParse`, `commitLoad`.
-/
namespace SecpZkp
namespace Parsers

theorem u8_ofNat_toNat (b : UInt8) : UInt8.ofNat b.toNat = b := by
  simp

section
open Surjection
/-- the little-endian 16-bit field `n_inputs` at the start of a serialized surjection proof -/
def le16 (bs : Bytes) : Nat := (bs.getD 1 0).toNat * 256 + (bs.getD 0 0).toNat

/-- the padding-bit test of `secp256k1_surjectionproof_parse`, as written in the C code -/
def padBad (input : Bytes) (n : Nat) : Bool :=
  if n % 8 ≠ 0 then
    decide ((input.getD (2 + bitmapLen n - 1) 0 &&& UInt8.ofNat (0xFFFFFFFF * 2 ^ (n % 8) % 256)) ≠ 0)
  else false

def NoPadding (n : Nat) (bitmap : Bytes) : Prop :=
  ∀ i, i < 8 * bitmapLen n → n ≤ i → testBit bitmap i = false

instance (n : Nat) (bitmap : Bytes) : Decidable (NoPadding n bitmap) := by
  unfold NoPadding; infer_instance

/-- `secp256k1_surjectionproof_parse` as its five rejections in source order, then the object it writes -/
theorem surj_parse_unfold (input : Bytes) (prior : Proof) :
    parse input prior =
      if input.length < 2 then (0, prior) else
      if le16 input > MAX_N_INPUTS then (0, prior) else
      if input.length < 2 + bitmapLen (le16 input) then (0, prior) else
      if padBad input (le16 input) = true then (0, prior) else
      if input.length ≠ 2 + bitmapLen (le16 input) + 32 * (1 + countBitsSet (input.drop 2) (bitmapLen (le16 input)))
      then (0, prior) else
      (1, { nInputs := le16 input
            used := (input.drop 2).take (bitmapLen (le16 input)) ++ prior.used.drop (bitmapLen (le16 input))
            data := (input.drop (2 + bitmapLen (le16 input))).take
                      (32 * (1 + countBitsSet (input.drop 2) (bitmapLen (le16 input))))
                    ++ prior.data.drop (32 * (1 + countBitsSet (input.drop 2) (bitmapLen (le16 input)))) }) := rfl

theorem testBit_eq (bm : Bytes) (i : Nat) :
    testBit bm i = decide ((bm.getD (i / 8) 0).toNat / 2 ^ (i % 8) % 2 = 1) := rfl

theorem bits_clear_iff {x m : Nat} (hx : x < 2 ^ m) (k : Nat) :
    (∀ j, j < m → k ≤ j → x / 2 ^ j % 2 = 0) ↔ x < 2 ^ k := by
  constructor
  · intro h
    refine Nat.lt_pow_two_of_testBit x fun i hi => ?_
    by_cases h8 : i < m
    · rw [Nat.testBit_eq_decide_div_mod_eq, h i h8 hi]; rfl
    · exact Nat.testBit_lt_two_pow (Nat.lt_of_lt_of_le hx (Nat.pow_le_pow_right Nat.zero_lt_two (by omega : m ≤ i)))
  · intro h j _ hj
    rw [Nat.div_eq_of_lt (Nat.lt_of_lt_of_le h (Nat.pow_le_pow_right Nat.zero_lt_two hj))]

/-- the mask `0xFFFFFFFF << k`, truncated to a byte as in the C code, selects the bits `k .. 7` -/
theorem mask_eq_zero_iff : ∀ k, k < 8 → ∀ n, n < 256 →
    ((UInt8.ofNat n &&& UInt8.ofNat (0xFFFFFFFF * 2 ^ k % 256)) = 0 ↔ n < 2 ^ k) := by
  decide +kernel

theorem noPadding_iff_byte (n : Nat) (bm : Bytes) (h : n % 8 ≠ 0) :
    NoPadding n bm ↔ (bm.getD (n / 8) 0).toNat < 2 ^ (n % 8) := by
  have hbl : bitmapLen n = n / 8 + 1 := by unfold bitmapLen; omega
  rw [← bits_clear_iff (m := 8) (UInt8.toNat_lt _)]
  constructor
  · intro hnp j hj hk
    have := of_decide_eq_false ((testBit_eq bm _).symm.trans (hnp (8 * (n / 8) + j) (by omega) (by omega)))
    rw [show (8 * (n / 8) + j) / 8 = n / 8 by omega, show (8 * (n / 8) + j) % 8 = j by omega] at this
    omega
  · intro hb i hi hn
    have := hb (i % 8) (by omega) (by omega)
    rw [testBit_eq, show i / 8 = n / 8 by omega]
    exact decide_eq_false (by omega)

theorem padBad_iff (input : Bytes) (n : Nat) :
    padBad input n = true ↔ ¬ NoPadding n ((input.drop 2).take (bitmapLen n)) := by
  unfold padBad
  by_cases h : n % 8 = 0
  · have : NoPadding n ((input.drop 2).take (bitmapLen n)) := fun i hi hn => by
      unfold bitmapLen at hi; omega
    simp [h, this]
  · have hbl : bitmapLen n = n / 8 + 1 := by unfold bitmapLen; omega
    have hget : ((input.drop 2).take (bitmapLen n)).getD (n / 8) 0 = input.getD (2 + n / 8) 0 := by
      simp [List.getD_eq_getElem?_getD, hbl]
    have hm := mask_eq_zero_iff (n % 8) (by omega) _ (UInt8.toNat_lt (input.getD (2 + n / 8) 0))
    rw [UInt8.ofNat_toNat] at hm
    rw [if_pos h, noPadding_iff_byte n _ h, hget, ← hm, decide_eq_true_eq, hbl, ← Nat.add_assoc, Nat.add_sub_cancel]

theorem countBitsSet_take (data : Bytes) (c : Nat) : countBitsSet (data.take c) c = countBitsSet data c := by
  unfold countBitsSet; rw [List.take_take, Nat.min_self]

theorem countBitsSet_append (a b : Bytes) (c : Nat) (h : c ≤ a.length) :
    countBitsSet (a ++ b) c = countBitsSet a c := by
  unfold countBitsSet; rw [List.take_append_of_le_length h]

theorem countBitsSet_succ (data : Bytes) (c : Nat) (h : c < data.length) :
    countBitsSet data (c + 1) = countBitsSet data c + popcount8 (data.getD c 0) := by
  unfold countBitsSet
  rw [List.take_add_one, List.foldl_append]
  simp [List.getD_eq_getElem?_getD, List.getElem?_eq_getElem h]

theorem popcount8_eq_filter : ∀ n, n < 256 →
    popcount8 (UInt8.ofNat n) = ((List.range 8).filter (fun j => decide (n / 2 ^ j % 2 = 1))).length := by
  decide +kernel

theorem countBitsSet_eq_filter (bm : Bytes) (c : Nat) (h : c ≤ bm.length) :
    countBitsSet bm c = ((List.range (8 * c)).filter (fun i => testBit bm i)).length := by
  induction c with
  | zero => simp [countBitsSet]
  | succ k ih =>
    rw [countBitsSet_succ _ _ (by omega), ih (by omega)]
    rw [show 8 * (k + 1) = 8 * k + 8 by omega, List.range_add, List.filter_append, List.length_append]
    congr 1
    have := popcount8_eq_filter (bm.getD k 0).toNat (UInt8.toNat_lt _)
    rw [UInt8.ofNat_toNat] at this
    rw [this, List.filter_map, List.length_map]
    congr 1
    apply List.filter_congr
    intro j hj
    have hj : j < 8 := by simpa using hj
    simp only [Function.comp, testBit_eq]
    rw [show (8 * k + j) / 8 = k by omega, show (8 * k + j) % 8 = j by omega]

theorem countBitsSet_le_of_noPadding (n : Nat) (bm : Bytes) (hlen : bitmapLen n ≤ bm.length)
    (hnp : NoPadding n bm) : countBitsSet bm (bitmapLen n) ≤ n := by
  rw [countBitsSet_eq_filter bm _ hlen]
  by_cases h : n ≤ 8 * bitmapLen n
  · obtain ⟨m, hm⟩ := Nat.exists_eq_add_of_le h
    have hnil : ((List.range m).map (n + ·)).filter (fun i => testBit bm i) = [] :=
      List.filter_eq_nil_iff.2 fun i hi => by
        obtain ⟨j, hj, rfl⟩ := List.mem_map.1 hi
        rw [hnp (n + j) (by have := List.mem_range.1 hj; omega) (by omega)]; decide
    rw [hm, List.range_add, List.filter_append, hnil, List.append_nil]
    exact Nat.le_trans (List.length_filter_le _ _) (by rw [List.length_range]; exact Nat.le_refl n)
  · exact Nat.le_trans (List.length_filter_le _ _) (by rw [List.length_range]; omega)

theorem noPadding_congr (n : Nat) (a b : Bytes)
    (h : ∀ j, j < bitmapLen n → a.getD j 0 = b.getD j 0) : NoPadding n a → NoPadding n b := by
  intro ha i hi hn
  have := ha i hi hn
  rw [testBit_eq] at this ⊢
  rw [← h (i / 8) (by omega)]
  exact this

theorem getD_append_left (a b : Bytes) (j : Nat) (h : j < a.length) : (a ++ b).getD j 0 = a.getD j 0 := by
  simp [List.getD_eq_getElem?_getD, List.getElem?_append_left h]

theorem getD_take (a : Bytes) (c j : Nat) (h : j < c) : (a.take c).getD j 0 = a.getD j 0 := by
  simp [List.getD_eq_getElem?_getD, h]

end

/-- the right-hand side `x^3 + 7` of the curve equation, as the C code computes it -/
def curveRhs (x : Nat) : Nat := Fe.add (Fe.mul (Fe.sqr x) x) 7

theorem curveRhs_lt (x : Nat) : curveRhs x < P := Nat.mod_lt _ P_pos

theorem isSquare_iff_sqr (a : Nat) : Fe.isSquare a = true ↔ Fe.sqr (Fe.sqrtCand a) = a % P := by
  simp [Fe.isSquare]

theorem sqrt_eq (a : Nat) : Fe.sqrt a = if Fe.isSquare a = true then some (Fe.sqrtCand a) else none := by
  simp only [Fe.sqrt, isSquare_iff_sqr]

theorem sq_sub_mod (p z : Nat) (h : z ≤ p) : (p - z) * (p - z) % p = z * z % p := by
  obtain ⟨w, hw⟩ : ∃ w, p = w + z := ⟨p - z, by omega⟩
  have hpz : p - z = w := by omega
  rw [hpz]
  have e1 : w * w + z * p = z * z + w * p := by
    rw [hw, Nat.mul_add, Nat.mul_add, Nat.mul_comm z w]; omega
  have : (w * w + z * p) % p = (z * z + w * p) % p := by rw [e1]
  rwa [Nat.add_mul_mod_self_right, Nat.add_mul_mod_self_right] at this

theorem sqr_neg (y : Nat) : Fe.sqr (Fe.neg y) = Fe.sqr y := by
  unfold Fe.sqr Fe.neg
  rw [Nat.mul_mod y y P, ← Nat.mul_mod (P - y % P) (P - y % P) P]
  exact sq_sub_mod P (y % P) (Nat.le_of_lt (Nat.mod_lt _ P_pos))

theorem onCurveXY_iff (x y : Nat) :
    Pt.onCurveXY x y = true ↔ x < P ∧ y < P ∧ Fe.sqr y = curveRhs x := by
  simp [Pt.onCurveXY, curveRhs, and_assoc]

theorem onCurve_neg (x y : Nat) (h : Pt.onCurveXY x y = true) : Pt.onCurveXY x (Fe.neg y) = true := by
  rw [onCurveXY_iff] at h ⊢
  exact ⟨h.1, Fe.neg_lt_P y, by rw [sqr_neg]; exact h.2.2⟩

theorem onCurve_sqrtCand {x : Nat} (hx : x < P) (hs : Fe.isSquare (curveRhs x) = true) :
    Pt.onCurveXY x (Fe.sqrtCand (curveRhs x)) = true := by
  rw [onCurveXY_iff, (isSquare_iff_sqr _).1 hs, Nat.mod_eq_of_lt (curveRhs_lt x)]
  exact ⟨hx, Fe.sqrtCand_lt_P _, rfl⟩

theorem liftXQuad_eq (x : Nat) :
    Pt.liftXQuad x =
      if Fe.isSquare (curveRhs x) = true then some (.aff (x % P) (Fe.sqrtCand (curveRhs x))) else none := by
  unfold Pt.liftXQuad
  rw [show Fe.add (Fe.mul (Fe.sqr x) x) 7 = curveRhs x from rfl, sqrt_eq]
  by_cases h : Fe.isSquare (curveRhs x) = true
  · rw [if_pos h, if_pos h]
  · rw [if_neg h, if_neg h]

theorem liftX_some (x : Nat) (odd : Bool) (hx : x < P) (p : Pt) (h : Pt.liftX x odd = some p) :
    ∃ y, p = .aff x y ∧ Pt.onCurveXY x y = true := by
  unfold Pt.liftX at h
  rw [show Fe.add (Fe.mul (Fe.sqr x) x) 7 = curveRhs x from rfl, sqrt_eq] at h
  by_cases hs : Fe.isSquare (curveRhs x) = true
  · rw [if_pos hs] at h
    refine ⟨_, by rw [← Option.some.inj h, Nat.mod_eq_of_lt hx], ?_⟩
    split
    · exact onCurve_sqrtCand hx hs
    · exact onCurve_neg _ _ (onCurve_sqrtCand hx hs)
  · rw [if_neg hs] at h; cases h

/-- what every valid public-key / generator object of the C library holds -/
def FinValid (p : Pt) : Prop := p.valid = true ∧ p.isInf = false

instance (p : Pt) : Decidable (FinValid p) := by unfold FinValid; infer_instance

theorem finValid_aff (x y : Nat) (h : Pt.onCurveXY x y = true) : FinValid (.aff x y) := ⟨h, rfl⟩

theorem finValid_neg (p : Pt) (h : FinValid p) : FinValid (Pt.neg p) := by
  cases p with
  | inf => exact h
  | aff x y => exact finValid_aff _ _ (onCurve_neg _ _ h.1)

theorem pubkeyParse_valid (pub : Bytes) (p : Pt) (h : Codec.pubkeyParse pub = some p) :
    FinValid p ∧ (pub.length = 33 ∨ pub.length = 65) := by
  cases pub with
  | nil => cases h
  | cons tag rest =>
    rw [CodecLemmas.pubkeyParse_cons] at h
    split at h
    · rename_i hc
      split at h
      · rename_i hx
        obtain ⟨y, rfl, hon⟩ := liftX_some _ _ hx p h
        exact ⟨finValid_aff _ _ hon, Or.inl (by rw [List.length_cons, hc.1])⟩
      · cases h
    · split at h
      · rename_i hc
        split at h
        · rename_i hxy
          rw [← Option.some.inj h]
          exact ⟨finValid_aff _ _ hxy.2.2.2, Or.inr (by rw [List.length_cons, hc.1])⟩
        · cases h
      · cases h

theorem gen_prefix (b : UInt8) : (b &&& 0xFE = 10) ↔ (b = 10 ∨ b = 11) :=
  UInt8.forall_of_lt256 (p := fun b => (b &&& 0xFE = 10) ↔ (b = 10 ∨ b = 11)) (by decide +kernel) b

theorem commit_prefix (b : UInt8) : (b &&& 0xFE = 8) ↔ (b = 8 ∨ b = 9) :=
  UInt8.forall_of_lt256 (p := fun b => (b &&& 0xFE = 8) ↔ (b = 8 ∨ b = 9)) (by decide +kernel) b

theorem generator_parse_cons (b0 : UInt8) (rest : Bytes) :
    Generator.parse (b0 :: rest) =
      if (b0 = 10 ∨ b0 = 11) ∧ Bytes.toNat rest < P ∧ Fe.isSquare (curveRhs (Bytes.toNat rest)) = true then
        some (if b0 = 11 then Pt.neg (.aff (Bytes.toNat rest) (Fe.sqrtCand (curveRhs (Bytes.toNat rest))))
              else .aff (Bytes.toNat rest) (Fe.sqrtCand (curveRhs (Bytes.toNat rest))))
      else none := by
  simp only [Generator.parse, Codec.feLimit_eq, liftXQuad_eq]
  by_cases hp : b0 = 10 ∨ b0 = 11
  · rw [if_neg (not_not_intro ((gen_prefix b0).2 hp))]
    by_cases hx : Bytes.toNat rest < P
    · rw [if_pos hx]
      by_cases hs : Fe.isSquare (curveRhs (Bytes.toNat rest)) = true
      · simp only [if_pos hs, if_pos (And.intro hp (And.intro hx hs)), Nat.mod_eq_of_lt hx]
        rcases hp with rfl | rfl <;> rfl
      · simp only [if_neg hs, if_neg (fun h : _ ∧ _ ∧ _ => hs h.2.2)]
    · simp only [if_neg hx, if_neg (fun h : _ ∧ _ ∧ _ => hx h.2.1)]
  · rw [if_pos (fun h => hp ((gen_prefix b0).1 h)), if_neg (fun h => hp h.1)]

/-- the 33-byte commitment encodings that `secp256k1_pedersen_commitment_parse` accepts -/
def CommitEncodingOK (c : Bytes) : Prop :=
  (c.headD 0 = 8 ∨ c.headD 0 = 9) ∧ Bytes.toNat c.tail < P ∧
  Fe.isSquare (curveRhs (Bytes.toNat c.tail)) = true

instance (c : Bytes) : Decidable (CommitEncodingOK c) := by unfold CommitEncodingOK; infer_instance

theorem commitParse_iff (c o : Bytes) :
    Generator.commitParse c = some o ↔ c ≠ [] ∧ CommitEncodingOK c ∧ o = c := by
  cases c with
  | nil => simp [Generator.commitParse]
  | cons b0 rest =>
    simp only [Generator.commitParse, CommitEncodingOK, Codec.feLimit_eq, commit_prefix, List.headD_cons,
      List.tail_cons, ne_eq, reduceCtorEq, not_false_eq_true, true_and]
    -- `simp only` left the model's test spelt `Fe.isSquare (Fe.add (Fe.mul (Fe.sqr x) x) 7)`: fold it to `curveRhs x`
    change (if ¬ _ then _ else match (if _ then _ else _) with
      | none => none
      | some x => if Fe.isSquare (curveRhs x) = true then some (b0 :: rest) else none) = _ ↔ _
    by_cases hp : b0 = 8 ∨ b0 = 9 <;> by_cases hx : Bytes.toNat rest < P <;>
      by_cases hs : Fe.isSquare (curveRhs (Bytes.toNat rest)) = true <;> simp [hp, hx, hs, eq_comm]

theorem commitLoad_cons (b0 : UInt8) (rest : Bytes) (hx : Bytes.toNat rest < P)
    (hsq : Fe.isSquare (curveRhs (Bytes.toNat rest)) = true) :
    Generator.commitLoad (b0 :: rest) =
      if b0 &&& 1 = 1 then Pt.neg (.aff (Bytes.toNat rest) (Fe.sqrtCand (curveRhs (Bytes.toNat rest))))
      else .aff (Bytes.toNat rest) (Fe.sqrtCand (curveRhs (Bytes.toNat rest))) := by
  unfold Generator.commitLoad
  simp only []
  rw [Nat.mod_eq_of_lt hx, liftXQuad_eq, Nat.mod_eq_of_lt hx, if_pos hsq]

end Parsers
end SecpZkp
