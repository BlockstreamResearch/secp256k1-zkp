import SecpZkp.Proofs.CtSpec
import SecpZkp.Proofs.Accumulator
/-
  The scalar predicates (`scalar_is_zero`, `scalar_check_overflow`, `scalar_is_high`) and `scalar_cond_negate` of the
  constant-time kernels, in both limb widths (4×64, 8×32): what each program returns or writes, over the memory's own cells.
-/
namespace SecpZkp
namespace CtSpec
open MiniC FieldLinear FieldKernel LimbList LimbChain

section scalar
open ScalarKernel ScalarKernel32

def RetPost (v : Nat) (out : Env × Option Nat) : Prop := out.2 = some v

theorem scalar_is_zero_4x64_run (env : Env) :
    RetPost (if valL 64 (readL env "a.d" 0 4) = 0 then 1 else 0) (runR env Gen.ct.scalar_is_zero.body) := by
  rw [show Gen.ct.scalar_is_zero.body = [.ret (isZeroE 64 "a.d" 3)] from rfl, runR_ret, ev_isZeroE]; rfl

theorem scalar_is_zero_8x32_run (env : Env) :
    RetPost (if valL 32 (readL env "a.d" 0 8) = 0 then 1 else 0) (runR env Gen.ct32.scalar_is_zero.body) := by
  rw [show Gen.ct32.scalar_is_zero.body = [.ret (isZeroE 32 "a.d" 7)] from rfl, runR_ret, ev_isZeroE]; rfl

theorem cmp_ret {w : Nat} {ls : List CmpLimb} {k0 E : Nat} {strict : Bool} {env : Env} {body : List Stmt}
    (hb : body = cmpProg w "yes" "no" "a.d" ls k0 strict [.ret (.var "yes")])
    (hk : ∀ l ∈ ls, l.k < 2 ^ w ∧ (l.yes = false → l.k = 2 ^ w - 1)) (hk0 : k0 < 2 ^ w)
    (hE : valL w (k0 :: ls.reverse.map (·.k)) = E) (ha : ∀ d ∈ readL env "a.d" 0 (ls.length + 1), d < 2 ^ w) :
    (strict = false → RetPost (if E ≤ valL w (readL env "a.d" 0 (ls.length + 1)) then 1 else 0) (runR env body)) ∧
    (strict = true → RetPost (if E < valL w (readL env "a.d" 0 (ls.length + 1)) then 1 else 0) (runR env body)) := by
  subst hb
  refine cmp_run (yn := "yes") (nn := "no")
    (P := fun out => (strict = false → RetPost (if E ≤ valL w (readL env "a.d" 0 (ls.length + 1)) then 1 else 0) out) ∧
      (strict = true → RetPost (if E < valL w (readL env "a.d" 0 (ls.length + 1)) then 1 else 0) out))
    (by decide) (by decide) (by decide) hk hk0 ha fun env' _ h => ?_
  rw [runR_ret, ev_var, h, hE]
  exact ⟨fun h => by subst h; rfl, fun h => by subst h; rfl⟩

theorem scalar_check_overflow_4x64_run (env : Env) (ha : ∀ d ∈ readL env "a.d" 0 4, d < 2 ^ 64) :
    RetPost (if N ≤ valL 64 (readL env "a.d" 0 4) then 1 else 0) (runR env Gen.ct.scalar_check_overflow.body) :=
  (cmp_ret (ls := ovLimbs64) (k0 := 13822214165235122497) (Accumulator.same_eq (by decide +kernel)) (by decide +kernel)
    (by decide +kernel) (by decide +kernel) ha).1 rfl

theorem scalar_check_overflow_8x32_run (env : Env) (ha : ∀ d ∈ readL env "a.d" 0 8, d < 2 ^ 32) :
    RetPost (if N ≤ valL 32 (readL env "a.d" 0 8) then 1 else 0) (runR env Gen.ct32.scalar_check_overflow.body) :=
  (cmp_ret (ls := ovLimbs) (k0 := 3493216577) (Accumulator.same_eq (by decide +kernel)) (by decide) (by decide) (by decide)
    ha).1 rfl

/-- `secp256k1_scalar_is_high`: the limbs of `(N - 1) / 2` above the lowest, from the top -/
def highLimbs64 : List CmpLimb :=
  [⟨9223372036854775807, false, true⟩, ⟨18446744073709551615, true, false⟩, ⟨6725966010171805725, true, true⟩]

theorem scalar_is_high_4x64_run (env : Env) (ha : ∀ d ∈ readL env "a.d" 0 4, d < 2 ^ 64) :
    RetPost (if (N - 1) / 2 < valL 64 (readL env "a.d" 0 4) then 1 else 0) (runR env Gen.ct.scalar_is_high.body) :=
  (cmp_ret (ls := highLimbs64) (k0 := 16134479119472337056) (Accumulator.same_eq (by decide +kernel)) (by decide +kernel)
    (by decide +kernel) (by decide +kernel) ha).2 rfl

def highLimbs32 : List CmpLimb :=
  [⟨2147483647, false, true⟩, ⟨4294967295, true, false⟩, ⟨4294967295, true, false⟩, ⟨4294967295, true, false⟩,
   ⟨1566010995, true, true⟩, ⟨1470386205, true, true⟩, ⟨3756601158, true, true⟩]

theorem scalar_is_high_8x32_run (env : Env) (ha : ∀ d ∈ readL env "a.d" 0 8, d < 2 ^ 32) :
    RetPost (if (N - 1) / 2 < valL 32 (readL env "a.d" 0 8) then 1 else 0) (runR env Gen.ct32.scalar_is_high.body) :=
  (cmp_ret (ls := highLimbs32) (k0 := 1746608288) (Accumulator.same_eq (by decide +kernel)) (by decide) (by decide)
    (by decide) ha).2 rfl

def CondNegPost (w n : Nat) (env : Env) (out : Env × Option Nat) : Prop :=
  (∀ d ∈ readL out.1 "r.d" 0 n, d < 2 ^ w) ∧
  valL w (readL out.1 "r.d" 0 n) =
    (if env.get "flag" 0 = 1 then (N - valL w (readL env "r.d" 0 n)) % N else valL w (readL env "r.d" 0 n)) ∧
  out.2 = some (if env.get "flag" 0 = 1 then 4294967295 else 1)

/-- `return 2 * (mask == 0) - 1` -/
def cnRet (w : Nat) : Expr := .bin .sub 32 (.bin .mul 32 (.lit 2) (.bin .eq w (.var "mask") (.lit 0))) (.lit 1)

theorem ev_cnRet (w : Nat) (env : Env) : ev env (cnRet w) = if env.get "mask" 0 = 0 then 1 else 4294967295 := by
  simp only [cnRet, ev_bin, ev_var, ev_lit, binWrap_eq]
  split <;> rfl

/-- `mask = -flag`, as clang spells it at 64 bits: `(int)(-(unsigned)flag)` sign-extended -/
def cnMask64 : Expr := .bin .sub 64 (.bin .xor 64 (.neg 32 (.var "vflag")) (.lit 2147483648)) (.lit 2147483648)

theorem ev_cnMask64 (env : Env) (h : env.get "vflag" 0 ≤ 1) :
    ev env cnMask64 = if env.get "vflag" 0 = 1 then 2 ^ 64 - 1 else 0 := by
  simp only [cnMask64, ev_bin, ev_neg, ev_var, ev_lit]
  generalize env.get "vflag" 0 = z at h ⊢
  obtain rfl | rfl : z = 0 ∨ z = 1 := by omega
  all_goals decide

/-- `nonzero = (is_zero != 0) - 1` -/
def cnNonzero64 : Expr :=
  .bin .sub 64 (.bin .xor 64 (.bin .sub 32 (.bin .ne 32 (.var "scalar_is_zero_1.ret") (.lit 0)) (.lit 1)) (.lit 2147483648))
    (.lit 2147483648)

theorem ev_cnNonzero64 (env : Env) (h : env.get "scalar_is_zero_1.ret" 0 ≤ 1) :
    ev env cnNonzero64 = if env.get "scalar_is_zero_1.ret" 0 = 0 then 2 ^ 64 - 1 else 0 := by
  simp only [cnNonzero64, ev_bin, ev_var, ev_lit]
  generalize env.get "scalar_is_zero_1.ret" 0 = z at h ⊢
  obtain rfl | rfl : z = 0 ∨ z = 1 := by omega
  all_goals decide

/-- the limbs of `N + 1` -/
def cnK64 : List Nat := [13822214165235122498, 13451932020343611451, 18446744073709551614, 18446744073709551615]

theorem cond_negate_body64 : Gen.ct.scalar_cond_negate.body =
    .assign "vflag" (.var "flag") :: .assign "mask" cnMask64 :: .assign "scalar_is_zero_1.ret" (isZeroE 64 "r.d" 3) ::
      .assign "nonzero" cnNonzero64 ::
      (c64 "t").prog false (maskG64 "nonzero") [.ret (cnRet 64)] (limbs64 true 4 (cnegAtoms 64 "r.d" "mask" 0 cnK64)) :=
  Accumulator.same_eq (by decide +kernel)

theorem scalar_cond_negate_4x64_run (env : Env) (F : env.get "flag" 0 ≤ 1) (ha : ∀ d ∈ readL env "r.d" 0 4, d < 2 ^ 64)
    (hA : valL 64 (readL env "r.d" 0 4) < N) : CondNegPost 64 4 env (runR env Gen.ct.scalar_cond_negate.body) := by
  rw [cond_negate_body64]
  exact cond_negate_run (c64 "t") (S := written "t" (limbs64 true 4 (cnegAtoms 64 "r.d" "mask" 0 cnK64))) (M := N)
    List.mem_cons_self (by decide +kernel) (by decide) (by decide) ⟨_, _, _, _, _, rfl⟩ (goodB_sound _ _ (by decide +kernel))
    (by decide +kernel) (by decide +kernel) (by decide) (ev_maskG64 _) ev_cnMask64 ev_cnNonzero64 (ev_cnRet 64)
    (atoms_limbs64 ..) rfl (by decide) (by decide) F ha hA (by decide) fun env' h1 h2 => ⟨h1, h2, rfl⟩

/-- `mask = (uint32_t)0 - flag` -/
def cnMask32 : Expr := .neg 32 (.var "vflag")

theorem ev_cnMask32 (env : Env) (h : env.get "vflag" 0 ≤ 1) :
    ev env cnMask32 = if env.get "vflag" 0 = 1 then 2 ^ 32 - 1 else 0 := by
  simp only [cnMask32, ev_neg, ev_var]
  generalize env.get "vflag" 0 = z at h ⊢
  obtain rfl | rfl : z = 0 ∨ z = 1 := by omega
  all_goals decide

def cnK32 : List Nat :=
  [3493216578, 3218235020, 2940772411, 3132021990, 4294967294, 4294967295, 4294967295, 4294967295]

theorem cond_negate_body32 : Gen.ct32.scalar_cond_negate.body =
    .assign "vflag" (.var "flag") :: .assign "mask" cnMask32 :: .assign "scalar_is_zero_1.ret" (isZeroE 32 "r.d" 7) ::
      .assign "nonzero" (nzMask "scalar_is_zero_1.ret") ::
      (c32 "t").prog false (ScalarKernel32.maskG "nonzero") [.ret (cnRet 32)] (limbs32 (cnegAtoms 32 "r.d" "mask" 0 cnK32)) :=
  Accumulator.same_eq (by decide +kernel)

theorem scalar_cond_negate_8x32_run (env : Env) (F : env.get "flag" 0 ≤ 1) (ha : ∀ d ∈ readL env "r.d" 0 8, d < 2 ^ 32)
    (hA : valL 32 (readL env "r.d" 0 8) < N) : CondNegPost 32 8 env (runR env Gen.ct32.scalar_cond_negate.body) := by
  rw [cond_negate_body32]
  exact cond_negate_run (c32 "t") (S := ["t"]) (M := N) (by decide) (by decide) (by decide) (by decide) ⟨_, _, _, _, _, rfl⟩
    (goodB_sound _ _ (by decide)) (by decide) (by decide) (by decide) (ScalarKernel32.ev_maskG _) ev_cnMask32 (ev_nzMask _)
    (ev_cnRet 32) (atoms_limbs32 _) rfl (by decide) (by decide) F ha hA (by decide) fun env' h1 h2 => ⟨h1, h2, rfl⟩

-- no proof applies these two (the constant limbs 6 and 7 of `cnK32`, all ones, under the all-ones mask)
theorem and_k6_ones : binWrap BinOp.and 32 4294967295 (2 ^ 32 - 1) = 4294967295 := by decide
theorem and_k7_ones : binWrap BinOp.and 32 4294967295 (2 ^ 32 - 1) = 4294967295 := and_k6_ones

end scalar

end CtSpec
end SecpZkp
