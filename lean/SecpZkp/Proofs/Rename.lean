import SecpZkp.Proofs.FieldKernel
import SecpZkp.Proofs.Interned
/-
  The interval analysis `Bounds.checkL` is invariant under an injective renaming of the variables, so it can be run
  on the interned copy of a program (names are numbers: no `String` comparison in the kernel).
-/
namespace SecpZkp.Rename
open MiniC MiniC.Bounds FieldKernel FieldKernelStruct

abbrev IBEnv := List (Cell × Nat)

def IBEnv.get? (b : IBEnv) (x i : Nat) : Option Nat := (b.find? fun p => beqC p.1 (x, i)).map (·.2)

def IBEnv.set (b : IBEnv) (x i v : Nat) : IBEnv := ((x, i), v) :: b.filter fun p => !beqC p.1 (x, i)

def decB (ν : Nat → String) (b : IBEnv) : BEnv := b.map fun q => ((ν q.1.1, q.1.2), q.2)

/-- inverse of `decB nmr` on names that `packName` can pack -/
def internB (b : BEnv) : IBEnv := b.map fun q => ((packName q.1.1, q.1.2), q.2)

def iboundE (b : IBEnv) : IExpr → Option Nat
  | .lit n => some n
  | .var x => b.get? x 0
  | .idx a i => b.get? a i
  | .bin op w x y =>
    match iboundE b x, iboundE b y with
    | some bx, some by_ =>
      match op with
      | .add => if bx + by_ < 2 ^ w then some (bx + by_) else none
      | .mul => if bx * by_ < 2 ^ w then some (bx * by_) else none
      | .and => some (min bx by_)
      | .or => some (ones (max bx by_))
      | .xor => some (ones (max bx by_))
      | .shr => match y with
          | .lit k => some (bx / 2 ^ k)
          | _ => none
      | .shl => match y with
          | .lit k => if bx * 2 ^ k < 2 ^ w then some (bx * 2 ^ k) else none
          | _ => none
      | .sub => none
      | .lt | .le | .eq | .ne => some 1
    | _, _ => none
  | .cast w e => (iboundE b e).map fun v => min v (2 ^ w - 1)

def icheckL (b : IBEnv) : List IStmt → Option IBEnv
  | [] => some b
  | .assign x e :: rest =>
    match iboundE b e with
    | some v => icheckL (b.set x 0 v) rest
    | none => none
  | .store a i e :: rest =>
    match iboundE b e with
    | some v => icheckL (b.set a i v) rest
    | none => none
  | .rshift .. :: _ => none

def icheckOut (b : IBEnv) (p : List IStmt) (outs : IBEnv) : Bool :=
  match icheckL b p with
  | some b' => outs.all fun o => (b'.get? o.1.1 o.1.2).any (Nat.ble · o.2)
  | none => false

variable {ν : Nat → String} (hν : ν.Injective)
include hν

theorem beq_dec (c : Cell) (x i : Nat) : ((ν c.1, c.2) == (ν x, i)) = beqC c (x, i) := by
  rw [Bool.eq_iff_iff, beq_iff_eq, beqC_iff, Prod.ext_iff, Prod.ext_iff, hν.eq_iff]

theorem get?_decB (b : IBEnv) (x i : Nat) : BEnv.get? (decB ν b) (ν x) i = IBEnv.get? b x i := by
  simp only [BEnv.get?, IBEnv.get?, decB, List.find?_map, Option.map_map, Function.comp_def, beq_dec hν]

theorem set_decB (b : IBEnv) (x i v : Nat) : (decB ν b).set (ν x) i v = decB ν (b.set x i v) := by
  simp only [BEnv.set, IBEnv.set, decB, List.filter_map, List.map_cons, Function.comp_def, beq_dec hν]

theorem boundE_decode (b : IBEnv) (e : IExpr) : boundE (decB ν b) (decodeE ν e) = iboundE b e := by
  induction e with
  | lit n => rfl
  | var x => exact get?_decB hν b x 0
  | idx a i => exact get?_decB hν b a i
  | bin op w x y ihx ihy =>
    simp only [decodeE, boundE, iboundE, ihx, ihy]
    -- only `shl` and `shr` look at the syntax of `y`
    cases op with
    | shl | shr => cases y <;> rfl
    | _ => rfl
  | cast w e ih => simp only [decodeE, boundE, iboundE, ih]

theorem checkL_decode (b : IBEnv) (p : List IStmt) : checkL (decB ν b) (decode ν p) = (icheckL b p).map (decB ν) := by
  induction p generalizing b with
  | nil => rfl
  | cons s p ih =>
    simp only [decode, List.map_cons] at ih ⊢
    cases s with
    | rshift lo hi n => rfl
    | assign x e | store x i e =>
      simp only [decodeS, checkL, icheckL, boundE_decode hν]
      cases iboundE b e <;> simp only [set_decB hν, ih, Option.map_none]

theorem icheckOut_sound {b outs : IBEnv} {p : List IStmt} (h : icheckOut b p outs = true) :
    checkOut (decB ν b) (decode ν p) (decB ν outs) = true := by
  revert h
  unfold icheckOut checkOut
  rw [checkL_decode hν]
  cases icheckL b p with
  | none => exact id
  | some b' =>
    refine fun h => List.all_eq_true.mpr fun o ho => ?_
    obtain ⟨q, hq, rfl⟩ := List.mem_map.mp ho
    have := List.all_eq_true.mp h q hq
    simp only [cellLe, get?_decB hν]
    revert this
    cases b'.get? q.1.1 q.1.2 <;> simp

end SecpZkp.Rename
