/-
  Model functions written like the C code return early: `if c₁ then z else if c₂ then z else … a`.  The lemmas here take
  ONE such test apart each, so that a proof about the function follows the C code line by line: `ite_guard`
  (`ite_guard₂`, `ite_guard_end`) for an equation, the function in guard form `if G₁ ∧ G₂ ∧ … then a else z`;
  `ite_elim` for a predicate of the result.  A hypothesis that an `Option`-valued function succeeded needs no lemma of ours:
  core's `Option.ite_none_left_eq_some` (and `Option.bind_eq_some_iff` for a `match` on an `Option`) takes
  `f (x :: xs) = some y` about a loop of the model apart in one rewrite, after the loop's `_cons` equation.  (A test written
  `match o with | none => z | some x => …` is taken by `cases` / `split`.)  Meant for functions with many tests in a row (the
  DER, BP++ and Borromean parsers); three or four are as short by `by_cases`.  Core Lean only.
-/
namespace SecpZkp

/-- For long model functions: `split` on a large term is a hundred times dearer. -/
theorem ite_elim {α : Sort _} {P : α → Prop} {c : Prop} [Decidable c] {a b : α} (ha : c → P a) (hb : ¬ c → P b) :
    P (if c then a else b) := by
  split
  · exact ha ‹_›
  · exact hb ‹_›

/-- The `Decidable` instance of the result is left open: that of a named guard predicate need not be `instDecidableAnd`. -/
theorem ite_guard {α : Sort _} {c G Q : Prop} [Decidable c] [Decidable Q] [Decidable (G ∧ Q)] {a z rest : α}
    (hG : G ↔ ¬ c) (h : rest = if Q then a else z) : (if c then z else rest) = if G ∧ Q then a else z := by
  subst h
  by_cases hc : c
  · rw [if_pos hc, if_neg fun p => hG.1 p.1 hc]
  · rw [if_neg hc]
    by_cases hq : Q
    · rw [if_pos hq, if_pos ⟨hG.2 hc, hq⟩]
    · rw [if_neg hq, if_neg fun p => hq p.2]

theorem ite_guard_end {α : Sort _} {c G : Prop} [Decidable c] [Decidable G] {a z : α} (hG : G ↔ ¬ c) :
    (if c then z else a) = if G then a else z := by
  by_cases hc : c
  · rw [if_pos hc, if_neg fun g => hG.1 g hc]
  · rw [if_neg hc, if_pos (hG.2 hc)]

theorem ite_guard₂ {α : Sort _} {c A B Q : Prop} [Decidable c] [Decidable Q] [Decidable (A ∧ B ∧ Q)] {a z rest : α}
    (hG : A ∧ B ↔ ¬ c) (h : rest = if Q then a else z) : (if c then z else rest) = if A ∧ B ∧ Q then a else z := by
  have : Decidable ((A ∧ B) ∧ Q) := decidable_of_iff _ and_assoc.symm
  rw [ite_guard hG h]
  exact ite_congr (propext and_assoc) (fun _ => rfl) fun _ => rfl

end SecpZkp
