import SecpZkp.Proofs.BorromeanRange
import SecpZkp.Proofs.Generator
import SecpZkp.Proofs.Sha256
import SecpZkp.Proofs.RangeproofBits
/-
  Verifier-side facts for the completeness of range proofs: the sign bits and x-coordinates written by the digit loop
  of `sign_impl` are read back by `readDigits` as the same points, with the same hash state.
-/
namespace SecpZkp
namespace Rangeproof
open SecpZkp.GeneratorLemmas

/-- Two writes are one write of the concatenation, for a state reached by streaming (`Sha256.after`); an arbitrary
    `State` may hold a full block in its buffer, and then `write` has no such closed form. -/
theorem write_write {s0 : Sha256.H8} {n0 : Nat} {h : Sha256.State} {pre : Bytes}
    (a : h = Sha256.after s0 n0 pre) (x y : Bytes) :
    Sha256.write (Sha256.write h x) y = Sha256.write h (x ++ y) := by
  rw [a, Sha256.write_after, Sha256.write_after, Sha256.write_after, List.append_assoc]

def qflag (p : Pt) : UInt8 := if Fe.isSquare p.yOf then 0 else 1

theorem serializePoint_eq (p : Pt) : serializePoint p = qflag p :: Bytes.be32 p.xOf := rfl

/-- `serializePoint_eq` in the form `rw ←` can match once the point is `Pt.aff x y` (`be32 x`, not `be32 (aff x y).xOf`) -/
theorem serializePoint_aff (x y : Nat) : serializePoint (Pt.aff x y) = qflag (Pt.aff x y) :: Bytes.be32 x := rfl

theorem qflag_le (p : Pt) : qflag p ≤ 1 := by
  unfold qflag; split <;> decide

theorem digitPts_dropLast_cons (scale : Nat) (genp : Pt) (s : Nat) (secs : List Nat) (d : Nat) (idxs : List Nat) (i : Nat)
    (h1 : secs ≠ []) (h2 : secs.length ≤ idxs.length) :
    (digitPts scale genp (s :: secs) (d :: idxs) i).dropLast =
      pedersenEcmult s (digitValue d scale i) genp :: (digitPts scale genp secs idxs (i + 1)).dropLast := by
  rw [digitPts]
  have : digitPts scale genp secs idxs (i + 1) ≠ [] := by
    intro h
    have := digitPts_length scale genp secs idxs (i + 1) h2
    rw [h] at this
    exact h1 (List.eq_nil_of_length_eq_zero this.symm)
  exact List.dropLast_cons_of_ne_nil this

/-- (that the returned points `P` are `digitPts`: `digitLoop_spec`, BorromeanRange.lean) -/
theorem digitLoop_out (rings scale : Nat) (genp : Pt) :
    ∀ (secs idxs : List Nat) (i : Nat) (h : Sha256.State) (signs xs : Bytes) (pubs P : List Pt)
      (h' : Sha256.State) (signs' xs' : Bytes),
      digitLoop rings scale genp secs idxs i h signs xs pubs = some (P, h', signs', xs') →
      i + secs.length = rings → (∀ t, t + 1 < rings → t / 8 < signs.length) →
      (∀ p ∈ digitPts scale genp secs idxs i, p ≠ .inf) ∧
      h' = (digitPts scale genp secs idxs i).dropLast.foldl (fun h p => Sha256.write h (serializePoint p)) h ∧
      xs' = xs ++ ((digitPts scale genp secs idxs i).dropLast.map (fun p => Bytes.be32 p.xOf)).flatten ∧
      signs'.length = signs.length ∧
      ∀ t, signBit signs' t =
        if i ≤ t ∧ t + 1 < rings then
          (signBit signs t || qflag ((digitPts scale genp secs idxs i).getD (t - i) .inf) == 1)
        else signBit signs t := by
  intro secs
  induction secs with
  | nil =>
    intro idxs i h signs xs pubs P h' signs' xs' hd hi _
    simp only [digitLoop, Option.some.injEq, Prod.mk.injEq] at hd
    obtain ⟨_, rfl, rfl, rfl⟩ := hd
    have hD : digitPts scale genp [] idxs i = [] := by cases idxs <;> rfl
    simp only [List.length_nil, Nat.add_zero] at hi
    rw [hD]
    refine ⟨by simp, rfl, by simp, rfl, ?_⟩
    intro t
    rw [if_neg (by omega)]
  | cons s secs ih =>
    intro idxs i h signs xs pubs P h' signs' xs' hd hi hsl
    cases idxs with
    | nil => simp [digitLoop] at hd
    | cons d idxs =>
      have hlen := (digitLoop_spec _ _ _ _ _ _ _ _ _ _ _ _ _ _ hd).1
      simp only [List.length_cons] at hi hlen
      rw [digitLoop] at hd
      split at hd
      · simp at hd
      next p hpne =>
      have hp : pedersenEcmult s (digitValue d scale i) genp ≠ .inf := fun h => hpne h
      split at hd
      next hlt =>
        have hne : secs ≠ [] := by intro h; subst h; simp at hi; omega
        obtain ⟨a1, a2, a3, a4, a5⟩ := ih idxs (i + 1) _ _ _ _ P h' signs' xs' hd (by omega)
          (by intro t ht; rw [length_setSignBit]; exact hsl t ht)
        rw [digitPts_dropLast_cons _ _ _ _ _ _ _ hne (by omega)]
        refine ⟨?_, ?_, ?_, ?_, ?_⟩
        · intro q hq
          rw [digitPts] at hq
          rcases List.mem_cons.mp hq with h | h
          · rw [h]; exact hp
          · exact a1 q h
        · rw [a2]; rfl
        · rw [a3, serializePoint_eq]; simp
        · rw [a4, length_setSignBit]
        · intro t
          rw [a5 t, serializePoint_eq, List.headD_cons,
            signBit_setSignBit _ _ _ (qflag_le _) (hsl i hlt)]
          rw [digitPts]
          by_cases hti : t = i
          · subst hti
            simp [hlt]
          · by_cases h1 : i + 1 ≤ t ∧ t + 1 < rings
            · have h2 : i ≤ t ∧ t + 1 < rings := ⟨by omega, h1.2⟩
              rw [if_pos h1, if_pos h2, if_neg hti]
              have : t - i = (t - (i + 1)) + 1 := by omega
              rw [this, List.getD_cons_succ]
            · have h2 : ¬ (i ≤ t ∧ t + 1 < rings) := by omega
              rw [if_neg h1, if_neg h2, if_neg hti]
      next hge =>
        have hnil : secs = [] := by
          cases secs with
          | nil => rfl
          | cons _ _ => simp at hi; omega
        subst hnil
        simp only [digitLoop, Option.some.injEq, Prod.mk.injEq] at hd
        obtain ⟨_, rfl, rfl, rfl⟩ := hd
        have hD : digitPts scale genp [s] (d :: idxs) i = [pedersenEcmult s (digitValue d scale i) genp] := by
          rw [digitPts]; congr 1
        rw [hD]
        refine ⟨by simpa using hp, rfl, by simp, rfl, ?_⟩
        intro t
        rw [if_neg (by omega)]

theorem readDigits_roundtrip {s0 : Sha256.H8} {n0 : Nat} :
    ∀ (pts : List Pt) (i0 : Nat) (sb rest : Bytes) (h : Sha256.State) (pre : Bytes) (acc : Pt) (pubs : List Pt),
      h = Sha256.after s0 n0 pre →
      (∀ p ∈ pts, p.valid = true ∧ p ≠ .inf) →
      (∀ k, k < pts.length → signBit sb (i0 + k) = (qflag (pts.getD k .inf) == 1)) →
      readDigits pts.length i0 sb ((pts.map (fun p => Bytes.be32 p.xOf)).flatten ++ rest) h acc pubs =
        some (pubs ++ pts, pts.foldl Pt.add acc, pts.foldl (fun h p => Sha256.write h (serializePoint p)) h) := by
  intro pts
  induction pts with
  | nil =>
    intro i0 sb rest h pre acc pubs _ _ _
    simp only [List.length_nil, readDigits_zero, List.append_nil, List.foldl_nil]
  | cons p ps ih =>
    intro i0 sb rest h pre acc pubs hab hv hbits
    obtain ⟨hpv, hpne⟩ := hv p (by simp)
    cases p with
    | inf => exact absurd rfl hpne
    | aff x y =>
      have hxP : x < P := (Algebra.valid_aff_lt hpv).1
      -- the point is recovered from `x` and its flag: `liftXQuad x = (x, r)`, and the flag selects `y` among `±r` (`hc`)
      obtain ⟨r, hlift, hsel⟩ := quad_select hpv
      have hbit0 := hbits 0 (by simp)
      simp only [Nat.add_zero, List.getD_cons_zero] at hbit0
      simp only [List.length_cons, List.map_cons, List.flatten_cons, List.append_assoc]
      have hx0 : (Pt.aff x y).xOf = x := rfl
      rw [hx0, readDigits_succ]
      rw [Algebra.take_be32_append, Algebra.drop_be32_append, Codec.feLimit_be32 hxP]
      dsimp only
      rw [hlift]
      dsimp only
      have hsb : (sb.getD (i0 / 8) 0 &&& ((1 : UInt8) <<< UInt8.ofNat (i0 % 8)) ≠ 0) ↔ qflag (Pt.aff x y) = 1 := by
        have : signBit sb i0 = (qflag (Pt.aff x y) == 1) := hbit0
        unfold signBit at this
        rw [Bool.eq_iff_iff] at this
        simpa using this
      have hsign : (if sb.getD (i0 / 8) 0 &&& ((1 : UInt8) <<< UInt8.ofNat (i0 % 8)) ≠ 0 then (1 : UInt8) else 0) =
          qflag (Pt.aff x y) := by
        by_cases hq : qflag (Pt.aff x y) = 1
        · rw [if_pos (hsb.mpr hq), hq]
        · rw [if_neg (fun h => hq (hsb.mp h))]
          unfold qflag at hq ⊢
          split at hq
          · next hs => rw [if_pos hs]
          · exact absurd rfl hq
      rw [hsign]
      have hc : (if qflag (Pt.aff x y) = 1 then Pt.neg (Pt.aff x r) else Pt.aff x r) = Pt.aff x y := by
        by_cases hs : Fe.isSquare y = true
        · have hq : qflag (Pt.aff x y) = 0 := by
            show (if Fe.isSquare y = true then (0 : UInt8) else 1) = 0
            rw [if_pos hs]
          rw [hq, if_neg (by decide)]
          rw [if_pos hs] at hsel; exact hsel
        · have hq : qflag (Pt.aff x y) = 1 := by
            show (if Fe.isSquare y = true then (0 : UInt8) else 1) = 1
            rw [if_neg hs]
          rw [hq, if_pos rfl]
          rw [if_neg hs] at hsel; exact hsel
      rw [hc, write_write hab, List.singleton_append, ← serializePoint_aff]
      rw [ih (i0 + 1) sb rest _ _ _ _ (hab ▸ Sha256.write_after ..) (fun q hq => hv q (List.mem_cons_of_mem _ hq))
        (fun k hk => by
          have := hbits (k + 1) (Nat.succ_lt_succ hk)
          simp only [List.getD_cons_succ] at this
          rw [← this, Nat.add_assoc, Nat.add_comm 1 k])]
      simp only [List.foldl_cons, List.append_assoc, List.singleton_append]

end Rangeproof
end SecpZkp
