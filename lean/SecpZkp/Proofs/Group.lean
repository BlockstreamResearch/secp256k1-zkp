import SecpZkp.Proofs.Jacobian
import SecpZkp.Proofs.GroupLaw
/-
  Assembly of the interface `GroupLaw` from the refinement lemmas of `Proofs/Affine.lean`
  (affine law ↔ Mathlib's `WeierstrassCurve.Affine.Point` over `ZMod P`) and `Proofs/Jacobian.lean`
  (`Pt.mul = Pt.mulSpec`), and three closed computations on the generator (`valid_G`, `mul_N_G`, `G_ne_inf`).
  Primality of `P` and `N` is an explicit hypothesis here; it is proved in `Proofs/Prime.lean`.
-/
namespace SecpZkp

theorem valid_G : Pt.G.valid = true := by decide +kernel

theorem mul_N_G : Pt.mul N Pt.G = Pt.inf := by decide +kernel

theorem G_ne_inf : Pt.G ≠ Pt.inf := by decide

theorem pt_mul_zero (p : Pt) : Pt.mul 0 p = Pt.inf := by
  cases p with
  | inf => rfl
  | aff x y =>
    -- the fuel 264 written as a successor, so that `Jac.mulAux` unfolds one step
    show (Pt.Jac.mulAux (263 + 1) 0 x y).toPt = Pt.inf
    rw [Pt.Jac.mulAux, if_pos rfl]
    exact Pt.Jac.toPt_mk_zero (by decide)

section PrimeP
variable [Fact (Nat.Prime P)]
-- `2 ^ 264` (`mulBound`) is above the default threshold up to which Lean evaluates powers
set_option exponentiation.threshold 600

theorem pt_mul_succ (k : ℕ) {p : Pt} (hp : p.valid = true) (hk : k + 1 < mulBound) :
    Pt.mul (k + 1) p = Pt.add (Pt.mul k p) p := by
  have hk1 : k + 1 < 2 ^ 264 := hk
  have hk0 : k < 2 ^ 264 := Nat.lt_of_succ_lt hk1
  apply toPoint_injective (valid_mul _ hp) (valid_add (valid_mul _ hp) hp)
  rw [toPoint_add (valid_mul _ hp) hp, toPoint_mul hk1 hp, toPoint_mul hk0 hp, succ_nsmul]

theorem pt_mul_add {a b : ℕ} (h : a + b < mulBound) {p : Pt} (hp : p.valid = true) :
    Pt.mul (a + b) p = Pt.add (Pt.mul a p) (Pt.mul b p) := by
  have hab : a + b < 2 ^ 264 := h
  have ha : a < 2 ^ 264 := by omega
  have hb : b < 2 ^ 264 := by omega
  apply toPoint_injective (valid_mul _ hp) (valid_add (valid_mul _ hp) (valid_mul _ hp))
  rw [toPoint_add (valid_mul _ hp) (valid_mul _ hp), toPoint_mul hab hp, toPoint_mul ha hp,
    toPoint_mul hb hp, add_nsmul]

end PrimeP

theorem groupLaw_holds (hP : Nat.Prime P) (hN : Nat.Prime N) : GroupLaw := by
  have : Fact (Nat.Prime P) := ⟨hP⟩
  exact
    { prime_P := fun d hd => (Nat.dvd_prime hP).1 hd
      prime_N := fun d hd => (Nat.dvd_prime hN).1 hd
      valid_G := valid_G
      valid_add := fun _ _ hp hq => valid_add hp hq
      valid_neg := fun _ hp => valid_neg hp
      add_comm := fun _ _ hp hq => pt_add_comm hp hq
      add_assoc := fun _ _ _ hp hq hr => pt_add_assoc hp hq hr
      add_neg := fun _ hp => pt_add_neg hp
      mul_zero := pt_mul_zero
      mul_succ := fun k _ hp hk => pt_mul_succ k hp hk
      mul_N_G := mul_N_G }

end SecpZkp
