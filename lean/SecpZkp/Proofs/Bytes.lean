import SecpZkp.Model.Bytes
/-
  Lemmas about the big-endian codecs `Bytes.toNat` / `Bytes.ofNat`, a few facts about single bytes, and records of a
  fixed width laid end to end (`length_flatMap`, `chunk_flatMap`, `flatMap_eq_of_chunks`).  Core Lean only.
-/
namespace SecpZkp

/-- Turns a goal about every byte into one about the numerals below 256, which `decide +kernel` evaluates in 256 cases
    (`byte_and80_*`, `Parsers.gen_prefix`, …). -/
theorem UInt8.forall_of_lt256 {p : UInt8 → Prop} (h : ∀ n, n < 256 → p (UInt8.ofNat n)) (b : UInt8) :
    p b := by
  have := h b.toNat (by have := b.toNat_lt; omega)
  rwa [UInt8.ofNat_toNat] at this

theorem byte_ofNat_toNat (n : Nat) : (UInt8.ofNat n).toNat = n % 256 := by
  rw [UInt8.toNat_ofNat']

theorem byte_ofNat_toNat_of_lt {n : Nat} (h : n < 256) : (UInt8.ofNat n).toNat = n := by
  rw [byte_ofNat_toNat]; omega

theorem byte_and80_eq_zero_iff (b : UInt8) : b &&& 0x80 = 0 ↔ b.toNat < 128 := by
  revert b; apply UInt8.forall_of_lt256; decide +kernel

theorem byte_and80_eq_80_iff (b : UInt8) : b &&& 0x80 = 0x80 ↔ 128 ≤ b.toNat := by
  revert b; apply UInt8.forall_of_lt256; decide +kernel

theorem byte_and7F_toNat (b : UInt8) : (b &&& 0x7F).toNat = b.toNat % 128 := by
  revert b; apply UInt8.forall_of_lt256; decide +kernel

theorem byte_lt80_iff (b : UInt8) : b < 0x80 ↔ b.toNat < 128 := by
  rw [UInt8.lt_iff_toNat_lt]; rfl

namespace Bytes

@[simp] theorem toNat_nil : toNat [] = 0 := rfl

theorem foldl_toNat (bs : Bytes) (a : Nat) :
    bs.foldl (fun acc b => acc * 256 + b.toNat) a = a * 256 ^ bs.length + toNat bs := by
  induction bs generalizing a with
  | nil => simp [toNat]
  | cons b t ih =>
    simp only [List.foldl_cons, List.length_cons, toNat]
    rw [ih, ih (0 * 256 + b.toNat), Nat.pow_succ, Nat.add_mul, Nat.zero_mul, Nat.zero_add,
      Nat.mul_assoc, Nat.mul_comm 256, Nat.add_assoc]

theorem toNat_cons (b : UInt8) (t : Bytes) : toNat (b :: t) = b.toNat * 256 ^ t.length + toNat t := by
  have := foldl_toNat t (0 * 256 + b.toNat)
  simp only [Nat.zero_mul, Nat.zero_add] at this
  simpa [toNat] using this

theorem toNat_append (a b : Bytes) : toNat (a ++ b) = toNat a * 256 ^ b.length + toNat b := by
  unfold toNat
  rw [List.foldl_append]
  exact foldl_toNat b _

theorem toNat_concat (a : Bytes) (b : UInt8) : toNat (a ++ [b]) = toNat a * 256 + b.toNat := by
  rw [toNat_append]; simp [toNat_cons]

@[simp] theorem toNat_singleton (b : UInt8) : toNat [b] = b.toNat := by simp [toNat_cons]

theorem toNat_lt (bs : Bytes) : toNat bs < 256 ^ bs.length := by
  induction bs with
  | nil => simp
  | cons b t ih =>
    rw [toNat_cons, List.length_cons, Nat.pow_succ]
    have hb := b.toNat_lt
    have : b.toNat * 256 ^ t.length ≤ 255 * 256 ^ t.length := Nat.mul_le_mul_right _ (by omega)
    omega

theorem toNat_replicate_zero (k : Nat) : toNat (List.replicate k (0 : UInt8)) = 0 := by
  induction k with
  | zero => rfl
  | succ k ih => rw [List.replicate_succ, toNat_cons, ih]; simp

theorem toNat_zero_cons (t : Bytes) : toNat ((0 : UInt8) :: t) = toNat t := by
  rw [toNat_cons]; simp

theorem le_toNat_cons {b : UInt8} (hb : b ≠ 0) (t : Bytes) : 256 ^ t.length ≤ toNat (b :: t) := by
  rw [toNat_cons]
  have : b.toNat ≠ 0 := fun h => hb (UInt8.toNat_inj.1 h)
  have : 1 * 256 ^ t.length ≤ b.toNat * 256 ^ t.length := Nat.mul_le_mul_right _ (by omega)
  omega

@[simp] theorem ofNat_length (len x : Nat) : (ofNat len x).length = len := by
  induction len with
  | zero => rfl
  | succ n ih => simp [ofNat, ih]

theorem toNat_ofNat (len x : Nat) : toNat (ofNat len x) = x % 256 ^ len := by
  induction len with
  | zero => simp [ofNat, Nat.mod_one]
  | succ n ih =>
    rw [ofNat, toNat_cons, ih, ofNat_length, byte_ofNat_toNat, Nat.pow_succ]
    have hpos : 0 < 256 ^ n := Nat.pow_pos (by decide)
    rw [Nat.mod_mul (a := 256 ^ n) (b := 256) (x := x), Nat.mod_mod]
    rw [Nat.mul_comm, Nat.add_comm]

theorem toNat_ofNat_of_lt {len x : Nat} (h : x < 256 ^ len) : toNat (ofNat len x) = x := by
  rw [toNat_ofNat, Nat.mod_eq_of_lt h]

theorem ofNat_mod (len x : Nat) : ofNat len (x % 256 ^ len) = ofNat len x := by
  induction len generalizing x with
  | zero => rfl
  | succ n ih =>
    have hpos : 0 < 256 ^ n := Nat.pow_pos (by decide)
    simp only [ofNat]
    congr 1
    · congr 1
      rw [Nat.pow_succ, Nat.mod_mul (a := 256 ^ n) (b := 256) (x := x)]
      rw [Nat.mul_comm, Nat.add_mul_div_right _ _ hpos,
        Nat.div_eq_of_lt (Nat.mod_lt _ hpos), Nat.zero_add, Nat.mod_mod]
    · rw [← ih (x % 256 ^ (n + 1)), ← ih x, Nat.pow_succ, Nat.mod_mul_right_mod]

theorem ofNat_toNat {len : Nat} (bs : Bytes) (h : bs.length = len) : ofNat len (toNat bs) = bs := by
  induction bs generalizing len with
  | nil => subst h; rfl
  | cons b t ih =>
    subst h
    have hpos : 0 < 256 ^ t.length := Nat.pow_pos (by decide)
    have ht := toNat_lt t
    have hb := b.toNat_lt
    simp only [List.length_cons, ofNat]
    congr 1
    · rw [toNat_cons, Nat.add_comm, Nat.add_mul_div_right _ _ hpos, Nat.div_eq_of_lt ht, Nat.zero_add,
        Nat.mod_eq_of_lt hb, UInt8.ofNat_toNat]
    · rw [← ofNat_mod, toNat_cons, Nat.mul_add_mod_self_right, Nat.mod_eq_of_lt ht]
      exact ih rfl

theorem ofNat_zero (len : Nat) : ofNat len 0 = List.replicate len 0 := by
  induction len with
  | zero => rfl
  | succ n ih => simp [ofNat, ih, List.replicate_succ]

theorem ofNat_inj {len x y : Nat} (hx : x < 256 ^ len) (hy : y < 256 ^ len)
    (h : ofNat len x = ofNat len y) : x = y := by
  have := congrArg toNat h
  rwa [toNat_ofNat_of_lt hx, toNat_ofNat_of_lt hy] at this

@[simp] theorem be32_length (x : Nat) : (be32 x).length = 32 := ofNat_length 32 x

theorem toNat_be32 {x : Nat} (h : x < 2 ^ 256) : toNat (be32 x) = x :=
  toNat_ofNat_of_lt (len := 32) (by simpa using h)

theorem be32_toNat (bs : Bytes) (h : bs.length = 32) : be32 (toNat bs) = bs := ofNat_toNat bs h

theorem slice_append (pre x post : Bytes) : ((pre ++ x ++ post).drop pre.length).take x.length = x := by
  rw [List.append_assoc, List.drop_left, List.take_left]

theorem length_flatten_take (w : Nat) (l : List Bytes) (h : ∀ b ∈ l, w ≤ b.length) :
    ((l.map (·.take w)).flatten).length = w * l.length := by
  induction l with
  | nil => rfl
  | cons a t ih =>
    have := h a (List.mem_cons_self ..)
    simp only [List.map_cons, List.flatten_cons, List.length_append, List.length_take, List.length_cons,
      ih (fun b hb => h b (List.mem_cons_of_mem _ hb)), Nat.mul_succ]
    omega

section FixedWidth
variable {α : Type} (ser : α → Bytes) (w : Nat) (hw : ∀ x, (ser x).length = w)
include hw

theorem length_flatMap (xs : List α) : (xs.flatMap ser).length = w * xs.length := by
  induction xs with
  | nil => rfl
  | cons x t ih => rw [List.flatMap_cons, List.length_append, hw, ih, List.length_cons, Nat.mul_succ, Nat.add_comm]

/-- The prefix is measured in records (`pre.length = w * i0`): callers index the chunks of the whole string. -/
theorem chunk_flatMap (xs : List α) (pre post : Bytes) (i0 : Nat) (hpre : pre.length = w * i0) (k : Nat)
    (hk : k < xs.length) : ((pre ++ xs.flatMap ser ++ post).drop (w * (i0 + k))).take w = ser xs[k] := by
  induction xs generalizing pre i0 k with
  | nil => simp at hk
  | cons x t ih =>
    cases k with
    | zero =>
      rw [Nat.add_zero, ← hpre, List.flatMap_cons, List.append_assoc, List.drop_left', List.append_assoc,
        List.take_append_of_le_length (Nat.le_of_eq (hw x).symm), List.take_of_length_le (Nat.le_of_eq (hw x))]
      · rfl
      · rfl
    | succ k' =>
      have := ih (pre ++ ser x) (i0 + 1) (by rw [List.length_append, hw, hpre, Nat.mul_succ]) k' (by simpa using hk)
      rw [List.getElem_cons_succ, ← this, List.flatMap_cons, show i0 + (k' + 1) = i0 + 1 + k' by omega]
      simp only [List.append_assoc]

omit hw in
theorem flatMap_eq_of_chunks (xs : List α) (d : Bytes) (hd : d.length = w * xs.length)
    (h : ∀ i (hi : i < xs.length), ser xs[i] = (d.drop (w * i)).take w) : xs.flatMap ser = d := by
  induction xs generalizing d with
  | nil => exact (List.eq_nil_of_length_eq_zero hd).symm
  | cons x t ih =>
    rw [List.length_cons, Nat.mul_succ] at hd
    have h0 : ser x = d.take w := h 0 (Nat.succ_pos _)
    rw [List.flatMap_cons, h0,
      ih (d.drop w) (by rw [List.length_drop]; omega) fun i hi => by
        rw [List.drop_drop, Nat.add_comm, ← Nat.mul_succ]; exact h (i + 1) (Nat.succ_lt_succ hi),
      List.take_append_drop]

end FixedWidth

end Bytes
end SecpZkp
