import Mathlib.Data.ZMod.Basic
import Mathlib.FieldTheory.Finite.Basic
import Mathlib.Tactic.Ring
import SecpZkp.Model.Field
/-
  `powMod` (binary square-and-multiply with fuel, `Model/Field.lean`) is modular exponentiation, for every
  modulus; and the facts about casting into `ZMod m` that hold alike for the two moduli `P`
  (`Proofs/Field.lean`) and `N` (`Proofs/Scalar.lean`).
-/
namespace SecpZkp

theorem Field.powModAux_modEq (fuel a e m acc : Nat) (he : e < 2 ^ fuel) :
    powModAux fuel a e m acc ≡ acc * a ^ e [MOD m] := by
  induction fuel generalizing a e acc with
  | zero =>
    have : e = 0 := by simpa using he
    subst this; simp [powModAux, Nat.ModEq]
  | succ fuel ih =>
    rw [powModAux]
    split
    · next h => subst h; simp [Nat.ModEq]
    · have he2 : e / 2 < 2 ^ fuel := by
        rw [Nat.div_lt_iff_lt_mul (by decide)]; rw [pow_succ] at he; exact he
      refine (ih _ _ _ he2).trans ?_
      have hsq : (a * a % m) ^ (e / 2) ≡ (a * a) ^ (e / 2) [MOD m] := (Nat.mod_modEq _ _).pow _
      have hsplit : a ^ e = (a * a) ^ (e / 2) * a ^ (e % 2) := by
        rw [← pow_two, ← pow_mul, ← pow_add, Nat.div_add_mod]
      rw [hsplit]
      split
      · next h1 =>
        rw [h1, pow_one]
        calc acc * a % m * (a * a % m) ^ (e / 2)
            ≡ acc * a * (a * a) ^ (e / 2) [MOD m] := (Nat.mod_modEq _ _).mul hsq
          _ = acc * ((a * a) ^ (e / 2) * a) := by ring
      · next h1 =>
        have h0 : e % 2 = 0 := by omega
        rw [h0, pow_zero, mul_one]
        exact (Nat.ModEq.refl acc).mul hsq

theorem Field.powModAux_mod (fuel a e m acc : Nat) (hacc : acc % m = acc) :
    powModAux fuel a e m acc % m = powModAux fuel a e m acc := by
  induction fuel generalizing a e acc with
  | zero => simpa [powModAux] using hacc
  | succ fuel ih =>
    rw [powModAux]
    split
    · exact hacc
    · apply ih
      split
      · exact Nat.mod_mod _ _
      · exact hacc

/-- `520` is the fuel of `powMod` (`Model/Field.lean`); the exponents in use are below `2 ^ 256` (`lt_pow_520`). -/
theorem Field.powMod_eq_pow_mod (a e m : ℕ) (he : e < 2 ^ 520) : powMod a e m = a ^ e % m := by
  unfold powMod
  rw [← Field.powModAux_mod _ _ _ _ _ (Nat.mod_mod 1 m)]
  have h := Field.powModAux_modEq 520 (a % m) e m (1 % m) he
  refine h.trans ?_
  calc 1 % m * (a % m) ^ e ≡ 1 * a ^ e [MOD m] := (Nat.mod_modEq _ _).mul ((Nat.mod_modEq _ _).pow _)
    _ = a ^ e := one_mul _

-- Lean does not evaluate `2 ^ n` for `n` above the threshold (256 by default).
set_option exponentiation.threshold 600 in
theorem Field.lt_pow_520 {e : ℕ} (h : e < 2 ^ 256) : e < 2 ^ 520 :=
  lt_of_lt_of_le h (Nat.pow_le_pow_right (n := 2) (Nat.succ_pos 1) (by decide : 256 ≤ 520))

set_option exponentiation.threshold 600 in
/-- `2 ^ 264` is the fuel bound of `Pt.mul` (`mulBound`). -/
theorem Field.lt_pow_264 {e : ℕ} (h : e < 2 ^ 256) : e < 2 ^ 264 :=
  lt_of_lt_of_le h (Nat.pow_le_pow_right (n := 2) (Nat.succ_pos 1) (by decide : 256 ≤ 264))

namespace Field
variable {m : ℕ}

theorem eq_of_cast_eq {a b : ℕ} (ha : a < m) (hb : b < m) (h : (a : ZMod m) = b) : a = b := by
  have := (ZMod.natCast_eq_natCast_iff' a b m).1 h
  rwa [Nat.mod_eq_of_lt ha, Nat.mod_eq_of_lt hb] at this

theorem cast_eq_iff {a b : ℕ} (ha : a < m) (hb : b < m) : (a : ZMod m) = b ↔ a = b :=
  ⟨eq_of_cast_eq ha hb, congrArg _⟩

theorem cast_eq_zero_iff (a : ℕ) : (a : ZMod m) = 0 ↔ a % m = 0 := by
  rw [ZMod.natCast_eq_zero_iff, Nat.dvd_iff_mod_eq_zero]

theorem cast_powMod (a e : ℕ) (he : e < 2 ^ 520) :
    ((powMod a e m : ℕ) : ZMod m) = (a : ZMod m) ^ e := by
  rw [powMod_eq_pow_mod a e m he]; simp

/-- The `if` is the body of `Fe.half` / `Sc.half`. -/
theorem two_mul_cast_half (hm : m % 2 = 1) (a : ℕ) :
    2 * ((if a % 2 = 0 then a / 2 else (a + m) / 2 : ℕ) : ZMod m) = a := by
  have key : ∀ b : ℕ, b % 2 = 0 → 2 * ((b / 2 : ℕ) : ZMod m) = b := fun b hb => by
    rw [← Nat.cast_ofNat, ← Nat.cast_mul, Nat.mul_div_cancel' (Nat.dvd_of_mod_eq_zero hb)]
  split
  · next h => exact key a h
  · next h => rw [key (a + m) (by omega)]; simp

variable [Fact m.Prime]

/-- Also at `a = 0`: `0⁻¹ = 0` in `ZMod m`. -/
theorem cast_inv (h2 : 2 < m) (hm : m - 2 < 2 ^ 520) (a : ℕ) :
    ((powMod a (m - 2) m : ℕ) : ZMod m) = (a : ZMod m)⁻¹ := by
  rw [cast_powMod a (m - 2) hm]
  by_cases h : (a : ZMod m) = 0
  · rw [h, inv_zero, zero_pow (by omega)]
  · have h1 : (a : ZMod m) ^ (m - 2 + 1) = 1 := by
      rw [show m - 2 + 1 = m - 1 by omega]; exact ZMod.pow_card_sub_one_eq_one h
    exact eq_inv_of_mul_eq_one_left (by rwa [pow_succ] at h1)

theorem two_ne_zero (hm : m % 2 = 1) : (2 : ZMod m) ≠ 0 := by
  have h : ((2 : ℕ) : ZMod m) ≠ 0 := by
    rw [Ne, cast_eq_zero_iff]
    have := (Fact.out : m.Prime).two_le
    intro h; rw [Nat.mod_eq_of_lt (by omega)] at h; omega
  simpa using h

end Field

end SecpZkp
