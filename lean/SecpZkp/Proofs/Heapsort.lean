/-
  Correctness of the heap sort model `SecpZkp.Heapsort.hsort` (`secp256k1_hsort`, src/hsort_impl.h):
  for every input length the result is a permutation of the input (`hsort_perm`, no assumption on the
  comparison callback), has the same size (`hsort_size`) and, if the callback is a total preorder in the
  C sense (`TotalPreorderCmp`), is non-decreasing (`hsort_sorted`).

  Also: `Bytes.cmp` (memcmp on byte strings) is such a total preorder.
-/
import SecpZkp.Model.Heapsort
import SecpZkp.Model.Bytes

namespace SecpZkp
namespace Heapsort

variable {α : Type}

/-- A C comparison callback (`< 0`, `= 0`, `> 0`) that is a total preorder; totality comes from the sign
  antisymmetry `antisymm`. -/
structure TotalPreorderCmp (cmp : α → α → Int) : Prop where
  refl : ∀ a, cmp a a = 0
  antisymm : ∀ a b, 0 < cmp a b ↔ cmp b a < 0
  trans : ∀ a b c, 0 ≤ cmp a b → 0 ≤ cmp b c → 0 ≤ cmp a c

namespace TotalPreorderCmp
variable {cmp : α → α → Int}

theorem ge_refl (h : TotalPreorderCmp cmp) (a : α) : 0 ≤ cmp a a :=
  Int.le_of_eq (h.refl a).symm

theorem ge_of_not_gt (h : TotalPreorderCmp cmp) {a b : α} (hab : ¬ 0 < cmp a b) : 0 ≤ cmp b a := by
  have := h.antisymm a b
  omega

theorem nonpos_of_ge (h : TotalPreorderCmp cmp) {a b : α} (hba : 0 ≤ cmp b a) : cmp a b ≤ 0 := by
  have := h.antisymm a b
  omega

theorem total (h : TotalPreorderCmp cmp) (a b : α) : 0 ≤ cmp a b ∨ 0 ≤ cmp b a := by
  have := h.antisymm b a
  omega

theorem of_antisymm_trans (ha : ∀ a b, 0 < cmp a b ↔ cmp b a < 0)
    (ht : ∀ a b c, 0 ≤ cmp a b → 0 ≤ cmp b c → 0 ≤ cmp a c) : TotalPreorderCmp cmp :=
  ⟨fun a => by have := ha a a; omega, ha, ht⟩

theorem comap {β : Type} (h : TotalPreorderCmp cmp) (f : β → α) :
    TotalPreorderCmp (fun a b => cmp (f a) (f b)) :=
  ⟨fun _ => h.refl _, fun _ _ => h.antisymm _ _, fun _ _ _ => h.trans _ _ _⟩

end TotalPreorderCmp

@[simp] theorem swap_size (arr : Array α) (i j : Nat) : (swap arr i j).size = arr.size := by
  unfold swap; split <;> simp

theorem swap_perm (arr : Array α) (i j : Nat) : (swap arr i j).toList.Perm arr.toList := by
  unfold swap
  split
  · rename_i h
    exact Array.perm_iff_toList_perm.mp (Array.swap_perm h.1 h.2)
  · exact List.Perm.refl _

theorem swap_getElem! [Inhabited α] (arr : Array α) {i j : Nat} (hi : i < arr.size) (hj : j < arr.size)
    (k : Nat) : (swap arr i j)[k]! = if k = i then arr[j]! else if k = j then arr[i]! else arr[k]! := by
  rw [swap, dif_pos ⟨hi, hj⟩]
  by_cases hk : k < arr.size
  · simp [hk, hi, hj, Array.getElem_swap]
  · have : k ≠ i ∧ k ≠ j := by omega
    simp [hk, this]

variable [Inhabited α] (cmp : α → α → Int)

theorem heapDown_induction {P : Array α → Prop} {n : Nat}
    (hswap : ∀ a c d, c < d → d < n → P a → P (swap a c d)) (fuel : Nat) (arr : Array α) (i : Nat)
    (h0 : P arr) : P (heapDown cmp fuel arr i n) := by
  induction fuel generalizing arr i with
  | zero => exact h0
  | succ f ih =>
    simp only [heapDown]
    repeat' split
    all_goals first
      | exact h0
      | exact ih _ _ (hswap _ _ _ (by omega) (by omega) h0)

theorem heapDown_perm (fuel : Nat) (arr : Array α) (i n : Nat) :
    (heapDown cmp fuel arr i n).toList.Perm arr.toList :=
  heapDown_induction cmp (fun a c d _ _ h => (swap_perm a c d).trans h) fuel arr i (List.Perm.refl _)

@[simp] theorem heapDown_size (fuel : Nat) (arr : Array α) (i n : Nat) :
    (heapDown cmp fuel arr i n).size = arr.size := by
  simpa using (heapDown_perm cmp fuel arr i n).length_eq

theorem fuel_step {n i f c : Nat} (h : n < (i + 1) * 2 ^ (f + 1 + 1)) (hc : 2 * i + 1 ≤ c) :
    n < (c + 1) * 2 ^ (f + 1) := by
  rw [Nat.pow_succ, ← Nat.mul_assoc, Nat.mul_right_comm] at h
  exact Nat.lt_of_lt_of_le h (Nat.mul_le_mul_right _ (by omega))

/-- Each iteration of the `while` loop of `secp256k1_heap_down` replaces `i` by `2*i+1` or `2*i+2`, so `i+1` at least
doubles; the loop stops as soon as `n/2 ≤ i`, i.e. `n < 2*(i+1)`.  Hence `fuel` iterations suffice whenever
`n < (i+1) * 2^(fuel+1)`.  (The sortedness proof does not go this way: it carries the linear bound `n ≤ fuel + i`.) -/
theorem heapDown_fuel (fuel extra : Nat) (arr : Array α) (i n : Nat) (h : n < (i + 1) * 2 ^ (fuel + 1)) :
    heapDown cmp (fuel + extra) arr i n = heapDown cmp fuel arr i n := by
  induction fuel generalizing arr i with
  | zero => cases extra <;> simp only [heapDown, if_neg (show ¬ i < n / 2 by omega)]
  | succ f ih =>
    rw [Nat.add_right_comm]
    simp only [heapDown, ih _ _ (fuel_step h (Nat.le_refl _)), ih _ _ (fuel_step h (Nat.le_succ _))]

/-- Max-heap property of `arr[0..n)` restricted to parents at indices `≥ lo`. -/
def HeapFrom (arr : Array α) (lo n : Nat) : Prop :=
  ∀ j k, lo ≤ j → k < n → (k = 2 * j + 1 ∨ k = 2 * j + 2) → 0 ≤ cmp arr[j]! arr[k]!

/-- Ties `HeapFrom` to the definition in the comment of hsort_impl.h: "for all non-zero indexes i, the element at index i
compares as less than or equal to the element at index parent(i) = (i-1)/2".  Not used by the proofs. -/
theorem heapFrom_zero_iff (arr : Array α) (n : Nat) :
    HeapFrom cmp arr 0 n ↔ ∀ k, 0 < k → k < n → 0 ≤ cmp arr[(k - 1) / 2]! arr[k]! := by
  constructor
  · intro h k hk0 hk
    exact h ((k - 1) / 2) k (Nat.zero_le _) hk (by omega)
  · intro h j k _ hk hc
    obtain rfl : j = (k - 1) / 2 := by omega
    exact h k (by omega) hk

variable {cmp}

theorem HeapFrom.mono {arr : Array α} {lo lo' n n' : Nat} (h : HeapFrom cmp arr lo n)
    (hlo : lo ≤ lo') (hn : n' ≤ n) : HeapFrom cmp arr lo' n' :=
  fun j k hj hk hc => h j k (by omega) (by omega) hc

theorem heap_root_max (h : TotalPreorderCmp cmp) {arr : Array α} {n : Nat} (hh : HeapFrom cmp arr 0 n)
    (k : Nat) (hk : k < n) : 0 ≤ cmp arr[0]! arr[k]! := by
  induction k using Nat.strongRecOn with
  | _ k ih =>
    by_cases hk0 : k = 0
    · rw [hk0]; exact h.ge_refl _
    · exact h.trans _ _ _ (ih ((k - 1) / 2) (by omega) (by omega))
        (hh ((k - 1) / 2) k (Nat.zero_le _) hk (by omega))

/-- Invariant of the loop of `heap_down` while the element at `i` sinks: every parent `≥ lo` other than `i`
dominates its children and, if it is the parent of `i`, also the children of `i` (one of which is about
to move up to `i`). -/
def HeapExcept (cmp : α → α → Int) (arr : Array α) (lo n i : Nat) : Prop :=
  ∀ j k, lo ≤ j → j ≠ i → k < n →
    (k = 2 * j + 1 ∨ k = 2 * j + 2) ∨ (i = 2 * j + 1 ∨ i = 2 * j + 2) ∧ (k = 2 * i + 1 ∨ k = 2 * i + 2) →
    0 ≤ cmp arr[j]! arr[k]!

/-- The loop stops: `i` dominates its children. -/
theorem HeapExcept.heapFrom {arr : Array α} {lo n i : Nat} (hex : HeapExcept cmp arr lo n i)
    (hi : ∀ k, k < n → (k = 2 * i + 1 ∨ k = 2 * i + 2) → 0 ≤ cmp arr[i]! arr[k]!) :
    HeapFrom cmp arr lo n := by
  intro j k hj hk hc
  by_cases hji : j = i
  · rw [hji]; exact hi k hk (hji ▸ hc)
  · exact hex j k hj hji hk (.inl hc)

/-- The loop goes on: the invariant moves to the child `c`. -/
theorem HeapExcept.of_swap {arr : Array α} {lo n i c : Nat} (hex : HeapExcept cmp arr lo n i)
    (hn : n ≤ arr.size) (hlo : lo ≤ i) (hc : c = 2 * i + 1 ∨ c = 2 * i + 2) (hcn : c < n)
    (hgt : 0 < cmp arr[c]! arr[i]!)
    (hsib : ∀ k, k < n → (k = 2 * i + 1 ∨ k = 2 * i + 2) → 0 ≤ cmp arr[c]! arr[k]!) :
    HeapExcept cmp (swap arr i c) lo n c := by
  have e := swap_getElem! arr (show i < arr.size by omega) (show c < arr.size by omega)
  intro j k hj hjc hk hkc
  rw [e j, e k]
  rcases hkc with hkc | ⟨hcj, hkc⟩
  · by_cases hji : j = i
    · -- the old `arr[c]`, now at `i`, against its new children
      rw [if_pos hji, if_neg (by omega)]
      split
      · exact Int.le_of_lt hgt
      · exact hsib k hk (hji ▸ hkc)
    · rw [if_neg hji, if_neg hjc]
      split
      · exact hex j c hj hji hcn (.inr ⟨by omega, hc⟩)
      · rw [if_neg (by omega)]
        exact hex j k hj hji hk (.inl hkc)
  · -- the old `arr[c]`, now at the parent `i` of `c`, against the children of `c`
    obtain rfl : j = i := by omega
    rw [if_pos rfl, if_neg (by omega), if_neg (by omega)]
    exact hex c k (by omega) (by omega) hk (.inl hkc)

/-- `hfuel`: `i` grows in every iteration, so `n - i` units of fuel suffice. -/
theorem heapDown_heap_of_except (h : TotalPreorderCmp cmp) {lo n : Nat} (fuel : Nat) (arr : Array α) (i : Nat)
    (hn : n ≤ arr.size) (hlo : lo ≤ i) (hfuel : n ≤ fuel + i) (hex : HeapExcept cmp arr lo n i) :
    HeapFrom cmp (heapDown cmp fuel arr i n) lo n := by
  induction fuel generalizing arr i with
  | zero => exact hex.heapFrom (fun k hk hc => by omega)
  | succ f ih =>
    -- the iteration, once the child `c` that dominates the children of `i` is chosen
    have step : ∀ c, (c = 2 * i + 1 ∨ c = 2 * i + 2) → c < n →
        (∀ k, k < n → (k = 2 * i + 1 ∨ k = 2 * i + 2) → 0 ≤ cmp arr[c]! arr[k]!) →
        HeapFrom cmp (if 0 < cmp arr[c]! arr[i]! then heapDown cmp f (swap arr i c) c n else arr) lo n := by
      intro c hc hcn hsib
      split
      · rename_i hgt
        exact ih _ c (by simpa using hn) (by omega) (by omega) (hex.of_swap hn hlo hc hcn hgt hsib)
      · rename_i hgt
        exact hex.heapFrom fun k hk hkc => h.trans _ _ _ (h.ge_of_not_gt hgt) (hsib k hk hkc)
    simp only [heapDown]
    split
    · split
      · rename_i hc2
        refine step _ (.inr rfl) hc2.1 ?_
        rintro k _ (rfl | rfl)
        · exact hc2.2
        · exact h.ge_refl _
      · rename_i hc2
        refine step _ (.inl rfl) (by omega) ?_
        rintro k hk (rfl | rfl)
        · exact h.ge_refl _
        · exact h.ge_of_not_gt (fun hh => hc2 ⟨hk, Int.le_of_lt hh⟩)
    · exact hex.heapFrom (fun k hk hc => by omega)

theorem heapDown_heap (h : TotalPreorderCmp cmp) {fuel : Nat} {arr : Array α} {i n : Nat}
    (hn : n ≤ arr.size) (hfuel : n ≤ fuel + i) (hh : HeapFrom cmp arr (i + 1) n) :
    HeapFrom cmp (heapDown cmp fuel arr i n) i n :=
  heapDown_heap_of_except h fuel arr i hn (Nat.le_refl i) hfuel
    fun j k hj hji hk hc => hc.elim (hh j k (by omega) hk) (by omega)

variable (cmp)

theorem heapify_perm (count i : Nat) (arr : Array α) :
    (heapify cmp count i arr).toList.Perm arr.toList := by
  induction i generalizing arr with
  | zero => exact List.Perm.refl _
  | succ i ih => exact (ih _).trans (heapDown_perm cmp _ _ _ _)

theorem extract_perm (n : Nat) (arr : Array α) : (extract cmp n arr).toList.Perm arr.toList := by
  fun_induction extract cmp n arr with
  | case1 => exact List.Perm.refl _
  | case2 => exact List.Perm.refl _
  | case3 i arr ih => exact ih.trans ((heapDown_perm cmp _ _ _ _).trans (swap_perm _ _ _))

theorem hsort_perm (arr : Array α) : (hsort cmp arr).toList.Perm arr.toList :=
  (extract_perm cmp _ _).trans (heapify_perm cmp _ _ _)

@[simp] theorem heapify_size (count i : Nat) (arr : Array α) :
    (heapify cmp count i arr).size = arr.size := by
  simpa using (heapify_perm cmp count i arr).length_eq

theorem hsort_size (arr : Array α) : (hsort cmp arr).size = arr.size := by
  simpa using (hsort_perm cmp arr).length_eq

variable {cmp}

theorem heapify_heap (h : TotalPreorderCmp cmp) (count i : Nat) (arr : Array α) (hn : count ≤ arr.size)
    (hh : HeapFrom cmp arr i count) : HeapFrom cmp (heapify cmp count i arr) 0 count := by
  induction i generalizing arr with
  | zero => exact hh
  | succ i ih => exact ih _ (by simpa using hn) (heapDown_heap h hn (Nat.le_add_right _ _) hh)

/-- `arr[n..)` is non-decreasing and bounded below by `arr[0..n)`. -/
def TailGe (cmp : α → α → Int) (arr : Array α) (n : Nat) : Prop :=
  ∀ i j, i ≤ j → n ≤ j → j < arr.size → 0 ≤ cmp arr[j]! arr[i]!

theorem TailGe.of_swap {arr : Array α} {n c d : Nat} (ht : TailGe cmp arr n) (hcd : c < d) (hd : d < n) :
    TailGe cmp (swap arr c d) n := by
  intro i j hij hnj hj
  rw [swap_size] at hj
  have e := swap_getElem! arr (show c < arr.size by omega) (show d < arr.size by omega)
  rw [e j, e i, if_neg (by omega), if_neg (by omega)]
  repeat' split
  all_goals exact ht _ j (by omega) hnj hj

theorem TailGe.of_heapDown {arr : Array α} {n : Nat} (ht : TailGe cmp arr n) (fuel i : Nat) :
    TailGe cmp (heapDown cmp fuel arr i n) n :=
  heapDown_induction cmp (P := (TailGe cmp · n)) (fun _ _ _ hcd hd h => h.of_swap hcd hd) fuel arr i ht

theorem TailGe.pred {arr : Array α} {n : Nat} (ht : TailGe cmp arr (n + 1))
    (hn : ∀ i, i ≤ n → 0 ≤ cmp arr[n]! arr[i]!) : TailGe cmp arr n := by
  intro i j hij hnj hj
  by_cases hjn : j = n
  · rw [hjn]; exact hn i (by omega)
  · exact ht i j hij (by omega) hj

/-- Invariant of the second loop of `hsort` with loop variable `n`.  `sorted` and `ge` together are `TailGe cmp arr n`
(`ExtractInv.tail`, `ExtractInv.of_tail`), the form the proofs work with. -/
structure ExtractInv (cmp : α → α → Int) (arr : Array α) (n : Nat) : Prop where
  heap : HeapFrom cmp arr 0 n
  sorted : ∀ i j, n ≤ i → i ≤ j → j < arr.size → 0 ≤ cmp arr[j]! arr[i]!
  ge : ∀ i j, i < n → n ≤ j → j < arr.size → 0 ≤ cmp arr[j]! arr[i]!

theorem ExtractInv.tail {arr : Array α} {n : Nat} (inv : ExtractInv cmp arr n) : TailGe cmp arr n :=
  fun i j hij hnj hj => if hi : i < n then inv.ge i j hi hnj hj else inv.sorted i j (by omega) hij hj

theorem ExtractInv.of_tail {arr : Array α} {n : Nat} (hh : HeapFrom cmp arr 0 n) (ht : TailGe cmp arr n) :
    ExtractInv cmp arr n :=
  ⟨hh, fun i j hi hij => ht i j hij (by omega), fun i j hi hj => ht i j (by omega) hj⟩

/-- One iteration of the second loop: `swap(0, n-1); heap_down(0, n-1)` with `n = m+2`.  The swap puts
the root, a maximum of the heap, at the front of the tail and leaves `[1, m+1)` a heap. -/
theorem extract_step (h : TotalPreorderCmp cmp) {arr : Array α} {m : Nat} (hn : m + 2 ≤ arr.size)
    (inv : ExtractInv cmp arr (m + 2)) :
    ExtractInv cmp (heapDown cmp (m + 1) (swap arr 0 (m + 1)) 0 (m + 1)) (m + 1) := by
  have e := swap_getElem! arr (show 0 < arr.size by omega) (show m + 1 < arr.size by omega)
  refine .of_tail (heapDown_heap h (by rw [swap_size]; omega) (Nat.le_refl _) fun j k hj hk hc => ?_)
    (((inv.tail.of_swap (Nat.succ_pos m) (Nat.lt_succ_self _)).pred fun i hi => ?_).of_heapDown _ _)
  · rw [e j, e k, if_neg (by omega), if_neg (by omega), if_neg (by omega), if_neg (by omega)]
    exact inv.heap j k (Nat.zero_le _) (by omega) hc
  · rw [e (m + 1), e i, if_neg (by omega), if_pos rfl]
    repeat' split
    all_goals exact heap_root_max h inv.heap _ (by omega)

theorem extract_sorted (h : TotalPreorderCmp cmp) (n : Nat) (arr : Array α) (hn : n ≤ arr.size)
    (inv : ExtractInv cmp arr n) : TailGe cmp (extract cmp n arr) 0 := by
  fun_induction extract cmp n arr with
  | case1 arr => exact inv.tail
  | case2 arr => exact inv.tail.pred fun i hi => by rw [Nat.le_zero.mp hi]; exact h.ge_refl _
  | case3 m arr ih => exact ih (by simp; omega) (extract_step h hn inv)

theorem hsort_sorted (h : TotalPreorderCmp cmp) (arr : Array α) :
    ∀ i j, i ≤ j → j < arr.size → 0 ≤ cmp (hsort cmp arr)[j]! (hsort cmp arr)[i]! := by
  intro i j hij hj
  refine extract_sorted h _ _ (by simp) (.of_tail (heapify_heap h _ _ _ (Nat.le_refl _) ?_) ?_) i j hij
    (Nat.zero_le _) (Nat.lt_of_lt_of_eq hj (hsort_size cmp arr).symm)
  · -- parents at index `≥ n/2` have no children below `n`
    intro j k hj hk hc
    omega
  · intro i j _ hj hjs
    simp at hjs
    omega

theorem hsort_pairwise (h : TotalPreorderCmp cmp) (arr : Array α) :
    (hsort cmp arr).toList.Pairwise (fun a b => cmp a b ≤ 0) := by
  rw [List.pairwise_iff_getElem]
  intro i j hi hj hij
  have := hsort_sorted h arr i j (by omega) (by simpa [hsort_size] using hj)
  rw [getElem!_pos (hsort cmp arr) j (by simpa using hj), getElem!_pos (hsort cmp arr) i (by simpa using hi)] at this
  exact h.nonpos_of_ge this

end Heapsort

namespace Bytes

theorem cmp_swap (a b : Bytes) : cmp b a = - cmp a b := by
  induction a generalizing b with
  | nil => cases b <;> rfl
  | cons x xs ih =>
    cases b with
    | nil => rfl
    | cons y ys =>
      simp only [cmp, UInt8.lt_iff_toNat_lt, ih ys]
      split <;> split <;> omega

theorem cmp_neg_iff_lt (a b : Bytes) : cmp a b < 0 ↔ a < b := by
  induction a generalizing b with
  | nil => cases b <;> simp [cmp]
  | cons x xs ih =>
    cases b with
    | nil => simp [cmp]
    | cons y ys =>
      rw [List.cons_lt_cons_iff, ← ih ys]
      simp only [cmp, UInt8.lt_iff_toNat_lt, ← UInt8.toNat_inj]
      split
      · omega
      · split <;> omega

theorem cmp_nonpos_iff_le (a b : Bytes) : cmp a b ≤ 0 ↔ a ≤ b := by
  rw [← List.not_lt, ← cmp_neg_iff_lt, cmp_swap a b]
  omega

theorem cmp_nonneg_iff_ge (a b : Bytes) : 0 ≤ cmp a b ↔ b ≤ a := by
  rw [← cmp_nonpos_iff_le, cmp_swap a b]
  omega

theorem cmp_antisymm (a b : Bytes) : 0 < cmp a b ↔ cmp b a < 0 := by
  rw [cmp_swap a b]
  omega

theorem cmp_eq_zero_iff (a b : Bytes) : cmp a b = 0 ↔ a = b := by
  constructor
  · intro h
    exact Std.le_antisymm ((cmp_nonpos_iff_le a b).mp (by omega)) ((cmp_nonneg_iff_ge a b).mp (by omega))
  · rintro rfl
    have := cmp_swap a a
    omega

/-- `_h` is not needed: the form for fixed-size encodings (e.g. the 33-byte keys compared by `memcmp`). -/
theorem cmp_eq_zero_iff_of_length_eq (a b : Bytes) (_h : a.length = b.length) : cmp a b = 0 ↔ a = b :=
  cmp_eq_zero_iff a b

theorem cmp_totalPreorder : Heapsort.TotalPreorderCmp cmp where
  refl a := (cmp_eq_zero_iff a a).mpr rfl
  antisymm := cmp_antisymm
  trans a b c hab hbc := (cmp_nonneg_iff_ge a c).mpr
    (List.le_trans ((cmp_nonneg_iff_ge b c).mp hbc) ((cmp_nonneg_iff_ge a b).mp hab))

end Bytes

end SecpZkp
