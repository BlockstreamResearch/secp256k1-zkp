import SecpZkp.Proofs.GroupIR
/-
  The addition chain of `secp256k1_fe_sqrt` (src/field_impl.h).  Callees are inlined by the translator, so the chain
  occurs in every generated function that takes a square root, each time with other variable names; everything here is
  therefore stated for arbitrary names.  The chain is not executed symbolically: the checker `chainL` walks through a
  statement list made of `sqr`, `mul`, `set` and loop-counter assignments `int j (lit k)` and records, for every field
  variable written, the EXPONENT `e` such that the variable holds `a ^ e (mod P)`, `a` being the value of the base
  variable; it is proved right about `execL` once (`chainL_sound`, magnitude preconditions included) and evaluated by
  the kernel (`decide +kernel`) on the generated lists.
-/
namespace SecpZkp
namespace FeIR
open MiniC

theorem sqr_mod_pow {a v e : ℕ} (h : v % P = a ^ e % P) : Fe.sqr v % P = a ^ (2 * e) % P := by
  unfold Fe.sqr
  rw [Nat.mod_mod, Nat.mul_mod, h, ← Nat.mul_mod, two_mul, pow_add]

theorem mul_mod_pow {a v w e f : ℕ} (h1 : v % P = a ^ e % P) (h2 : w % P = a ^ f % P) :
    Fe.mul v w % P = a ^ (e + f) % P := by
  unfold Fe.mul
  rw [Nat.mod_mod, Nat.mul_mod, h1, h2, ← Nat.mul_mod, pow_add]

theorem sqrtCand_eq_pow (a : ℕ) : Fe.sqrtCand a = a ^ ((P + 1) / 4) % P := by
  unfold Fe.sqrtCand
  exact Field.powMod_eq_pow_mod _ _ _ (Field.lt_pow_520 (by decide +kernel))

theorem sqr_eq_sqrtCand {a v : ℕ} (h : v % P = a ^ ((P + 1) / 8) % P) : Fe.sqr v = Fe.sqrtCand a := by
  have h2 := sqr_mod_pow h
  rw [Nat.mod_eq_of_lt (Fe.sqr_lt_P v)] at h2
  rw [h2, sqrtCand_eq_pow]
  have : 2 * ((P + 1) / 8) = (P + 1) / 4 := by decide +kernel
  rw [this]

/-- abstract environment: field variable ↦ exponent of the base -/
abbrev XEnv := List (String × ℕ)

def XEnv.get? : XEnv → String → Option ℕ
  | [], _ => none
  | (k, v) :: rest, x => if k = x then some v else XEnv.get? rest x

def XEnv.set : XEnv → String → ℕ → XEnv
  | [], x, e => [(x, e)]
  | (k, v) :: rest, x, e => if k = x then (k, e) :: rest else (k, v) :: XEnv.set rest x e

theorem XEnv.get?_set (env : XEnv) (x y : String) (e : ℕ) :
    (env.set x e).get? y = if x = y then some e else env.get? y := by
  induction env with
  | nil => simp [XEnv.set, XEnv.get?]
  | cons p rest ih =>
    obtain ⟨k, v⟩ := p
    simp only [XEnv.set]
    by_cases hk : k = x
    · subst hk
      simp only [if_true, XEnv.get?]
      by_cases h : k = y <;> simp [h]
    · simp only [hk, if_false, XEnv.get?, ih]
      by_cases h : k = y
      · subst h
        have : ¬ x = k := fun h => hk h.symm
        simp [this]
      · simp [h]

def chainS (env : XEnv) : Stmt → Option XEnv
  | .sqr d a => match env.get? a with
    | some e => some (env.set d (2 * e))
    | none => none
  | .mul d a b => match env.get? a, env.get? b with
    | some e, some f => some (env.set d (e + f))
    | _, _ => none
  | .set d s => match env.get? s with
    | some e => some (env.set d e)
    | none => none
  | .int _ (.lit _) => some env
  | _ => none

def chainL (env : XEnv) : List Stmt → Option XEnv
  | [] => some env
  | s :: rest => match chainS env s with
    | some env' => chainL env' rest
    | none => none

def intName : Stmt → List String
  | .int x _ => [x]
  | _ => []

def intNames : List Stmt → List String
  | [] => []
  | s :: rest => intName s ++ intNames rest

def Inv (a : ℕ) (env : XEnv) (fe : FeEnv) : Prop :=
  ∀ n e, env.get? n = some e → (fe.get n).mag ≤ 8 ∧ (fe.get n).val % P = a ^ e % P

theorem Inv.set {a : ℕ} {env : XEnv} {fe : FeEnv} (h : Inv a env fe) (d : String) {v m e : ℕ} (hm : m ≤ 8)
    (hv : v % P = a ^ e % P) : Inv a (env.set d e) (fe.set d ⟨v, m⟩) := by
  intro n e' hn
  rw [XEnv.get?_set] at hn
  rw [FeEnv.get_set]
  by_cases hd : d = n
  · simp only [hd, if_true] at hn ⊢
    injection hn with hn
    subst hn
    exact ⟨hm, hv⟩
  · simp only [hd, if_false] at hn ⊢
    exact h n e' hn

theorem get?_set_none {env : XEnv} {d n : String} {e : ℕ} (h : (env.set d e).get? n = none) :
    d ≠ n ∧ env.get? n = none := by
  rw [XEnv.get?_set] at h
  by_cases hd : d = n
  · simp [hd] at h
  · simp only [hd, if_false] at h
    exact ⟨hd, h⟩

/-- Third conjunct: a variable unknown to the checker AFTER the statement was not written by it (and was unknown before);
    `keepFe` in `sqrtOK` rests on this frame property. -/
theorem chainS_sound {a : ℕ} {env env' : XEnv} {fe : FeEnv} (ints : Env) {s : Stmt} (h : Inv a env fe)
    (hc : chainS env s = some env') :
    ∃ fe' ints', execS ⟨fe, ints, false⟩ s = some ⟨fe', ints', false⟩ ∧ Inv a env' fe' ∧
      (∀ n, env'.get? n = none → fe'.get n = fe.get n ∧ env.get? n = none) ∧
      (∀ x, x ∉ intName s → ints'.get x 0 = ints.get x 0) := by
  cases s with
  | sqr d x =>
    simp only [chainS] at hc
    split at hc
    · next e he =>
      injection hc with hc
      subst hc
      obtain ⟨hm, hv⟩ := h x e he
      refine ⟨_, _, by rw [execS_sqr, guard'_pos hm], h.set d (by omega) (sqr_mod_pow hv),
        fun n hn => ?_, fun _ _ => rfl⟩
      obtain ⟨h1, h2⟩ := get?_set_none hn
      exact ⟨by rw [FeEnv.get_set, if_neg h1], h2⟩
    · exact absurd hc (by simp)
  | mul d x y =>
    simp only [chainS] at hc
    split at hc
    · next e f he hf =>
      injection hc with hc
      subst hc
      obtain ⟨hm, hv⟩ := h x e he
      obtain ⟨hm', hv'⟩ := h y f hf
      refine ⟨_, _, by rw [execS_mul, guard'_pos ⟨hm, hm'⟩], h.set d (by omega) (mul_mod_pow hv hv'),
        fun n hn => ?_, fun _ _ => rfl⟩
      obtain ⟨h1, h2⟩ := get?_set_none hn
      exact ⟨by rw [FeEnv.get_set, if_neg h1], h2⟩
    · exact absurd hc (by simp)
  | set d x =>
    simp only [chainS] at hc
    split at hc
    · next e he =>
      injection hc with hc
      subst hc
      obtain ⟨hm, hv⟩ := h x e he
      refine ⟨_, _, by rw [execS_set], h.set d hm hv, fun n hn => ?_, fun _ _ => rfl⟩
      obtain ⟨h1, h2⟩ := get?_set_none hn
      exact ⟨by rw [FeEnv.get_set, if_neg h1], h2⟩
    · exact absurd hc (by simp)
  | int x ex =>
    cases ex with
    | lit k =>
      simp only [chainS] at hc
      injection hc with hc
      subst hc
      refine ⟨_, _, by rw [execS_int], h, fun n hn => ⟨rfl, hn⟩, fun y hy => ?_⟩
      rw [ints_get_set, if_neg]
      intro hxy
      exact hy (by simp [intName, hxy])
    | _ => exact absurd hc (by simp [chainS])
  | _ => exact absurd hc (by simp [chainS])

theorem chainL_sound {a : ℕ} (l : List Stmt) : ∀ {env env' : XEnv} {fe : FeEnv} (ints : Env), Inv a env fe →
    chainL env l = some env' →
    ∃ fe' ints', execL ⟨fe, ints, false⟩ l = some ⟨fe', ints', false⟩ ∧ Inv a env' fe' ∧
      (∀ n, env'.get? n = none → fe'.get n = fe.get n ∧ env.get? n = none) ∧
      (∀ x, x ∉ intNames l → ints'.get x 0 = ints.get x 0) := by
  induction l with
  | nil =>
    intro env env' fe ints h hc
    simp only [chainL] at hc
    injection hc with hc
    subst hc
    exact ⟨fe, ints, execL_nil _, h, fun n hn => ⟨rfl, hn⟩, fun _ _ => rfl⟩
  | cons s rest ih =>
    intro env env' fe ints h hc
    simp only [chainL] at hc
    split at hc
    · next env1 h1 =>
      obtain ⟨fe1, ints1, e1, i1, f1, g1⟩ := chainS_sound ints h h1
      obtain ⟨fe2, ints2, e2, i2, f2, g2⟩ := ih ints1 i1 hc
      refine ⟨fe2, ints2, by rw [execL_step, e1, cont_some, e2], i2, fun n hn => ?_, fun x hx => ?_⟩
      · obtain ⟨a1, a2⟩ := f2 n hn
        obtain ⟨b1, b2⟩ := f1 n a2
        exact ⟨a1.trans b1, b2⟩
      · simp only [intNames, List.mem_append, not_or] at hx
        rw [g2 x hx.2, g1 x hx.1]
    · exact absurd hc (by simp)

/-- the end of `secp256k1_fe_sqrt(r, a)`: `r = t1²`, `t1 = r²`, `ret = fe_equal(t1, a)` -/
def sqrtTail (R T NA A Z FR SR : String) : List Stmt :=
  [.sqr R T, .sqr T R,
   .scope [.neg NA T 1, .add NA A, .isZero Z NA, .int FR (.var Z), .ret],
   .int SR (.var FR), .int SR (.var SR), .ret]

/-- The side conditions of `sqrt_fn` as one closed Boolean, for `decide +kernel`.  The exponent of `T` is `(P+1)/8`:
    `sqrtTail` squares once more. -/
def sqrtOK (chain : List Stmt) (R T NA A Z FR SR : String) (keepFe keepInt : List String) : Bool :=
  match chainL [(A, 1)] chain with
  | none => false
  | some env' =>
    decide (env'.get? T = some ((P + 1) / 8) ∧ env'.get? A = some 1 ∧
      R ≠ T ∧ R ≠ NA ∧ A ≠ R ∧ A ≠ T ∧ A ≠ NA ∧ T ≠ NA ∧
      (∀ n ∈ keepFe, env'.get? n = none ∧ n ≠ R ∧ n ≠ T ∧ n ≠ NA) ∧
      (∀ x ∈ keepInt, x ∉ intNames chain ∧ x ≠ Z ∧ x ≠ FR ∧ x ≠ SR))

def sqrtFlag (a : ℕ) : ℕ := if Fe.sqr (Fe.sqrtCand a) = a % P then 1 else 0

theorem sqrt_flag {a av : ℕ} (hav : av % P = a % P) :
    (canon (Fe.add (Fe.neg (Fe.sqr (Fe.sqrtCand a))) av) = 0) = (Fe.sqr (Fe.sqrtCand a) = a % P) := by
  have hc : (av : ZMod P) = (a : ZMod P) := (ZMod.natCast_eq_natCast_iff' av a P).2 hav
  apply propext
  rw [canon_eq_zero_iff, ← Field.cast_eq_iff (Fe.sqr_lt_P _) (Nat.mod_lt _ P_pos), ZMod.natCast_mod]
  simp only [Fe.cast_add, Fe.cast_neg, Fe.cast_sqr, hc]
  constructor
  · intro h; linear_combination -h
  · intro h; linear_combination -h

/-- The contract of an inlined `secp256k1_fe_sqrt(R, A)` (statement list `S` = body of the `.scope`; the run ends with
    `returned = true`, the callee's `return`).  Where a function contains such a `.scope` its symbolic execution stops
    there, and the run is continued (`SqrtSpec.elim`) from a state about which only this contract is known. -/
def SqrtSpec (S : List Stmt) (R A SR : String) (keepFe keepInt : List String) : Prop :=
  ∀ (fe : FeEnv) (ints : MiniC.Env), (fe.get A).mag ≤ 8 →
    ∃ fe' ints', execL ⟨fe, ints, false⟩ S = some ⟨fe', ints', true⟩ ∧
      fe'.get R = ⟨Fe.sqrtCand (fe.get A).val, 1⟩ ∧
      ints'.get SR 0 = sqrtFlag (fe.get A).val ∧
      (∀ n ∈ keepFe, fe'.get n = fe.get n) ∧ (∀ x ∈ keepInt, ints'.get x 0 = ints.get x 0)

theorem sqrt_fn (chain : List Stmt) (R T NA A Z FR SR : String) (keepFe keepInt : List String)
    (hok : sqrtOK chain R T NA A Z FR SR keepFe keepInt = true) :
    SqrtSpec (chain ++ sqrtTail R T NA A Z FR SR) R A SR keepFe keepInt := by
  intro fe ints hA
  unfold sqrtOK at hok
  split at hok
  · exact absurd hok (by simp)
  · next env' hch =>
    rw [decide_eq_true_iff] at hok
    obtain ⟨hT, hA', hRT, hRNA, hAR, hAT, hANA, hTNA, hkf, hki⟩ := hok
    have hinv : Inv (fe.get A).val [(A, 1)] fe := by
      intro n e hn
      simp only [XEnv.get?] at hn
      split at hn
      · next hAn =>
        injection hn with hn
        subst hn hAn
        exact ⟨hA, by rw [pow_one]⟩
      · exact absurd hn (by simp)
    obtain ⟨fe1, ints1, e1, i1, f1, g1⟩ := chainL_sound chain ints hinv hch
    obtain ⟨hTm, hTv⟩ := i1 T _ hT
    obtain ⟨hAm, hAv⟩ := i1 A _ hA'
    rw [pow_one] at hAv
    generalize fe.get A = av0 at hAv hinv hTv ⊢
    generalize hgt : fe1.get T = tv at hTm hTv
    generalize hga : fe1.get A = av at hAm hAv
    obtain ⟨tv, tm⟩ := tv
    obtain ⟨av, am⟩ := av
    obtain ⟨a, am0⟩ := av0
    simp only at hTm hTv hAm hAv ⊢
    have hr := sqr_eq_sqrtCand hTv
    rw [execL_append, e1, cont_some]
    unfold sqrtTail
    fe_exec [hgt, hga, hRT, hRT.symm, hRNA, hRNA.symm, hAR, hAR.symm, hAT, hAT.symm, hANA, hANA.symm, hTNA,
      hTNA.symm]
    refine ⟨_, _, rfl, ?_, ?_, ?_, ?_⟩
    · fe_get [hRT, hRT.symm, hRNA, hRNA.symm, hr]
    · unfold sqrtFlag
      fe_get [hr, sqrt_flag hAv]
    · intro n hn
      obtain ⟨h1, h2, h3, h4⟩ := hkf n hn
      fe_get [h2, h3, h4, h2.symm, h3.symm, h4.symm]
      exact (f1 n h1).1
    · intro x hx
      obtain ⟨h1, h2, h3, h4⟩ := hki x hx
      fe_get [h2, h3, h4, h2.symm, h3.symm, h4.symm]
      exact g1 x h1

/-- the stuck run may stand anywhere inside the goal: `generalize hE : execL _ S = o` names it -/
theorem SqrtSpec.elim {S : List Stmt} {R A SR : String} {keepFe keepInt : List String}
    (h : SqrtSpec S R A SR keepFe keepInt) {fe : FeEnv} {ints : MiniC.Env} {o : Option State} {G : Prop}
    (hE : execL ⟨fe, ints, false⟩ S = o) (hA : (fe.get A).mag ≤ 8)
    (hk : ∀ fe' ints', o = some ⟨fe', ints', true⟩ → fe'.get R = ⟨Fe.sqrtCand (fe.get A).val, 1⟩ →
      ints'.get SR 0 = sqrtFlag (fe.get A).val →
      (∀ n ∈ keepFe, fe'.get n = fe.get n) → (∀ x ∈ keepInt, ints'.get x 0 = ints.get x 0) → G) : G := by
  obtain ⟨fe', ints', he, hr, hf, hkf, hki⟩ := h fe ints hA
  exact hk fe' ints' (hE ▸ he) hr hf hkf hki

/-- `r->x = *x; x2 = x²; x3 = x·x2; r->infinity = 0; x3 += 7` -/
def xquadPre (X RX X2 X3 RINF : String) : List Stmt :=
  [.set RX X, .sqr X2 X, .mul X3 X X2, .int RINF (.lit 0), .addInt X3 7]

/-- `secp256k1_ge_set_xquad(r, x)`: `xquadPre`, then the inlined `ret = secp256k1_fe_sqrt(&r->y, &x3)`, `return ret` -/
def xquadFn (chain : List Stmt) (X RX X2 X3 RINF RY T NA Z FR SR RET : String) : List Stmt :=
  xquadPre X RX X2 X3 RINF ++
    [.scope (chain ++ sqrtTail RY T NA X3 Z FR SR), .int RET (.var SR), .int RET (.var RET), .ret]

def xquadOK (chain : List Stmt) (X RX X2 X3 RINF RY T NA Z FR SR RET : String) (keepInt : List String) : Bool :=
  sqrtOK chain RY T NA X3 Z FR SR [RX] (RINF :: keepInt) &&
  decide (RX ≠ X ∧ X2 ≠ X ∧ X3 ≠ X ∧ RX ≠ X2 ∧ RX ≠ X3 ∧ X2 ≠ X3 ∧ RET ≠ RINF ∧
    ∀ k ∈ keepInt, RET ≠ k ∧ RINF ≠ k)

def rhsv (x : ℕ) : ℕ := Fe.add (Fe.mul (Fe.sqr x) x) 7

theorem xquad_fn (chain : List Stmt) (X RX X2 X3 RINF RY T NA Z FR SR RET : String) (keepInt : List String)
    (hok : xquadOK chain X RX X2 X3 RINF RY T NA Z FR SR RET keepInt = true)
    (fe : FeEnv) (ints : Env) (hX : (fe.get X).mag ≤ 8) :
    ∃ fe' ints', execL ⟨fe, ints, false⟩ (xquadFn chain X RX X2 X3 RINF RY T NA Z FR SR RET) =
        some ⟨fe', ints', true⟩ ∧
      fe'.get RX = fe.get X ∧ fe'.get RY = ⟨Fe.sqrtCand (rhsv (fe.get X).val), 1⟩ ∧
      ints'.get RINF 0 = 0 ∧
      ints'.get RET 0 = sqrtFlag (rhsv (fe.get X).val) ∧
      (∀ k ∈ keepInt, ints'.get k 0 = ints.get k 0) := by
  unfold xquadOK at hok
  rw [Bool.and_eq_true, decide_eq_true_iff] at hok
  obtain ⟨hsq, h1, h2, h3, h4, h5, h6, h7, h8⟩ := hok
  generalize hgx : fe.get X = xv at hX
  obtain ⟨xv, xm⟩ := xv
  simp only at hX ⊢
  obtain ⟨fe1, ints1, hpre, hx3, hrx, hinf, hkeep⟩ : ∃ fe1 ints1,
      execL ⟨fe, ints, false⟩ (xquadPre X RX X2 X3 RINF) = some ⟨fe1, ints1, false⟩ ∧
      fe1.get X3 = ⟨rhsv xv, 2⟩ ∧ fe1.get RX = ⟨xv, xm⟩ ∧ ints1.get RINF 0 = 0 ∧
      ∀ k ∈ keepInt, ints1.get k 0 = ints.get k 0 := by
    unfold xquadPre
    fe_exec [hgx, h1, h2, h3, h4, h5, h6, h1.symm, h2.symm, h3.symm, h4.symm, h5.symm, h6.symm]
    refine ⟨_, _, rfl, ?_, ?_, ?_, ?_⟩
    · fe_get [rhsv, Fe.mul_comm' (Fe.sqr xv) xv]
    · fe_get [h4, h5, h4.symm, h5.symm]
    · fe_get []
    · intro k hk
      have := (h8 k hk).2
      fe_get [this]
  obtain ⟨fe2, ints2, hs, hry, hflag, hkf, hki⟩ :=
    sqrt_fn chain RY T NA X3 Z FR SR [RX] (RINF :: keepInt) hsq fe1 ints1 (by rw [hx3]; exact (by decide : (2 : ℕ) ≤ 8))
  unfold xquadFn
  rw [execL_append, hpre, cont_some, execL_step, execS_scope, hs, unscope_some, cont_some]
  fe_exec []
  rw [hx3] at hry hflag
  refine ⟨_, _, rfl, ?_, ?_, ?_, ?_, ?_⟩
  · rw [hkf RX (List.mem_singleton_self _), hrx]
  · exact hry
  · fe_get [h7]
    rw [hki RINF (List.mem_cons_self ..), hinf]
  · fe_get []
    exact hflag
  · intro k hk
    have := (h8 k hk).1
    fe_get [this]
    rw [hki k (List.mem_cons_of_mem _ hk), hkeep k hk]

end FeIR
end SecpZkp
