/-
  Symbolic execution of straight-line MiniC programs under the WRAP-AROUND semantics `execL` (`ev`, `runR`, `runR_append`;
  tactics `steps`, `vstep`, `reads`), the operators of the IR as arithmetic, the add-with-carry idiom and the accumulator
  macros of the scalar code for both limb widths (`Widths`, `carry_eqW`, `muladd_spec`, …; `Proofs/Accumulator.lean` makes
  them rules for the statements of the macros).  Used by the scalar kernels of both widths, by the emulated int128
  (`Int128Blocks`, `FieldKernelStruct`: `runR`, `runR_append`, `carry_eq`) and by `CtSpec`.  At the end what only the 4×64
  code needs: `val4`, `val8`, `half_spec`, the terms of `cadd_bit`.

  The scalar code uses the add-with-carry idiom on purpose (`c0 += tl; th += (c0 < tl); c1 += th; c2 += (c1 < th)`),
  so the interval checker of `Proofs/MiniC.lean` (which certifies the ABSENCE of wrap-around) rejects it; here the
  wrap-around semantics is executed symbolically and the idiom is proved correct.
-/
import SecpZkp.Proofs.MiniC
import SecpZkp.Proofs.FieldKernel
import SecpZkp.Model.Field

namespace SecpZkp
namespace ScalarKernel
open MiniC MiniC.Bounds

def ev (env : Env) (e : Expr) : Nat := (evalE env e).1

theorem ev_lit (env : Env) (n : Nat) : ev env (.lit n) = n := rfl
theorem ev_var (env : Env) (x : String) : ev env (.var x) = env.get x 0 := rfl
theorem ev_idx (env : Env) (a : String) (i : Expr) : ev env (.idx a i) = env.get a (ev env i) := by
  simp [ev, evalE]
theorem ev_bin (env : Env) (op : BinOp) (w : Nat) (a b : Expr) :
    ev env (.bin op w a b) = binWrap op w (ev env a) (ev env b) := by
  simp [ev, evalE]
theorem ev_cast (env : Env) (w : Nat) (e : Expr) : ev env (.cast w e) = ev env e % 2 ^ w := by
  simp [ev, evalE]
theorem ev_not (env : Env) (w : Nat) (e : Expr) : ev env (.not w e) = (2 ^ w - 1) - ev env e % 2 ^ w := by
  simp [ev, evalE]
theorem ev_neg (env : Env) (w : Nat) (e : Expr) : ev env (.neg w e) = (2 ^ w - ev env e % 2 ^ w) % 2 ^ w := by
  simp [ev, evalE]

def runR (env : Env) (prog : List Stmt) : Env × Option Nat := ((execL env prog).env, (execL env prog).ret)

theorem runR_nil (env : Env) : runR env [] = (env, none) := by simp [runR, execL]

theorem runR_assign (env : Env) (x : String) (e : Expr) (rest : List Stmt) :
    runR env (.assign x e :: rest) = runR (env.set x 0 (ev env e)) rest := by
  simp only [runR, execL_cons_assign, ev]

theorem runR_store (env : Env) (a : String) (i e : Expr) (rest : List Stmt) :
    runR env (.store a i e :: rest) = runR (env.set a (ev env i) (ev env e)) rest := by
  simp only [runR, execL_cons_store, ev]

theorem runR_ret (env : Env) (e : Expr) (rest : List Stmt) :
    runR env (.ret e :: rest) = (env, some (ev env e)) := by
  simp only [runR, execL_cons_ret, ev]

theorem runR_cons (env : Env) (s : Stmt) (rest : List Stmt) :
    runR env (s :: rest) =
      match (execS env s).ret with
      | some v => ((execS env s).env, some v)
      | none => runR (execS env s).env rest := by
  simp only [runR]
  rw [execL]
  split <;> rename_i h <;> simp [h]

theorem runR_append : ∀ (A B : List Stmt) (env : Env), (runR env A).2 = none →
    runR env (A ++ B) = runR (runR env A).1 B
  | [], B, env, _ => by simp [runR_nil]
  | s :: A, B, env, h => by
    rw [List.cons_append, runR_cons]
    rw [runR_cons] at h ⊢
    split
    · rename_i v hv; rw [hv] at h; simp at h
    · rename_i hv
      rw [hv] at h
      exact runR_append A B _ h

theorem runR_take_drop (n : Nat) (prog : List Stmt) (env : Env) (h : (runR env (prog.take n)).2 = none) :
    runR env prog = runR (runR env (prog.take n)).1 (prog.drop n) := by
  conv => lhs; rw [← List.take_append_drop n prog]
  exact runR_append _ _ _ h

/-- `runR` with a step budget for symbolic execution in chunks: `runF n` is `runR`; the rewrite rules below
    consume one unit per statement and stop at `0` -/
def runF (_ : Nat) (env : Env) (prog : List Stmt) : Env × Option Nat := runR env prog

theorem runR_eq_runF (n : Nat) (env : Env) (prog : List Stmt) : runR env prog = runF n env prog := rfl
theorem runF_zero (env : Env) (prog : List Stmt) : runF 0 env prog = runR env prog := rfl
theorem runF_assign (n : Nat) (env : Env) (x : String) (e : Expr) (rest : List Stmt) :
    runF (n + 1) env (.assign x e :: rest) = runF n (env.set x 0 (ev env e)) rest := runR_assign ..
theorem runF_store (n : Nat) (env : Env) (a : String) (i e : Expr) (rest : List Stmt) :
    runF (n + 1) env (.store a i e :: rest) = runF n (env.set a (ev env i) (ev env e)) rest := runR_store ..
theorem runF_ret (n : Nat) (env : Env) (e : Expr) (rest : List Stmt) :
    runF (n + 1) env (.ret e :: rest) = (env, some (ev env e)) := runR_ret ..
theorem runF_nil (n : Nat) (env : Env) : runF n env [] = (env, none) := runR_nil env

/-- execute the next `n` statements symbolically; the extra rewrite rules are typically the hypotheses naming
    the input cells (`env.get "a.d" 0 = a0`, …) -/
macro "steps " n:num " [" hs:Lean.Parser.Tactic.simpLemma,* "]" : tactic => `(tactic| (
  rw [runR_eq_runF $n]
  simp only [runF_assign, runF_store, runF_ret, runF_nil, runF_zero, ev_lit, ev_var, ev_idx, ev_bin, ev_cast,
    ev_not, ev_neg, FieldKernel.get_set, ↓reduceIte, String.reduceEq, false_and, and_false, and_true, true_and,
    Nat.reduceEqDiff, $hs,*]))

macro "reads " "[" hs:Lean.Parser.Tactic.simpLemma,* "]" : tactic => `(tactic| (
  simp only [runR_nil, FieldKernel.get_set, ↓reduceIte, String.reduceEq, false_and, and_false, and_true, true_and,
    Nat.reduceEqDiff, $hs,*]))

theorem runR_assign_gen {P : Env × Option Nat → Prop} {env : Env} {x : String} {e : Expr} {rest : List Stmt}
    (h : ∀ v, v = ev env e → P (runR (env.set x 0 v) rest)) : P (runR env (.assign x e :: rest)) := by
  rw [runR_assign]; exact h _ rfl

theorem runR_store_gen {P : Env × Option Nat → Prop} {env : Env} {a : String} {i e : Expr} {rest : List Stmt}
    (h : ∀ v, v = ev env e → P (runR (env.set a (ev env i) v) rest)) : P (runR env (.store a i e :: rest)) := by
  rw [runR_store]; exact h _ rfl

/-- execute ONE assignment / store and give its value a name: the goal continues with the variable `x` in the
    memory, and `x_def : x = <value>` (reads resolved) is added to the context -/
macro "vstep " x:ident " [" hs:Lean.Parser.Tactic.simpLemma,* "]" : tactic => do
  let hx := Lean.mkIdentFrom x (x.getId.appendAfter "_def")
  `(tactic| (
    first | refine runR_assign_gen ?_ | refine runR_store_gen ?_
    intro $x $hx
    simp only [ev_lit, ev_var, ev_idx, ev_bin, ev_cast,
      ev_not, ev_neg, Env.get_set_same, Env.get_set_other, ne_eq, Prod.mk.injEq, String.reduceEq, false_and,
      and_false, and_true, true_and, not_false_eq_true, not_true_eq_false, Nat.reduceEqDiff, $hs,*] at $hx:ident ⊢))

theorem binWrap_add (w a b : Nat) : binWrap .add w a b = (a + b) % 2 ^ w := rfl
theorem binWrap_mul (w a b : Nat) : binWrap .mul w a b = (a * b) % 2 ^ w := rfl
theorem binWrap_shr (w a b : Nat) : binWrap .shr w a b = a / 2 ^ b := rfl
theorem binWrap_lt (w a b : Nat) : binWrap .lt w a b = if a < b then 1 else 0 := rfl
theorem binWrap_le (w a b : Nat) : binWrap .le w a b = if a ≤ b then 1 else 0 := rfl
theorem binWrap_eq (w a b : Nat) : binWrap .eq w a b = if a = b then 1 else 0 := rfl
theorem binWrap_and (w a b : Nat) : binWrap .and w a b = a &&& b := rfl
theorem binWrap_or (w a b : Nat) : binWrap .or w a b = a ||| b := rfl
theorem binWrap_xor (w a b : Nat) : binWrap .xor w a b = a ^^^ b := rfl
theorem binWrap_sub (w a b : Nat) : binWrap .sub w a b = (a + (2 ^ w - b % 2 ^ w)) % 2 ^ w := rfl
theorem binWrap_shl (w a b : Nat) : binWrap .shl w a b = (a * 2 ^ b) % 2 ^ w := rfl

abbrev Widths (w aw : Nat) : Prop := w = 32 ∧ aw = 64 ∨ w = 64 ∧ aw = 128

/-- the add-with-carry idiom: after `s = x + y` (mod `2^w`), the test `s < y` is the carry -/
theorem carry_eqW {w aw : Nat} (hw : Widths w aw) (x y : Nat) (hx : x < 2 ^ w) (hy : y < 2 ^ w) :
    (if (x + y) % 2 ^ w < y then 1 else 0) = (x + y) / 2 ^ w := by
  obtain ⟨rfl, rfl⟩ | ⟨rfl, rfl⟩ := hw <;> split <;> omega

theorem carry_eq (x y : Nat) (hx : x < 2 ^ 64) (hy : y < 2 ^ 64) :
    (if (x + y) % 2 ^ 64 < y then 1 else 0) = (x + y) / 2 ^ 64 := carry_eqW (.inr ⟨rfl, rfl⟩) x y hx hy

/-- the conversion `int → uint64_t` of a comparison result, as clang spells the sign extension:
    `(x ^ 0x80000000) - 0x80000000` at width 64 -/
theorem sext_lt (x y : Nat) :
    binWrap .sub 64 (binWrap .xor 64 (binWrap .lt 64 x y) 2147483648) 2147483648 = binWrap .lt 64 x y := by
  simp only [binWrap]; split <;> rfl

theorem sext_01 (x : Nat) (h : x ≤ 1) :
    binWrap .sub 64 (binWrap .xor 64 x 2147483648) 2147483648 = x := by
  have : x = 0 ∨ x = 1 := by omega
  rcases this with rfl | rfl <;> rfl

/-- `SECP256K1_N_C_0 = ~SECP256K1_N_0 + 1`, as the C code spells it -/
theorem ev_nc0_64 (env : Env) :
    ev env (.bin .add 64 (.not 64 (.lit 13822214165235122497)) (.lit 1)) = 4624529908474429119 := by
  rw [ev_bin, ev_not, ev_lit, ev_lit]; decide

/-- `SECP256K1_N_C_1 = ~SECP256K1_N_1` -/
theorem ev_nc1_64 (env : Env) : ev env (.not 64 (.lit 13451932020343611451)) = 4994812053365940164 := by
  rw [ev_not, ev_lit]; decide

/-! ### the accumulator macros `muladd`, `muladd_fast`, `sumadd`, `sumadd_fast`, for both limb widths

The three variables `(c0, c1, c2)` are read as the accumulator `c0 + c1·2^w + c2·2^aw`.  Each `_spec` lemma takes
the literal expansion of the C macro (in `binWrap` form, as symbolic execution produces it) and says: the new limbs
are again in range and the accumulator has grown by exactly the added term, PROVIDED the bound `B` known for the
accumulator leaves room (`hno`, a closed numeral inequality).  The new bound is returned.  The arithmetic is linear
once the width is a numeral, so each proof runs `omega` at either width. -/

-- `tl`, `th` of the macros: the two words of the product formed at width `aw`
local macro "TL(" w:term "," aw:term "," a:term "," b:term ")" : term => `(binWrap BinOp.mul $aw $a $b % 2 ^ $w)
local macro "TH(" w:term "," aw:term "," a:term "," b:term ")" : term =>
  `(binWrap BinOp.shr $aw (binWrap BinOp.mul $aw $a $b) $w % 2 ^ $w)

/-- the three additions with carry of `muladd` on numbers: `p` is the product, bounded by `Pb`; the carry `k` into `c2`
    keeps `c2 + k < M` and nothing is lost, provided the bound `B` of the accumulator leaves room (`hno`) -/
theorem muladd_arith {w aw : Nat} (hw : Widths w aw) (M : Nat) (c0 c1 c2 p B Pb : Nat) (h0 : c0 < 2 ^ w) (h1 : c1 < 2 ^ w)
    (hp : p ≤ Pb) (hPb : Pb ≤ (2 ^ w - 1) * (2 ^ w - 1)) (hB : c0 + c1 * 2 ^ w + c2 * 2 ^ aw ≤ B)
    (hno : B + Pb < 2 ^ aw * M) :
    let c0' := (c0 + p % 2 ^ aw % 2 ^ w) % 2 ^ w
    let th' := (p % 2 ^ aw / 2 ^ w % 2 ^ w + if c0' < p % 2 ^ aw % 2 ^ w then 1 else 0) % 2 ^ w
    let c1' := (c1 + th') % 2 ^ w
    let k := if c1' < th' then 1 else 0
    c2 + k < M ∧ c0' + c1' * 2 ^ w + (c2 + k) * 2 ^ aw = c0 + c1 * 2 ^ w + c2 * 2 ^ aw + p := by
  intro c0' th' c1' k
  have e0 : (if c0' < p % 2 ^ aw % 2 ^ w then 1 else 0) = (c0 + p % 2 ^ aw % 2 ^ w) / 2 ^ w :=
    carry_eqW hw c0 _ h0 (Nat.mod_lt _ (Nat.two_pow_pos w))
  have e1 : k = (c1 + th') / 2 ^ w := carry_eqW hw c1 th' h1 (Nat.mod_lt _ (Nat.two_pow_pos w))
  simp only [c1', th', c0', e0] at e1 ⊢
  rw [e1]
  obtain ⟨rfl, rfl⟩ | ⟨rfl, rfl⟩ := hw <;> omega

/-- `muladd(a, b)` with a `v`-bit top limb `c2` (`v = 32` in the 4×64 `scalar_mul_512`) -/
theorem muladd_spec {w aw : Nat} (hw : Widths w aw) (v : Nat) (c0 c1 c2 a b amax bmax B : Nat) (h0 : c0 < 2 ^ w)
    (h1 : c1 < 2 ^ w) (ha : a ≤ amax) (hb : b ≤ bmax) (ham : amax ≤ 2 ^ w - 1) (hbm : bmax ≤ 2 ^ w - 1)
    (hB : c0 + c1 * 2 ^ w + c2 * 2 ^ aw ≤ B) (hno : B + amax * bmax < 2 ^ aw * 2 ^ v) :
    ∃ c0' c1' c2',
      binWrap .add w c0 TL(w, aw, a, b) = c0' ∧
      binWrap .add w c1 (binWrap .add w TH(w, aw, a, b) (binWrap .lt w c0' TL(w, aw, a, b))) = c1' ∧
      binWrap .add v c2 (binWrap .lt w c1' (binWrap .add w TH(w, aw, a, b) (binWrap .lt w c0' TL(w, aw, a, b)))) = c2' ∧
      c0' < 2 ^ w ∧ c1' < 2 ^ w ∧ c2' < 2 ^ v ∧
      c0' + c1' * 2 ^ w + c2' * 2 ^ aw = c0 + c1 * 2 ^ w + c2 * 2 ^ aw + a * b ∧
      c0' + c1' * 2 ^ w + c2' * 2 ^ aw ≤ B + amax * bmax := by
  have hp : a * b ≤ amax * bmax := Nat.mul_le_mul ha hb
  have := muladd_arith hw (2 ^ v) c0 c1 c2 (a * b) B (amax * bmax) h0 h1 hp (Nat.mul_le_mul ham hbm) hB hno
  dsimp only at this
  obtain ⟨hk, hE⟩ := this
  refine ⟨_, _, _, rfl, rfl, rfl, ?_⟩
  simp only [binWrap_add, binWrap_mul, binWrap_shr, binWrap_lt]
  rw [Nat.mod_eq_of_lt hk]
  exact ⟨Nat.mod_lt _ (Nat.two_pow_pos w), Nat.mod_lt _ (Nat.two_pow_pos w), hk, hE, by omega⟩

/-- `muladd_fast(a, b)`: `c2` (`0` at every use) is not touched; needs room in `aw` bits -/
theorem muladd_fast_spec {w aw : Nat} (hw : Widths w aw) (c0 c1 a b amax bmax B : Nat) (h0 : c0 < 2 ^ w) (h1 : c1 < 2 ^ w)
    (ha : a ≤ amax) (hb : b ≤ bmax) (ham : amax ≤ 2 ^ w - 1) (hbm : bmax ≤ 2 ^ w - 1)
    (hB : c0 + c1 * 2 ^ w + 0 * 2 ^ aw ≤ B) (hno : B + amax * bmax < 2 ^ aw) :
    ∃ c0' c1',
      binWrap .add w c0 TL(w, aw, a, b) = c0' ∧
      binWrap .add w c1 (binWrap .add w TH(w, aw, a, b) (binWrap .lt w c0' TL(w, aw, a, b))) = c1' ∧
      c0' < 2 ^ w ∧ c1' < 2 ^ w ∧
      c0' + c1' * 2 ^ w + 0 * 2 ^ aw = c0 + c1 * 2 ^ w + 0 * 2 ^ aw + a * b ∧
      c0' + c1' * 2 ^ w + 0 * 2 ^ aw ≤ B + amax * bmax := by
  have hp : a * b ≤ amax * bmax := Nat.mul_le_mul ha hb
  have hPb := Nat.mul_le_mul ham hbm
  refine ⟨_, _, rfl, rfl, ?_⟩
  simp only [binWrap_add, binWrap_mul, binWrap_shr, binWrap_lt]
  rw [carry_eqW hw c0 _ h0 (Nat.mod_lt _ (Nat.two_pow_pos w))]
  generalize a * b = p at *
  generalize amax * bmax = Pb at *
  refine ⟨Nat.mod_lt _ (Nat.two_pow_pos w), Nat.mod_lt _ (Nat.two_pow_pos w), ?_⟩
  obtain ⟨rfl, rfl⟩ | ⟨rfl, rfl⟩ := hw <;> omega

theorem sumadd_spec {w aw : Nat} (hw : Widths w aw) (v : Nat) (c0 c1 c2 a B : Nat) (h0 : c0 < 2 ^ w) (h1 : c1 < 2 ^ w)
    (ha : a < 2 ^ w) (hB : c0 + c1 * 2 ^ w + c2 * 2 ^ aw ≤ B) (hno : B + (2 ^ w - 1) < 2 ^ aw * 2 ^ v) :
    ∃ c0' c1' c2',
      binWrap .add w c0 a = c0' ∧
      binWrap .add w c1 (binWrap .lt w c0' a) = c1' ∧
      binWrap .add v c2 (binWrap .lt w c1' (binWrap .lt w c0' a)) = c2' ∧
      c0' < 2 ^ w ∧ c1' < 2 ^ w ∧ c2' < 2 ^ v ∧
      c0' + c1' * 2 ^ w + c2' * 2 ^ aw = c0 + c1 * 2 ^ w + c2 * 2 ^ aw + a ∧
      c0' + c1' * 2 ^ w + c2' * 2 ^ aw ≤ B + (2 ^ w - 1) := by
  refine ⟨_, _, _, rfl, rfl, rfl, ?_⟩
  simp only [binWrap_add, binWrap_lt]
  have e0 := carry_eqW hw c0 a h0 ha
  have e1 := carry_eqW hw c1 ((c0 + a) / 2 ^ w) h1 (by obtain ⟨rfl, rfl⟩ | ⟨rfl, rfl⟩ := hw <;> omega)
  rw [e0, e1]
  have hk : c2 + (c1 + (c0 + a) / 2 ^ w) / 2 ^ w < 2 ^ v := by
    generalize 2 ^ v = M at *
    obtain ⟨rfl, rfl⟩ | ⟨rfl, rfl⟩ := hw <;> omega
  rw [Nat.mod_eq_of_lt hk]
  refine ⟨Nat.mod_lt _ (Nat.two_pow_pos w), Nat.mod_lt _ (Nat.two_pow_pos w), hk, ?_⟩
  obtain ⟨rfl, rfl⟩ | ⟨rfl, rfl⟩ := hw <;> omega

/-- `sumadd_fast(a)`: `c2 = 0` is not touched; needs room in `aw` bits -/
theorem sumadd_fast_spec {w aw : Nat} (hw : Widths w aw) (c0 c1 a B : Nat) (h0 : c0 < 2 ^ w) (h1 : c1 < 2 ^ w)
    (ha : a < 2 ^ w) (hB : c0 + c1 * 2 ^ w + 0 * 2 ^ aw ≤ B) (hno : B + (2 ^ w - 1) < 2 ^ aw) :
    ∃ c0' c1',
      binWrap .add w c0 a = c0' ∧
      binWrap .add w c1 (binWrap .lt w c0' a) = c1' ∧
      c0' < 2 ^ w ∧ c1' < 2 ^ w ∧
      c0' + c1' * 2 ^ w + 0 * 2 ^ aw = c0 + c1 * 2 ^ w + 0 * 2 ^ aw + a ∧
      c0' + c1' * 2 ^ w + 0 * 2 ^ aw ≤ B + (2 ^ w - 1) := by
  refine ⟨_, _, rfl, rfl, ?_⟩
  simp only [binWrap_add, binWrap_lt]
  rw [carry_eqW hw c0 a h0 ha]
  refine ⟨Nat.mod_lt _ (Nat.two_pow_pos w), Nat.mod_lt _ (Nat.two_pow_pos w), ?_⟩
  obtain ⟨rfl, rfl⟩ | ⟨rfl, rfl⟩ := hw <;> omega

def val4 (x0 x1 x2 x3 : Nat) : Nat := x0 + x1 * 2 ^ 64 + x2 * 2 ^ 128 + x3 * 2 ^ 192

def val8 (x0 x1 x2 x3 x4 x5 x6 x7 : Nat) : Nat :=
  x0 + x1 * 2 ^ 64 + x2 * 2 ^ 128 + x3 * 2 ^ 192 + x4 * 2 ^ 256 + x5 * 2 ^ 320 + x6 * 2 ^ 384 + x7 * 2 ^ 448

theorem val4_lt {x0 x1 x2 x3 : Nat} (h0 : x0 < 2 ^ 64) (h1 : x1 < 2 ^ 64) (h2 : x2 < 2 ^ 64) (h3 : x3 < 2 ^ 64) :
    val4 x0 x1 x2 x3 < 2 ^ 256 := by
  unfold val4; omega

/-- halving modulo the odd number `N`: `a/2 + (a mod 2)·(N+1)/2` is THE `r < N` with `2r ≡ a (mod N)` -/
theorem half_spec (a r : Nat) (ha : a < N) (hr : r = a / 2 + a % 2 * ((N + 1) / 2)) :
    2 * r % N = a ∧ r < N := by
  have hN : (N + 1) / 2 = 57896044618658097711785492504343953926418782139537452191302581570759080747169 := by decide
  rw [hN] at hr
  simp only [N] at ha ⊢
  omega

/-- `((bit >> 6) == k) << (bit & 0x3F)`, the summand of `secp256k1_scalar_cadd_bit` for limb `k` -/
theorem cadd_inc (b k : Nat) :
    binWrap BinOp.shl 64
      (binWrap BinOp.sub 64 (binWrap BinOp.xor 64 (binWrap BinOp.eq 32 (binWrap BinOp.shr 32 b 6) k) 2147483648)
        2147483648)
      (binWrap BinOp.and 32 b 63) = if b / 64 = k then 2 ^ (b % 64) else 0 := by
  have h1 : binWrap BinOp.eq 32 (binWrap BinOp.shr 32 b 6) k ≤ 1 := by
    simp only [binWrap_eq]; split <;> omega
  rw [sext_01 _ h1]
  simp only [binWrap_eq, binWrap_shr, binWrap_and, binWrap_shl]
  have e63 : b &&& 63 = b % 64 := Nat.and_two_pow_sub_one_eq_mod b 6
  have e64 : b / 2 ^ 6 = b / 64 := rfl
  rw [e63, e64]
  have hs : 2 ^ (b % 64) < 2 ^ 64 := Nat.pow_lt_pow_right (by decide) (Nat.mod_lt _ (by decide))
  by_cases hk : b / 64 = k
  · rw [if_pos hk, if_pos hk, Nat.one_mul, Nat.mod_eq_of_lt hs]
  · rw [if_neg hk, if_neg hk, Nat.zero_mul]; rfl

/-- the adjusted bit index: unchanged if `flag = 1`, moved out of range (`+ 256`) if `flag = 0` -/
theorem cadd_bit_index (bit flag b : Nat) (hbit : bit < 256) (hflag : flag ≤ 1)
    (b_def : b = binWrap BinOp.add 32 bit (binWrap BinOp.and 32 (binWrap BinOp.sub 32 flag 1) 256)) :
    (flag = 1 ∧ b = bit) ∨ (flag = 0 ∧ b = bit + 256) := by
  have h : flag = 0 ∨ flag = 1 := by omega
  rcases h with rfl | rfl
  · right
    have e : binWrap BinOp.and 32 (binWrap BinOp.sub 32 0 1) 256 = 256 := by decide
    rw [e, binWrap_add] at b_def
    exact ⟨rfl, by omega⟩
  · left
    have e : binWrap BinOp.and 32 (binWrap BinOp.sub 32 1 1) 256 = 0 := by decide
    rw [e, binWrap_add] at b_def
    exact ⟨rfl, by omega⟩

end ScalarKernel
end SecpZkp
