import SecpZkp.Proofs.EllswiftField
import SecpZkp.Proofs.Bytes
import SecpZkp.Proofs.Sha256
/-
  ElligatorSwift: refinement of the model functions of `Model/Ellswift.lean` to the field-level
  description of `Proofs/EllswiftField.lean`, and the consequences for the model:
  every `(u, t)` decodes to an x-coordinate on the curve; the inverse map round-trips for every branch `c`
  (`xswiftecInvVar_roundtrip`).  The model functions are taken apart as `fracCore` / `invA` / `invB` / `invTail` (the pieces
  `Proofs/EllswiftIR.lean` shares); `geSetXoVar` is `Pt.liftX`; at the end the encoder loop and `decode ∘ encode`.
-/
namespace SecpZkp
namespace Ellswift

theorem geXOnCurveVar_iff (x : ℕ) : geXOnCurveVar x = true ↔ IsSquare (gx (x : F)) := by
  simp only [geXOnCurveVar, gx]
  rw [Fe.isSquare_iff, cast_rhs]

def IsFrac (q : ℕ × ℕ) (x : F) : Prop := (q.2 : F) ≠ 0 ∧ (q.1 : F) / q.2 = x

theorem geXFracOnCurveVar_iff {q : ℕ × ℕ} {x : F} (hq : IsFrac q x) :
    geXFracOnCurveVar q.1 q.2 = true ↔ IsSquare (gx x) := by
  obtain ⟨hD, rfl⟩ := hq
  have e : (q.2 : F) * q.1 * (q.1 * q.1) + q.2 * q.2 * (q.2 * q.2) * 7 =
      gx (q.1 / q.2) * ((q.2 * q.2 : F) * (q.2 * q.2)) := by
    unfold gx; field_simp
  rw [← isSquare_mul_right_iff (.mul_self _) (mul_self_ne_zero.2 (mul_self_ne_zero.2 hD)), ← e]
  simp only [geXFracOnCurveVar, Fe.isSquare_iff, Fe.cast_add, Fe.cast_mul, Fe.cast_sqr,
    Nat.cast_ofNat]

theorem isFrac_select {n3 d3 n2 d2 n1 d1 : ℕ} {U S : F} (h3 : IsFrac (n3, d3) (X3 U S))
    (h2 : IsFrac (n2, d2) (X2 U S)) (h1 : IsFrac (n1, d1) (X1 U S)) :
    IsFrac (if geXFracOnCurveVar n3 d3 then (n3, d3) else
      if geXFracOnCurveVar n2 d2 then (n2, d2) else (n1, d1)) (FU U S) := by
  unfold FU
  simp only [geXFracOnCurveVar_iff h3, geXFracOnCurveVar_iff h2]
  split_ifs
  exacts [h3, h2, h1]

/-- The part of `xswiftecFracVar` after the remapping of the exceptional inputs. -/
def fracCore (u1 s g p : ℕ) : ℕ × ℕ :=
  let l := Fe.sqr u1
  let d := Fe.mul s l
  let d := Fe.mul d 3
  let l := Fe.sqr p
  let l := Fe.neg l
  let n := Fe.mul d u1
  let n := Fe.add n l
  if geXFracOnCurveVar n d then
    (n, d)
  else
    let l := Fe.mul c1 s
    let n := Fe.mul c2 g
    let n := Fe.add n l
    let n := Fe.mul n u1
    if geXFracOnCurveVar n p then
      (n, p)
    else
      let l := Fe.mul p u1
      let n := Fe.add n l
      (Fe.neg n, p)

theorem fracCore_cast {u1 s g p : ℕ} {U S : F} (hU : (u1 : F) = U) (hS : (s : F) = S)
    (hg : (g : F) = gx U) (hp : (p : F) = gx U + S) (hU0 : U ≠ 0) (hS0 : S ≠ 0)
    (hp0 : gx U + S ≠ 0) : IsFrac (fracCore u1 s g p) (FU U S) := by
  unfold fracCore
  refine isFrac_select ?_ ?_ ?_ <;>
    simp only [IsFrac, Fe.cast_add, Fe.cast_neg, Fe.cast_mul, Fe.cast_sqr, Nat.cast_ofNat, cast_c1,
      cast_c2, hU, hS, hg, hp]
  exacts [⟨D3_ne_zero hU0 hS0, rfl⟩, ⟨hp0, rfl⟩, ⟨hp0, rfl⟩]

theorem xswiftecFracVar_eq (u t : ℕ) : xswiftecFracVar u t =
    (let u1 := if u % P = 0 then 1 else u % P
     let s := if t % P = 0 then 1 else Fe.sqr (t % P)
     let g := Fe.add (Fe.mul (Fe.sqr u1) u1) 7
     if Fe.add g s = 0 then fracCore u1 (Fe.mul s 4) g (Fe.add g (Fe.mul s 4))
     else fracCore u1 s g (Fe.add g s)) := by
  unfold xswiftecFracVar
  extract_lets u' t' u1 s0 s l g3 g p
  by_cases h : p = 0
  · rw [if_pos h]; exact (if_pos h).symm
  · rw [if_neg h]; exact (if_neg h).symm

/-- `u` and `s₀ = t²` after the remapping `0 ↦ 1` of `xswiftecFracVar` -/
def remU (u : ℕ) : F := if (u : F) = 0 then 1 else u
def remS0 (t : ℕ) : F := if (t : F) = 0 then 1 else (t : F) * t
/-- `s` after the remapping `g + s = 0 ↦ 4 s` (i.e. `t ↦ 2t`) -/
def remS (u t : ℕ) : F := if gx (remU u) + remS0 t = 0 then remS0 t * 4 else remS0 t

theorem remU_ne_zero (u : ℕ) : remU u ≠ 0 := by
  unfold remU; split_ifs with h
  · exact one_ne_zero
  · exact h

theorem remS0_spec (t : ℕ) : remS0 t ≠ 0 ∧ IsSquare (remS0 t) := by
  unfold remS0; split_ifs with h
  · exact ⟨one_ne_zero, .mul_self 1⟩
  · exact ⟨mul_ne_zero h h, .mul_self _⟩

theorem remS_spec (u t : ℕ) :
    remS u t ≠ 0 ∧ IsSquare (remS u t) ∧ gx (remU u) + remS u t ≠ 0 := by
  obtain ⟨h0, hs⟩ := remS0_spec t
  have h4 : (4 : F) ≠ 0 := by simpa using cast_ne_zero_of_mod (a := 4) (by decide)
  unfold remS; split_ifs with h
  · refine ⟨mul_ne_zero h0 h4, hs.mul ⟨2, by norm_num⟩, fun h' => ?_⟩
    exact mul_ne_zero h0 zmodP_three_ne_zero (by linear_combination h' - h)
  · exact ⟨h0, hs, h⟩

theorem xswiftecFracVar_cast (u t : ℕ) :
    IsFrac (xswiftecFracVar u t) (FU (remU u) (remS u t)) := by
  rw [xswiftecFracVar_eq]
  extract_lets u1 s g
  have hU : (u1 : F) = remU u := by
    simp only [u1, remU, ← Fe.cast_eq_zero_iff, apply_ite (Nat.cast : ℕ → F), Nat.cast_one,
      ZMod.natCast_mod]
  have hS : (s : F) = remS0 t := by
    simp only [s, remS0, ← Fe.cast_eq_zero_iff, apply_ite (Nat.cast : ℕ → F), Nat.cast_one,
      Fe.cast_sqr, ZMod.natCast_mod]
  have hg : (g : F) = gx (remU u) := by rw [cast_rhs, hU, gx]
  -- from here only the three cast equations are used; as atoms, `split_ifs` does not look inside `u1`, `s`, `g`
  clear_value u1 s g
  have hS' : ((if Fe.add g s = 0 then Fe.mul s 4 else s : ℕ) : F) = remS u t := by
    simp only [remS, ← hg, ← hS, ← Fe.add_eq_zero_iff_cast, apply_ite (Nat.cast : ℕ → F),
      Fe.cast_mul, Nat.cast_ofNat]
  obtain ⟨hS0, _, hp0⟩ := remS_spec u t
  split_ifs at hS' ⊢ <;>
    exact fracCore_cast hU hS' hg (by rw [Fe.cast_add, hg, hS']) (remU_ne_zero u) hS0 hp0

theorem xswiftecVar_eq (u t : ℕ) :
    xswiftecVar u t = Fe.mul (xswiftecFracVar u t).1 (Fe.inv (xswiftecFracVar u t).2) := by
  unfold xswiftecVar
  simp only []

theorem xswiftecVar_cast (u t : ℕ) : ((xswiftecVar u t : ℕ) : F) = FU (remU u) (remS u t) := by
  rw [xswiftecVar_eq, Fe.cast_mul, Fe.cast_inv, ← div_eq_mul_inv]
  exact (xswiftecFracVar_cast u t).2

theorem xswiftecVar_lt (u t : ℕ) : xswiftecVar u t < P := by
  rw [xswiftecVar_eq]; exact Fe.mul_lt_P _ _

theorem xswiftecVar_onCurve (u t : ℕ) : geXOnCurveVar (xswiftecVar u t) = true := by
  obtain ⟨hS0, hSs, hp0⟩ := remS_spec u t
  rw [geXOnCurveVar_iff, xswiftecVar_cast]
  exact FU_onCurve (remU_ne_zero u) hS0 hSs hp0

theorem xswiftecVar_congr {u t t' : ℕ} (h : (t' : F) = t ∨ (t' : F) = -(t : F)) :
    xswiftecVar u t' = xswiftecVar u t := by
  apply Fe.eq_of_cast_eq (xswiftecVar_lt _ _) (xswiftecVar_lt _ _)
  have e0 : remS0 t' = remS0 t := by
    unfold remS0
    rcases h with h | h <;> rw [h]
    simp only [neg_eq_zero, neg_mul_neg]
  rw [xswiftecVar_cast, xswiftecVar_cast, remS, e0, ← remS]

/-- first part of `xswiftecInvVar` for `c ∈ {0,1,4,5}` (inputs already reduced) -/
def invA (x u : ℕ) : Option (ℕ × ℕ) :=
  let m := Fe.add x u
  let m := Fe.neg m
  if geXOnCurveVar m then none else
  let s := Fe.sqr m
  let s := Fe.neg s
  let m := Fe.mul u x
  let s := Fe.add s m
  let g := Fe.sqr u
  let g := Fe.mul g u
  let g := Fe.add g 7
  let m := Fe.mul s g
  if !Fe.isSquare m then none else
  let s := Fe.inv s
  let s := Fe.mul s g
  some (s, x)

/-- first part of `xswiftecInvVar` for `c ∈ {2,3,6,7}` (inputs already reduced) -/
def invB (x u c : ℕ) : Option (ℕ × ℕ) :=
  let m := Fe.neg u
  let s := Fe.add m x
  if !Fe.isSquare s then none else
  let g := Fe.sqr u
  let q := Fe.mul s g
  let q := Fe.mul q 3
  let g := Fe.mul g u
  let g := Fe.mul g 4
  let g := Fe.add g 28
  let q := Fe.add q g
  let q := Fe.mul q s
  let q := Fe.neg q
  if !Fe.isSquare q then none else
  let r := Fe.sqrtCand q
  if c &&& 1 = 1 ∧ r = 0 then none else
  if s = 0 then none else
  let v := Fe.inv s
  let v := Fe.mul v r
  let v := Fe.add v m
  let v := Fe.half v
  some (s, v)

/-- second part of `xswiftecInvVar` -/
def invTail (u c s v : ℕ) : ℕ :=
  let w := Fe.sqrtCand s
  let m := if c &&& 5 = 0 ∨ c &&& 5 = 5 then Fe.neg w else w
  let u := Fe.mul u (if c &&& 1 = 1 then c4 else c3)
  let u := Fe.add u v
  Fe.mul m u

theorem xswiftecInvVar_eq (x u c : ℕ) : xswiftecInvVar x u c =
    (match (if c &&& 2 = 0 then invA (x % P) (u % P) else invB (x % P) (u % P) c) with
     | none => none
     | some (s, v) => some (invTail (u % P) c s v)) := by
  rfl

theorem invA_spec {x u s v : ℕ} (hX : IsSquare (gx (x : F))) (h : invA x u = some (s, v)) :
    InvSpec (u : F) x s v := by
  unfold invA at h
  simp only [] at h
  split_ifs at h with h1 h2
  obtain ⟨rfl, rfl⟩ := Prod.mk.inj (Option.some.inj h)
  rw [geXOnCurveVar_iff, Fe.cast_neg, Fe.cast_add, neg_add_rev, ← sub_eq_add_neg] at h1
  rw [Bool.not_eq_true', Bool.not_eq_false, Fe.isSquare_iff, Fe.cast_mul] at h2
  refine invSpec_A hX h1 ?_ ?_ h2 (by rw [Fe.cast_mul, Fe.cast_inv])
  · simp only [Fe.cast_add, Fe.cast_neg, Fe.cast_mul, Fe.cast_sqr]; ring
  · rw [cast_rhs, gx]

theorem invB_spec {x u c s v : ℕ} (h : invB x u c = some (s, v)) : InvSpec (u : F) x s v := by
  unfold invB at h
  simp only [] at h
  -- the third test (odd `c` and `r = 0`) only avoids a duplicate preimage; nothing is needed from it
  split_ifs at h with h1 h2 _ h4
  obtain ⟨rfl, rfl⟩ := Prod.mk.inj (Option.some.inj h)
  rw [Bool.not_eq_true', Bool.not_eq_false, Fe.isSquare_iff] at h1 h2
  rw [Fe.add_eq_zero_iff_cast, ← Fe.cast_add] at h4
  refine invSpec_B ?_ h4 h1 ?_ ((Fe.sqrtCand_sq_of_isSquare h2).trans ?_)
  · rw [Fe.cast_add, Fe.cast_neg]; ring
  · rw [Fe.cast_half, Fe.cast_add, Fe.cast_mul, Fe.cast_inv, Fe.cast_neg]
    have := zmodP_two_ne_zero
    field_simp
    ring
  · simp only [Fe.cast_add, Fe.cast_neg, Fe.cast_mul, Fe.cast_sqr, Nat.cast_ofNat]

theorem cast_ite_neg_sq (b : Prop) [Decidable b] (w : ℕ) :
    ((if b then Fe.neg w else w : ℕ) : F) * (if b then Fe.neg w else w : ℕ) = (w : F) * w := by
  split_ifs
  · rw [Fe.cast_neg, neg_mul_neg]
  · rfl

theorem invTail_sq {u c s v : ℕ} (hs : IsSquare (s : F)) :
    ∃ v' : F, (v' = v ∨ v' = -(u : F) - v) ∧
      ((invTail u c s v : ℕ) : F) * (invTail u c s v : ℕ) = s * ((ω * u - v') * (ω * u - v')) := by
  have hm := (cast_ite_neg_sq (c &&& 5 = 0 ∨ c &&& 5 = 5) (Fe.sqrtCand s)).trans
    (Fe.sqrtCand_sq_of_isSquare hs)
  unfold invTail
  simp only [Fe.cast_mul, Fe.cast_add]
  by_cases h1 : c &&& 1 = 1
  · refine ⟨_, Or.inr rfl, ?_⟩
    rw [if_pos h1, cast_c4]
    linear_combination ((u * (ω + 1) + v) * ((u : F) * (ω + 1) + v)) * hm
  · refine ⟨_, Or.inl rfl, ?_⟩
    rw [if_neg h1, cast_c3]
    linear_combination ((u * (-ω) + v) * ((u : F) * (-ω) + v)) * hm

theorem invTail_lt (u c s v : ℕ) : invTail u c s v < P := Fe.mul_lt_P _ _

theorem xswiftecInvVar_roundtrip {x u c t : ℕ} (hx : x < P) (hxc : geXOnCurveVar x = true)
    (hu : u % P ≠ 0) (h : xswiftecInvVar x u c = some t) :
    xswiftecVar u t = x ∧ t % P ≠ 0 ∧ t < P := by
  have hX := (geXOnCurveVar_iff x).1 hxc
  have hU : ((u % P : ℕ) : F) ≠ 0 := cast_ne_zero_of_mod (by rwa [Nat.mod_mod])
  rw [xswiftecInvVar_eq, Nat.mod_eq_of_lt hx] at h
  have spec : ∀ {s v}, (if c &&& 2 = 0 then invA x (u % P) else invB x (u % P) c) = some (s, v) →
      InvSpec ((u % P : ℕ) : F) x s v := by
    intro s v hsv
    split_ifs at hsv
    · exact invA_spec hX hsv
    · exact invB_spec hsv
  generalize (if c &&& 2 = 0 then invA x (u % P) else invB x (u % P) c) = o at h spec
  obtain _ | ⟨s, v⟩ := o
  · exact absurd h (by simp)
  obtain rfl : invTail (u % P) c s v = t := Option.some.inj h
  obtain ⟨v', hv', hT⟩ := invTail_sq (u := u % P) (c := c) (v := v) (spec rfl).isSquare
  obtain ⟨k1, k2, k3⟩ := roundtrip hU hX (spec rfl) hv' hT
  rw [ZMod.natCast_mod] at hU k2 k3
  refine ⟨Fe.eq_of_cast_eq (xswiftecVar_lt _ _) hx ?_, fun h0 => k1 ?_, invTail_lt _ _ _ _⟩
  · -- no remapping applies: `remU u = u`, `remS u t = t²`
    simp only [xswiftecVar_cast, remS, remU, remS0, if_neg hU, if_neg (left_ne_zero_of_mul k1),
      if_neg k2, k3]
  · rw [(Fe.cast_eq_zero_iff _).2 h0, zero_mul]

theorem onCurve_of_valid {x y : ℕ} (hv : (Pt.aff x y).valid = true) :
    x < P ∧ geXOnCurveVar x = true :=
  ⟨(Algebra.valid_aff_lt hv).1, isSquare_rhs_of_valid hv⟩

theorem geSetXoVar_eq_liftX {x : ℕ} (hx : x < P) (h : geXOnCurveVar x = true) (odd : Bool) :
    Pt.liftX x odd = some (geSetXoVar x odd).1 := by
  have hsq : IsSquare ((Fe.add (Fe.mul (Fe.sqr x) x) 7 : ℕ) : F) := (Fe.isSquare_iff _).1 h
  unfold Pt.liftX
  rw [(Fe.sqrt_eq_some_iff _ _).2 ⟨rfl, hsq⟩]
  unfold geSetXoVar
  simp only []
  rw [Nat.mod_eq_of_lt hx]
  generalize Fe.isOdd _ = b
  cases b <;> cases odd <;> rfl

theorem geSetXoVar_spec {x : ℕ} (hx : x < P) (h : geXOnCurveVar x = true) (odd : Bool) :
    ∃ y, (geSetXoVar x odd).1 = .aff x y ∧ (Pt.aff x y).valid = true ∧ Fe.isOdd y = odd := by
  obtain ⟨hv, -, -, hp⟩ := liftX_some (geSetXoVar_eq_liftX hx h odd)
  obtain ⟨y, e⟩ : ∃ y, (geSetXoVar x odd).1 = .aff x y :=
    ⟨_, by unfold geSetXoVar; simp only [Nat.mod_eq_of_lt hx]; rfl⟩
  rw [e] at hv hp
  exact ⟨y, e, hv, hp⟩

theorem geSetXoVar_of_valid {x y : ℕ} (hv : (Pt.aff x y).valid = true) :
    (geSetXoVar x (Fe.isOdd y)).1 = .aff x y := by
  obtain ⟨hx, hc⟩ := onCurve_of_valid hv
  have h1 := geSetXoVar_eq_liftX hx hc (Fe.isOdd y)
  rw [liftX_of_valid hv] at h1
  exact (Option.some.inj h1).symm

theorem swiftecVar_spec (u t : ℕ) :
    ∃ y, swiftecVar u t = .aff (xswiftecVar u t) y ∧ (Pt.aff (xswiftecVar u t) y).valid = true ∧
      Fe.isOdd y = Fe.isOdd (t % P) :=
  geSetXoVar_spec (xswiftecVar_lt u t) (xswiftecVar_onCurve u t) _

def decU (ell64 : Bytes) : ℕ := Bytes.toNat (ell64.take 32) % P
def decT (ell64 : Bytes) : ℕ := Bytes.toNat ((ell64.drop 32).take 32) % P

theorem decode_eq (ell64 : Bytes) : decode ell64 = ⟨1, swiftecVar (decU ell64) (decT ell64), 0⟩ := rfl

theorem decU_append {u32 : Bytes} (hl : u32.length = 32) (b : Bytes) :
    decU (u32 ++ b) = Bytes.toNat u32 % P := by
  unfold decU
  rw [List.take_left' hl]

theorem decT_append {u32 : Bytes} (hl : u32.length = 32) {t : ℕ} (ht : t < P) :
    decT (u32 ++ Bytes.be32 t) = t := by
  unfold decT
  rw [List.drop_left' hl, List.take_of_length_le (by rw [Bytes.be32_length]),
    Bytes.toNat_be32_of_lt_P ht, Nat.mod_eq_of_lt ht]

theorem length_prng (h : Sha256.State) (cnt : ℕ) : (prng h cnt).length = 32 :=
  Sha256.length_finalize _

theorem xelligatorswiftLoop_some {fuel x : ℕ} {hasher : Sha256.State} {bh : Bytes} {bl cnt : ℕ}
    {u32 : Bytes} {t : ℕ} (h : xelligatorswiftLoop fuel x hasher bh bl cnt = some (u32, t)) :
    u32.length = 32 ∧ ∃ c, xswiftecInvVar x (Bytes.toNat u32 % P) c = some t := by
  induction fuel generalizing bh bl cnt with
  | zero => exact absurd h (by simp [xelligatorswiftLoop])
  | succ n ih =>
    unfold xelligatorswiftLoop at h
    simp only [] at h
    split at h
    · next t' ht' =>
      obtain ⟨rfl, rfl⟩ := Prod.mk.inj (Option.some.inj h)
      exact ⟨length_prng _ _, _, ht'⟩
    · exact ih h

/-- the last step of `elligatorswiftVar` -/
def fixParity (t py : ℕ) : ℕ := if Fe.isOdd t != Fe.isOdd py then Fe.neg t else t

theorem fixParity_spec {t : ℕ} (h0 : 0 < t) (ht : t < P) (py : ℕ) :
    fixParity t py < P ∧ Fe.isOdd (fixParity t py) = Fe.isOdd py ∧
    (((fixParity t py : ℕ) : F) = t ∨ ((fixParity t py : ℕ) : F) = -(t : F)) := by
  unfold fixParity
  split_ifs with h
  · refine ⟨Fe.neg_lt_P t, ?_, Or.inr (Fe.cast_neg t)⟩
    rw [Fe.isOdd_neg_of_pos h0 ht]
    revert h; cases Fe.isOdd t <;> cases Fe.isOdd py <;> decide
  · refine ⟨ht, ?_, Or.inl rfl⟩
    revert h; cases Fe.isOdd t <;> cases Fe.isOdd py <;> decide

theorem elligatorswiftVar_some {fuel px py : ℕ} {hasher : Sha256.State} {u32 : Bytes} {t' : ℕ}
    (h : elligatorswiftVar fuel px py hasher = some (u32, t')) :
    u32.length = 32 ∧ ∃ c t, xswiftecInvVar px (Bytes.toNat u32 % P) c = some t ∧
      t' = fixParity (t % P) py := by
  unfold elligatorswiftVar at h
  split at h
  · exact absurd h (by simp)
  · next u t hx =>
    obtain ⟨rfl, rfl⟩ := Prod.mk.inj (Option.some.inj h)
    obtain ⟨hl, c, hc⟩ := xelligatorswiftLoop_some hx
    exact ⟨hl, c, t, hc, rfl⟩

/-- The premise `decU … ≠ 0` (the sampled `u` is non-zero mod `P`) is one the C code only `VERIFY_CHECK`s. -/
theorem decode_elligatorswift {fuel px py : ℕ} {hasher : Sha256.State} {u32 : Bytes} {t' : ℕ}
    (hv : (Pt.aff px py).valid = true)
    (h : elligatorswiftVar fuel px py hasher = some (u32, t')) :
    (u32 ++ Bytes.be32 t').length = 64 ∧
    (decU (u32 ++ Bytes.be32 t') ≠ 0 → decode (u32 ++ Bytes.be32 t') = ⟨1, .aff px py, 0⟩) := by
  obtain ⟨hl, c, t, hc, rfl⟩ := elligatorswiftVar_some h
  refine ⟨by rw [List.length_append, hl, Bytes.be32_length], fun hu => ?_⟩
  rw [decU_append hl] at hu
  obtain ⟨hx, hxc⟩ := onCurve_of_valid hv
  obtain ⟨r1, r2, r3⟩ := xswiftecInvVar_roundtrip hx hxc (by rwa [Nat.mod_mod]) hc
  rw [Nat.mod_eq_of_lt r3] at r2 ⊢
  obtain ⟨f1, f2, f3⟩ := fixParity_spec (Nat.pos_of_ne_zero r2) r3 py
  rw [decode_eq, decU_append hl, decT_append hl f1]
  unfold swiftecVar
  simp only []
  rw [xswiftecVar_congr f3, r1, Nat.mod_eq_of_lt f1, f2, geSetXoVar_of_valid hv]

end Ellswift
end SecpZkp
