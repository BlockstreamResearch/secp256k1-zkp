import SecpZkp.Proofs.BorromeanReject
import SecpZkp.Proofs.Algebra
import SecpZkp.Proofs.GroupLawProved
/-
  Completeness of the Borromean ring signature (`Model/Borromean.lean`).
  The proofs do not look inside `Borromean.hash`, `Codec.serialize33` or `Sha256.sha256`, and use of `Sc.setB32` only that
  its value is `< N`.  At the end a two-ring instance and the counterexample for a zero forged scalar, evaluated.
-/
namespace SecpZkp
namespace Borromean
open SecpZkp.Algebra

/-- In the form of `verifyRing_cons`, for the reason given there; `walk2_cons`, `phase1_cons`, `phase2_cons` likewise. -/
theorem walk_cons (m : Bytes) (i j : Nat) (p : Pt) (ps : List Pt) (s : Nat) (ss : List Nat) (tmp : Bytes) :
    walk m i j (p :: ps) (s :: ss) tmp =
      if (Sc.setB32 (hash m tmp i j)).2 = true ∨ (Sc.setB32 (hash m tmp i j)).1 = 0 then none else
      if Pt.add (Pt.mul (Sc.setB32 (hash m tmp i j)).1 p) (Pt.mulG s) = .inf then none else
      walk m i (j + 1) ps ss (Codec.serialize33 (Pt.add (Pt.mul (Sc.setB32 (hash m tmp i j)).1 p) (Pt.mulG s))) := by
  rw [walk]
  simp only []
  split
  · rfl
  · split
    · next h => simp [h]
    · next _ r h2 =>
      have : ¬ (Pt.add (Pt.mul (Sc.setB32 (hash m tmp i j)).1 p) (Pt.mulG s) = .inf) := h2
      rw [if_neg this]

theorem walk2_cons (m : Bytes) (i j : Nat) (p : Pt) (ps : List Pt) (s : Nat) (ss : List Nat) (ens : Nat) :
    sign.walk2 m i j (p :: ps) (s :: ss) ens =
      if Pt.add (Pt.mul ens p) (Pt.mulG s) = .inf then none else
      if (Sc.setB32 (hash m (Codec.serialize33 (Pt.add (Pt.mul ens p) (Pt.mulG s))) i (j + 1))).2 = true ∨
         (Sc.setB32 (hash m (Codec.serialize33 (Pt.add (Pt.mul ens p) (Pt.mulG s))) i (j + 1))).1 = 0 then none else
      sign.walk2 m i (j + 1) ps ss
        (Sc.setB32 (hash m (Codec.serialize33 (Pt.add (Pt.mul ens p) (Pt.mulG s))) i (j + 1))).1 := by
  rw [sign.walk2]
  split
  · next h => simp [h]
  · next r h2 =>
    have : ¬ (Pt.add (Pt.mul ens p) (Pt.mulG s) = .inf) := h2
    rw [if_neg this]

theorem verifyRing_of_walk (m : Bytes) (i : Nat) :
    ∀ (P : List Pt) (S : List Nat) (j : Nat) (prev last : Bytes),
      P ≠ [] → P.length = S.length → (∀ p ∈ P, p ≠ .inf) → (∀ s ∈ S, s ≠ 0) →
      walk m i j P S prev = some last →
      ∀ ev, ∃ ev', verifyRing m i j P S (hash m prev i j) ev = some (last, ev') := by
  intro P
  induction P with
  | nil => intro S j prev last h; exact absurd rfl h
  | cons p ps ih =>
    intro S j prev last _ hlen hP hS hw ev
    cases S with
    | nil => simp at hlen
    | cons s ss =>
      rw [walk_cons, Option.ite_none_left_eq_some, Option.ite_none_left_eq_some] at hw
      obtain ⟨hc, hr, hw⟩ := hw
      have hc' : ¬ ((Sc.setB32 (hash m prev i j)).2 = true ∨ s = 0 ∨
          (Sc.setB32 (hash m prev i j)).1 = 0 ∨ p.isInf = true) := by
        rw [Pt.isInf_iff]
        rintro (h | h | h | h)
        · exact hc (Or.inl h)
        · exact hS s (by simp) h
        · exact hc (Or.inr h)
        · exact hP p (by simp) h
      rw [verifyRing_cons, if_neg hc', if_neg hr]
      cases ps with
      | nil =>
        simp only [walk, Option.some.injEq] at hw
        exact ⟨_, by rw [if_pos rfl, hw]⟩
      | cons p' ps' =>
        rw [if_neg (by simp)]
        exact ih ss (j + 1) _ last (by simp) (by simpa using hlen)
          (fun q hq => hP q (by simp [hq])) (fun q hq => hS q (by simp [hq])) hw _

/-- `sign.walk2` carries the decoded challenge, `verifyRing` the hash bytes: hence `∃ tmp'` that decodes to `ens'`. -/
theorem verifyRing_append_of_walk2 (m : Bytes) (i : Nat) (P2 : List Pt) (S2 : List Nat) (hP2 : P2 ≠ []) :
    ∀ (P1 : List Pt) (S1 : List Nat) (j : Nat) (tmp : Bytes) (ens' : Nat),
      P1.length = S1.length → (∀ p ∈ P1, p ≠ .inf) → (∀ s ∈ S1, s ≠ 0) →
      (Sc.setB32 tmp).2 = false → (Sc.setB32 tmp).1 ≠ 0 →
      sign.walk2 m i j P1 S1 (Sc.setB32 tmp).1 = some ens' →
      ∃ tmp', (Sc.setB32 tmp').2 = false ∧ (Sc.setB32 tmp').1 = ens' ∧ ens' ≠ 0 ∧
        ∀ ev, ∃ ev', verifyRing m i j (P1 ++ P2) (S1 ++ S2) tmp ev =
          verifyRing m i (j + P1.length) P2 S2 tmp' ev' := by
  intro P1
  induction P1 with
  | nil =>
    intro S1 j tmp ens' hlen _ _ hov hnz hw
    cases S1 with
    | cons _ _ => simp at hlen
    | nil =>
      simp only [sign.walk2, Option.some.injEq] at hw
      exact ⟨tmp, hov, hw, hw ▸ hnz, fun ev => ⟨ev, by simp⟩⟩
  | cons p ps ih =>
    intro S1 j tmp ens' hlen hP hS hov hnz hw
    cases S1 with
    | nil => simp at hlen
    | cons s ss =>
      rw [walk2_cons, Option.ite_none_left_eq_some, Option.ite_none_left_eq_some] at hw
      obtain ⟨hr, hc, hw⟩ := hw
      have hc' : ¬ ((Sc.setB32 tmp).2 = true ∨ s = 0 ∨ (Sc.setB32 tmp).1 = 0 ∨ p.isInf = true) := by
        rw [Pt.isInf_iff]
        rintro (h | h | h | h)
        · simp [hov] at h
        · exact hS s (by simp) h
        · exact hnz h
        · exact hP p (by simp) h
      obtain ⟨tmp', h1, h2, h3, h4⟩ := ih ss (j + 1) _ ens' (by simpa using hlen)
        (fun q hq => hP q (by simp [hq])) (fun q hq => hS q (by simp [hq]))
        (Bool.eq_false_iff.mpr fun h => hc (Or.inl h)) (fun h => hc (Or.inr h)) hw
      refine ⟨tmp', h1, h2, h3, fun ev => ?_⟩
      obtain ⟨ev', h5⟩ := h4 (ev ++ [(Sc.setB32 tmp).1])
      refine ⟨ev', ?_⟩
      have hne : ps ++ P2 ≠ [] := by simp [hP2]
      rw [List.cons_append, List.cons_append, verifyRing_cons, if_neg hc', if_neg hr, if_neg hne, h5]
      congr 1
      simp only [List.length_cons]; omega

section
variable [HasGroupLaw]

theorem close_ring {e x k : Nat} (he : e < N) (hx : x < N) (hk : k < N) :
    Pt.add (Pt.mul e (Pt.mulG x)) (Pt.mulG (Sc.add (Sc.neg (Sc.mul e x)) k)) = Pt.mulG k := by
  rw [mulG_eq_gmul (lt_mulBound_of_lt_N hx), mul_gmul (lt_mulBound_of_lt_N he),
    mulG_eq_gmul (lt_mulBound_of_lt_N (Sc.add_lt _ _)), mulG_eq_gmul (lt_mulBound_of_lt_N hk), add_gmul]
  apply gmul_congr
  simp only [cast_add, cast_neg, cast_mul]
  ring

/-- One ring with secret position `t`.  `hw1` is the signer's phase 1 on it (from the nonce point `k•G` over the positions
    after `t`), `hw2` its phase 2 (from `e0` up to `t`). -/
theorem ring_complete (m e0 : Bytes) (i : Nat) (P : List Pt) (S : List Nat) (t x k ens : Nat) (last : Bytes)
    (hlen : P.length = S.length) (ht : t < P.length) (hP : ∀ p ∈ P, p ≠ .inf)
    (hS1 : ∀ s ∈ S.take t, s ≠ 0) (hS2 : ∀ s ∈ S.drop (t + 1), s ≠ 0)
    (hx : x < N) (hk : k < N) (hkey : P[t]? = some (Pt.mulG x))
    (hR : Pt.mulG k ≠ .inf)
    (hw1 : walk m i (t + 1) (P.drop (t + 1)) (S.drop (t + 1)) (Codec.serialize33 (Pt.mulG k)) = some last)
    (hov : (Sc.setB32 (hash m e0 i 0)).2 = false) (hnz : (Sc.setB32 (hash m e0 i 0)).1 ≠ 0)
    (hw2 : sign.walk2 m i 0 (P.take t) (S.take t) (Sc.setB32 (hash m e0 i 0)).1 = some ens)
    (hsv : Sc.add (Sc.neg (Sc.mul ens x)) k ≠ 0) :
    ∀ ev, ∃ ev', verifyRing m i 0 P (S.set t (Sc.add (Sc.neg (Sc.mul ens x)) k)) (hash m e0 i 0) ev =
      some (last, ev') := by
  intro ev
  have htS : t < S.length := hlen ▸ ht
  have hPt : P[t] = Pt.mulG x := by
    rw [List.getElem?_eq_getElem ht] at hkey; exact Option.some.inj hkey
  have hPsplit : P = P.take t ++ Pt.mulG x :: P.drop (t + 1) := by
    rw [← hPt, ← List.drop_eq_getElem_cons ht, List.take_append_drop]
  rw [List.set_eq_take_append_cons_drop, if_pos htS]
  rw [hPsplit]
  obtain ⟨tmp', h1, h2, h3, h4⟩ := verifyRing_append_of_walk2 m i (Pt.mulG x :: P.drop (t + 1))
    (Sc.add (Sc.neg (Sc.mul ens x)) k :: S.drop (t + 1)) (by simp) (P.take t) (S.take t) 0
    (hash m e0 i 0) ens (by simp [List.length_take, hlen])
    (fun p hp => hP p (List.mem_of_mem_take hp)) hS1 hov hnz hw2
  obtain ⟨ev1, h5⟩ := h4 ev
  rw [h5]
  have hlt : (P.take t).length = t := by simp [List.length_take]; omega
  have hmx : ¬ (Pt.mulG x).isInf = true := by
    rw [Pt.isInf_iff]
    exact hP _ (hPt ▸ List.getElem_mem ht)
  have hc' : ¬ ((Sc.setB32 tmp').2 = true ∨ Sc.add (Sc.neg (Sc.mul ens x)) k = 0 ∨
      (Sc.setB32 tmp').1 = 0 ∨ (Pt.mulG x).isInf = true) := by
    intro h
    rcases h with h | h | h | h
    · simp [h1] at h
    · exact hsv h
    · exact h3 (h2 ▸ h)
    · exact hmx h
  have hens : ens < N := h2 ▸ Sc.setB32_fst_lt tmp'
  -- at `t` the verifier computes `ens•(x•G) + (k − ens·x)•G = k•G` (`close_ring`): the point phase 1 started from
  rw [verifyRing_cons, if_neg hc', h2, close_ring hens hx hk, if_neg hR, hlt, Nat.zero_add]
  by_cases hnil : P.drop (t + 1) = []
  · rw [hnil] at hw1
    simp only [walk, Option.some.injEq] at hw1
    exact ⟨_, by rw [if_pos hnil, hw1]⟩
  · rw [if_neg hnil]
    exact verifyRing_of_walk m i _ _ _ _ _ hnil (by simp [List.length_drop, hlen])
      (fun p hp => hP p (List.mem_of_mem_drop hp)) hS2 hw1 _

end

theorem phase1_cons (s : List Nat) (pubs : List Pt) (m : Bytes) (rs si ki : Nat) (rest : List (Nat × Nat × Nat))
    (i count : Nat) (acc : Bytes) :
    sign.phase1 s pubs m ((rs, si, ki) :: rest) i count acc =
      if Pt.mulG ki = .inf then none else
      (walk m i (si + 1) ((pubs.drop (count + si + 1)).take (rs - si - 1))
          ((s.drop (count + si + 1)).take (rs - si - 1)) (Codec.serialize33 (Pt.mulG ki))).bind fun last =>
        sign.phase1 s pubs m rest (i + 1) (count + rs) (acc ++ last) := by
  rw [sign.phase1]
  split
  · next h => simp [h]
  · next r h2 =>
    have : ¬ (Pt.mulG ki = .inf) := h2
    rw [if_neg this]
    cases walk m i (si + 1) _ _ _ <;> rfl

theorem phase2_cons (pubs : List Pt) (m e0 : Bytes) (rs si ki seci : Nat) (rest : List (Nat × Nat × Nat × Nat))
    (i count : Nat) (sOut : List Nat) :
    sign.phase2 pubs m e0 ((rs, si, ki, seci) :: rest) i count sOut =
      if (Sc.setB32 (hash m e0 i 0)).2 = true ∨ (Sc.setB32 (hash m e0 i 0)).1 = 0 then none else
      (sign.walk2 m i 0 ((pubs.drop count).take si) ((sOut.drop count).take si) (Sc.setB32 (hash m e0 i 0)).1).bind
        fun ens =>
        if Sc.add (Sc.neg (Sc.mul ens seci)) ki = 0 then none else
        sign.phase2 pubs m e0 rest (i + 1) (count + rs)
          (sOut.set (count + si) (Sc.add (Sc.neg (Sc.mul ens seci)) ki)) := by
  rw [sign.phase2]
  generalize Sc.setB32 (hash m e0 i 0) = q
  obtain ⟨a, b⟩ := q
  dsimp only
  cases sign.walk2 m i 0 _ _ a <;> rfl

theorem phase2_cons_some {pubs : List Pt} {m e0 : Bytes} {rs si ki seci : Nat} {rest : List (Nat × Nat × Nat × Nat)}
    {i count : Nat} {sCur sOut : List Nat}
    (h : sign.phase2 pubs m e0 ((rs, si, ki, seci) :: rest) i count sCur = some sOut) :
    ¬ ((Sc.setB32 (hash m e0 i 0)).2 = true ∨ (Sc.setB32 (hash m e0 i 0)).1 = 0) ∧ ∃ ens,
      sign.walk2 m i 0 ((pubs.drop count).take si) ((sCur.drop count).take si) (Sc.setB32 (hash m e0 i 0)).1 = some ens ∧
      Sc.add (Sc.neg (Sc.mul ens seci)) ki ≠ 0 ∧
      sign.phase2 pubs m e0 rest (i + 1) (count + rs) (sCur.set (count + si) (Sc.add (Sc.neg (Sc.mul ens seci)) ki)) =
        some sOut := by
  simpa only [phase2_cons, Option.ite_none_left_eq_some, Option.bind_eq_some_iff] using h

theorem phase2_take (pubs : List Pt) (m e0 : Bytes) :
    ∀ (rings : List (Nat × Nat × Nat × Nat)) (i count : Nat) (sCur sOut : List Nat),
      sign.phase2 pubs m e0 rings i count sCur = some sOut →
      sOut.take count = sCur.take count ∧ sOut.length = sCur.length := by
  intro rings
  induction rings with
  | nil => intro i count sCur sOut h; simp [sign.phase2] at h; subst h; simp
  | cons r rest ih =>
    intro i count sCur sOut h
    obtain ⟨rs, si, ki, seci⟩ := r
    obtain ⟨-, ens, -, -, h⟩ := phase2_cons_some h
    obtain ⟨h1, h2⟩ := ih _ _ _ _ h
    constructor
    · have := congrArg (List.take count) h1
      rw [List.take_take, List.take_take, Nat.min_eq_left (by omega)] at this
      rw [this, List.take_set_of_le (by omega)]
    · simpa using h2

/-- What completeness assumes of the signer's inputs, for the rings from flat offset `count` on.  The `∀ j` conjunct is
    about the forged scalars (every position of the ring except the secret one): the signer never tests them for zero,
    the verifier rejects a zero among them. -/
def Consistent (pubs : List Pt) (s : List Nat) : (count : Nat) → (rsizes secidx k sec : List Nat) → Prop
  | _, [], [], [], [] => True
  | count, rs :: rsizes, si :: secidx, ki :: k, xi :: sec =>
      si < rs ∧ count + rs ≤ pubs.length ∧ count + rs ≤ s.length ∧ xi < N ∧ ki < N ∧
      pubs[count + si]? = some (Pt.mulG xi) ∧
      (∀ j, j < rs → j ≠ si → s[count + j]? ≠ some 0) ∧
      Consistent pubs s (count + rs) rsizes secidx k sec
  | _, _, _, _, _ => False

theorem getElem?_take_drop {α} (l : List α) (c rs t : Nat) (h : t < rs) :
    ((l.drop c).take rs)[t]? = l[c + t]? := by
  rw [List.getElem?_take, if_pos h, List.getElem?_drop]

section
variable [HasGroupLaw]

/-- The rings from ring `i` at flat offset `count`.  `sCur` is the scalar array as phase 2 finds it: rings before `count`
    closed, from `count` on still the forged `s`.  Phase 1 appended `suf` (one serialised last `R` per remaining ring) to
    its accumulator; the verifier, run on phase 2's output, appends the same `suf` to its own, so both hash the same
    bytes into `e0`.  `ev` is the verifier's record of challenges for the rewinder, of no interest here: hence
    `∀ ev, ∃ ev'`. -/
theorem go_of_phases (pubs : List Pt) (s : List Nat) (m e0 : Bytes) (hP : ∀ p ∈ pubs, p ≠ .inf) :
    ∀ (rsizes secidx k sec : List Nat) (i count : Nat) (sCur sOut : List Nat) (acc acc1 vacc : Bytes),
      Consistent pubs s count rsizes secidx k sec →
      sCur.length = s.length → sCur.drop count = s.drop count →
      sign.phase1 s pubs m (List.zip rsizes (List.zip secidx k)) i count acc = some acc1 →
      sign.phase2 pubs m e0 (List.zip rsizes (List.zip secidx (List.zip k sec))) i count sCur = some sOut →
      ∃ suf, acc1 = acc ++ suf ∧ ∀ ev, ∃ ev',
        verify.go e0 m rsizes i (sOut.drop count) (pubs.drop count) vacc ev = some (vacc ++ suf, ev') := by
  intro rsizes
  induction rsizes with
  | nil =>
    intro secidx k sec i count sCur sOut acc acc1 vacc _ _ _ h1 _
    simp [sign.phase1] at h1
    exact ⟨[], by simp [h1], fun ev => ⟨ev, by simp [verify.go]⟩⟩
  | cons rs rest ih =>
    intro secidx k sec i count sCur sOut acc acc1 vacc hc hlen hdrop h1 h2
    match secidx, k, sec, hc with
    | si :: secidx, ki :: k, xi :: sec, hc =>
      obtain ⟨hsi, hpl, hsl, hx, hk, hkey, hforged, hrest⟩ := hc
      simp only [List.zip_cons_cons] at h1 h2
      rw [phase1_cons, Option.ite_none_left_eq_some, Option.bind_eq_some_iff] at h1
      obtain ⟨hR, last, hw1, h1⟩ := h1
      obtain ⟨hc0, ens, hw2, hsv, h2⟩ := phase2_cons_some h2
      -- the slices phases 1 and 2 took of `pubs`, `s`, `sCur` are slices of this ring, `(·.drop count).take rs`, of which
      -- `ring_complete` speaks
      have hS : (sCur.drop count).take si = ((s.drop count).take rs).take si := by
        rw [hdrop, List.take_take, Nat.min_eq_left (by omega)]
      have hPt : (pubs.drop count).take si = ((pubs.drop count).take rs).take si := by
        rw [List.take_take, Nat.min_eq_left (by omega)]
      have hPd : (pubs.drop (count + si + 1)).take (rs - si - 1) = ((pubs.drop count).take rs).drop (si + 1) := by
        rw [List.drop_take, List.drop_drop]; congr 1
      have hSd : (s.drop (count + si + 1)).take (rs - si - 1) = ((s.drop count).take rs).drop (si + 1) := by
        rw [List.drop_take, List.drop_drop]; congr 1
      rw [hPd, hSd] at hw1
      rw [hS, hPt] at hw2
      have hov : (Sc.setB32 (hash m e0 i 0)).2 = false := Bool.eq_false_iff.mpr fun h => hc0 (Or.inl h)
      have hring := ring_complete m e0 i ((pubs.drop count).take rs) ((s.drop count).take rs) si xi ki ens last
        (by simp [List.length_take, List.length_drop]; omega)
        (by simp [List.length_take, List.length_drop]; omega)
        (fun p hp => hP p (List.mem_of_mem_drop (List.mem_of_mem_take hp)))
        (by
          intro x hx
          obtain ⟨j, hj, rfl⟩ := List.mem_iff_getElem.mp hx
          simp only [List.length_take, List.length_drop] at hj
          intro h0
          apply hforged j (by omega) (by omega)
          rw [← getElem?_take_drop s count rs j (by omega), ← h0]
          rw [List.getElem?_eq_getElem (by simp [List.length_take, List.length_drop]; omega)]
          simp [List.getElem_take])
        (by
          intro x hx
          obtain ⟨j, hj, rfl⟩ := List.mem_iff_getElem.mp hx
          simp only [List.length_take, List.length_drop] at hj
          intro h0
          apply hforged (si + 1 + j) (by omega) (by omega)
          rw [← getElem?_take_drop s count rs (si + 1 + j) (by omega), ← h0]
          rw [List.getElem?_eq_getElem (by simp [List.length_take, List.length_drop]; omega)]
          simp [List.getElem_drop])
        hx hk (by rw [getElem?_take_drop _ _ _ _ hsi]; exact hkey) hR hw1 hov (fun h => hc0 (Or.inr h)) hw2 hsv
      -- later rings write only at positions ≥ `count + rs` (`phase2_take`): `sOut` still holds this ring's closing scalar
      obtain ⟨hpre, hlen2⟩ := phase2_take _ _ _ _ _ _ _ _ h2
      obtain ⟨suf, hs1, hs2⟩ := ih secidx k sec (i + 1) (count + rs) _ sOut (acc ++ last) acc1 (vacc ++ last) hrest
        (by simpa using hlen) (by rw [List.drop_set_of_lt (by omega)]; rw [← List.drop_drop, ← List.drop_drop, hdrop]) h1 h2
      refine ⟨last ++ suf, by simp [hs1], fun ev => ?_⟩
      obtain ⟨ev1, hring⟩ := hring []
      obtain ⟨ev', hs2⟩ := hs2 (ev ++ ev1)
      refine ⟨ev', ?_⟩
      have hsOut : (sOut.drop count).take rs =
          ((s.drop count).take rs).set si (Sc.add (Sc.neg (Sc.mul ens xi)) ki) := by
        rw [List.take_drop, hpre, ← List.take_drop, List.drop_set, if_neg (by omega), hdrop, List.take_set]
        congr 1; omega
      rw [verify.go, if_neg (by omega), hsOut, hring]
      simp only [List.drop_drop]
      rw [List.append_assoc] at hs2
      exact hs2

end

theorem sign_eq_some {s : List Nat} {pubs : List Pt} {k sec rsizes secidx : List Nat} {m e0 : Bytes} {sOut : List Nat}
    (h : sign s pubs k sec rsizes secidx m = some (e0, sOut)) :
    ∃ acc, sign.phase1 s pubs m (List.zip rsizes (List.zip secidx k)) 0 0 [] = some acc ∧
      Sha256.sha256 (acc ++ m) = e0 ∧
      sign.phase2 pubs m e0 (List.zip rsizes (List.zip secidx (List.zip k sec))) 0 0 s = some sOut := by
  rw [sign] at h
  simp only [] at h
  split at h
  · simp at h
  next acc h1 =>
  split at h
  · simp at h
  next sO h2 =>
  simp only [Option.some.injEq, Prod.mk.injEq] at h
  obtain ⟨he0, hs⟩ := h
  subst he0 hs
  exact ⟨acc, h1, rfl, h2⟩

/-- `hP` and the non-zero conjunct of `Consistent` cannot be dropped: the C verifier (and the model) rejects a zero scalar
    or an infinite key at ANY position, while the signer tests neither (`borromean_zero_forged_scalar` below).
    `0 < sec[i]` is not assumed: the key at the secret position is not infinity. -/
theorem borromean_complete (m : Bytes) (rsizes secidx k sec s : List Nat) (pubs : List Pt) (e0 : Bytes) (sOut : List Nat)
    (hP : ∀ p ∈ pubs, p ≠ .inf) (hc : Consistent pubs s 0 rsizes secidx k sec)
    (hsign : sign s pubs k sec rsizes secidx m = some (e0, sOut)) :
    (verify e0 sOut pubs rsizes m).1 = true := by
  have : HasGroupLaw := ⟨groupLaw⟩
  obtain ⟨acc, h1, rfl, h2⟩ := sign_eq_some hsign
  obtain ⟨suf, hs1, hs2⟩ := go_of_phases pubs s m _ hP rsizes secidx k sec 0 0 s sOut [] acc [] hc rfl rfl h1 h2
  obtain ⟨ev, hgo⟩ := hs2 []
  simp only [List.drop_zero, List.nil_append] at hs1 hgo
  subst hs1
  simp [verify, hgo]

/-- example keys: ring 0 = `{5•G, 11•G}` (signer knows 5), ring 1 = `{7•G}` -/
def exPubs : List Pt := [Pt.mulG 5, Pt.mulG 11, Pt.mulG 7]
def exMsg : Bytes := Bytes.zeros 32

theorem exSign_verifies : (sign [0, 3, 0] exPubs [9, 13] [5, 7] [2, 1] [0, 0] exMsg).map
    (fun r => (verify r.1 r.2 exPubs [2, 1] exMsg).1) = some true := by decide +kernel

/-- The hypotheses of `borromean_complete` are satisfiable (ring sizes 2 and 1, forged scalar 3, nonces 9 and 13). -/
example : ∃ e0 sOut, sign [0, 3, 0] exPubs [9, 13] [5, 7] [2, 1] [0, 0] exMsg = some (e0, sOut) ∧
    (∀ p ∈ exPubs, p ≠ .inf) ∧ Consistent exPubs [0, 3, 0] 0 [2, 1] [0, 0] [9, 13] [5, 7] := by
  obtain ⟨⟨e0, sOut⟩, h', -⟩ := Option.map_eq_some_iff.mp exSign_verifies
  refine ⟨e0, sOut, h', by decide +kernel, ?_⟩
  unfold Consistent
  refine ⟨by decide, by decide, by decide, by decide +kernel, by decide +kernel, by decide +kernel, by decide, ?_⟩
  unfold Consistent
  refine ⟨by decide, by decide, by decide, by decide +kernel, by decide +kernel, by decide +kernel, by decide, ?_⟩
  trivial

example : (sign [0, 3, 0] exPubs [9, 13] [5, 7] [2, 1] [0, 0] exMsg).map
    (fun r => (verify r.1 r.2 exPubs [2, 1] exMsg).1) = some true := exSign_verifies

/-- With the forged scalar of ring 0 equal to 0 the signer still succeeds but the verifier rejects the result
    (`secp256k1_scalar_is_zero(&s[count])` in `secp256k1_borromean_verify`). -/
theorem borromean_zero_forged_scalar :
    (sign [0, 0, 0] exPubs [9, 13] [5, 7] [2, 1] [0, 0] exMsg).map
      (fun r => (verify r.1 r.2 exPubs [2, 1] exMsg).1) = some false := by decide +kernel

end Borromean
end SecpZkp
