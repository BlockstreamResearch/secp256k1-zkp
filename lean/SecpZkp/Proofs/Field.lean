import Mathlib.Tactic.Ring
import Mathlib.Tactic.LinearCombination
import Mathlib.Tactic.FieldSimp
import SecpZkp.Proofs.Scalar
import Mathlib.NumberTheory.LegendreSymbol.QuadraticChar.Basic
/-
  The Nat-level field arithmetic of `Model/Field.lean` refines arithmetic in `ZMod P`; squares modulo `P`.

  Primality of `P` is taken as a hypothesis (`[Fact (Nat.Prime P)]`); it is proved in `Proofs/Prime.lean`.
-/
namespace SecpZkp

theorem Fe.eq_of_cast_eq {a b : ℕ} (ha : a < P) (hb : b < P) (h : (a : ZMod P) = b) : a = b :=
  Field.eq_of_cast_eq ha hb h

theorem Fe.cast_eq_zero_iff (a : ℕ) : (a : ZMod P) = 0 ↔ a % P = 0 :=
  Field.cast_eq_zero_iff a

theorem cast_ne_zero_of_mod {a : ℕ} (h : a % P ≠ 0) : (a : ZMod P) ≠ 0 :=
  fun h0 => h ((Fe.cast_eq_zero_iff a).1 h0)

theorem mod_ne_zero_of_cast {a : ℕ} (h : (a : ZMod P) ≠ 0) : a % P ≠ 0 :=
  fun h0 => h ((Fe.cast_eq_zero_iff a).2 h0)

namespace Fe

theorem add_lt_P (a b : ℕ) : Fe.add a b < P := Nat.mod_lt _ P_pos
theorem sub_lt_P (a b : ℕ) : Fe.sub a b < P := Nat.mod_lt _ P_pos
theorem mul_lt_P (a b : ℕ) : Fe.mul a b < P := Nat.mod_lt _ P_pos
theorem sqr_lt_P (a : ℕ) : Fe.sqr a < P := Nat.mod_lt _ P_pos
theorem inv_lt_P (a : ℕ) : Fe.inv a < P := powMod_lt P_pos

@[simp] theorem cast_add (a b : ℕ) : ((Fe.add a b : ℕ) : ZMod P) = (a : ZMod P) + b := by
  simp [Fe.add]

@[simp] theorem cast_mul (a b : ℕ) : ((Fe.mul a b : ℕ) : ZMod P) = (a : ZMod P) * b := by
  simp [Fe.mul]

@[simp] theorem cast_sqr (a : ℕ) : ((Fe.sqr a : ℕ) : ZMod P) = (a : ZMod P) * a := by
  simp [Fe.sqr]

@[simp] theorem cast_neg (a : ℕ) : ((Fe.neg a : ℕ) : ZMod P) = -(a : ZMod P) := by
  have h : a % P ≤ P := (Nat.mod_lt _ P_pos).le
  simp [Fe.neg, Nat.cast_sub h]

@[simp] theorem cast_sub (a b : ℕ) : ((Fe.sub a b : ℕ) : ZMod P) = (a : ZMod P) - b := by
  have h : b % P ≤ P := (Nat.mod_lt _ P_pos).le
  simp [Fe.sub, Nat.cast_sub h, sub_eq_add_neg]

theorem neg_eq_of_pos {a : ℕ} (h0 : 0 < a) (ha : a < P) : Fe.neg a = P - a := by
  unfold Fe.neg
  rw [Nat.mod_eq_of_lt ha, Nat.mod_eq_of_lt (by omega)]

theorem neg_zero_eq : Fe.neg 0 = 0 := by decide

theorem isOdd_neg_of_pos {a : ℕ} (h0 : 0 < a) (ha : a < P) : Fe.isOdd (Fe.neg a) = !Fe.isOdd a := by
  have hP := P_odd
  rw [neg_eq_of_pos h0 ha, Fe.isOdd, Fe.isOdd, ← decide_not, decide_eq_decide]
  omega

theorem half_lt_P {a : ℕ} (ha : a < P) : Fe.half a < P := by
  unfold Fe.half
  split <;> omega

end Fe

theorem Fe.add_eq_zero_iff_cast (a b : ℕ) : Fe.add a b = 0 ↔ (a : ZMod P) + b = 0 := by
  rw [← Fe.cast_add, Fe.cast_eq_zero_iff, Nat.mod_eq_of_lt (Fe.add_lt_P a b)]

theorem Fe.inv_zero_eq : Fe.inv 0 = 0 := by decide +kernel
theorem Fe.inv_one_eq : Fe.inv 1 = 1 := by decide +kernel

section PrimeP
variable [Fact (Nat.Prime P)]

@[simp] theorem Fe.cast_inv (a : ℕ) : ((Fe.inv a : ℕ) : ZMod P) = (a : ZMod P)⁻¹ :=
  Field.cast_inv (by decide) (Field.lt_pow_520 (by decide +kernel)) a


theorem Fe.mul_inv_self {a : ℕ} (h : a % P ≠ 0) : Fe.mul a (Fe.inv a) = 1 := by
  apply Fe.eq_of_cast_eq (Fe.mul_lt_P _ _) (by decide)
  rw [Fe.cast_mul, Fe.cast_inv, mul_inv_cancel₀ (cast_ne_zero_of_mod h), Nat.cast_one]

theorem Fe.cast_half (a : ℕ) : ((Fe.half a : ℕ) : ZMod P) = (a : ZMod P) * (2 : ZMod P)⁻¹ := by
  rw [← Field.two_mul_cast_half P_odd a]
  field_simp [Field.two_ne_zero P_odd]
  rfl

theorem Fe.sqrtCand_sq_of_isSquare {a : ℕ} (h : IsSquare (a : ZMod P)) :
    ((Fe.sqrtCand a : ℕ) : ZMod P) * (Fe.sqrtCand a : ℕ) = a := by
  unfold Fe.sqrtCand
  rw [Field.cast_powMod a _ (Field.lt_pow_520 (by decide +kernel))]
  obtain ⟨b, hb⟩ := h
  rw [hb]
  by_cases h0 : b = 0
  · subst h0; rw [mul_zero, zero_pow (by decide), mul_zero]
  · have h1 : b ^ (P - 1) = 1 := ZMod.pow_card_sub_one_eq_one h0
    have e : (P + 1) / 4 * 2 * 2 = (P - 1) + 2 := by decide
    calc (b * b) ^ ((P + 1) / 4) * (b * b) ^ ((P + 1) / 4)
        = b ^ ((P + 1) / 4 * 2 * 2) := by ring
      _ = b ^ (P - 1) * b ^ 2 := by rw [e, pow_add]
      _ = b * b := by rw [h1]; ring

theorem Fe.isSquare_iff (a : ℕ) : Fe.isSquare a = true ↔ IsSquare (a : ZMod P) := by
  unfold Fe.isSquare
  rw [decide_eq_true_iff]
  constructor
  · intro h
    refine ⟨((Fe.sqrtCand a : ℕ) : ZMod P), ?_⟩
    have := congrArg (Nat.cast : ℕ → ZMod P) h
    rw [Fe.cast_sqr, ZMod.natCast_mod] at this
    exact this.symm
  · intro h
    apply Fe.eq_of_cast_eq (Fe.sqr_lt_P _) (Nat.mod_lt _ P_pos)
    rw [Fe.cast_sqr, ZMod.natCast_mod]
    exact Fe.sqrtCand_sq_of_isSquare h

theorem Fe.sqrt_eq_some_iff (a r : ℕ) :
    Fe.sqrt a = some r ↔ r = Fe.sqrtCand a ∧ IsSquare (a : ZMod P) := by
  rw [← Fe.isSquare_iff]
  unfold Fe.sqrt Fe.isSquare
  simp only [decide_eq_true_eq]
  split <;> simp_all [eq_comm]

theorem Fe.sqrt_eq_none_iff (a : ℕ) : Fe.sqrt a = none ↔ ¬ IsSquare (a : ZMod P) := by
  rw [← Fe.isSquare_iff]
  unfold Fe.sqrt Fe.isSquare
  simp only [decide_eq_true_eq]
  split <;> simp_all

theorem Fe.sqrt_some {a r : ℕ} (h : Fe.sqrt a = some r) :
    r < P ∧ (r : ZMod P) * r = a ∧ Fe.sqr r = a % P := by
  obtain ⟨hr, hsq⟩ := (Fe.sqrt_eq_some_iff a r).1 h
  rw [hr]
  refine ⟨Fe.sqrtCand_lt_P a, Fe.sqrtCand_sq_of_isSquare hsq, ?_⟩
  have := (Fe.isSquare_iff a).2 hsq
  unfold Fe.isSquare at this
  exact of_decide_eq_true this

theorem Fe.sqrtCand_isSquare {a : ℕ} (h : IsSquare (a : ZMod P)) :
    IsSquare ((Fe.sqrtCand a : ℕ) : ZMod P) := by
  unfold Fe.sqrtCand
  rw [Field.cast_powMod a _ (Field.lt_pow_520 (by decide +kernel))]
  obtain ⟨b, hb⟩ := h
  refine ⟨b ^ ((P + 1) / 4), ?_⟩
  rw [hb]; ring

theorem neg_one_not_square : ¬ IsSquare (-1 : ZMod P) := by
  rw [FiniteField.isSquare_neg_one_iff, ZMod.card]
  exact fun h => h P_mod_four

theorem not_isSquare_neg {y : ZMod P} (hy : y ≠ 0) (h : IsSquare y) : ¬ IsSquare (-y) := fun h' =>
  neg_one_not_square (by simpa only [neg_div, div_self hy] using h'.div h)

theorem isSquare_mul_right_iff {x w : ZMod P} (hw : IsSquare w) (hw0 : w ≠ 0) :
    IsSquare (x * w) ↔ IsSquare x :=
  ⟨fun h => by rw [← mul_div_cancel_right₀ x hw0]; exact h.div hw, fun h => h.mul hw⟩

theorem isSquare_mul_iff {a b : ZMod P} (ha : a ≠ 0) (hb : b ≠ 0) :
    IsSquare (a * b) ↔ (IsSquare a ↔ IsSquare b) := by
  rw [← quadraticChar_one_iff_isSquare ha, ← quadraticChar_one_iff_isSquare hb,
    ← quadraticChar_one_iff_isSquare (mul_ne_zero ha hb), map_mul]
  rcases quadraticChar_dichotomy ha with h | h <;> rcases quadraticChar_dichotomy hb with h' | h' <;>
    rw [h, h'] <;> decide

end PrimeP


end SecpZkp
