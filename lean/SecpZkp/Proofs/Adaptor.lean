import SecpZkp.Model.Adaptor
import SecpZkp.Model.S2c
import SecpZkp.Model.Keys
import SecpZkp.Proofs.Algebra
import SecpZkp.Proofs.BytesBasic
import SecpZkp.Proofs.GroupLawProved
import SecpZkp.Proofs.GroupExtra
/-
  What the properties C14 (ECDSA adaptor signatures, `Model/Adaptor.lean`) and C15 (sign-to-contract / anti-exfil,
  `Model/S2c.lean` and the hook of `Ecdsa.signInner`) rest on.  For C14: the 162-byte layout, DLEQ completeness, and
  `encrypt`, `decrypt`, `recover` on honest input.  For C15: the two retry loops up to the first valid RFC 6979
  candidate, for every retry bound.  The group law is the proved one (`groupLaw`), installed as a local instance: no
  statement of this file carries a hypothesis about the curve.
-/
namespace SecpZkp
namespace AdaptorLemmas
open SecpZkp.Algebra Adaptor

local instance instGL : HasGroupLaw := ⟨groupLaw⟩


theorem setB32Seckey_fst_lt (b : Bytes) : (Sc.setB32Seckey b).1 < N := by
  simp only [Sc.setB32Seckey, Sc.setB32]; exact Nat.mod_lt _ N_pos

theorem setB32Seckey_true_iff (b : Bytes) :
    (Sc.setB32Seckey b).2 = true ↔ 0 < Bytes.toNat b ∧ Bytes.toNat b < N := by
  rw [Sc.setB32Seckey_eq, decide_eq_true_iff]

theorem serialize33_aff (x y : Nat) :
    Codec.serialize33 (Pt.aff x y) = (if Fe.isOdd y then (0x03 : UInt8) else 0x02) :: Bytes.be32 x := rfl

theorem serialize33_aff_length (x y : Nat) : (Codec.serialize33 (Pt.aff x y)).length = 33 := by
  simp [serialize33_aff]

theorem valid_iff_onCurve (x y : Nat) : (Pt.aff x y).valid = Pt.onCurveXY x y := rfl

theorem be32_inj {a b : Nat} (ha : a < 2 ^ 256) (hb : b < 2 ^ 256) (h : Bytes.be32 a = Bytes.be32 b) : a = b := by
  rw [← toNat_be32 ha, ← toNat_be32 hb, h]

theorem no_point_x_zero (y : Nat) : (Pt.aff 0 y).valid ≠ true := by
  intro h
  have h1 := liftX_of_valid h
  have h2 : ∀ b, Pt.liftX 0 b = none := by decide +kernel
  rw [h2] at h1; cases h1

theorem scAdd_neg_eq_zero {a e : Nat} (ha : a < N) (he : e < N) : Sc.add a (Sc.neg e) = 0 ↔ a = e := by
  rw [← cast_eq_zero (Sc.add_lt _ _), cast_add, cast_neg, ← sub_eq_add_neg, sub_eq_zero, Field.cast_eq_iff ha he]

/-- The five fields `R ‖ R' ‖ s' ‖ e ‖ s` of the 162-byte adaptor signature (`sigSerialize`), by the offsets at which
    `sigDeserialize` reads them. -/
theorem slices {α : Type} (A B C D E : List α) (hA : A.length = 33) (hB : B.length = 33)
    (hC : C.length = 32) (hD : D.length = 32) (hE : E.length = 32) :
    (A ++ B ++ C ++ D ++ E).take 33 = A ∧
    ((A ++ B ++ C ++ D ++ E).drop 33).take 33 = B ∧
    ((A ++ B ++ C ++ D ++ E).drop 66).take 32 = C ∧
    ((A ++ B ++ C ++ D ++ E).drop 98).take 32 = D ∧
    ((A ++ B ++ C ++ D ++ E).drop 130).take 32 = E := by
  simp only [List.append_assoc]
  refine ⟨List.take_left' hA, ?_, ?_, ?_, ?_⟩
  · rw [List.drop_left' hA]; exact List.take_left' hB
  · rw [show 66 = 33 + 33 from rfl, ← List.drop_drop, List.drop_left' hA, List.drop_left' hB]
    exact List.take_left' hC
  · rw [show 98 = 33 + (33 + 32) from rfl, ← List.drop_drop, ← List.drop_drop, List.drop_left' hA,
      List.drop_left' hB, List.drop_left' hC]
    exact List.take_left' hD
  · rw [show 130 = 33 + (33 + (32 + 32)) from rfl, ← List.drop_drop, ← List.drop_drop, ← List.drop_drop,
      List.drop_left' hA, List.drop_left' hB, List.drop_left' hC, List.drop_left' hD]
    rw [← hE]; exact List.take_length

theorem sigSerialize_length (rx ry px py sp e s : Nat) :
    (sigSerialize (Pt.aff rx ry) (Pt.aff px py) sp e s).length = 162 := by
  simp [sigSerialize, serialize33_aff]

theorem sigSerialize_sigr (rx ry : Nat) (rp : Pt) (sp e s : Nat) :
    ((sigSerialize (Pt.aff rx ry) rp sp e s).drop 1).take 32 = Bytes.be32 rx := by
  simp only [sigSerialize, serialize33_aff, List.append_assoc, List.cons_append, List.drop_succ_cons, List.drop_zero]
  exact List.take_left' (Bytes.be32_length _)

/-- `sigDeserialize` without the DLEQ part (`false`, as `decrypt` and `recover` call it) reads only `sigr = x(R) mod n`
    and `s'`; the two points and the proof scalars stay at their defaults. -/
theorem deser_part {rx ry px py sp e s : Nat} (hrx : rx < 2 ^ 256) (hsigr : rx % N ≠ 0) (hsp0 : 0 < sp)
    (hsp : sp < N) :
    sigDeserialize false (sigSerialize (Pt.aff rx ry) (Pt.aff px py) sp e s) =
      some ⟨Pt.inf, rx % N, Pt.inf, sp, 0, 0⟩ := by
  obtain ⟨h1, h2, h3, h4, h5⟩ := slices (Codec.serialize33 (Pt.aff rx ry)) (Codec.serialize33 (Pt.aff px py))
    (Bytes.be32 sp) (Bytes.be32 e) (Bytes.be32 s) (serialize33_aff_length _ _) (serialize33_aff_length _ _)
    (Bytes.be32_length _) (Bytes.be32_length _) (Bytes.be32_length _)
  unfold sigDeserialize
  rw [sigSerialize_sigr]
  unfold sigSerialize
  rw [h3, toNat_be32 hrx, Sc.setB32Seckey_be32 hsp0 hsp]
  simp [hsigr]

theorem dleqChallenge_lt (g r1 r2 p1 p2 : Pt) : dleqChallenge g r1 r2 p1 p2 < N := Nat.mod_lt _ N_pos

theorem dleqProve_some {sk : Nat} {p1 g2 p2 : Pt} {nf : Option NonceFnA} {nd : Option Bytes} {s e : Nat}
    (h : dleqProve sk p1 g2 p2 nf nd = some (s, e)) :
    ∃ k, 0 < k ∧ k < N ∧
      dleqNonce (Bytes.be32 sk) (Codec.serialize33 g2) (Codec.serialize33 p1) (Codec.serialize33 p2)
        (nf.getD nonceDefault) nd = some k ∧
      e = dleqChallenge g2 (Pt.mulG k) (Pt.mul k g2) p1 p2 ∧ s = Sc.add (Sc.mul e sk) k := by
  unfold dleqProve at h
  simp only [] at h
  cases hn : dleqNonce (Bytes.be32 sk) (Codec.serialize33 g2) (Codec.serialize33 p1) (Codec.serialize33 p2)
      (nf.getD nonceDefault) nd with
  | none => rw [hn] at h; cases h
  | some k =>
    rw [hn] at h
    simp only [dleqPair, Option.some.injEq, Prod.mk.injEq] at h
    have hk : 0 < k ∧ k < N := by
      unfold dleqNonce at hn
      simp only [] at hn
      split at hn
      · cases hn
      · split at hn
        · cases hn
        · next hk0 =>
          cases hn
          exact ⟨Nat.pos_of_ne_zero hk0, Nat.mod_lt _ N_pos⟩
    obtain ⟨h1, h2⟩ := h
    subst h2
    exact ⟨k, hk.1, hk.2, rfl, rfl, h1.symm⟩

theorem dleq_points {x y k e : Nat} (hx : x < N) (hy : y < N) (hk : k < N) :
    Pt.add (Pt.mul (Sc.neg e) (Pt.mulG x)) (Pt.mulG (Sc.add (Sc.mul e x) k)) = Pt.mulG k ∧
    Pt.add (Pt.mul (Sc.add (Sc.mul e x) k) (Pt.mulG y)) (Pt.mul (Sc.neg e) (Pt.mul x (Pt.mulG y))) =
      Pt.mul k (Pt.mulG y) := by
  rw [mulG_gmul hx, mulG_gmul hy, mulG_gmul hk, mulG_gmul (Sc.add_lt _ _), mul_gmul' hx,
    mul_gmul' (Sc.neg_lt_N _), mul_gmul' (Sc.neg_lt_N _), mul_gmul' (Sc.add_lt _ _), mul_gmul' hk, add_gmul, add_gmul]
  constructor <;> apply gmul_congr <;> simp only [cast_add, cast_mul, cast_neg] <;> ring

/-- `P1 = x•G`, `P2 = x•Y`, `Y = y•G`; the proof is `(e·x + k, e)`, `e` the challenge of the commitments `(k•G, k•Y)`. -/
theorem dleqVerify_complete {x y k : Nat} (hx : x < N) (hy0 : 0 < y) (hy : y < N) (hk0 : 0 < k) (hk : k < N) :
    dleqVerify
      (Sc.add (Sc.mul (dleqChallenge (Pt.mulG y) (Pt.mulG k) (Pt.mul k (Pt.mulG y)) (Pt.mulG x)
        (Pt.mul x (Pt.mulG y))) x) k)
      (dleqChallenge (Pt.mulG y) (Pt.mulG k) (Pt.mul k (Pt.mulG y)) (Pt.mulG x) (Pt.mul x (Pt.mulG y)))
      (Pt.mulG x) (Pt.mulG y) (Pt.mul x (Pt.mulG y)) = true := by
  generalize he : dleqChallenge (Pt.mulG y) (Pt.mulG k) (Pt.mul k (Pt.mulG y)) (Pt.mulG x)
    (Pt.mul x (Pt.mulG y)) = e
  have heN : e < N := he ▸ dleqChallenge_lt _ _ _ _ _
  obtain ⟨h1, h2⟩ := dleq_points (e := e) hx hy hk
  unfold dleqVerify
  simp only []
  rw [h1, h2]
  have hkG : Pt.mulG k ≠ Pt.inf := mulG_ne_inf hk0 hk
  have hkY : Pt.mul k (Pt.mulG y) ≠ Pt.inf := by
    rw [mulG_gmul hy, mul_gmul' hk]
    exact gmul_ne_inf (mul_ne_zero (cast_ne_zero hk0 hk) (cast_ne_zero hy0 hy))
  simp only [Bool.or_eq_true, Pt.isInf_iff, hkG, hkY, or_self, if_false, he, decide_eq_true_eq]
  exact (scAdd_neg_eq_zero heN heN).2 rfl

/-- `s' = k⁻¹(m + r·d)` -/
def spOf (k d m r : Nat) : Nat := Sc.mul (Sc.inv k) (Sc.add (Sc.mul r d) m)

theorem spOf_lt (k d m r : Nat) : spOf k d m r < N := Sc.mul_lt _ _

theorem encrypt_one {sk32 : Bytes} {yx yy : Nat} {msg32 : Bytes} {nf : Option NonceFnA} {nd : Option Bytes}
    (h : (encrypt sk32 (Pt.aff yx yy) msg32 nf nd).ret = 1) :
    ∃ k ds de nonce32, 0 < k ∧ k < N ∧
      (nf.getD nonceDefault) msg32 sk32 (Codec.serialize33 (Pt.aff yx yy)) adaptorAlgo nd = some nonce32 ∧
      k = Bytes.toNat nonce32 % N ∧
      dleqProve k (Pt.mulG k) (Pt.aff yx yy) (Pt.mul k (Pt.aff yx yy)) (some (nf.getD nonceDefault)) nd
        = some (ds, de) ∧
      (Sc.setB32Seckey sk32).2 = true ∧
      (Pt.mul k (Pt.aff yx yy)).xOf % N ≠ 0 ∧
      spOf k (Sc.setB32Seckey sk32).1 (Bytes.toNat msg32 % N) ((Pt.mul k (Pt.aff yx yy)).xOf % N) ≠ 0 ∧
      encrypt sk32 (Pt.aff yx yy) msg32 nf nd =
        ⟨1, some (sigSerialize (Pt.mul k (Pt.aff yx yy)) (Pt.mulG k)
          (spOf k (Sc.setB32Seckey sk32).1 (Bytes.toNat msg32 % N) ((Pt.mul k (Pt.aff yx yy)).xOf % N)) de ds), 0⟩ := by
  unfold encrypt at h ⊢
  simp only [] at h ⊢
  -- apart from a failing DLEQ proof `encrypt` does not return early, it accumulates flags (`ret &= …` in C); `ret = 1` forces each, in
  -- the order of the code: nonce function (`hf`), `k ≠ 0` (`hk0`), DLEQ proof (`hp`), key (`hok`), `r ≠ 0` (`hr`), `s' ≠ 0` (`hs`)
  cases hf : (nf.getD nonceDefault) msg32 sk32 (Codec.serialize33 (Pt.aff yx yy)) adaptorAlgo nd with
  | none =>
    rw [hf] at h
    simp only [Bool.false_and, Bool.false_eq_true, if_false] at h
    split at h <;> simp at h
  | some nonce32 =>
    rw [hf] at h
    simp only [Bool.true_and] at h ⊢
    by_cases hk0 : Bytes.toNat nonce32 % N = 0
    · simp only [hk0, bne_self_eq_false, Bool.false_eq_true, if_false, Bool.false_and] at h
      split at h <;> simp at h
    · have hb : (Bytes.toNat nonce32 % N != 0) = true := by simpa using hk0
      simp only [hb, if_true, Bool.true_and] at h ⊢
      generalize hk : Bytes.toNat nonce32 % N = k at h hk0 ⊢
      have hkN : k < N := hk ▸ Nat.mod_lt _ N_pos
      cases hp : dleqProve k (Pt.mulG k) (Pt.aff yx yy) (Pt.mul k (Pt.aff yx yy)) (some (nf.getD nonceDefault)) nd with
      | none => rw [hp] at h; simp at h
      | some pr =>
        obtain ⟨ds, de⟩ := pr
        rw [hp] at h
        simp only [] at h ⊢
        by_cases hok : (Sc.setB32Seckey sk32).2 = true
        · simp only [hok, if_true, Bool.true_and] at h ⊢
          by_cases hr : (Pt.mul k (Pt.aff yx yy)).xOf % N = 0
          · simp [hr] at h
          · have hrb : ((Pt.mul k (Pt.aff yx yy)).xOf % N != 0) = true := by simpa using hr
            simp only [hrb, Bool.true_and] at h ⊢
            by_cases hs : Sc.mul (Sc.inv k) (Sc.add (Sc.mul ((Pt.mul k (Pt.aff yx yy)).xOf % N)
                (Sc.setB32Seckey sk32).1) (Bytes.toNat msg32 % N)) = 0
            · simp [hs] at h
            · have hsb : (Sc.mul (Sc.inv k) (Sc.add (Sc.mul ((Pt.mul k (Pt.aff yx yy)).xOf % N)
                (Sc.setB32Seckey sk32).1) (Bytes.toNat msg32 % N)) != 0) = true := by simpa using hs
              simp only [hsb, if_true]
              exact ⟨k, ds, de, nonce32, Nat.pos_of_ne_zero hk0, hkN, rfl, hk.symm, hp, trivial, hr, hs, rfl⟩
        · simp [hok] at h

theorem decrypt_honest {y rx ry px py sp e s : Nat} (hy0 : 0 < y) (hy : y < N) (hrx : rx < 2 ^ 256)
    (hr : rx % N ≠ 0) (hsp0 : 0 < sp) (hsp : sp < N) :
    decrypt (Bytes.be32 y) (sigSerialize (Pt.aff rx ry) (Pt.aff px py) sp e s) =
      (1, (rx % N, if Sc.isHigh (Sc.mul (Sc.inv y) sp) then Sc.neg (Sc.mul (Sc.inv y) sp)
        else Sc.mul (Sc.inv y) sp)) := by
  have : y ≠ 0 := by omega
  unfold decrypt
  rw [Sc.setB32_be32 hy, deser_part hrx hr hsp0 hsp]
  simp [this]

theorem recover_field {y sp s : ZMod N} (hy : y ≠ 0) (hsp : sp ≠ 0) (hs : s = y⁻¹ * sp ∨ s = -(y⁻¹ * sp)) :
    s⁻¹ * sp = y ∨ s⁻¹ * sp = -y := by
  rcases hs with rfl | rfl
  · left; field_simp
  · right; field_simp

theorem tag_ne_of_parity_ne {a b : Nat} (h : Fe.isOdd a = !Fe.isOdd b) :
    (if Fe.isOdd a = true then (0x03 : UInt8) else 0x02) ≠ (if Fe.isOdd b = true then (0x03 : UInt8) else 0x02) := by
  cases hb : Fe.isOdd b <;> rw [hb] at h <;> simp [h]

/-- `hc`: the candidate key `s⁻¹·s'` is `±y` for the encryption key `Y = y•G`.  The key is written also when the return
    value is 0 (wrong `r`, or `s = 0`). -/
theorem recover_core {a : Bytes} {p : Parts} (hdes : sigDeserialize false a = some p) {r s y yx yy : Nat}
    (hy : y < N) (hY : Pt.mulG y = Pt.aff yx yy)
    (hc : ((Sc.mul (Sc.inv s) p.sp : Nat) : ZMod N) = y ∨ ((Sc.mul (Sc.inv s) p.sp : Nat) : ZMod N) = -(y : ZMod N)) :
    recover (r, s) a (Pt.aff yx yy) =
      ⟨if ((p.sigr == r) && (s != 0)) = true then 1 else 0, some (Bytes.be32 y), 0⟩ := by
  have hYv : (Pt.aff yx yy).valid = true := hY ▸ mulG_valid (lt_mulBound_of_lt_N hy)
  unfold recover
  rw [hdes]
  simp only []
  generalize hcd : Sc.mul (Sc.inv s) p.sp = c at hc ⊢
  have hcN : c < N := hcd ▸ Sc.mul_lt _ _
  rcases hc with hc | hc
  · have : c = y := (Field.cast_eq_iff hcN hy).1 hc
    subst this
    rw [hY]
    simp
  · have hG : Pt.mulG c = Pt.aff yx (Fe.neg yy) := by
      rw [mulG_gmul hcN, hc]; exact gmul_pm ((mulG_gmul hy).symm.trans hY) true
    rw [hG]
    have hpar := isOdd_neg hYv
    have hneg : Sc.neg c = y := by
      apply (Field.cast_eq_iff (Sc.neg_lt_N _) hy).1
      rw [cast_neg, hc, neg_neg]
    simp only [serialize33_aff, List.drop_succ_cons, List.drop_zero, ne_eq, not_true_eq_false, if_false,
      List.take_succ_cons, List.take_zero, List.cons.injEq, and_true, tag_ne_of_parity_ne hpar,
      not_false_eq_true, if_true, hneg]

theorem sigSign_r {sec m k r s recid : Nat} (h : Ecdsa.sigSign sec m k = (true, r, s, recid)) :
    r = (Pt.mulG k).xOf % N := by
  unfold Ecdsa.sigSign at h
  split at h
  · simp at h
  · next x y hxy =>
    simp only [Prod.mk.injEq] at h
    rw [hxy]; exact h.2.1.symm

/-- `c` is the retry counter of the loop in `sign_inner` / `signer_commit`. -/
def InvalidAt (msg32 seckey nd : Bytes) (c : Nat) : Prop :=
  ∃ b, Ecdsa.rfc6979Nonce msg32 seckey none (some nd) c = some b ∧ (Sc.setB32Seckey b).2 = false

def ValidAt (msg32 seckey nd : Bytes) (c k0 : Nat) : Prop :=
  ∃ b, Ecdsa.rfc6979Nonce msg32 seckey none (some nd) c = some b ∧ Sc.setB32Seckey b = (k0, true)

/-- `ecdsa_sig_sign` produced `r = 0` or `s = 0` for the tweaked nonce: back to the top of the retry loop. -/
def retries (hook : Ecdsa.S2cHook) (sec m k0 : Nat) : Bool :=
  match Ecdsa.ecCommitTweak hook.sha (Pt.mulG k0) hook.data with
  | none => false
  | some tw =>
    match Ecdsa.seckeyTweakAddHelper k0 tw with
    | none => false
    | some k => !(Ecdsa.sigSign sec m k).1

/-- Not the negation of `retries`: both are `false` when the commitment hash or the tweaked nonce is out of range (the
    loop then fails without retrying). -/
def attemptOk (hook : Ecdsa.S2cHook) (sec m k0 : Nat) : Bool :=
  match Ecdsa.ecCommitTweak hook.sha (Pt.mulG k0) hook.data with
  | none => false
  | some tw =>
    match Ecdsa.seckeyTweakAddHelper k0 tw with
    | none => false
    | some k => (Ecdsa.sigSign sec m k).1

theorem retries_of_attemptOk {hook : Ecdsa.S2cHook} {sec m k0 : Nat} (h : attemptOk hook sec m k0 = true) :
    retries hook sec m k0 = false := by
  unfold attemptOk at h
  unfold retries
  cases htw : Ecdsa.ecCommitTweak hook.sha (Pt.mulG k0) hook.data with
  | none => rfl
  | some tw =>
    rw [htw] at h
    simp only [] at h ⊢
    cases hadd : Ecdsa.seckeyTweakAddHelper k0 tw with
    | none => rfl
    | some k =>
      rw [hadd] at h
      simp only [] at h ⊢
      simp [h]

theorem signerCommit_loop_skip (msg32 seckey nd : Bytes) :
    ∀ (d count fuel : Nat), (∀ c', count ≤ c' → c' < count + d → InvalidAt msg32 seckey nd c') →
      S2c.signerCommit.loop msg32 seckey nd (fuel + d) count = S2c.signerCommit.loop msg32 seckey nd fuel (count + d) := by
  intro d
  induction d with
  | zero => intros; rfl
  | succ d ih =>
    intro count fuel hinv
    obtain ⟨b, hb, hk⟩ := hinv count (le_refl _) (by omega)
    rw [show fuel + (d + 1) = fuel + d + 1 by omega, S2c.signerCommit.loop]
    simp only [hb]
    rw [show Sc.setB32Seckey b = ((Sc.setB32Seckey b).1, false) by rw [← hk]]
    simp only [Bool.false_eq_true, if_false]
    rw [ih (count + 1) fuel fun c' h1 h2 => hinv c' (by omega) (by omega), show count + 1 + d = count + (d + 1) by omega]

theorem signInner_loop_skip (hook : Ecdsa.S2cHook) (msg32 seckey nd : Bytes) (isSecValid : Bool) (sec m : Nat) :
    ∀ (d count fuel : Nat) (op : Option Pt), (∀ c', count ≤ c' → c' < count + d → InvalidAt msg32 seckey nd c') →
      Ecdsa.signInner.loop (some hook) msg32 seckey none (some nd) isSecValid sec m (fuel + d) count op =
        Ecdsa.signInner.loop (some hook) msg32 seckey none (some nd) isSecValid sec m fuel (count + d) op := by
  intro d
  induction d with
  | zero => intros; rfl
  | succ d ih =>
    intro count fuel op hinv
    obtain ⟨b, hb, hk⟩ := hinv count (le_refl _) (by omega)
    rw [show fuel + (d + 1) = fuel + d + 1 by omega, Ecdsa.signInner.loop]
    simp only [hb]
    rw [show Sc.setB32Seckey b = ((Sc.setB32Seckey b).1, false) by rw [← hk]]
    simp only [Bool.false_eq_true, if_false]
    rw [ih (count + 1) fuel op fun c' h1 h2 => hinv c' (by omega) (by omega), show count + 1 + d = count + (d + 1) by omega]

theorem signerCommit_first (fuel : Nat) (msg32 seckey nd : Bytes) (c k0 : Nat) (hc : c < fuel)
    (hinv : ∀ c', c' < c → InvalidAt msg32 seckey nd c') (hval : ValidAt msg32 seckey nd c k0) :
    S2c.signerCommit fuel msg32 seckey nd = some (Pt.mulG k0) := by
  obtain ⟨f, rfl⟩ : ∃ f, fuel = f + 1 + c := ⟨fuel - 1 - c, by omega⟩
  obtain ⟨b, hb, hk⟩ := hval
  unfold S2c.signerCommit
  rw [signerCommit_loop_skip _ _ _ c 0 (f + 1) fun c' _ h => hinv c' (by omega), Nat.zero_add,
    S2c.signerCommit.loop]
  simp only [hb, hk, if_true]

theorem signInner_loop_valid (hook : Ecdsa.S2cHook) (msg32 seckey nd : Bytes) (isSecValid : Bool)
    (sec m fuel c : Nat) (op : Option Pt) {k0 : Nat} (hval : ValidAt msg32 seckey nd c k0) :
    (retries hook sec m k0 = false →
      (Ecdsa.signInner.loop (some hook) msg32 seckey none (some nd) isSecValid sec m (fuel + 1) c op).opening
        = some (Pt.mulG k0)) ∧
    (attemptOk hook sec m k0 = true → isSecValid = true →
      (Ecdsa.signInner.loop (some hook) msg32 seckey none (some nd) isSecValid sec m (fuel + 1) c op).ret = 1) := by
  obtain ⟨b, hb, hk⟩ := hval
  unfold Ecdsa.signInner.loop retries attemptOk
  simp only [hb, hk, if_true]
  cases Ecdsa.ecCommitTweak hook.sha (Pt.mulG k0) hook.data with
  | none => exact ⟨fun _ => rfl, fun h => Bool.noConfusion h⟩
  | some tw =>
    dsimp only
    cases Ecdsa.seckeyTweakAddHelper k0 tw with
    | none => exact ⟨fun _ => rfl, fun h => Bool.noConfusion h⟩
    | some k =>
      dsimp only
      cases (Ecdsa.sigSign sec m k).1
      · exact ⟨fun h => Bool.noConfusion h, fun h => Bool.noConfusion h⟩
      · refine ⟨fun _ => ?_, fun _ h => ?_⟩
        · rw [if_pos rfl]; split <;> rfl
        · rw [if_pos rfl, if_pos h]

theorem signInner_first (fuel : Nat) (hook : Ecdsa.S2cHook) (msg32 seckey nd : Bytes) (c k0 : Nat) (hc : c < fuel)
    (hinv : ∀ c', c' < c → InvalidAt msg32 seckey nd c') (hval : ValidAt msg32 seckey nd c k0) :
    (retries hook (if (Sc.setB32Seckey seckey).2 = true then (Sc.setB32Seckey seckey).1 else 1)
        (Bytes.toNat msg32 % N) k0 = false →
      (Ecdsa.signInner fuel (some hook) msg32 seckey none (some nd)).opening = some (Pt.mulG k0)) ∧
    (attemptOk hook (if (Sc.setB32Seckey seckey).2 = true then (Sc.setB32Seckey seckey).1 else 1)
        (Bytes.toNat msg32 % N) k0 = true → (Sc.setB32Seckey seckey).2 = true →
      (Ecdsa.signInner fuel (some hook) msg32 seckey none (some nd)).ret = 1) := by
  obtain ⟨f, rfl⟩ : ∃ f, fuel = f + 1 + c := ⟨fuel - 1 - c, by omega⟩
  unfold Ecdsa.signInner
  dsimp only
  rw [signInner_loop_skip _ _ _ _ _ _ _ c 0 (f + 1) none fun c' _ h => hinv c' (by omega), Nat.zero_add]
  exact signInner_loop_valid _ _ _ _ _ _ _ _ _ _ hval

/-! `S2c.sign` fixes the retry bound of the model to the literal 64; elaborator-level reduction
  of `Ecdsa.signInner 64 …` on symbolic arguments unfolds 64 loop iterations including SHA-256.  All proofs
  are therefore done for a variable bound and specialised at the very end. -/

def signWith (fuel : Nat) (msg32 seckey data32 : Bytes) : S2c.SignResult :=
  let o := Ecdsa.signInner fuel (some ⟨S2c.tagPoint, data32⟩) msg32 seckey none (some (S2c.dataHash data32))
  ⟨o.ret, if o.ret = 1 then (o.r, o.s) else (0, 0), o.opening⟩

theorem sign_eq_signWith : S2c.sign = signWith 64 := rfl

end AdaptorLemmas
end SecpZkp
