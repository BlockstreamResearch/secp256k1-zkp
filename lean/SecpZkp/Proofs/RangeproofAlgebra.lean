import SecpZkp.Proofs.RangeproofSign
/-
  The commitment identity behind range-proof verification: the last digit commitment is `commit − min•H − Σ others`
  (`last_digit_eq`); the digit values add up to `scale · digitsValue secidx` when none wraps (`dvsum_nowrap`).
-/
namespace SecpZkp
namespace Rangeproof
open SecpZkp.Algebra

def dvsum (scale : Nat) : List Nat → Nat → Nat → Nat
  | d :: ds, i, n + 1 => digitValue d scale i + dvsum scale ds (i + 1) n
  | _, _, _ => 0

section
variable [HasGroupLaw]

theorem digitPts_vsum (scale : Nat) (genp : Pt) (hgen : genp.valid = true) :
    ∀ (secs idxs : List Nat) (i : Nat), secs.length ≤ idxs.length → (∀ x ∈ secs, x < N) →
      ∃ L : List VPt, digitPts scale genp secs idxs i = L.map Subtype.val ∧ L.length = secs.length ∧
        L.sum = gmulV (zsum secs) + (dvsum scale idxs i secs.length) • (⟨genp, hgen⟩ : VPt) := by
  intro secs
  induction secs with
  | nil =>
    intro idxs i _ _
    refine ⟨[], ?_, rfl, ?_⟩
    · cases idxs <;> rfl
    · cases idxs <;> simp [dvsum]
  | cons s secs ih =>
    intro idxs i hlen hs
    cases idxs with
    | nil => simp at hlen
    | cons d idxs =>
      obtain ⟨L, h1, h2, h3⟩ := ih idxs (i + 1) (by simpa using hlen) (fun x hx => hs x (by simp [hx]))
      have hsN : s < N := hs s (by simp)
      refine ⟨(gmulV ((s : Nat) : ZMod N) + (digitValue d scale i) • (⟨genp, hgen⟩ : VPt)) :: L, ?_, by simp [h2], ?_⟩
      · rw [digitPts, h1, List.map_cons]
        congr 1
        rw [pedersenEcmult, mulG_eq_gmul (lt_mulBound_of_lt_N hsN)]
        show Pt.add (gmulV _).1 (Pt.mul _ (⟨genp, hgen⟩ : VPt).1) = _
        rw [mul_eq_nsmul (digitValue_lt _ _ _)]
        rfl
      · simp only [List.sum_cons, h3, List.length_cons, dvsum, zsum_cons, map_add, add_nsmul]
        abel

theorem sum_dropLast_add_getLast (L : List VPt) (hL : L ≠ []) : L.dropLast.sum + L.getLast hL = L.sum := by
  conv_rhs => rw [← List.dropLast_append_getLast hL]
  simp

theorem last_digit_eq (H : VPt) (L : List VPt) (hL : L ≠ []) (b : ZMod N) (value minv tot : Nat)
    (hsum : L.sum = gmulV b + tot • H) (hval : tot + minv = value) :
    Pt.add (Pt.neg ((L.dropLast.map Subtype.val).foldl Pt.add (minv • H).1)) (gmulV b + value • H).1 =
      (L.getLast hL).1 := by
  rw [foldl_add_val]
  show (-(minv • H + L.dropLast.sum) + (gmulV b + value • H)).1 = _
  congr 1
  have h1 := sum_dropLast_add_getLast L hL
  rw [hsum] at h1
  have h2 : L.dropLast.sum = gmulV b + tot • H - L.getLast hL := by rw [← h1]; abel
  rw [h2, ← hval, add_nsmul]
  abel

end

theorem dvsum_nowrap (scale : Nat) : ∀ (idxs : List Nat) (i n : Nat), n ≤ idxs.length →
    (∀ t, t < n → digitValue (idxs.getD t 0) scale (i + t) = idxs.getD t 0 * scale * 4 ^ (i + t)) →
    dvsum scale idxs i n = scale * 4 ^ i * digitsValue (idxs.take n) := by
  intro idxs
  induction idxs with
  | nil => intro i n hn _; simp at hn; subst hn; simp [dvsum, digitsValue]
  | cons d ds ih =>
    intro i n hn h
    cases n with
    | zero => simp [dvsum, digitsValue]
    | succ n =>
      have h0 := h 0 (by omega)
      simp only [List.getD_cons_zero, Nat.add_zero] at h0
      rw [dvsum, List.take_succ_cons, digitsValue, h0, ih (i + 1) n (by simpa using hn) (fun t ht => by
        have := h (t + 1) (by omega)
        simp only [List.getD_cons_succ] at this
        rw [show i + 1 + t = i + (t + 1) by omega]; exact this)]
      rw [Nat.pow_succ]; ring

end Rangeproof
end SecpZkp
