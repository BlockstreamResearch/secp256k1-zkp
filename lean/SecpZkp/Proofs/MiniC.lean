/-
  Soundness of the two static checkers of `Model/MiniC.lean`: `Bounds.checkL_sound` (an accepted straight-line
  program computes the same with C's wrap-around arithmetic as over unbounded naturals) and `Taint.checkL_sound`
  (the leakage trace and the returned status of an accepted declassify-free program do not depend on secrets).
  The three memories (`Env`, `Bounds.BEnv`, `Taint.LEnv`) are association lists with the same `get`/`set`;
  what is needed about them is proved once in `find_cons` / `find_set`.  Core Lean only.
-/
import SecpZkp.Model.MiniC

namespace SecpZkp
namespace MiniC

section Assoc
variable {α β : Type} [BEq α] [LawfulBEq α] [DecidableEq α]

theorem find_cons (p : α × β) (l : List (α × β)) (k : α) :
    (p :: l).find? (fun q => q.1 == k) = if p.1 = k then some p else l.find? (fun q => q.1 == k) := by
  by_cases h : p.1 = k <;> simp [h]

theorem find_set (l : List (α × β)) (k k' : α) (v : β) :
    ((k, v) :: l.filter (fun p => !(p.1 == k))).find? (fun p => p.1 == k') =
      if k' = k then some (k, v) else l.find? (fun p => p.1 == k') := by
  rw [find_cons]
  by_cases h : k' = k
  · rw [if_pos h.symm, if_pos h]
  · rw [if_neg (Ne.symm h), if_neg h, List.find?_filter]
    congr
    funext p
    by_cases hp : p.1 = k' <;> simp [hp, h]

end Assoc

/-- C's `a & b` on two 0/1 flags -/
theorem ite_and_ite (p q : Prop) [Decidable p] [Decidable q] :
    (if p then 1 else 0) &&& (if q then 1 else 0) = if p ∧ q then 1 else 0 := by
  by_cases hp : p <;> by_cases hq : q <;> simp [hp, hq]

theorem Env.get_set_same (env : Env) (x : String) (i v : Nat) : (env.set x i v).get x i = v := by
  unfold Env.get Env.set
  rw [find_set, if_pos rfl]

theorem Env.get_set_other (env : Env) (x : String) (i v : Nat) (y : String) (j : Nat)
    (h : (y, j) ≠ (x, i)) : (env.set x i v).get y j = env.get y j := by
  unfold Env.get Env.set
  rw [find_set, if_neg h]

theorem Env.get_nil (x : String) (i : Nat) : Env.get [] x i = 0 := rfl

theorem Env.get_cons (p : (String × Nat) × Nat) (env : Env) (x : String) (i : Nat) :
    Env.get (p :: env) x i = if p.1 = (x, i) then p.2 else Env.get env x i := by
  unfold Env.get
  rw [find_cons]
  by_cases h : p.1 = (x, i) <;> simp only [h, ↓reduceIte]

/-- `P` stands for what the caller knows of a cell other than the written one (in `lowEq_assign`, `lowEq_store`: that
    its label is public, through `pub_of_weak`) -/
theorem Env.get_set_congr {e1 e2 : Env} {x y : String} {i j v1 v2 : Nat} {P : Prop}
    (h : if (y, j) = (x, i) then v1 = v2 else P) (hP : P → e1.get y j = e2.get y j) :
    (e1.set x i v1).get y j = (e2.set x i v2).get y j := by
  split at h
  · rename_i hk
    cases hk
    rw [Env.get_set_same, Env.get_set_same, h]
  · rename_i hk
    rw [Env.get_set_other _ _ _ _ _ _ hk, Env.get_set_other _ _ _ _ _ _ hk]
    exact hP h

def seq (o : Outcome) (k : Env → Outcome) : Outcome :=
  match o.ret with
  | some _ => o
  | none => ⟨(k o.env).env, (k o.env).ret, o.leak ++ (k o.env).leak⟩

theorem execL_cons (env : Env) (s : Stmt) (rest : List Stmt) :
    execL env (s :: rest) = seq (execS env s) (fun e => execL e rest) := by
  rw [execL]
  rfl

theorem execLoop_succ (env : Env) (x : String) (k n fuel : Nat) (body : List Stmt) :
    execLoop env x k n (fuel + 1) body =
      if k < n then seq (execL (env.set x 0 k) body) (fun e => execLoop e x (k + 1) n fuel body)
      else ⟨env, none, []⟩ := by
  rw [execLoop]
  rfl

theorem execL_cons_assign (env : Env) (x : String) (e : Expr) (rest : List Stmt) :
    execL env (.assign x e :: rest) =
      ⟨(execL (env.set x 0 (evalE env e).1) rest).env, (execL (env.set x 0 (evalE env e).1) rest).ret,
        (evalE env e).2 ++ (execL (env.set x 0 (evalE env e).1) rest).leak⟩ := by
  rw [execL, execS]

theorem execL_cons_store (env : Env) (a : String) (i e : Expr) (rest : List Stmt) :
    execL env (.store a i e :: rest) =
      let env' := env.set a (evalE env i).1 (evalE env e).1
      ⟨(execL env' rest).env, (execL env' rest).ret,
        ((evalE env i).2 ++ [Leak.index a (evalE env i).1] ++ (evalE env e).2) ++ (execL env' rest).leak⟩ := by
  rw [execL, execS]

theorem execL_cons_ret (env : Env) (e : Expr) (rest : List Stmt) :
    execL env (.ret e :: rest) = ⟨env, some (evalE env e).1, (evalE env e).2⟩ := by
  rw [execL, execS]

namespace Bounds

theorem BEnv.get?_set (b : BEnv) (x : String) (i v : Nat) (y : String) (j : Nat) :
    (b.set x i v).get? y j = if (y, j) = (x, i) then some v else b.get? y j := by
  unfold BEnv.get? BEnv.set
  rw [find_set]
  split <;> rfl

theorem BEnv.get?_nil (x : String) (i : Nat) : BEnv.get? [] x i = none := rfl

theorem BEnv.get?_cons (p : (String × Nat) × Nat) (b : BEnv) (x : String) (i : Nat) :
    BEnv.get? (p :: b) x i = if p.1 = (x, i) then some p.2 else BEnv.get? b x i := by
  unfold BEnv.get?
  rw [find_cons]
  split <;> rfl

theorem respects_nil (env : Env) : Respects env [] :=
  fun _ _ _ h => nomatch h

theorem respects_cons {env : Env} {b : BEnv} {x : String} {i v : Nat} (h : env.get x i ≤ v)
    (hr : Respects env b) : Respects env (((x, i), v) :: b) := by
  intro y j u hu
  rw [BEnv.get?_cons] at hu
  split at hu
  · rename_i hk
    cases hk
    cases hu
    exact h
  · exact hr _ _ _ hu

theorem respects_set {env : Env} {b : BEnv} (hr : Respects env b) (x : String) (i v bv : Nat)
    (hv : v ≤ bv) : Respects (env.set x i v) (b.set x i bv) := by
  intro y j u hu
  rw [BEnv.get?_set] at hu
  split at hu
  · rename_i hk
    cases hk
    cases hu
    rw [Env.get_set_same]
    exact hv
  · rename_i hk
    rw [Env.get_set_other _ _ _ _ _ _ hk]
    exact hr _ _ _ hu

/-- the two conjuncts of `boundE_bin_sound` for a node that `boundE` tests against `2^w` -/
theorem no_wrap {n v w : Nat} (h : n ≤ v) (hw : v < 2 ^ w) : n ≤ v ∧ n % 2 ^ w = n :=
  ⟨h, Nat.mod_eq_of_lt (Nat.lt_of_le_of_lt h hw)⟩

theorem le_ones_max {a c bx by_ r : Nat} (hx : a ≤ bx) (hy : c ≤ by_)
    (h : ∀ n, a < 2 ^ n → c < 2 ^ n → r < 2 ^ n) : r ≤ ones (max bx by_) :=
  Nat.le_sub_one_of_lt (h _
    (Nat.lt_of_le_of_lt (Nat.le_trans hx (Nat.le_max_left bx by_)) Nat.lt_log2_self)
    (Nat.lt_of_le_of_lt (Nat.le_trans hy (Nat.le_max_right bx by_)) Nat.lt_log2_self))

/-- the `bin` case of `boundE_sound`, with `a`, `c` / `a'`, `c'` for the ideal / wrap-around values of the operands;
    `hyl` is there because `boundE` reads shift amounts off the syntax -/
theorem boundE_bin_sound {b : BEnv} {op : BinOp} {w : Nat} {x y : Expr} {v a a' c c' : Nat}
    (hx : ∀ bx, boundE b x = some bx → a ≤ bx ∧ a' = a)
    (hy : ∀ by_, boundE b y = some by_ → c ≤ by_ ∧ c' = c)
    (hyl : ∀ k, y = .lit k → c = k) (h : boundE b (.bin op w x y) = some v) :
    binIdeal op a c ≤ v ∧ binWrap op w a' c' = binIdeal op a c := by
  cases hbx : boundE b x <;> cases hby : boundE b y <;>
    simp only [boundE, hbx, hby, reduceCtorEq] at h
  rename_i bx by_
  obtain ⟨hx, rfl⟩ := hx bx hbx
  obtain ⟨hy, rfl⟩ := hy by_ hby
  cases op <;>
    simp only [binIdeal, binWrap, Option.ite_none_right_eq_some, Option.some.injEq, reduceCtorEq,
      and_true] at h ⊢
  case add =>
    obtain ⟨hw, rfl⟩ := h
    exact no_wrap (Nat.add_le_add hx hy) hw
  case mul =>
    obtain ⟨hw, rfl⟩ := h
    exact no_wrap (Nat.mul_le_mul hx hy) hw
  case and =>
    subst h
    exact Nat.le_min.2 ⟨Nat.le_trans Nat.and_le_left hx, Nat.le_trans Nat.and_le_right hy⟩
  case or =>
    subst h
    exact le_ones_max hx hy fun _ => Nat.or_lt_two_pow
  case xor =>
    subst h
    exact le_ones_max hx hy fun _ => Nat.xor_lt_two_pow
  case shl =>
    split at h
    · obtain rfl := hyl _ rfl
      simp only [Option.ite_none_right_eq_some, Option.some.injEq] at h
      obtain ⟨hw, rfl⟩ := h
      exact no_wrap (Nat.mul_le_mul_right _ hx) hw
    · cases h
  case shr =>
    split at h
    · obtain rfl := hyl _ rfl
      cases h
      exact Nat.div_le_div_right hx
    · cases h
  all_goals
    subst h
    split <;> omega

theorem boundE_sound {env : Env} {b : BEnv} (hr : Respects env b) (e : Expr) (v : Nat)
    (h : boundE b e = some v) : evalEI env e ≤ v ∧ (evalE env e).1 = evalEI env e := by
  induction e generalizing v with
  | lit n =>
    cases h
    exact ⟨Nat.le_refl n, rfl⟩
  | var x => exact ⟨hr _ _ _ h, rfl⟩
  | idx a i ih =>
    cases i <;> simp only [boundE, reduceCtorEq] at h
    exact ⟨hr _ _ _ h, rfl⟩
  | bin op w x y ihx ihy => exact boundE_bin_sound ihx ihy (fun k hk => by subst hk; rfl) h
  | cast w e ih =>
    simp only [boundE, Option.map_eq_some_iff] at h
    obtain ⟨v', hv', rfl⟩ := h
    obtain ⟨h1, h2⟩ := ih v' hv'
    simp only [evalE, evalEI, h2, and_true]
    exact Nat.le_min.2 ⟨Nat.le_trans (Nat.mod_le _ _) h1,
      Nat.le_sub_one_of_lt (Nat.mod_lt _ (Nat.two_pow_pos w))⟩
  | lnot e ih =>
    simp only [boundE, Option.map_eq_some_iff] at h
    obtain ⟨v', hv', rfl⟩ := h
    simp only [evalE, evalEI, (ih v' hv').2, and_true]
    split <;> omega
  | not w e ih | neg w e ih | cond c a b' _ _ _ => simp only [boundE, reduceCtorEq] at h

theorem checkL_sound : ∀ (prog : List Stmt) {env : Env} {b b' : BEnv}, Respects env b →
    checkL b prog = some b' →
      (execL env prog).env = (execLI env prog).1 ∧ (execL env prog).ret = (execLI env prog).2 ∧
        Respects (execL env prog).env b' := by
  intro prog
  induction prog with
  | nil =>
    intro env b b' hr h
    cases h
    rw [execL, execLI]
    exact ⟨rfl, rfl, hr⟩
  | cons s rest ih =>
    intro env b b' hr h
    cases s with
    | assign x e =>
      simp only [checkL] at h
      split at h
      · rename_i v hv
        obtain ⟨h1, h2⟩ := boundE_sound hr e v hv
        rw [execL_cons_assign]
        simp only [execLI, execSI, ← h2]
        exact ih (respects_set hr x 0 _ v (h2 ▸ h1)) h
      · cases h
    | store a i e =>
      cases i <;> simp only [checkL, reduceCtorEq] at h
      rename_i k
      split at h
      · rename_i v hv
        obtain ⟨h1, h2⟩ := boundE_sound hr e v hv
        rw [execL_cons_store]
        simp only [execLI, execSI, evalEI, evalE, ← h2]
        exact ih (respects_set hr a k _ v (h2 ▸ h1)) h
      · cases h
    | ret e =>
      simp only [checkL] at h
      split at h
      · rename_i v hv
        cases h
        rw [execL_cons_ret]
        simp only [execLI, execSI, (boundE_sound hr e v hv).2]
        exact ⟨trivial, trivial, hr⟩
      · cases h
    | ite c t e | loop x n body | declassify x => simp only [checkL, reduceCtorEq] at h

end Bounds

namespace Taint

theorem LEnv.get_set (g : LEnv) (c : Cell) (l : Lab) (c' : Cell) :
    (g.set c l).get c' = if c' = c then l else g.get c' := by
  unfold LEnv.get LEnv.set
  rw [find_set]
  by_cases h : c' = c <;> simp only [h, ↓reduceIte]

theorem LEnv.get_nil (c : Cell) : LEnv.get [] c = .sec := rfl

theorem LEnv.get_cons (p : Cell × Lab) (g : LEnv) (c : Cell) :
    LEnv.get (p :: g) c = if p.1 = c then p.2 else LEnv.get g c := by
  unfold LEnv.get
  rw [find_cons]
  by_cases h : p.1 = c <;> simp only [h, ↓reduceIte]

theorem join_pub {a b : Lab} : a.join b = .pub ↔ a = .pub ∧ b = .pub := by
  cases a <;> cases b <;> simp [Lab.join]

theorem join_sec_right (a : Lab) : a.join .sec = .sec := by cases a <;> rfl

theorem labE_sound {g : LEnv} {e1 e2 : Env} (hl : LowEq g e1 e2) (e : Expr) (l : Lab)
    (h : labE g e = some l) :
    (evalE e1 e).2 = (evalE e2 e).2 ∧ (l = .pub → (evalE e1 e).1 = (evalE e2 e).1) := by
  induction e generalizing l with
  | lit n => exact ⟨rfl, fun _ => rfl⟩
  | var x =>
    cases h
    exact ⟨rfl, hl.1 x⟩
  | idx a i ih =>
    simp only [labE] at h
    split at h
    · rename_i hi
      cases h
      obtain ⟨h1, h2⟩ := ih _ hi
      simp only [evalE, h1, h2 rfl, true_and]
      exact hl.2 a _
    · cases h
  | bin op w a b iha ihb =>
    simp only [labE] at h
    split at h
    · rename_i la lb ha hb
      cases h
      obtain ⟨a1, a2⟩ := iha _ ha
      obtain ⟨b1, b2⟩ := ihb _ hb
      simp only [evalE, a1, b1, true_and]
      intro hp
      rw [a2 (join_pub.1 hp).1, b2 (join_pub.1 hp).2]
    · cases h
  | cast w e ih | not w e ih | neg w e ih | lnot e ih =>
    obtain ⟨h1, h2⟩ := ih l h
    simp only [evalE, h1, true_and]
    intro hp
    rw [h2 hp]
  | cond c a b ihc iha ihb =>
    simp only [labE] at h
    split at h
    · rename_i la lb hc ha hb
      cases h
      obtain ⟨c1, c2⟩ := ihc _ hc
      obtain ⟨a1, a2⟩ := iha _ ha
      obtain ⟨b1, b2⟩ := ihb _ hb
      simp only [evalE, c1, c2 rfl]
      split
      · exact ⟨by rw [a1], fun hp => a2 (join_pub.1 hp).1⟩
      · exact ⟨by rw [b1], fun hp => b2 (join_pub.1 hp).2⟩
    · cases h

theorem LEnv.get_weak (g : LEnv) (c : Cell) (l : Lab) (c' : Cell) :
    (g.weak c l).get c' = if c' = c then (g.get c').join l else g.get c' := by
  unfold LEnv.weak
  by_cases h : c' = c
  · subst h
    cases l <;> cases hg : g.get c' <;> simp only [LEnv.get_set, hg, ↓reduceIte] <;> rfl
  · cases l <;> cases hg : g.get c <;> simp only [LEnv.get_set, h, ↓reduceIte]

theorem get_joinEnv (g1 g2 : LEnv) (c : Cell) :
    (joinEnv g1 g2).get c = (g1.get c).join (g2.get c) := by
  induction g1 with
  | nil => rfl
  | cons p g1 ih =>
    have : joinEnv (p :: g1) g2 = (p.1, p.2.join (g2.get p.1)) :: joinEnv g1 g2 := rfl
    rw [this, LEnv.get_cons, LEnv.get_cons, ih]
    split
    · rename_i h
      rw [← h]
    · rfl

theorem joinEnv_pub {g1 g2 : LEnv} {c : Cell} (h : (joinEnv g1 g2).get c = .pub) :
    g1.get c = .pub ∧ g2.get c = .pub :=
  join_pub.1 (get_joinEnv g1 g2 c ▸ h)

theorem subsumes_spec {a b : LEnv} (h : subsumes a b = true) (c : Cell) (hc : b.get c = .pub) :
    a.get c = .pub := by
  have hc' := hc
  unfold LEnv.get at hc
  split at hc
  · rename_i p hp
    have hk : p.1 = c := by simpa using List.find?_some hp
    have := List.all_eq_true.1 h p (List.mem_of_find?_eq_some hp)
    rw [hk, hc'] at this
    simpa using this
  · cases hc

theorem loopInv_spec (f : LEnv → Option LEnv) (fuel : Nat) (gi gi' : LEnv)
    (h : loopInv f fuel gi = some gi') :
    (∃ g', f gi' = some g' ∧ subsumes g' gi' = true) ∧ (∀ c, gi'.get c = .pub → gi.get c = .pub) := by
  induction fuel generalizing gi with
  | zero => cases h
  | succ fuel ih =>
    simp only [loopInv] at h
    split at h
    · rename_i g' hf
      split at h
      · rename_i hs
        cases h
        exact ⟨⟨g', hf, hs⟩, fun _ hc => hc⟩
      · obtain ⟨h1, h2⟩ := ih _ h
        exact ⟨h1, fun c hc => (joinEnv_pub (h2 c hc)).1⟩
    · cases h

theorem lowEq_mono {g g' : LEnv} {e1 e2 : Env} (hm : ∀ c, g'.get c = .pub → g.get c = .pub)
    (h : LowEq g e1 e2) : LowEq g' e1 e2 :=
  ⟨fun x hx => h.1 x (hm _ hx), fun a i ha => h.2 a i (hm _ ha)⟩

theorem lowEq_nil (e1 e2 : Env) : LowEq [] e1 e2 :=
  ⟨fun _ hx => (nomatch hx), fun _ _ ha => nomatch ha⟩

theorem lowEq_cons_sec {g : LEnv} {e1 e2 : Env} (c : Cell) (h : LowEq g e1 e2) :
    LowEq ((c, .sec) :: g) e1 e2 := by
  refine lowEq_mono (fun c' hc' => ?_) h
  rw [LEnv.get_cons] at hc'
  split at hc'
  · cases hc'
  · exact hc'

theorem lowEq_cons_sc_pub {g : LEnv} {e1 e2 : Env} (x : String) (hx : e1.get x 0 = e2.get x 0)
    (h : LowEq g e1 e2) : LowEq ((.sc x, .pub) :: g) e1 e2 := by
  refine ⟨fun y hy => ?_, h.2⟩
  rw [LEnv.get_cons] at hy
  split at hy
  · rename_i hk
    cases hk
    exact hx
  · exact h.1 y hy

theorem lowEq_cons_arr_pub {g : LEnv} {e1 e2 : Env} (a : String) (ha : ∀ i, e1.get a i = e2.get a i)
    (h : LowEq g e1 e2) : LowEq ((.arr a, .pub) :: g) e1 e2 := by
  refine ⟨h.1, fun b i hb => ?_⟩
  rw [LEnv.get_cons] at hb
  split at hb
  · rename_i hk
    cases hk
    exact ha i
  · exact h.2 b i hb

/-- the first hypothesis of `Env.get_set_congr` after a weak update: `P` = the name is the one written to (its label is
    joined with `l`), `Q` = the cell is the one written to, `R` = the written values agree -/
theorem pub_of_weak {P Q R : Prop} [Decidable P] [Decidable Q] {a l : Lab} (hv : l = .pub → R)
    (hQP : Q → P) (h : (if P then a.join l else a) = .pub) : if Q then R else a = .pub := by
  split
  · rename_i hq
    rw [if_pos (hQP hq)] at h
    exact hv (join_pub.1 h).2
  · split at h
    · exact (join_pub.1 h).1
    · exact h

theorem lowEq_assign {g : LEnv} {e1 e2 : Env} (h : LowEq g e1 e2) (x : String) (l : Lab) (v1 v2 : Nat)
    (hv : l = .pub → v1 = v2) :
    LowEq ((g.set (.sc x) l).weak (.arr x) l) (e1.set x 0 v1) (e2.set x 0 v2) := by
  refine ⟨fun y hy => Env.get_set_congr ?_ (h.1 y), fun a j ha => Env.get_set_congr ?_ (h.2 a j)⟩
  · simp only [LEnv.get_weak, LEnv.get_set, reduceCtorEq, ↓reduceIte] at hy
    split at hy
    · rename_i hk
      cases hk
      rw [if_pos rfl]
      exact hv hy
    · rename_i hk
      rw [if_neg (fun hq => hk (by cases hq; rfl))]
      exact hy
  · simp only [LEnv.get_weak, LEnv.get_set, reduceCtorEq, ↓reduceIte] at ha
    exact pub_of_weak hv (fun hk => by cases hk; rfl) ha

theorem lowEq_store {g : LEnv} {e1 e2 : Env} (h : LowEq g e1 e2) (a : String) (i : Nat) (l : Lab)
    (v1 v2 : Nat) (hv : l = .pub → v1 = v2) :
    LowEq ((g.weak (.arr a) l).weak (.sc a) l) (e1.set a i v1) (e2.set a i v2) := by
  refine ⟨fun y hy => Env.get_set_congr ?_ (h.1 y), fun b j hb => Env.get_set_congr ?_ (h.2 b j)⟩
  · simp only [LEnv.get_weak, reduceCtorEq, ↓reduceIte] at hy
    exact pub_of_weak hv (fun hk => by cases hk; rfl) hy
  · simp only [LEnv.get_weak, reduceCtorEq, ↓reduceIte] at hb
    exact pub_of_weak hv (fun hk => by cases hk; rfl) hb

/-- the memories are compared only if execution continues: after a `ret` they are related by the labelling at the
    `ret`, not by `g'` -/
def SameObs (g' : LEnv) (o1 o2 : Outcome) : Prop :=
  o1.leak = o2.leak ∧ o1.ret.isSome = o2.ret.isSome ∧ (o1.ret = none → LowEq g' o1.env o2.env)

theorem sameObs_seq {g1 g2 : LEnv} {o1 o2 : Outcome} {k : Env → Outcome} (h : SameObs g1 o1 o2)
    (hk : LowEq g1 o1.env o2.env → SameObs g2 (k o1.env) (k o2.env)) :
    SameObs g2 (seq o1 k) (seq o2 k) := by
  obtain ⟨n1, r1, l1⟩ := o1
  obtain ⟨n2, r2, l2⟩ := o2
  obtain ⟨rfl, hret, henv⟩ := h
  -- `hret` excludes the two cases where only one side has returned
  cases r1 <;> cases r2 <;> cases hret
  · obtain ⟨kl, kr, ke⟩ := hk (henv rfl)
    exact ⟨congrArg (l1 ++ ·) kl, kr, ke⟩
  · exact ⟨rfl, rfl, nofun⟩

theorem sameObs_mono {g g' : LEnv} {o1 o2 : Outcome} (hm : ∀ c, g'.get c = .pub → g.get c = .pub)
    (h : SameObs g o1 o2) : SameObs g' o1 o2 :=
  ⟨h.1, h.2.1, fun hn => lowEq_mono hm (h.2.2 hn)⟩

theorem sameObs_prefix {g : LEnv} {o1 o2 : Outcome} (l : List Leak) (h : SameObs g o1 o2) :
    SameObs g ⟨o1.env, o1.ret, l ++ o1.leak⟩ ⟨o2.env, o2.ret, l ++ o2.leak⟩ :=
  ⟨congrArg (l ++ ·) h.1, h.2⟩

theorem loop_ni {body : List Stmt} {x : String} {n : Nat} {gi g' : LEnv}
    (hb : ∀ e1 e2, LowEq (gi.set (.sc x) .pub) e1 e2 → SameObs g' (execL e1 body) (execL e2 body))
    (hs : subsumes g' gi = true) (fuel k : Nat) {e1 e2 : Env} (hl : LowEq gi e1 e2) :
    SameObs gi (execLoop e1 x k n fuel body) (execLoop e2 x k n fuel body) := by
  induction fuel generalizing k e1 e2 with
  | zero =>
    simp only [execLoop]
    exact ⟨rfl, rfl, fun _ => hl⟩
  | succ fuel ih =>
    rw [execLoop_succ, execLoop_succ]
    split
    · -- setting the counter is the assignment of a public value
      exact sameObs_seq (hb _ _ (lowEq_assign hl x .pub k k fun _ => rfl))
        (fun hl' => ih (k + 1) (lowEq_mono (subsumes_spec hs) hl'))
    · exact ⟨rfl, rfl, fun _ => hl⟩

mutual
theorem checkS_ni : ∀ (s : Stmt) (g g' : LEnv) (e1 e2 : Env), noDeclassifyS s = true →
    LowEq g e1 e2 → checkS g s = some g' → SameObs g' (execS e1 s) (execS e2 s)
  | .assign x e, g, g', e1, e2, _, hl, h => by
    simp only [checkS, Option.map_eq_some_iff] at h
    obtain ⟨l, hle, rfl⟩ := h
    obtain ⟨h1, h2⟩ := labE_sound hl e l hle
    simp only [execS]
    exact ⟨h1, rfl, fun _ => lowEq_assign hl x l _ _ h2⟩
  | .store a i e, g, g', e1, e2, _, hl, h => by
    simp only [checkS] at h
    split at h
    · rename_i l hi he
      cases h
      obtain ⟨i1, i2⟩ := labE_sound hl i _ hi
      obtain ⟨h1, h2⟩ := labE_sound hl e l he
      simp only [execS, i1, i2 rfl, h1]
      exact ⟨rfl, rfl, fun _ => lowEq_store hl a _ l _ _ h2⟩
    · cases h
  | .ite c t el, g, g', e1, e2, hnd, hl, h => by
    simp only [checkS] at h
    split at h
    · rename_i hc
      split at h
      · rename_i g1 g2 ht he
        cases h
        simp only [noDeclassifyS, Bool.and_eq_true] at hnd
        obtain ⟨c1, c2⟩ := labE_sound hl c _ hc
        simp only [execS, c1, c2 rfl]
        split
        · exact sameObs_prefix _ (sameObs_mono (fun _ hc => (joinEnv_pub hc).1)
            (checkL_ni t hnd.1 hl ht))
        · exact sameObs_prefix _ (sameObs_mono (fun _ hc => (joinEnv_pub hc).2)
            (checkL_ni el hnd.2 hl he))
      · cases h
    · cases h
  | .loop x n body, g, g', e1, e2, hnd, hl, h => by
    simp only [checkS] at h
    simp only [noDeclassifyS] at hnd
    obtain ⟨⟨g'', hc, hs⟩, hm⟩ := loopInv_spec _ _ _ _ h
    simp only [execS]
    exact loop_ni (fun _ _ hl => checkL_ni body hnd hl hc) hs n 0 (lowEq_mono hm hl)
  | .declassify x, g, g', e1, e2, hnd, _, _ => by cases hnd
  | .ret e, g, g', e1, e2, _, hl, h => by
    simp only [checkS, Option.map_eq_some_iff] at h
    obtain ⟨l, hle, rfl⟩ := h
    simp only [execS]
    exact ⟨(labE_sound hl e l hle).1, rfl, nofun⟩

theorem checkL_ni (p : List Stmt) {g g' : LEnv} {e1 e2 : Env} (hnd : noDeclassify p = true)
    (hl : LowEq g e1 e2) (h : checkL g p = some g') : SameObs g' (execL e1 p) (execL e2 p) := by
  match p with
  | [] =>
    cases h
    simp only [execL]
    exact ⟨rfl, rfl, fun _ => hl⟩
  | s :: rest =>
    simp only [checkL] at h
    simp only [noDeclassify, Bool.and_eq_true] at hnd
    split at h
    · rename_i g1 hs
      rw [execL_cons, execL_cons]
      exact sameObs_seq (checkS_ni s g g1 e1 e2 hnd.1 hl hs) (fun hl' => checkL_ni rest hnd.2 hl' h)
    · cases h
end

/-- The third conjunct cannot be made unconditional: see `SameObs` and the last `example` of this file. -/
theorem checkL_sound {g g' : LEnv} {e1 e2 : Env} {prog : List Stmt} (hnd : noDeclassify prog = true)
    (hl : LowEq g e1 e2) (h : checkL g prog = some g') :
    let o1 := execL e1 prog
    let o2 := execL e2 prog
    o1.leak = o2.leak ∧ o1.ret.isSome = o2.ret.isSome ∧ (o1.ret = none → LowEq g' o1.env o2.env) :=
  checkL_ni prog hnd hl h

/-- under the empty labelling every input is secret -/
theorem checkL_nil_sound {prog : List Stmt}
    (h : (checkL [] prog).isSome = true ∧ noDeclassify prog = true) (e1 e2 : Env) :
    (execL e1 prog).leak = (execL e2 prog).leak ∧
      (execL e1 prog).ret.isSome = (execL e2 prog).ret.isSome := by
  obtain ⟨g', hg'⟩ := Option.isSome_iff_exists.mp h.1
  have hs := checkL_sound h.2 (lowEq_nil e1 e2) hg'
  exact ⟨hs.1, hs.2.1⟩

end Taint
section Examples
open Bounds Taint

example :
    Bounds.checkL [(("a", 0), 2 ^ 32 - 1), (("b", 0), 2 ^ 32 - 1)]
      [.assign "t" (.bin .mul 64 (.var "a") (.var "b")),
       .assign "lo" (.bin .and 64 (.var "t") (.lit 0xFFFFFFFF)),
       .store "r" (.lit 1) (.bin .shr 64 (.var "t") (.lit 32))]
    = some [(("r", 1), 4294967294), (("lo", 0), 4294967295), (("t", 0), 18446744065119617025),
            (("a", 0), 4294967295), (("b", 0), 4294967295)] := by decide

/-- `u0 = (u0 << 4) | tx` from `secp256k1_fe_mul_inner` with `u0 < 2^52`, `tx < 2^4`: bound `2^56 - 1` -/
example :
    Bounds.checkL [(("u0", 0), 2 ^ 52 - 1), (("tx", 0), 15)]
      [.assign "u0" (.bin .or 64 (.bin .shl 64 (.var "u0") (.lit 4)) (.var "tx"))]
    = some [(("u0", 0), 2 ^ 56 - 1), (("tx", 0), 15)] := by decide

example :
    Bounds.checkL [(("a", 0), 2 ^ 32 - 1), (("b", 0), 2 ^ 32 - 1)]
      [.assign "t" (.bin .mul 64 (.var "a") (.var "b")),
       .assign "lo" (.bin .and 64 (.var "t") (.lit 0xFFFFFFFF)),
       .assign "s" (.bin .add 32 (.var "lo") (.var "a"))]
    = none := by decide

/-- the 32-bit addition rejected above does wrap: the two semantics differ on `a = b = 2^32 - 1` -/
example : (evalE [(("lo", 0), 1), (("a", 0), 2 ^ 32 - 1)] (.bin .add 32 (.var "lo") (.var "a"))).1 = 0 ∧
    evalEI [(("lo", 0), 1), (("a", 0), 2 ^ 32 - 1)] (.bin .add 32 (.var "lo") (.var "a")) = 2 ^ 32 := by
  decide

/-- non-vacuity of `Bounds.checkL_sound` -/
example : Respects [(("a", 0), 7), (("b", 0), 4000000000)] [(("a", 0), 2 ^ 32 - 1), (("b", 0), 2 ^ 32 - 1)] :=
  respects_cons (by decide) (respects_cons (by decide) (respects_nil _))

example :
    Taint.checkL [(.sc "mask", .sec), (.sc "a", .sec), (.sc "b", .sec)]
      [.assign "r" (.bin .or 64 (.bin .and 64 (.var "a") (.var "mask"))
                                (.bin .and 64 (.var "b") (.not 64 (.var "mask"))))]
    = some [(.sc "r", .sec), (.sc "mask", .sec), (.sc "a", .sec), (.sc "b", .sec)] := by decide

/-- the loop invariant (`acc` secret) is found in the second round of `loopInv` -/
example :
    Taint.checkL [(.arr "T", .pub), (.sc "mask", .sec), (.sc "acc", .pub)]
      [.loop "i" 4 [.assign "acc" (.bin .xor 64 (.var "acc")
                                    (.bin .and 64 (.idx "T" (.var "i")) (.var "mask")))],
       .ite (.idx "T" (.lit 0)) [.ret (.var "acc")] []]
    = some [(.arr "T", .pub), (.sc "mask", .sec), (.sc "acc", .sec)] := by decide

example :
    Taint.checkL [(.sc "s", .sec)] [.ite (.var "s") [.assign "x" (.lit 1)] [.assign "x" (.lit 2)]] = none := by
  decide

example : Taint.checkL [(.sc "s", .sec)] [.assign "x" (.cond (.var "s") (.lit 1) (.lit 2))] = none := by
  decide

example : Taint.checkL [(.arr "T", .pub), (.sc "s", .sec)] [.assign "t" (.idx "T" (.var "s"))] = none := by
  decide

example : Taint.checkL [(.arr "T", .pub), (.sc "s", .sec)] [.store "T" (.var "s") (.lit 0)] = none := by
  decide

/-- a branch on the loop-carried secret is rejected although it is public in the first iteration -/
example :
    Taint.checkL [(.sc "s", .sec), (.sc "acc", .pub)]
      [.loop "i" 4 [.ite (.var "acc") [] [], .assign "acc" (.var "s")]] = none := by decide

/-- assigning a public value to the SCALAR `a` must not make the ARRAY cell `a[1]` public: the two share only
    cell `(a, 0)` -/
example :
    Taint.checkL [(.arr "T", .pub)]
      [.assign "a" (.lit 0), .assign "t" (.idx "T" (.idx "a" (.lit 1)))] = none := by decide

/-- non-vacuity of `Taint.checkL_sound`: two memories with different secrets (`mask`, `a`) and the same public table -/
example :
    noDeclassify [.loop "i" 2 [.assign "acc" (.bin .xor 64 (.var "acc")
                                    (.bin .and 64 (.idx "T" (.var "i")) (.var "mask")))]] = true ∧
    LowEq [(.arr "T", .pub), (.sc "mask", .sec)]
      [(("T", 0), 5), (("T", 1), 6), (("mask", 0), 0)]
      [(("T", 0), 5), (("T", 1), 6), (("mask", 0), 2 ^ 64 - 1), (("a", 0), 3)] := by
  refine ⟨by decide, lowEq_cons_arr_pub _ (fun i => ?_) (lowEq_cons_sec _ (lowEq_nil _ _))⟩
  simp only [Env.get_cons, Env.get_nil, Prod.mk.injEq, String.reduceEq, false_and,
    true_and, ↓reduceIte]

/-- why the last conjunct of `Taint.checkL_sound` is conditional on `ret = none`: at the early `ret` the cell `x` is
    secret, although the final labelling says it is public -/
example :
    let prog : List Stmt := [.ret (.lit 0), .assign "x" (.lit 0)]
    let e1 : Env := [(("x", 0), 1)]
    let e2 : Env := [(("x", 0), 2)]
    noDeclassify prog = true ∧ LowEq [] e1 e2 ∧ Taint.checkL [] prog = some [(.sc "x", .pub)] ∧
      ¬ LowEq [(.sc "x", .pub)] (execL e1 prog).env (execL e2 prog).env := by
  refine ⟨by decide, lowEq_nil _ _, by decide, fun h => ?_⟩
  have := h.1 "x" (by decide)
  rw [execL_cons_ret, execL_cons_ret] at this
  exact absurd this (by decide)

end Examples

end MiniC
end SecpZkp
