import SecpZkp.Proofs.Borromean
/-
  `borromean_complete` with its consistency hypothesis spelled out index by index
  (`pubs[offset i + secidx[i]] = sec[i]•G`, …) instead of through the recursive predicate `Borromean.Consistent`.
-/
namespace SecpZkp
namespace Borromean

/-- flat index of the first entry of ring `i` -/
def offset (rsizes : List Nat) (i : Nat) : Nat := (rsizes.take i).sum

theorem consistent_of_index (pubs : List Pt) (s : List Nat) :
    ∀ (rsizes secidx k sec : List Nat) (count : Nat),
      secidx.length = rsizes.length → k.length = rsizes.length → sec.length = rsizes.length →
      count + rsizes.sum ≤ pubs.length → count + rsizes.sum ≤ s.length →
      (∀ i, i < rsizes.length →
        secidx.getD i 0 < rsizes.getD i 0 ∧ sec.getD i 0 < N ∧ k.getD i 0 < N ∧
        pubs[count + offset rsizes i + secidx.getD i 0]? = some (Pt.mulG (sec.getD i 0)) ∧
        ∀ j, j < rsizes.getD i 0 → j ≠ secidx.getD i 0 → s[count + offset rsizes i + j]? ≠ some 0) →
      Consistent pubs s count rsizes secidx k sec := by
  intro rsizes
  induction rsizes with
  | nil =>
    intro secidx k sec count h1 h2 h3 _ _ _
    simp only [List.length_nil, List.length_eq_zero_iff] at h1 h2 h3
    subst h1 h2 h3
    unfold Consistent; trivial
  | cons rs rest ih =>
    intro secidx k sec count h1 h2 h3 hp hs h
    match secidx, k, sec, h1, h2, h3 with
    | si :: secidx, ki :: k, xi :: sec, h1, h2, h3 =>
      simp only [List.length_cons, Nat.add_right_cancel_iff] at h1 h2 h3
      simp only [List.sum_cons] at hp hs
      have h0 := h 0 (by simp)
      simp only [List.getD_cons_zero, offset, List.take_zero, List.sum_nil, Nat.add_zero] at h0
      obtain ⟨a1, a2, a3, a4, a5⟩ := h0
      unfold Consistent
      refine ⟨a1, by omega, by omega, a2, a3, a4, a5, ?_⟩
      apply ih secidx k sec (count + rs) h1 h2 h3 (by omega) (by omega)
      intro i hi
      have hi' := h (i + 1) (by simp; omega)
      simp only [List.getD_cons_succ, offset, List.take_succ_cons, List.sum_cons] at hi'
      simp only [offset]
      have e : ∀ x, count + rs + (List.take i rest).sum + x = count + (rs + (List.take i rest).sum) + x := by
        intro x; omega
      simp only [e]
      exact hi'

/-- List entries are read with `getD … 0`; every index so read is in range. -/
theorem borromean_complete_index (m : Bytes) (rsizes secidx k sec s : List Nat) (pubs : List Pt) (e0 : Bytes)
    (sOut : List Nat)
    (hl1 : secidx.length = rsizes.length) (hl2 : k.length = rsizes.length) (hl3 : sec.length = rsizes.length)
    (hlp : rsizes.sum ≤ pubs.length) (hls : rsizes.sum ≤ s.length)
    (hP : ∀ p ∈ pubs, p ≠ .inf)
    (hring : ∀ i, i < rsizes.length →
      secidx.getD i 0 < rsizes.getD i 0 ∧ sec.getD i 0 < N ∧ k.getD i 0 < N ∧
      pubs[offset rsizes i + secidx.getD i 0]? = some (Pt.mulG (sec.getD i 0)) ∧
      ∀ j, j < rsizes.getD i 0 → j ≠ secidx.getD i 0 → s[offset rsizes i + j]? ≠ some 0)
    (hsign : sign s pubs k sec rsizes secidx m = some (e0, sOut)) :
    (verify e0 sOut pubs rsizes m).1 = true := by
  apply borromean_complete m rsizes secidx k sec s pubs e0 sOut hP _ hsign
  apply consistent_of_index pubs s rsizes secidx k sec 0 hl1 hl2 hl3 (by omega) (by omega)
  intro i hi
  simpa using hring i hi

end Borromean
end SecpZkp
